/-
  SyModel.Json — the handful of JSON primitives the helper wire formats need:
  ASCII literals, the decimal integer printer of `serde_json` (itoa: no sign, no
  leading zeros) and its integer grammar (`0` or a non-zero digit followed by digits;
  a leading zero followed by a digit is serde_json's "invalid number").

  JSON text is modelled as `Bytes` (every byte the printers emit is ASCII, so
  `String::from_utf8` is the identity on it).
-/
import SyModel.Basic
namespace SyModel.Json

def c2b (c : Char) : UInt8 := c.toNat.toUInt8

/-- an ASCII literal as bytes -/
def lit (s : String) : Bytes := s.toList.map c2b

/-- `expect p l`: strip the literal prefix `p` from `l`. -/
def expect : Bytes → Bytes → Option Bytes
  | [], l => some l
  | _ :: _, [] => none
  | p :: ps, x :: xs => if p = x then expect ps xs else none

def digitByte (d : Nat) : UInt8 := (48 + d).toUInt8

def isDigit (b : UInt8) : Bool := 48 ≤ b.toNat && b.toNat ≤ 57

def startsDigit : Bytes → Bool
  | b :: _ => isDigit b
  | [] => false

/-- decimal printer (what `itoa` produces for an unsigned integer). -/
def printNat (n : Nat) : Bytes :=
  if _h : n < 10 then [digitByte n] else printNat (n / 10) ++ [digitByte (n % 10)]
termination_by n
decreasing_by omega

/-- consume a maximal run of digits -/
def parseDigits (acc : Nat) : Bytes → Nat × Bytes
  | [] => (acc, [])
  | b :: t => if isDigit b then parseDigits (acc * 10 + (b.toNat - 48)) t else (acc, b :: t)

/-- serde_json's unsigned integer: `0` | `[1-9][0-9]*`; `none` for anything else,
    in particular for a leading zero followed by another digit. -/
def parseNat : Bytes → Option (Nat × Bytes)
  | [] => none
  | b :: t =>
    if b = 48 then (if startsDigit t then none else some (0, t))
    else if isDigit b then some (parseDigits 0 (b :: t))
    else none

/-- A string literal unifies with `String.ofList` of its characters, so rewriting with this turns
    `lit "…"` into the list of its bytes without evaluating `String.toList` on the literal. -/
theorem lit_ofList (l : List Char) : lit (String.ofList l) = l.map c2b := by
  rw [lit, String.toList_ofList]

/-- `r` is what is left of `l` behind a non-empty 7-bit prefix: what a successful parser step leaves behind.
    It gives the termination measure of the list parsers, and that the parsers accept 7-bit text only. -/
def Eats (l r : Bytes) : Prop := ∃ c, c ≠ [] ∧ l = c ++ r ∧ ∀ x ∈ c, x.toNat < 128

theorem Eats.length_lt {l r : Bytes} (h : Eats l r) : r.length < l.length := by
  obtain ⟨c, hc, rfl, _⟩ := h
  rw [List.length_append]
  exact Nat.lt_add_of_pos_left (List.length_pos_iff.mpr hc)

theorem Eats.one {x : UInt8} (hx : x.toNat < 128) (r : Bytes) : Eats (x :: r) r :=
  ⟨[x], List.cons_ne_nil _ _, rfl, fun _ hy => List.mem_singleton.mp hy ▸ hx⟩

theorem Eats.trans {a b c : Bytes} (h1 : Eats a b) (h2 : Eats b c) : Eats a c := by
  obtain ⟨x, hx, rfl, hxa⟩ := h1
  obtain ⟨y, _, rfl, hya⟩ := h2
  refine ⟨x ++ y, fun h => hx (List.append_eq_nil_iff.mp h).1, (List.append_assoc _ _ _).symm, fun z hz => ?_⟩
  rcases List.mem_append.mp hz with hz | hz
  · exact hxa z hz
  · exact hya z hz

theorem expect_eq {p l r : Bytes} (h : expect p l = some r) : l = p ++ r := by
  induction p generalizing l with
  | nil => cases h; rfl
  | cons a ps ih =>
    cases l with
    | nil => cases h
    | cons x xs =>
      unfold expect at h
      split at h
      · rename_i hax
        rw [← hax, ih h]
        rfl
      · cases h

theorem expect_eats {p l r : Bytes} (hp : p ≠ [] ∧ ∀ x ∈ p, x.toNat < 128) (h : expect p l = some r) : Eats l r :=
  ⟨p, hp.1, expect_eq h, hp.2⟩

theorem isDigit_ascii {b : UInt8} (h : isDigit b = true) : b.toNat < 128 := by
  rw [isDigit, Bool.and_eq_true, decide_eq_true_eq, decide_eq_true_eq] at h
  exact Nat.lt_of_le_of_lt h.2 (by decide)

theorem parseDigits_split (acc : Nat) (l : Bytes) :
    ∃ c, l = c ++ (parseDigits acc l).2 ∧ ∀ x ∈ c, x.toNat < 128 := by
  induction l generalizing acc with
  | nil => exact ⟨[], rfl, fun _ h => absurd h List.not_mem_nil⟩
  | cons b t ih =>
    unfold parseDigits
    split
    · rename_i hd
      obtain ⟨c, hc, hca⟩ := ih (acc * 10 + (b.toNat - 48))
      exact ⟨b :: c, congrArg (b :: ·) hc, List.forall_mem_cons.mpr ⟨isDigit_ascii hd, hca⟩⟩
    · exact ⟨[], rfl, fun _ h => absurd h List.not_mem_nil⟩

theorem parseNat_eats {l : Bytes} {n : Nat} {r : Bytes} (h : parseNat l = some (n, r)) : Eats l r := by
  cases l with
  | nil => cases h
  | cons b t =>
    simp only [parseNat] at h
    split at h
    · rename_i hb
      subst hb
      split at h
      · cases h
      · cases h
        exact Eats.one (by decide) _
    · split at h
      · rename_i hd
        rw [parseDigits, if_pos hd] at h
        obtain ⟨c, hc, hca⟩ := parseDigits_split (0 * 10 + (b.toNat - 48)) t
        rw [congrArg Prod.snd (Option.some.inj h)] at hc
        exact ⟨b :: c, List.cons_ne_nil _ _, congrArg (b :: ·) hc, List.forall_mem_cons.mpr ⟨isDigit_ascii hd, hca⟩⟩
      · cases h

/-- termination of the list parsers -/
theorem parseNat_length {l : Bytes} {n : Nat} {r : Bytes} (h : parseNat l = some (n, r)) :
    r.length < l.length :=
  (parseNat_eats h).length_lt

/-! ### the list grammar `x (, x)* ]` -/

/-- `E` parses `x (, x)* ]` with the element parser `p`: the equation the three list parsers satisfy (their
    definitions carry the termination proof inside the `match`, which this equation hides). -/
def IsElems {α : Type} (p : Bytes → Option (α × Bytes)) (E : Bytes → Option (List α × Bytes)) : Prop :=
  ∀ l, E l =
    match p l with
    | some (x, 44 :: r') =>
      (match E r' with
       | some (xs, r'') => some (x :: xs, r'')
       | none => none)
    | some (x, 93 :: r') => some ([x], r')
    | _ => none

theorem IsElems.eats {α : Type} {p : Bytes → Option (α × Bytes)} {E : Bytes → Option (List α × Bytes)}
    (hE : IsElems p E) (hp : ∀ {l x r}, p l = some (x, r) → Eats l r)
    {l : Bytes} {xs : List α} {r : Bytes} (h : E l = some (xs, r)) : Eats l r := by
  induction hl : l.length using Nat.strongRecOn generalizing l xs r with
  | _ k ih =>
    rw [hE l] at h
    split at h
    · rename_i x r' hx
      have h1 := hp hx
      split at h
      · rename_i ys r'' hrec
        cases h
        exact h1.trans ((Eats.one (by decide) r').trans (ih r'.length (hl ▸ Nat.lt_of_succ_lt h1.length_lt) hrec rfl))
      · cases h
    · rename_i x r' hx
      cases h
      exact (hp hx).trans (Eats.one (by decide) _)
    · cases h

end SyModel.Json
