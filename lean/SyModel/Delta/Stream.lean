/-
  SyModel.Delta.Stream — `generate_delta_streaming` (src/delta/generator.rs:67-228).

  State of the loop: the unconsumed part of the window `wrest = window[window_pos..]`,
  `wpos = window_pos`, the unread rest of the file, the size of the last read, the
  rolling state and the two accumulators (reversed).  `File::read` is modelled as
  returning `min(chunk, remaining)` bytes (trusted base: regular files do that).

  Beside the definitions stand the lemmas they need for themselves: what a round does (`sbody_cases`), what it and
  the refill leave alone, the two measures.
-/
import SyModel.Delta.Core
set_option linter.unusedVariables false
namespace SyModel.Delta

structure SSt where
  wrest     : Bytes
  wpos      : Nat
  fileRest  : Bytes
  bytesRead : Nat
  roll      : Adler
  litRev    : Bytes
  opsRev    : List Op
deriving Repr

/-- One pass through the match attempt and the literal step of the `while` body,
    for `window[window_pos..] = x :: tl`. -/
def sbody {H} [BEq H] (strong : Bytes → H) (cs : List (Block H)) (bs : Nat)
    (st : SSt) (x : UInt8) (tl : Bytes) : SSt :=
  let w := x :: tl
  let literal : SSt :=
    { st with
      wrest := tl, wpos := st.wpos + 1, litRev := x :: st.litRev,
      roll := match w.drop bs with
        | y :: _ => Adler.roll bs st.roll x y
        | [] => st.roll }
  if hasAtLeast bs w then
    match findFull cs st.roll.digest (strong (w.take bs)) with
    | some c =>
      let rest' := w.drop bs
      { st with
        wrest := rest', wpos := st.wpos + bs, litRev := [],
        opsRev := .copy c.offset c.size :: flush st.litRev st.opsRev,
        roll := if hasAtLeast bs rest' then Adler.ofBlock (rest'.take bs) else st.roll }
    | none => literal
  else
    match findPartial cs (hashBytes w) (strong w) w.length with
    | some c =>
      { st with
        wrest := [], wpos := st.wpos + w.length, litRev := [],
        opsRev := .copy c.offset c.size :: flush st.litRev st.opsRev }
    | none => literal

/-- "Refill window when needed". -/
def srefill (bs chunk : Nat) (st : SSt) : SSt :=
  if bs ≤ st.wpos ∧ 0 < st.bytesRead ∧ hasAtLeast bs st.wrest = false then
    let taken := st.fileRest.take chunk
    let w := st.wrest ++ taken
    { st with
      wrest := w, wpos := 0, fileRest := st.fileRest.drop chunk, bytesRead := taken.length,
      roll := if 0 < taken.length ∧ hasAtLeast bs w then Adler.ofBlock (w.take bs) else st.roll }
  else st

def SSt.measure (st : SSt) : Nat := st.wrest.length + st.fileRest.length

/-- WHAT A ROUND DOES.  It consumes a prefix of `k` bytes of the window rest (`k ≥ 1` for `0 < bs`) and touches
    neither the file nor `bytesRead`: either ONE byte, which goes to the literals, or a piece `(x :: tl).take k` whose
    strong hash some candidate `c ∈ cs` carries, which becomes a copy of `c`'s range behind the flushed literals.
    The measure, the frame, the invariant and the window position of a round are read off this. -/
theorem sbody_cases {H} [BEq H] (strong : Bytes → H) (cs : List (Block H)) (bs : Nat)
    (st : SSt) (x : UInt8) (tl : Bytes) :
    ∃ (k : Nat) (roll' : Adler) (lit' : Bytes) (ops' : List Op),
      sbody strong cs bs st x tl =
        { st with wrest := (x :: tl).drop k, wpos := st.wpos + k, roll := roll', litRev := lit', opsRev := ops' } ∧
      k ≤ tl.length + 1 ∧ (0 < bs → 0 < k) ∧
      ((k = 1 ∧ lit' = x :: st.litRev ∧ ops' = st.opsRev) ∨
        ∃ c ∈ cs, (c.strong == strong ((x :: tl).take k)) = true ∧ lit' = [] ∧
          ops' = .copy c.offset c.size :: flush st.litRev st.opsRev) := by
  unfold sbody
  dsimp only
  split
  · rename_i hfull
    split
    · rename_i c hfind
      exact ⟨bs, _, _, _, rfl, (hasAtLeast_iff bs (x :: tl)).mp hfull, id,
        .inr ⟨c, List.mem_of_find?_eq_some hfind, (Bool.and_eq_true _ _ ▸ List.find?_some hfind).2, rfl, rfl⟩⟩
    · exact ⟨1, _, _, _, rfl, Nat.le_add_left 1 _, fun _ => Nat.one_pos, .inl ⟨rfl, rfl, rfl⟩⟩
  · split
    · rename_i c hfind
      refine ⟨(x :: tl).length, st.roll, _, _, ?_, Nat.le_refl _, fun _ => Nat.succ_pos _,
        .inr ⟨c, List.mem_of_find?_eq_some hfind, ?_, rfl, rfl⟩⟩
      · rw [List.drop_length]
      · rw [List.take_length]
        exact (Bool.and_eq_true _ _ ▸ (Bool.and_eq_true _ _ ▸ List.find?_some hfind).2).2
    · exact ⟨1, _, _, _, rfl, Nat.le_add_left 1 _, fun _ => Nat.one_pos, .inl ⟨rfl, rfl, rfl⟩⟩

theorem sbody_measure {H} [BEq H] (strong : Bytes → H) (cs : List (Block H)) (bs : Nat) (hbs : 0 < bs)
    (st : SSt) (x : UInt8) (tl : Bytes) (h : st.wrest = x :: tl) :
    (sbody strong cs bs st x tl).measure < st.measure := by
  obtain ⟨k, _, _, _, he, hk, hpos, -⟩ := sbody_cases strong cs bs st x tl
  have := hpos hbs
  rw [he]
  show ((x :: tl).drop k).length + st.fileRest.length < st.wrest.length + st.fileRest.length
  rw [h, List.length_drop, List.length_cons]
  omega

theorem sbody_frame {H} [BEq H] (strong : Bytes → H) (cs : List (Block H)) (bs : Nat) (st : SSt) (x : UInt8) (tl : Bytes) :
    (sbody strong cs bs st x tl).fileRest = st.fileRest ∧ (sbody strong cs bs st x tl).bytesRead = st.bytesRead := by
  obtain ⟨_, _, _, _, he, -⟩ := sbody_cases strong cs bs st x tl
  rw [he]
  exact ⟨rfl, rfl⟩

theorem srefill_measure (bs chunk : Nat) (st : SSt) : (srefill bs chunk st).measure = st.measure := by
  unfold srefill
  split
  · -- what is taken from the file is appended to the window
    show (st.wrest ++ st.fileRest.take chunk).length + (st.fileRest.drop chunk).length = st.measure
    rw [List.length_append, Nat.add_assoc, ← List.length_append, List.take_append_drop]
    rfl
  · rfl

theorem srefill_read (bs chunk : Nat) (st : SSt) (hf : st.fileRest = []) :
    (srefill bs chunk st).wrest = st.wrest ∧ (srefill bs chunk st).roll = st.roll ∧
      (srefill bs chunk st).litRev = st.litRev ∧ (srefill bs chunk st).opsRev = st.opsRev ∧
      (srefill bs chunk st).fileRest = [] := by
  unfold srefill
  split
  · simp [hf]
  · exact ⟨rfl, rfl, rfl, rfl, hf⟩

/-- The `while window_pos < window.len()` loop, then the final flush. -/
def genStreamGo {H} [BEq H] (strong : Bytes → H) (cs : List (Block H)) (bs chunk : Nat) (hbs : 0 < bs)
    (st : SSt) : List Op :=
  match h : st.wrest with
  | [] => (flush st.litRev st.opsRev).reverse
  | x :: tl => genStreamGo strong cs bs chunk hbs (srefill bs chunk (sbody strong cs bs st x tl))
termination_by st.measure
decreasing_by
  rw [srefill_measure]; exact sbody_measure strong cs bs hbs st x tl h

/-- State after "Read initial chunk" and "Initialize rolling hash". -/
def sinit (bs chunk : Nat) (new : Bytes) : SSt :=
  let w := new.take chunk
  { wrest := w, wpos := 0, fileRest := new.drop chunk, bytesRead := w.length,
    roll := if hasAtLeast bs w then Adler.ofBlock (w.take bs) else Adler.init,
    litRev := [], opsRev := [] }

/-- `generate_delta_streaming` (`ops` of the result); `none` for `block_size = 0`,
    on which the code can loop forever. -/
def genStream {H} [BEq H] (strong : Bytes → H) (cs : List (Block H)) (bs chunk : Nat) (new : Bytes) :
    Option (List Op) :=
  if hbs : 0 < bs then some (genStreamGo strong cs bs chunk hbs (sinit bs chunk new)) else none

end SyModel.Delta
