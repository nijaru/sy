/-
  SyModel.Delta.Core — block checksums (src/delta/checksum.rs), delta ops and
  `apply_delta` (src/delta/applier.rs), and the in-memory generator
  `generate_delta` (src/delta/generator.rs:242-379).

  The strong hash is a parameter `strong : Bytes → H` (xxh3-64 in the code).
-/
import SyModel.Delta.Adler
set_option linter.unusedVariables false
namespace SyModel.Delta

/-- `BlockChecksum` (the `index` field is `offset / block_size` and is not used by the generators). -/
structure Block (H : Type) where
  offset : Nat
  size   : Nat
  weak   : Nat
  strong : H
deriving Repr

/-- `compute_checksums`: consecutive blocks of `bs` bytes, the last one possibly shorter;
    an empty file has no blocks. (`bs = 0` panics in the code; the model returns `[]`.) -/
def checksumsFrom {H} (strong : Bytes → H) (bs : Nat) (off : Nat) (l : Bytes) : List (Block H) :=
  if _h : bs = 0 ∨ l = [] then []
  else
    let blk := l.take bs
    ⟨off, blk.length, hashBytes blk, strong blk⟩ :: checksumsFrom strong bs (off + bs) (l.drop bs)
termination_by l.length
decreasing_by
  have h1 : bs ≠ 0 := fun e => _h (Or.inl e)
  have h2 : l ≠ [] := fun e => _h (Or.inr e)
  have : 0 < l.length := List.length_pos_iff.mpr h2
  simp only [List.length_drop]; omega

def checksums {H} (strong : Bytes → H) (bs : Nat) (old : Bytes) : List (Block H) :=
  checksumsFrom strong bs 0 old

/-- `DeltaOp`. -/
inductive Op where
  | copy (offset size : Nat)
  | data (bytes : Bytes)
deriving Repr, DecidableEq

/-- `seek(offset)` then `read_exact` of `size` bytes: fails when the range leaves the file.
    Seeking past the end is allowed and reading zero bytes always succeeds
    (found by the correspondence check: `Copy{offset: 2, size: 0}` on a 1-byte file is accepted). -/
def readExact (old : Bytes) (offset size : Nat) : Option Bytes :=
  if size = 0 ∨ offset + size ≤ old.length then some ((old.drop offset).take size) else none

/-- `apply_delta`: `none` is the `UnexpectedEof` error of `read_exact`. -/
def applyOps (old : Bytes) : List Op → Option Bytes
  | [] => some []
  | .copy off sz :: ops =>
    match readExact old off sz, applyOps old ops with
    | some b, some r => some (b ++ r)
    | _, _ => none
  | .data b :: ops =>
    match applyOps old ops with
    | some r => some (b ++ r)
    | none => none

/-- `checksum_map.get(&weak)` followed by the scan for `checksum.strong == strong`
    (full-block branch). Buckets keep insertion order, so this is `find?` on the list. -/
def findFull {H} [BEq H] (cs : List (Block H)) (weak : Nat) (st : H) : Option (Block H) :=
  cs.find? (fun c => c.weak == weak && c.strong == st)

/-- the same for the partial tail (`checksum.size == partial.len() && checksum.strong == strong`). -/
def findPartial {H} [BEq H] (cs : List (Block H)) (weak : Nat) (st : H) (len : Nat) : Option (Block H) :=
  cs.find? (fun c => c.weak == weak && (c.size == len && c.strong == st))

/-- flush of the literal buffer (`if !literal_buffer.is_empty() { ops.push(Data(..)) }`);
    both accumulators are kept reversed. -/
def flush (litRev : Bytes) (opsRev : List Op) : List Op :=
  if litRev.isEmpty then opsRev else .data litRev.reverse :: opsRev

/-- Loop of `generate_delta` over the remaining suffix `rest = source_data[pos..]`.
    `roll` is the (possibly stale) rolling state. -/
def genMemGo {H} [BEq H] (strong : Bytes → H) (cs : List (Block H)) (bs : Nat) :
    (rest : Bytes) → (roll : Adler) → (litRev : Bytes) → (opsRev : List Op) → List Op
  | [], _, litRev, opsRev => (flush litRev opsRev).reverse
  | x :: tl, roll, litRev, opsRev =>
    if hfull : hasAtLeast bs (x :: tl) = true then
      -- full block branch
      match findFull cs roll.digest (strong ((x :: tl).take bs)) with
      | some c =>
        if hbs : bs = 0 then (flush litRev opsRev).reverse   -- `pos += 0` forever in the code; unreachable for bs > 0
        else
          let rest' := (x :: tl).drop bs
          let roll' := if hasAtLeast bs rest' then Adler.ofBlock (rest'.take bs) else roll
          genMemGo strong cs bs rest' roll' [] (.copy c.offset c.size :: flush litRev opsRev)
      | none =>
        -- literal byte; roll when `pos + block_size - 1 < len` for the incremented `pos`
        let roll' := match (x :: tl).drop bs with
          | y :: _ => Adler.roll bs roll x y
          | [] => roll
        genMemGo strong cs bs tl roll' (x :: litRev) opsRev
    else
      -- partial block at the end
      match findPartial cs (hashBytes (x :: tl)) (strong (x :: tl)) (x :: tl).length with
      | some c => (.copy c.offset c.size :: flush litRev opsRev).reverse
      | none =>
        let roll' := match (x :: tl).drop bs with
          | y :: _ => Adler.roll bs roll x y
          | [] => roll
        genMemGo strong cs bs tl roll' (x :: litRev) opsRev
termination_by rest => rest.length
decreasing_by
  · have := (hasAtLeast_iff bs (x :: tl)).mp hfull
    simp only [List.length_drop, List.length_cons] at *; omega
  · simp
  · simp

/-- `generate_delta` (the `ops` field of the result). -/
def genMem {H} [BEq H] (strong : Bytes → H) (cs : List (Block H)) (bs : Nat) (new : Bytes) : List Op :=
  let roll := if hasAtLeast bs new then Adler.ofBlock (new.take bs) else Adler.ofBlock []
  genMemGo strong cs bs new roll [] []

end SyModel.Delta
