/-
  SyModel.Delta.Wire — the wire leg of remote delta sync:

  * `encodeJson`: exactly the text `serde_json::to_string(&Delta)` produces for
    `struct Delta { ops: Vec<DeltaOp>, source_size: u64, block_size: usize }`,
    `enum DeltaOp { Copy { offset: u64, size: usize }, Data(Vec<u8>) }`
    (src/delta/generator.rs:10-30; serde's default externally tagged representation), e.g.
    `{"ops":[{"Copy":{"offset":0,"size":4}},{"Data":[1,2,3]}],"source_size":10,"block_size":4}`;
  * `decodeJson`: a parser for exactly that canonical form (serde_json itself accepts more:
    white space, reordered / unknown fields — never produced by the sender, not modelled);
    it rejects what serde_json rejects on the inputs the correspondence stream feeds it
    (truncation, trailing bytes, leading zeros, array elements above 255, signs, fractions);
  * the sender's `compress(delta_json, Zstd)` (src/transport/ssh.rs:1003-1018);
  * `remoteDecode`: `sy-remote apply-delta`'s stdin handling (src/bin/sy-remote.rs:153-174):
    magic sniffing, `decompress`, `String::from_utf8`, `serde_json::from_str`.

  Numbers are unbounded `Nat` here (`u64`/`usize` in the code): the printer is only ever given
  values of those types, and `itoa` prints them as `printNat` does (no sign, no leading zeros).
  The parser accepts a number of any size; serde_json rejects one above `u64::MAX` (never produced
  by the sender).
-/
import SyModel.Delta.Core
import SyModel.Json
import SyModel.Compress.Sniff
namespace SyModel.Delta
open SyModel.Json SyModel.Compress

structure Delta where
  ops        : List Op
  sourceSize : Nat
  blockSize  : Nat
deriving Repr, DecidableEq

/-! ### printer -/

/-- `1,2,3` -/
def encodeByteList : Bytes → Bytes
  | [] => []
  | [b] => printNat b.toNat
  | b :: c :: t => printNat b.toNat ++ 44 :: encodeByteList (c :: t)

def encodeOp : Op → Bytes
  | .copy o s => lit "{\"Copy\":{\"offset\":" ++ printNat o ++ lit ",\"size\":" ++ printNat s ++ lit "}}"
  | .data d => lit "{\"Data\":[" ++ encodeByteList d ++ lit "]}"

def encodeOps : List Op → Bytes
  | [] => []
  | [op] => encodeOp op
  | op :: o2 :: t => encodeOp op ++ 44 :: encodeOps (o2 :: t)

/-- `serde_json::to_string(&delta)` -/
def encodeJson (d : Delta) : Bytes :=
  lit "{\"ops\":[" ++ encodeOps d.ops ++ lit "],\"source_size\":" ++ printNat d.sourceSize ++
    lit ",\"block_size\":" ++ printNat d.blockSize ++ lit "}"

/-! ### parser -/

/-- elements of a `Vec<u8>` after the first one has been announced: `n (, n)* ]`;
    an element above 255 is serde's "invalid value … expected u8". -/
def parseByteElems (l : Bytes) : Option (Bytes × Bytes) :=
  match _h : parseNat l with
  | some (n, 44 :: r') =>
    if n < 256 then
      match parseByteElems r' with
      | some (bs, r'') => some (n.toUInt8 :: bs, r'')
      | none => none
    else none
  | some (n, 93 :: r') => if n < 256 then some ([n.toUInt8], r') else none
  | _ => none
termination_by l.length
decreasing_by
  have := parseNat_length _h
  simp only [List.length_cons] at this; omega

/-- a `Vec<u8>` after its `[`. -/
def parseByteArr : Bytes → Option (Bytes × Bytes)
  | 93 :: r => some ([], r)
  | l => parseByteElems l

def parseOp (l : Bytes) : Option (Op × Bytes) :=
  match expect (lit "{\"Copy\":{\"offset\":") l with
  | some r1 =>
    match parseNat r1 with
    | some (o, r2) =>
      match expect (lit ",\"size\":") r2 with
      | some r3 =>
        match parseNat r3 with
        | some (s, r4) =>
          match expect (lit "}}") r4 with
          | some r5 => some (.copy o s, r5)
          | none => none
        | none => none
      | none => none
    | none => none
  | none =>
    match expect (lit "{\"Data\":[") l with
    | some r1 =>
      match parseByteArr r1 with
      | some (d, r2) =>
        match expect (lit "]}") (93 :: r2) with   -- `parseByteArr` consumed the `]`
        | some r3 => some (.data d, r3)
        | none => none
      | none => none
    | none => none

/-- one element of a `Vec<u8>`: a number below 256.  Not called by the parsers (`parseByteElems` inlines it): it names
    the element parser, so that `IsElems parseByte parseByteElems` can be stated -/
def parseByte (l : Bytes) : Option (UInt8 × Bytes) :=
  match parseNat l with
  | some (n, r) => if n < 256 then some (n.toUInt8, r) else none
  | none => none

theorem parseByte_eats {l : Bytes} {b : UInt8} {r : Bytes} (h : parseByte l = some (b, r)) : Eats l r := by
  unfold parseByte at h
  split at h
  · rename_i n r' hp
    split at h
    · cases h
      exact parseNat_eats hp
    · cases h
  · cases h

theorem parseByteElems_isElems : IsElems parseByte parseByteElems := by
  intro l
  rw [parseByteElems, parseByte]
  split
  · rename_i n r' hp
    rw [hp]
    by_cases hn : n < 256
    · simp only [if_pos hn]
      -- both sides are the same `match`, compiled once here and once in `IsElems`: they agree on constructors only
      cases parseByteElems r' <;> rfl
    · simp only [if_neg hn]
  · rename_i n r' hp
    rw [hp]
    by_cases hn : n < 256
    · simp only [if_pos hn]
    · simp only [if_neg hn]
  · rename_i h1 h2
    cases hp : parseNat l with
    | none => rfl
    | some v =>
      obtain ⟨n, r⟩ := v
      by_cases hn : n < 256
      · simp only [if_pos hn]
        split
        · rename_i hx
          cases hx
          exact absurd hp (h1 _ _)
        · rename_i hx
          cases hx
          exact absurd hp (h2 _ _)
        · rfl
      · simp only [if_neg hn]

theorem parseByteArr_eats {l : Bytes} {d r : Bytes} (h : parseByteArr l = some (d, r)) : Eats l r := by
  unfold parseByteArr at h
  split at h
  · cases h
    exact Eats.one (by decide) _
  · exact parseByteElems_isElems.eats parseByte_eats h

theorem parseOp_eats {l : Bytes} {op : Op} {r : Bytes} (h : parseOp l = some (op, r)) : Eats l r := by
  rw [parseOp.eq_def] at h
  cases h1 : expect (lit "{\"Copy\":{\"offset\":") l with
  | some r1 =>
    have a1 := expect_eats (by rw [lit_ofList]; decide) h1
    cases h2 : parseNat r1 with
    | none => simp only [h1, h2] at h; cases h
    | some p2 =>
      have a2 := parseNat_eats h2
      cases h3 : expect (lit ",\"size\":") p2.2 with
      | none => simp only [h1, h2, h3] at h; cases h
      | some r3 =>
        have a3 := expect_eats (by rw [lit_ofList]; decide) h3
        cases h4 : parseNat r3 with
        | none => simp only [h1, h2, h3, h4] at h; cases h
        | some p4 =>
          have a4 := parseNat_eats h4
          cases h5 : expect (lit "}}") p4.2 with
          | none => simp only [h1, h2, h3, h4, h5] at h; cases h
          | some r5 =>
            simp only [h1, h2, h3, h4, h5] at h
            cases h
            exact a1.trans (a2.trans (a3.trans (a4.trans (expect_eats (by rw [lit_ofList]; decide) h5))))
  | none =>
    cases h2 : expect (lit "{\"Data\":[") l with
    | none => simp only [h1, h2] at h; cases h
    | some r1 =>
      cases h3 : parseByteArr r1 with
      | none => simp only [h1, h2, h3] at h; cases h
      | some p3 =>
        cases h4 : expect (lit "]}") (93 :: p3.2) with
        | none => simp only [h1, h2, h3, h4] at h; cases h
        | some r3 =>
          simp only [h1, h2, h3, h4] at h
          cases h
          -- the `]` put back for `expect` is the first of the two bytes it strips
          have a4 := expect_eq h4
          rw [lit_ofList] at a4
          exact (expect_eats (by rw [lit_ofList]; decide) h2).trans ((parseByteArr_eats h3).trans
            (List.tail_eq_of_cons_eq a4 ▸ Eats.one (by decide) _))

theorem parseOp_length {l : Bytes} {op : Op} {r : Bytes} (h : parseOp l = some (op, r)) :
    r.length < l.length :=
  (parseOp_eats h).length_lt

/-- the ops after the first one has been announced: `op (, op)* ]` -/
def parseOpElems (l : Bytes) : Option (List Op × Bytes) :=
  match _h : parseOp l with
  | some (op, 44 :: r') =>
    match parseOpElems r' with
    | some (ops, r'') => some (op :: ops, r'')
    | none => none
  | some (op, 93 :: r') => some ([op], r')
  | _ => none
termination_by l.length
decreasing_by
  have := parseOp_length _h
  simp only [List.length_cons] at this; omega

/-- the `ops` array after its `[`. -/
def parseOpArr : Bytes → Option (List Op × Bytes)
  | 93 :: r => some ([], r)
  | l => parseOpElems l

/-- `serde_json::from_str::<Delta>` on the canonical form; trailing bytes are an error. -/
def decodeJson (l : Bytes) : Option Delta :=
  match expect (lit "{\"ops\":[") l with
  | none => none
  | some r1 =>
    match parseOpArr r1 with
    | none => none
    | some (ops, r2) =>
      match expect (lit "],\"source_size\":") (93 :: r2) with   -- `parseOpArr` consumed the `]`
      | none => none
      | some r3 =>
        match parseNat r3 with
        | none => none
        | some (ss, r4) =>
          match expect (lit ",\"block_size\":") r4 with
          | none => none
          | some r5 =>
            match parseNat r5 with
            | none => none
            | some (bs, r6) =>
              match r6 with
              | [125] => some { ops := ops, sourceSize := ss, blockSize := bs }
              | _ => none

/-! ### sender and helper -/

/-- `delta_json.as_bytes()` -/
def encode (d : Delta) : Bytes := encodeJson d

/-- what the sender puts on the helper's stdin: `compress(delta_json.as_bytes(), Compression::Zstd)`. -/
def wireSend (Z : Codec) (d : Delta) : Bytes := Z.compress (encode d)

/-- `sy-remote apply-delta`: sniff, decompress, parse. `none`: the helper exits with an error. -/
def remoteDecode (Z : Codec) (stdin : Bytes) : Option Delta :=
  match sniff Z stdin with
  | some text => decodeJson text
  | none => none

/-- the whole helper: decode stdin, then `apply_delta(base_file, &delta, output_file)`. -/
def remoteApply (Z : Codec) (old : Bytes) (stdin : Bytes) : Option Bytes :=
  match remoteDecode Z stdin with
  | some d => applyOps old d.ops
  | none => none

end SyModel.Delta
