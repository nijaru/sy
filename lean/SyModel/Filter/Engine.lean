/-
  SyModel.Filter.Engine — `FilterEngine` (src/filter.rs:143-305): `add_rule` prefix parsing,
  `add_include` / `add_exclude`, `add_rules_from_file`, `should_include` (first match wins,
  default include), and the construction order of src/main.rs:210-334
  (`--filter` rules, `--include`, `--exclude`, `--include-from`, `--exclude-from`, templates,
  `.syignore`).
-/
import SyModel.Filter.Rule
set_option linter.unusedVariables false
namespace SyModel.Filter

/-- `char::is_whitespace` (Unicode `White_Space`), used by `str::trim`. -/
def isWs (c : Char) : Bool :=
  let n := c.toNat
  (0x09 ≤ n && n ≤ 0x0D) || n == 0x20 || n == 0x85 || n == 0xA0 || n == 0x1680 ||
  (0x2000 ≤ n && n ≤ 0x200A) || n == 0x2028 || n == 0x2029 || n == 0x202F || n == 0x205F ||
  n == 0x3000

/-- `str::trim`. -/
def trim (s : List Char) : List Char :=
  ((s.dropWhile isWs).reverse.dropWhile isWs).reverse

/-- `str::strip_prefix`. -/
def stripPrefix : List Char → List Char → Option (List Char)
  | [], s => some s
  | _ :: _, [] => none
  | p :: ps, c :: s => if p = c then stripPrefix ps s else none

inductive RuleErr where
  /-- `anyhow::bail!("Empty filter pattern")` -/
  | emptyPattern
  /-- `glob::Pattern::new` failed ("Invalid filter pattern") -/
  | pattern (e : PatErr)
deriving DecidableEq, Repr

/-- The text part of `add_rule` (src/filter.rs:161-186): `none` for blank lines and comments,
    otherwise the action (`true` = include) and the trimmed pattern. -/
def ruleSpec (rule : List Char) : Except RuleErr (Option (Bool × List Char)) :=
  let rule := trim rule
  if rule.isEmpty || rule.head? == some '#' then .ok none
  else
    let ap : Bool × List Char :=
      match stripPrefix ['+', ' '] rule with
      | some p => (true, trim p)
      | none =>
      match stripPrefix ['+'] rule with
      | some p => (true, trim p)
      | none =>
      match stripPrefix ['-', ' '] rule with
      | some p => (false, trim p)
      | none =>
      match stripPrefix ['-'] rule with
      | some p => (false, trim p)
      | none => (false, rule)
    if ap.2.isEmpty then .error .emptyPattern else .ok (some ap)

/-- `add_include` / `add_exclude` (src/filter.rs:194-206): push `FilterRule::new(action, pattern)`. -/
def addPattern (rs : List Rule) (isInclude : Bool) (pattern : List Char) : Except RuleErr (List Rule) :=
  match Rule.new isInclude pattern with
  | .ok r => .ok (rs ++ [r])
  | .error e => .error (.pattern e)

/-- `add_rule` (src/filter.rs:161-192). -/
def addRule (rs : List Rule) (rule : List Char) : Except RuleErr (List Rule) :=
  match ruleSpec rule with
  | .error e => .error e
  | .ok none => .ok rs
  | .ok (some (incl, pat)) => addPattern rs incl pat

/-- a `for` loop that `bail!`s on the first error. -/
def addAll (f : List Rule → List Char → Except RuleErr (List Rule)) :
    List Rule → List (List Char) → Except RuleErr (List Rule)
  | rs, [] => .ok rs
  | rs, x :: xs =>
    match f rs x with
    | .error e => .error e
    | .ok rs' => addAll f rs' xs

/-- `add_rules_from_file` (src/filter.rs:209-236) when the caller only logs the error
    (`add_template`, `.syignore`: src/main.rs:303-331): the rules pushed before the first bad line
    stay in the engine, the rest of the file is not read. -/
def addAllLenient (f : List Rule → List Char → Except RuleErr (List Rule)) :
    List Rule → List (List Char) → List Rule
  | rs, [] => rs
  | rs, x :: xs =>
    match f rs x with
    | .error _ => rs
    | .ok rs' => addAllLenient f rs' xs

/-- The per-line treatment of `--include-from` / `--exclude-from` (src/main.rs:236-300):
    trim, skip blanks and comments, then `add_include` / `add_exclude`. -/
def addPatternLine (isInclude : Bool) (rs : List Rule) (line : List Char) : Except RuleErr (List Rule) :=
  let line := trim line
  if line.isEmpty || line.head? == some '#' then .ok rs
  else addPattern rs isInclude line

/-- `if let Some(ref file) = cli.include_from { for line in lines { … } }` -/
def addAllOpt (f : List Rule → List Char → Except RuleErr (List Rule)) (rs : List Rule) :
    Option (List (List Char)) → Except RuleErr (List Rule)
  | none => .ok rs
  | some ls => addAll f rs ls

/-- What src/main.rs:210-334 reads: CLI vectors in clap order, the lines of the optional
    pattern files, the lines of every *existing* template file in order, the lines of the
    source directory's `.syignore` if present. -/
structure RuleSources where
  filters : List (List Char) := []
  includes : List (List Char) := []
  excludes : List (List Char) := []
  includeFrom : Option (List (List Char)) := none
  excludeFrom : Option (List (List Char)) := none
  templates : List (List (List Char)) := []
  syignore : Option (List (List Char)) := none

/-- The order in which `buildRules` consumes its sources, by name; `consts_ok_rule_order` compares it
    with the order of the corresponding statements in src/main.rs (regenerated from the source on
    every run). -/
def ruleSourceOrder : List String :=
  ["filter", "include", "exclude", "include_from", "exclude_from", "template", "syignore"]

/-- The filter-engine construction of src/main.rs:210-334. An error is the `anyhow::bail!`
    that ends the process before anything is transferred. -/
def buildRules (c : RuleSources) : Except RuleErr (List Rule) :=
  match addAll addRule [] c.filters with
  | .error e => .error e
  | .ok r1 =>
  match addAll (fun rs p => addPattern rs true p) r1 c.includes with
  | .error e => .error e
  | .ok r2 =>
  match addAll (fun rs p => addPattern rs false p) r2 c.excludes with
  | .error e => .error e
  | .ok r3 =>
  match addAllOpt (addPatternLine true) r3 c.includeFrom with
  | .error e => .error e
  | .ok r4 =>
  match addAllOpt (addPatternLine false) r4 c.excludeFrom with
  | .error e => .error e
  | .ok r5 =>
    let r6 := c.templates.foldl (fun rs ls => addAllLenient addRule rs ls) r5
    let r7 := match c.syignore with
      | none => r6
      | some ls => addAllLenient addRule r6 ls
    .ok r7

/-- The `for rule in &self.rules` loop of `should_include` (src/filter.rs:291-300). -/
def shouldIncludeLoop (path : RelPath) (isDir : Bool) : List Rule → Bool
  | [] => true                                     -- no rule matched: include
  | r :: rest =>
    if r.matches path isDir then r.isInclude       -- first match wins
    else shouldIncludeLoop path isDir rest

/-- `FilterEngine::should_include` (src/filter.rs:283-301). -/
def shouldInclude (rs : List Rule) (path : RelPath) (isDir : Bool) : Bool :=
  if rs.isEmpty then true
  else shouldIncludeLoop path isDir rs

/-- index of the rule that decides (`none`: default include); for the driver's answer. -/
def decidingRule (path : RelPath) (isDir : Bool) : List Rule → Nat → Option Nat
  | [], _ => none
  | r :: rest, i => if r.matches path isDir then some i else decidingRule path isDir rest (i + 1)

end SyModel.Filter
