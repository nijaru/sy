/-
  SyModel.Filter.Spec — declarative counterparts used by the C16 theorems:
  the `Matches` relation (what a token list *means*), well-formedness of token lists as produced
  by `Pattern::new`, and the scan-order assumption `ParentsFirst`.
-/
import SyModel.Filter.ScanFilter
set_option linter.unusedVariables false
namespace SyModel.Filter

instance {ε α : Type} [DecidableEq ε] [DecidableEq α] : DecidableEq (Except ε α) := fun a b =>
  match a, b with
  | .ok x, .ok y => if h : x = y then isTrue (h ▸ rfl) else isFalse (fun e => h (Except.ok.inj e))
  | .error x, .error y => if h : x = y then isTrue (h ▸ rfl) else isFalse (fun e => h (Except.error.inj e))
  | .ok _, .error _ => isFalse (fun e => by cases e)
  | .error _, .ok _ => isFalse (fun e => by cases e)

/-- Declarative semantics of a compiled glob under the default `MatchOptions`:
    * an ordinary token consumes exactly one character it accepts (`?` and classes accept `/` too);
    * `*` consumes any string (including `/`);
    * `**` consumes nothing, or a prefix that ends with `/` (whole leading components),
      or — when nothing but sequence tokens follows — everything that is left. -/
inductive Matches : List Token → List Char → Prop
  | nil : Matches [] []
  | one {tok : Token} {c : Char} {rest : List Token} {s : List Char} :
      tok.matchesChar c = true → Matches rest s → Matches (tok :: rest) (c :: s)
  | seq {rest : List Token} (s₁ : List Char) {s₂ : List Char} :
      Matches rest s₂ → Matches (.anySeq :: rest) (s₁ ++ s₂)
  | recEmpty {rest : List Token} {s : List Char} :
      Matches rest s → Matches (.anyRecSeq :: rest) s
  | recDirs {rest : List Token} (s₁ : List Char) {s₂ : List Char} :
      Matches rest s₂ → Matches (.anyRecSeq :: rest) (s₁ ++ '/' :: s₂)
  | recTail {rest : List Token} (s : List Char) :
      Matches rest [] → Matches (.anyRecSeq :: rest) s

/-- `ok` = "an `AnyRecursiveSequence` may come next": at the start, after `Char('/')`, after
    another `AnyRecursiveSequence`. -/
def wfGo : Bool → List Token → Bool
  | _, [] => true
  | ok, .anyRecSeq :: rest => ok && wfGo true rest
  | _, .char c :: rest => wfGo (c == '/') rest
  | _, _ :: rest => wfGo false rest

/-- Token lists as `Pattern::new` builds them: every `**` is a whole path component
    (`parse_wf`). The early `EntirePatternDoesntMatch` exit of the matcher is only complete on
    such lists (`glob_matches_iff_needs_wf`). -/
def WF (toks : List Token) : Prop := wfGo true toks = true

instance (toks : List Token) : Decidable (WF toks) := by unfold WF; infer_instance

/-- "the directory `q` is matched by the pattern": by its full relative path when the pattern
    contains a `/`, by its base name otherwise. -/
def Rule.matchesDirPath (r : Rule) (q : RelPath) : Bool :=
  if r.hasSlash then globMatch r.toks (pathStr q) else matchesBase r.toks q

/-- what identifies a rule in the order theorems: action and original pattern text -/
def Rule.key (r : Rule) : Bool × List Char := (r.isInclude, r.patternStr)

/-- keys contributed by one `add_rule` line (nothing for blank lines, comments and bad lines) -/
def specKey (line : List Char) : List (Bool × List Char) :=
  match ruleSpec line with
  | .ok (some k) => [k]
  | _ => []

/-- keys contributed by one line of `--include-from` / `--exclude-from` -/
def patLineKey (isInclude : Bool) (line : List Char) : List (Bool × List Char) :=
  let l := trim line
  if l.isEmpty || l.head? == some '#' then [] else [(isInclude, l)]

/-- `add_rule(line)` succeeds (it does not depend on the rules already present) -/
def lineOk (line : List Char) : Bool :=
  match addRule [] line with
  | .ok _ => true
  | .error _ => false

/-- The per-entry decision of the scan filter as a stateless predicate over the entries that came
    *before* `e` in the scan (`scanFilter_eq_specList`): included by the rules, no preceding
    directory that is a path prefix is excluded, size within bounds unless a directory. -/
def ancOk (rules : List Rule) (before : List Entry) (e : Entry) : Bool :=
  before.all (fun a => !(a.isDir && a.rel.isPrefixOf e.rel) || shouldInclude rules a.rel a.isDir)

def keptSpec (cfg : FilterCfg) (before : List Entry) (e : Entry) : Bool :=
  ancOk cfg.rules before e && shouldInclude cfg.rules e.rel e.isDir &&
    (e.isDir || !filterBySize cfg e.size)

def specList (cfg : FilterCfg) : List Entry → List Entry → List Entry
  | _, [] => []
  | before, e :: todo =>
    (if keptSpec cfg before e then [e] else []) ++ specList cfg (before ++ [e]) todo

/-- `a` is a proper ancestor-or-self path prefix of `p` (component-wise, `Path::starts_with`). -/
abbrev IsPrefix (a p : RelPath) : Prop := a <+: p

/-- The scan-order assumption (DESIGN §3, what `ignore::Walk` guarantees): nothing that comes
    after an entry is a prefix of it — ancestors come first and no path is listed twice.
    Sibling order is unconstrained. -/
def ParentsFirst (scan : List Entry) : Prop :=
  ∀ l1 e l2, scan = l1 ++ e :: l2 → ∀ a ∈ l2, ¬ a.rel <+: e.rel

end SyModel.Filter
