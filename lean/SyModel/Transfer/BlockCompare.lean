/-
  SyModel.Transfer.BlockCompare — byte-level model of the local transfer paths that the entry-level
  engine model (`SyModel.Engine.Model`) abstracts as "content id":

  * `LocalTransport::copy_file`            src/transport/local.rs:235-342
  * `LocalTransport::sync_file_with_delta` src/transport/local.rs:344-910
      existence test :349, size gates :365-391 (hook `SY_VERIF_DELTA_THRESHOLD` :369-376),
      block size :408-414 (hook `SY_VERIF_BLOCK_SIZE`), sparse gate :416-466, change-ratio gate
      :468-539, strategy choice :542-553 (hook `SY_VERIF_FORCE_COW`), COW branch :580-721,
      in-place branch :722-857, mtime on the temp file :872-883, rename :886, result :902-906
  * `estimate_change_ratio`                src/delta/ratio.rs:78-192

  A file is its content `Bytes`; `seek + write_all` and `set_len` are `writeAt` / `setLen` of
  `SyModel.Compress.Sparse` (validated against real files by the streams c14 and c01bytes).
  Everything here is executable and is what `sydriver` runs for the `xfer.*` requests.

  How the two readers are modelled.  Both loops read source and destination through
  `BufReader::with_capacity(256 * 1024, File)` with `read(&mut buf)` where `buf.len() = block_size`.
  `BufReader::read` (std) bypasses its buffer when the buffer is empty and `buf.len() >= capacity`;
  otherwise it refills the *empty* buffer with one `read` of `capacity` bytes (a regular file returns
  `min(capacity, remaining)`) and hands out `min(buf.len(), buffered)` bytes.  A reader that started
  at position 0 therefore refills exactly at the multiples of `capacity`, and the number of bytes a
  `read` returns at file position `pos` is `min (chunkAt cap bs pos) (len - pos)` with `chunkAt`
  below.  For the production block size (64 KiB, a divisor of 256 KiB) and for every block size that
  divides or exceeds the capacity this is `min bs (len - pos)`; for other block sizes (reachable only
  through the hook) a short chunk appears in front of every multiple of 256 KiB.
-/
import SyModel.Compress.Sparse
namespace SyModel.Transfer
open SyModel SyModel.Compress

/-! ### constants (tied to the source by `consts_ok_*` in `SyModel.Props.C01Bytes`) -/

/-- `BufReader::with_capacity(256 * 1024, …)`: local.rs:604,611,745,752; ratio.rs:89-90. -/
abbrev BUF_CAP : Nat := 262144
/-- `const DELTA_THRESHOLD: u64 = 10 * 1024 * 1024` (local.rs:365). -/
abbrev DELTA_THRESHOLD : Nat := 10485760
/-- `if dest_size < 4096` (local.rs:388). -/
abbrev SMALL_DEST : Nat := 4096
/-- `let block_size = 64 * 1024` (local.rs:408). -/
abbrev LOCAL_BLOCK_SIZE : Nat := 65536
/-- `Some(20), // Sample 20 blocks` (local.rs:474). -/
abbrev SAMPLE_COUNT : Nat := 20
/-- `Some(0.75), // 75% threshold` (local.rs:475) as the exact rational 3/4. -/
abbrev RATIO_NUM : Nat := 3
abbrev RATIO_DEN : Nat := 4
/-- `if size_diff_ratio > 0.5` (ratio.rs:110) as the exact rational 1/2. -/
abbrev SIZE_DIFF_NUM : Nat := 1
abbrev SIZE_DIFF_DEN : Nat := 2

/-! ### reads through a `BufReader` -/

/-- upper bound of the number of bytes `BufReader::read(&mut [0; bs])` hands out at file position
    `pos` (reader of capacity `cap`, started at 0, only ever read with this `bs`). -/
def chunkAt (cap bs pos : Nat) : Nat :=
  if bs < cap then min bs (cap - pos % cap) else bs

/-! ### the two block loops -/

/-- one iteration of a block loop, as seen by the comparison: `offset`, `source_buf[..src_read]`,
    `dest_buf[..dst_read]`. -/
structure Blk where
  off : Nat
  s : Bytes
  d : Bytes
deriving Repr, DecidableEq

/-- `!blocks_match` with `blocks_match = src_read == dst_read && source_buf[..src_read] == dest_buf[..dst_read]`
    (local.rs:653-654, 795-796). -/
def Blk.differs (b : Blk) : Bool := !(b.s.length == b.d.length && b.s == b.d)

/-- mutable state of a block loop. `offset` and `bytes_written` are one field: the code increments
    both by `src_read` in the same statement pair (local.rs:704-705, 845-846). `writes` is a log of
    the `seek(offset)` + `write_all(data)` pairs issued on the temp file, newest first. -/
structure Loop where
  temp : Bytes
  offset : Nat
  changed : Nat
  literal : Nat
  writes : List (Nat × Bytes)
deriving Repr, DecidableEq

/-- In-place strategy loop (local.rs:778-847). `k` is the chunk bound of the two readers
    (`chunkAt BUF_CAP block_size`); `srest`/`drest` are the unread parts of source and destination,
    `dpos` the position of the destination reader (it differs from `offset` once a read came back
    short). Every source block is written at its offset; a block counts as changed when the read
    sizes or the bytes differ. -/
def inPlaceGo (k : Nat → Nat) (srest drest : Bytes) (dpos : Nat) (st : Loop) : Loop :=
  let sb := srest.take (k st.offset)                       -- source_file.read(&mut source_buf)
  if _h : sb = [] then st                                  -- src_read == 0 → break
  else
    let db := drest.take (k dpos)                          -- dest_file.read(&mut dest_buf)
    let blocksMatch := sb.length == db.length && sb == db
    inPlaceGo k (srest.drop sb.length) (drest.drop db.length) (dpos + db.length)
      { temp := writeAt st.temp st.offset sb               -- always seek and write
        offset := st.offset + sb.length
        changed := if blocksMatch then st.changed else st.changed + 1
        literal := if blocksMatch then st.literal else st.literal + sb.length
        writes := (st.offset, sb) :: st.writes }
termination_by srest.length
decreasing_by
  have h1 : 0 < (srest.take (k st.offset)).length := List.length_pos_iff.mpr _h
  have h2 : (srest.take (k st.offset)).length ≤ srest.length := by simp [List.length_take]; omega
  simp only [List.length_drop]; omega

/-- COW strategy loop (local.rs:636-706): only non-matching source blocks are written. -/
def cowGo (k : Nat → Nat) (srest drest : Bytes) (dpos : Nat) (st : Loop) : Loop :=
  let sb := srest.take (k st.offset)
  if _h : sb = [] then st
  else
    let db := drest.take (k dpos)
    let blocksMatch := sb.length == db.length && sb == db
    cowGo k (srest.drop sb.length) (drest.drop db.length) (dpos + db.length)
      (if blocksMatch then { st with offset := st.offset + sb.length }
       else
        { temp := writeAt st.temp st.offset sb
          offset := st.offset + sb.length
          changed := st.changed + 1
          literal := st.literal + sb.length
          writes := (st.offset, sb) :: st.writes })
termination_by srest.length
decreasing_by
  have h1 : 0 < (srest.take (k st.offset)).length := List.length_pos_iff.mpr _h
  have h2 : (srest.take (k st.offset)).length ≤ srest.length := by simp [List.length_take]; omega
  simp only [List.length_drop]; omega

/-- In-place strategy with an arbitrary chunk bound: `File::create(temp)`, `set_len(source_size)`
    (local.rs:727-742), the loop; the temp file is then renamed over the destination. -/
def rebuildInPlaceK (k : Nat → Nat) (src dst : Bytes) : Loop :=
  inPlaceGo k src dst 0
    { temp := setLen [] src.length, offset := 0, changed := 0, literal := 0, writes := [] }

/-- COW strategy with an arbitrary chunk bound: `fs::copy(dest, temp)` (local.rs:582), the loop,
    `temp_file.set_len(bytes_written)` (local.rs:709). -/
def rebuildCowK (k : Nat → Nat) (src dst : Bytes) : Loop :=
  let r := cowGo k src dst 0 { temp := dst, offset := 0, changed := 0, literal := 0, writes := [] }
  { r with temp := setLen r.temp r.offset }

def rebuildInPlaceLoop (bs : Nat) (src dst : Bytes) : Loop := rebuildInPlaceK (chunkAt BUF_CAP bs) src dst
def rebuildCowLoop (bs : Nat) (src dst : Bytes) : Loop := rebuildCowK (chunkAt BUF_CAP bs) src dst

/-- the in-place strategy: `(bytes of the renamed temp file, changed_blocks, literal_bytes)`. -/
def rebuildInPlace (bs : Nat) (src dst : Bytes) : Bytes × Nat × Nat :=
  let r := rebuildInPlaceLoop bs src dst
  (r.temp, r.changed, r.literal)

/-- the COW strategy: `(bytes of the renamed temp file, changed_blocks, literal_bytes)`. -/
def rebuildCow (bs : Nat) (src dst : Bytes) : Bytes × Nat × Nat :=
  let r := rebuildCowLoop bs src dst
  (r.temp, r.changed, r.literal)

/-! ### the comparison the loops perform, position by position (specification view)

`cmpBlocks k src dst` lists the iterations with a *single* position: block `b` starts at `b.off`,
`b.s` and `b.d` are what source and destination hold there (at most `k b.off` bytes each).
`SyModel.Lemmas.TransferBlocks` proves that both loops are folds over this list. -/

def cmpBlocksGo (k : Nat → Nat) (off : Nat) (srest drest : Bytes) : List Blk :=
  let sb := srest.take (k off)
  if _h : sb = [] then []
  else
    { off := off, s := sb, d := drest.take (k off) } ::
      cmpBlocksGo k (off + sb.length) (srest.drop sb.length) (drest.drop sb.length)
termination_by srest.length
decreasing_by
  have h1 : 0 < (srest.take (k off)).length := List.length_pos_iff.mpr _h
  have h2 : (srest.take (k off)).length ≤ srest.length := by simp [List.length_take]; omega
  simp only [List.length_drop]; omega

def cmpBlocks (k : Nat → Nat) (src dst : Bytes) : List Blk := cmpBlocksGo k 0 src dst

/-- fixed-size view: block `i` is `[i·bs, (i+1)·bs)` cut at the end of each file. -/
def plainBlocks (bs : Nat) (src dst : Bytes) : List Blk :=
  (List.range ((src.length + bs - 1) / bs)).map fun i =>
    { off := i * bs, s := (src.drop (i * bs)).take bs, d := (dst.drop (i * bs)).take bs }

/-! ### `estimate_change_ratio` (src/delta/ratio.rs:78-192) -/

/-- `ChangeRatioResult`; `change_ratio` is the exact rational `num / den` (`den > 0`). -/
structure RatioResult where
  num : Nat
  den : Nat
  sampled : Nat
  changed : Nat
  useDelta : Bool
deriving Repr, DecidableEq

/-- `ChangeRatioResult::new`: `use_delta = change_ratio <= threshold` (ratio.rs:37), threshold 3/4. -/
def RatioResult.mk' (num den sampled changed : Nat) : RatioResult :=
  { num := num, den := den, sampled := sampled, changed := changed,
    useDelta := decide (num * RATIO_DEN ≤ RATIO_NUM * den) }

/-- ratio.rs:123-138: `step = total_blocks / (sample_count - 1)` (0 for a single sample),
    `block_idx = (i * step).min(total_blocks.saturating_sub(1))`. -/
def samplePositions (totalBlocks sampleCount : Nat) : List Nat :=
  let step := if sampleCount > 1 then totalBlocks / (sampleCount - 1) else 0
  (List.range sampleCount).map fun i =>
    if sampleCount > 1 then min (i * step) (totalBlocks - 1) else 0

/-- ratio.rs:145-168 for one sampled block: both readers `seek(Start(idx * block_size))` (which
    empties the `BufReader`) and read once — `min(bs, remaining)` bytes; the block counts as changed
    when the read sizes differ or the xxh3 hashes differ (`hash`, a parameter). -/
def sampleChanged [BEq H] (hash : Bytes → H) (bs : Nat) (src dst : Bytes) (idx : Nat) : Bool :=
  let sb := (src.drop (idx * bs)).take bs
  let db := (dst.drop (idx * bs)).take bs
  if sb.length != db.length then true else hash sb != hash db

/-- `(source_size as f64 - dest_size as f64).abs()` on sizes (exact below 2^53). -/
def absDiff (a b : Nat) : Nat := if a ≥ b then a - b else b - a

def changeRatioH [BEq H] (hash : Bytes → H) (bs : Nat) (src dst : Bytes) : RatioResult :=
  let s := src.length
  let d := dst.length
  let totalBlocks := (d + bs - 1) / bs                    -- (dest_size as usize).div_ceil(block_size)
  let sampleCount := min SAMPLE_COUNT totalBlocks
  let diff := absDiff s d                                 -- |source_size - dest_size|
  -- size_diff_ratio = diff / d (1.0 when d = 0); `> 0.5` ⇒ result without sampling, ratio capped at 1.0
  if d = 0 then RatioResult.mk' 1 1 0 0
  else if SIZE_DIFF_DEN * diff > SIZE_DIFF_NUM * d then
    (if diff ≥ d then RatioResult.mk' 1 1 0 0 else RatioResult.mk' diff d 0 0)
  else
    let changed := ((samplePositions totalBlocks sampleCount).filter (sampleChanged hash bs src dst)).length
    if sampleCount > 0 then RatioResult.mk' changed sampleCount sampleCount changed
    else RatioResult.mk' 0 1 sampleCount changed

/-- the sampling with an injective hash (xxh3 collision-freeness on the sampled blocks is assumed). -/
def changeRatio (bs : Nat) (src dst : Bytes) : RatioResult := changeRatioH (fun b => b) bs src dst

/-! ### full copies -/

/-- a regular file: content and mtime (nanoseconds). -/
structure FileSt where
  bytes : Bytes
  mtime : Nat
deriving Repr, DecidableEq

/-- `fs::copy(source, dest)`: `open(dest, O_TRUNC)`, then the source bytes (copy_file_range /
    sendfile / read+write — content-exact by assumption); the destination's mtime is the time of
    the write. Returns the file and the byte count `fs::copy` reports. -/
def fsCopy (src : Bytes) (now : Nat) : FileSt × Nat :=
  ({ bytes := writeAt (setLen [] 0) 0 src, mtime := now }, src.length)

/-- `filetime::set_file_mtime(path, t)`. -/
def setMtime (f : FileSt) (t : Nat) : FileSt := { f with mtime := t }

/-- `copy_sparse_file` (local.rs:36-46): the seek copier on the regions the kernel reports, or the
    zero-detecting block copier when `lseek(SEEK_DATA)` answers EINVAL (`none`). -/
def copySparseFile (src : Bytes) (seekData : Option (List Region)) (now : Nat) : FileSt × Nat :=
  match seekData with
  | some rs => ({ bytes := localSeek src rs, mtime := now }, src.length)
  | none => ({ bytes := localBlocks src, mtime := now }, src.length)

/-! ### routing of `sync_file_with_delta` -/

inductive Route where
  /-- destination absent (local.rs:349-352) → `copy_file` -/
  | absent
  /-- `dest_size < DELTA_THRESHOLD` (local.rs:378-385) → `copy_file` -/
  | belowThreshold
  /-- `dest_size < 4096` (local.rs:388-391) → `copy_file`; dead: see `small_gate_dead` -/
  | smallDest
  /-- sparse source (local.rs:424-466) → `copy_sparse_file` -/
  | sparse
  /-- `!ratio.use_delta` (local.rs:487-529) → `fs::copy` -/
  | ratioFull
  /-- clone + selective writes (local.rs:580-721) -/
  | deltaCow
  /-- full rebuild in a fresh temp file (local.rs:722-857) -/
  | deltaInPlace
deriving Repr, DecidableEq

def Route.tag : Route → String
  | .absent => "absent"
  | .belowThreshold => "below-threshold"
  | .smallDest => "small-dest"
  | .sparse => "sparse"
  | .ratioFull => "ratio-full"
  | .deltaCow => "delta-cow"
  | .deltaInPlace => "delta-inplace"

structure Cfg where
  /-- `SY_VERIF_DELTA_THRESHOLD` (only under `cfg(nijaru_sy_verif)`); `none` = unset / production -/
  hookThreshold : Option Nat := none
  /-- 64 KiB, or `SY_VERIF_BLOCK_SIZE` -/
  blockSize : Nat := LOCAL_BLOCK_SIZE
  /-- `is_file_sparse(&source_meta)` — allocation is not part of the byte model -/
  srcSparse : Bool := false
  /-- the kernel's SEEK_DATA/SEEK_HOLE answer for the source (`none` = EINVAL) -/
  seekData : Option (List Region) := some []
  /-- `estimate_change_ratio` returned `Err` ("Proceeding with delta sync anyway", local.rs:533-537) -/
  ratioFails : Bool := false
  /-- `supports_cow && same_fs && !has_hardlinks`, or `SY_VERIF_FORCE_COW && !has_hardlinks` -/
  useCow : Bool := false
deriving Repr

/-- the shadowed `dest_size` of the hook (local.rs:369-376): a destination of at least the hook
    threshold is lifted to `DELTA_THRESHOLD`, so that it passes *both* size gates. -/
def effDestSize (cfg : Cfg) (d : Nat) : Nat :=
  match cfg.hookThreshold with
  | some t => if d ≥ t then max d DELTA_THRESHOLD else d
  | none => d

def routeOf (cfg : Cfg) (src : Bytes) (dst : Option Bytes) : Route :=
  match dst with
  | none => .absent
  | some d =>
    let ds := effDestSize cfg d.length
    if ds < DELTA_THRESHOLD then .belowThreshold
    else if ds < SMALL_DEST then .smallDest
    else if cfg.srcSparse then .sparse
    else if !cfg.ratioFails && !(changeRatio cfg.blockSize src d).useDelta then .ratioFull
    else if cfg.useCow then .deltaCow
    else .deltaInPlace

/-- `TransferResult` (transport/mod.rs:24-35) and the destination file after the call. -/
structure Outcome where
  route : Route
  file : FileSt
  bytesWritten : Nat
  deltaOps : Option Nat
  literalBytes : Option Nat
deriving Repr, DecidableEq

/-- `TransferResult::used_delta`. -/
def Outcome.usedDelta (o : Outcome) : Bool := o.deltaOps.isSome

/-- `copy_file` (local.rs:235-342): sparse or not, `fs::copy` then `set_file_mtime(dest, source mtime)`;
    `TransferResult::new(bytes_written)`. -/
def copyFile (route : Route) (src : FileSt) (now : Nat) : Outcome :=
  let (f, n) := fsCopy src.bytes now
  { route := route, file := setMtime f src.mtime, bytesWritten := n, deltaOps := none, literalBytes := none }

/-- what each route does to the destination. (`dst = none` on a route that reads the destination
    stands for an empty file; `routeOf` never produces that combination.) -/
def perform (cfg : Cfg) (route : Route) (src : FileSt) (dst : Option FileSt) (now : Nat) : Outcome :=
  match route with
  | .absent | .belowThreshold | .smallDest => copyFile route src now
  | .sparse =>
    let (f, n) := copySparseFile src.bytes cfg.seekData now
    { route := route, file := setMtime f src.mtime, bytesWritten := n, deltaOps := none, literalBytes := none }
  | .ratioFull =>
    let (f, n) := fsCopy src.bytes now
    { route := route, file := setMtime f src.mtime, bytesWritten := n, deltaOps := none, literalBytes := none }
  | .deltaCow =>
    let r := rebuildCowLoop cfg.blockSize src.bytes ((dst.map (·.bytes)).getD [])
    -- temp file written "now"; mtime set on the temp file (local.rs:872-883); rename carries both
    let temp : FileSt := setMtime { bytes := r.temp, mtime := now } src.mtime
    { route := route, file := temp, bytesWritten := r.offset, deltaOps := some r.changed, literalBytes := some r.literal }
  | .deltaInPlace =>
    let r := rebuildInPlaceLoop cfg.blockSize src.bytes ((dst.map (·.bytes)).getD [])
    let temp : FileSt := setMtime { bytes := r.temp, mtime := now } src.mtime
    { route := route, file := temp, bytesWritten := r.offset, deltaOps := some r.changed, literalBytes := some r.literal }

/-- `LocalTransport::sync_file_with_delta(source, dest)`. -/
def syncFileWithDelta (cfg : Cfg) (src : FileSt) (dst : Option FileSt) (now : Nat) : Outcome :=
  perform cfg (routeOf cfg src.bytes (dst.map (·.bytes))) src dst now

end SyModel.Transfer
