/-
  C08 — Dry-run changes nothing and its plan matches the real run.
  Property theorems only.
-/
import SyModel.Lemmas.Engine
namespace SyModel.Props.C08
open SyModel SyModel.Engine

/-- the same configuration with `--dry-run` switched on / off -/
def dry (cfg : Cfg) : Cfg := { cfg with dryRun := true }
def wet (cfg : Cfg) : Cfg := { cfg with dryRun := false }

/-- With --dry-run the destination is returned unchanged — for every other flag
    (incl. --delete, thresholds, link modes, -X, -H, compare modes) and every pair of trees. -/
theorem dry_run_noop (cfg : Cfg) (flt : Faults) (scan : List SEntry) (dst : Map DNode) (n : Nat)
    (h : cfg.dryRun = true) : (runF cfg flt scan dst n).dst = dst := by
  rcases runF_cases cfg flt scan dst n with ⟨_, he⟩ | ⟨_, he⟩ <;> rw [he]
  exact congrArg World.dst (foldl_execTask_dry_w cfg flt h _ _)

/-- … and no task fails in a dry run. -/
theorem dry_run_no_errors (cfg : Cfg) (flt : Faults) (scan : List SEntry) (dst : Map DNode) (n : Nat)
    (h : cfg.dryRun = true) : (runF cfg flt scan dst n).errors = [] := by
  rcases runF_cases cfg flt scan dst n with ⟨_, he⟩ | ⟨_, he⟩ <;> rw [he]
  exact congrArg List.reverse (foldl_execTask_dry_errors cfg flt h _ _)

/-- Planning does not look at the dry-run flag: the task list is identical. -/
theorem dry_run_same_plan (cfg : Cfg) (scan : List SEntry) (dst : Map DNode) :
    plan (dry cfg) scan dst = plan (wet cfg) scan dst :=
  (plan_dry cfg true scan dst).trans (plan_dry cfg false scan dst).symm

/-- The guard decides identically with and without --dry-run. -/
theorem dry_run_same_refusal (cfg : Cfg) (flt : Faults) (scan : List SEntry) (dst : Map DNode) (n : Nat) :
    (runF (dry cfg) flt scan dst n).refused = (runF (wet cfg) flt scan dst n).refused := by
  rw [runF_refused_eq, runF_refused_eq, dry_run_same_plan]
  rfl

/-- The actions a dry run reports are exactly the actions of the real run on the same trees,
    in the same order, whenever no task of the real run fails. -/
theorem dry_run_plan_eq (cfg : Cfg) (flt : Faults) (scan : List SEntry) (dst : Map DNode) (n : Nat)
    (hok : (runF (wet cfg) flt scan dst n).errors = []) :
    (runF (dry cfg) flt scan dst n).events = (runF (wet cfg) flt scan dst n).events := by
  have hr := dry_run_same_refusal cfg flt scan dst n
  rcases runF_cases (wet cfg) flt scan dst n with ⟨_, hw⟩ | ⟨_, hw⟩ <;>
    rcases runF_cases (dry cfg) flt scan dst n with ⟨_, hd⟩ | ⟨_, hd⟩ <;> rw [hw, hd] at hr <;> rw [hw] at hok <;> rw [hw, hd]
  · cases hr
  · cases hr
  · simp only [List.reverse_eq_nil_iff] at hok
    unfold finalExec at hok ⊢
    rw [foldl_execTask_dry_events (dry cfg) flt rfl, foldl_execTask_events_of_no_errors (wet cfg) flt _ _ hok,
      dry_run_same_plan]

/-- … hence the per-kind counts of the two event lists agree (the counters of the report are these counts,
    `C19.counters_eq_events`). -/
theorem dry_run_counters_eq (cfg : Cfg) (flt : Faults) (scan : List SEntry) (dst : Map DNode) (n : Nat)
    (hok : (runF (wet cfg) flt scan dst n).errors = []) :
    countAct .create (runF (dry cfg) flt scan dst n).events = countAct .create (runF (wet cfg) flt scan dst n).events ∧
    countAct .update (runF (dry cfg) flt scan dst n).events = countAct .update (runF (wet cfg) flt scan dst n).events ∧
    countAct .delete (runF (dry cfg) flt scan dst n).events = countAct .delete (runF (wet cfg) flt scan dst n).events ∧
    countAct .skip (runF (dry cfg) flt scan dst n).events = countAct .skip (runF (wet cfg) flt scan dst n).events := by
  rw [dry_run_plan_eq cfg flt scan dst n hok]; exact ⟨rfl, rfl, rfl, rfl⟩

def exCfg : Cfg where
  delete := true
  force := true
  dryRun := true
  xattrs := false
  hardlinks := false
  threshold := 50
  links := .preserve
  compare := .default
  minSize := none
  maxSize := none
  maxErrors := 100
  tie := false

/-- one file and one stale directory: trees of their own (not `Engine.exScan` / `Engine.exDst` of Lemmas/EngineWF, which
    these names shadow here) -/
def exScan : List SEntry :=
  [{ rel := ["a"], kind := .file { content := 1, size := 3, mtime := 5, xattrs := [], ino := 1 } 1, size := 3, excluded := false }]
def exDst : Map DNode := [(["z"], .dir)]

example : (run exCfg exScan exDst 10).dst = exDst := dry_run_noop exCfg noFaults exScan exDst 10 rfl
example : (plan exCfg exScan exDst).length = 2 := by decide

end SyModel.Props.C08
