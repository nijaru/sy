/-
  C10 — I/O faults are contained and truthfully reported (second part: the C01 post-condition
  under faults, and containment).  Property theorems only.

  A fault plan `flt : Task → Option (Option DNode)` makes any chosen set of tasks fail, each
  leaving arbitrary garbage (or nothing) at its own path.
-/
import SyModel.Props.C01
import SyModel.Lemmas.EngineContain
namespace SyModel.Props.C10Post
open SyModel SyModel.Engine

/-- **Exit status 0 implies the post-condition of C01**, for every fault plan and error budget. -/
theorem C10_exit_zero_implies_C01 (cfg : Cfg) (hnd : cfg.dryRun = false) (flt : Faults) (scan : List SEntry)
    (dst : Map DNode) (n : Nat) (hu : UniqueRels scan)
    (hdel : cfg.delete = true → ParentClosed scan ∧ dst.get? [] = none)
    (hino : cfg.hardlinks = true → InoConsistent scan)
    (hok : (runF cfg flt scan dst n).exit = 0) :
    ∀ e ∈ scanFilter cfg scan,
      (e.kind = .dir → e.rel ≠ [] → (runF cfg flt scan dst n).dst.get? e.rel = some .dir) ∧
      (∀ m k, e.kind = .file m k → ∃ d, (runF cfg flt scan dst n).dst.get? e.rel = some (.file d) ∧
        (planFileAct cfg m (dst.get? e.rel) ≠ .skip → C01.Carries cfg d m)) ∧
      (∀ text tgt, e.kind = .symlink text tgt → cfg.links = .preserve →
        (runF cfg flt scan dst n).dst.get? e.rel = some (.symlink text)) ∧
      (∀ text m, e.kind = .symlink text (.file m) → cfg.links = .follow →
        ∃ d, (runF cfg flt scan dst n).dst.get? e.rel = some (.file d) ∧
          (planFileAct cfg m (dst.get? e.rel) ≠ .skip → C01.Carries cfg d m)) ∧
      (∀ text tgt, e.kind = .symlink text tgt →
        (cfg.links = .skip ∨ (cfg.links = .follow ∧ ∀ m, tgt ≠ .file m)) → ParentClosed scan →
        (runF cfg flt scan dst n).dst.get? e.rel = dst.get? e.rel) :=
  C01.C01 cfg hnd flt scan dst n hu hdel hino hok

/-- A run that exits 0 under a fault plan *is* the fault-free run: same destination, same events,
    same counters (no fault can have fired, because a fired fault is recorded as an error). -/
theorem exit_zero_is_fault_free (cfg : Cfg) (flt : Faults) (scan : List SEntry) (dst : Map DNode) (n : Nat)
    (hok : (runF cfg flt scan dst n).exit = 0) : runF cfg flt scan dst n = run cfg scan dst n :=
  runF_eq_run_of_exit_zero hok

/-- **Containment.**  Whatever faults hit *other* tasks (any number, any garbage left behind),
    every selected entry whose own operation completed — its action event is in the report —
    satisfies the C01 post-condition in the final destination: garbage of faulted tasks never
    overwrites or removes a correctly transferred entry, and a non-zero exit status does not
    invalidate the entries that were reported as done. -/
theorem fault_contained (cfg : Cfg) (hnd : cfg.dryRun = false) (flt : Faults) (scan : List SEntry)
    (dst : Map DNode) (n : Nat) (hu : UniqueRels scan)
    (hdel : cfg.delete = true → ParentClosed scan ∧ dst.get? [] = none)
    (hino : cfg.hardlinks = true → InoConsistent scan)
    (e : SEntry) (he : e ∈ scanFilter cfg scan)
    (hev : ((planEntry cfg dst e).act, e.rel) ∈ (runF cfg flt scan dst n).events) :
    EntryPost cfg scan dst e ((runF cfg flt scan dst n).dst.get? e.rel) :=
  entryPost_of_event hnd flt scan dst n hu hdel hino he hev

/-- equality of destination nodes up to the inode number of regular files -/
def NodeSim : Option DNode → Option DNode → Prop
  | some (.file d), some (.file d') =>
      d.content = d'.content ∧ d.size = d'.size ∧ d.mtime = d'.mtime ∧ d.xattrs = d'.xattrs
  | a, b => a = b

/-- **Same as the fault-free run.**  For a selected entry whose operation completed both under
    the fault plan and in the fault-free run, the final node at its path is the same in both runs
    (regular files up to the inode number, which depends on how many files were created before). -/
theorem fault_contained_agrees (cfg : Cfg) (hnd : cfg.dryRun = false) (flt : Faults) (scan : List SEntry)
    (dst : Map DNode) (n : Nat) (hu : UniqueRels scan) (hc : ParentClosed scan)
    (hroot : cfg.delete = true → dst.get? [] = none)
    (hino : cfg.hardlinks = true → InoConsistent scan)
    (e : SEntry) (he : e ∈ scanFilter cfg scan) (hne : e.rel ≠ [])
    (hevF : ((planEntry cfg dst e).act, e.rel) ∈ (runF cfg flt scan dst n).events)
    (hev0 : ((planEntry cfg dst e).act, e.rel) ∈ (run cfg scan dst n).events) :
    NodeSim ((runF cfg flt scan dst n).dst.get? e.rel) ((run cfg scan dst n).dst.get? e.rel) := by
  have hdel : cfg.delete = true → ParentClosed scan ∧ dst.get? [] = none := fun h => ⟨hc, hroot h⟩
  have pF := fault_contained cfg hnd flt scan dst n hu hdel hino e he hevF
  have p0 := fault_contained cfg hnd noFaults scan dst n hu hdel hino e he hev0
  have hes := mem_of_mem_scanFilter he
  have fileCase : ∀ m, FilePost cfg dst e m ((runF cfg flt scan dst n).dst.get? e.rel) →
      FilePost cfg dst e m ((runF cfg noFaults scan dst n).dst.get? e.rel) →
      NodeSim ((runF cfg flt scan dst n).dst.get? e.rel) ((runF cfg noFaults scan dst n).dst.get? e.rel) := by
    intro m ⟨d, h1, h2, h3, _⟩ ⟨d', h1', h2', h3', _⟩
    rw [h1, h1']
    by_cases hs : planFileAct cfg m (dst.get? e.rel) = .skip
    · have := (h2 hs).trans (h2' hs).symm
      rw [h1, h1'] at this
      simp only [Option.some.injEq, DNode.file.injEq] at this
      rw [this]; exact ⟨rfl, rfl, rfl, rfl⟩
    · obtain ⟨a, b, c, x⟩ := h3 hs
      obtain ⟨a', b', c', x'⟩ := h3' hs
      exact ⟨a.trans a'.symm, b.trans b'.symm, c.trans c'.symm, x.trans x'.symm⟩
  have eqCase : ∀ {a b : Option DNode}, a = b → NodeSim a b := by
    intro a b h; subst h
    cases a with
    | none => rfl
    | some v => cases v <;> first | rfl | exact ⟨rfl, rfl, rfl, rfl⟩
  unfold run
  cases hk : e.kind with
  | dir => exact eqCase ((pF.dir hk hne).trans (p0.dir hk hne).symm)
  | file m k => exact fileCase m (pF.file m k hk) (p0.file m k hk)
  | symlink text tgt =>
    have hkd : e.kind ≠ .dir := by rw [hk]; simp
    cases hl : cfg.links with
    | preserve => exact eqCase ((pF.link_preserve text tgt hk hl).trans (p0.link_preserve text tgt hk hl).symm)
    | skip =>
      exact eqCase (((pF.link_skip text tgt hk hl).eq hu hc hes hkd).trans
        ((p0.link_skip text tgt hk hl).eq hu hc hes hkd).symm)
    | follow =>
      cases tgt with
      | file m => exact fileCase m (pF.link_follow text m hk hl) (p0.link_follow text m hk hl)
      | dir | dangling =>
        exact eqCase (((pF.link_follow_other text _ hk hl (by simp)).eq hu hc hes hkd).trans
          ((p0.link_follow_other text _ hk hl (by simp)).eq hu hc hes hkd).symm)

/-- **Containment, strong form.**  Let the fault plan spare the task of a selected entry `e` and
    the tasks at its ancestor directories (every other task may fail in any way and leave any
    garbage).  Then `e`'s operation is reported as done under the fault plan exactly when it is in
    the fault-free run, and the final node at its path is then the same in both runs (regular
    files up to the inode number). -/
theorem fault_contained_strong (cfg : Cfg) (hnd : cfg.dryRun = false) (flt : Faults) (scan : List SEntry)
    (dst : Map DNode) (n : Nat) (hu : UniqueRels scan) (hc : ParentClosed scan)
    (hroot : cfg.delete = true → dst.get? [] = none)
    (hino : cfg.hardlinks = true → InoConsistent scan)
    (e : SEntry) (he : e ∈ scanFilter cfg scan) (hne : e.rel ≠ [])
    (hspare : ∀ t ∈ plan cfg scan dst, isPrefix t.rel e.rel = true → flt t = none) :
    (((planEntry cfg dst e).act, e.rel) ∈ (runF cfg flt scan dst n).events ↔
      ((planEntry cfg dst e).act, e.rel) ∈ (run cfg scan dst n).events) ∧
    (((planEntry cfg dst e).act, e.rel) ∈ (run cfg scan dst n).events →
      NodeSim ((runF cfg flt scan dst n).dst.get? e.rel) ((run cfg scan dst n).dst.get? e.rel)) := by
  have hsp : SparesPath cfg flt (plan cfg scan dst) e.rel := by
    intro t ht hp
    unfold faultOf; split
    · rfl
    · exact hspare t ht hp
  have hsp0 : SparesPath cfg noFaults (plan cfg scan dst) e.rel := fun t _ _ => faultOf_noFaults cfg t
  have hiff : ((planEntry cfg dst e).act, e.rel) ∈ (runF cfg flt scan dst n).events ↔
      ((planEntry cfg dst e).act, e.rel) ∈ (run cfg scan dst n).events := by
    unfold run
    cases hr : (runF cfg flt scan dst n).refused with
    | true =>
      have hr0 : (runF cfg noFaults scan dst n).refused = true := by
        rw [runF_refused_eq] at hr ⊢; exact hr
      rw [runF_of_refused hr, runF_of_refused hr0]
    | false =>
      have hr0 : (runF cfg noFaults scan dst n).refused = false := by
        rw [runF_refused_eq] at hr ⊢; exact hr
      rw [event_iff_taskOk hu he hr, event_iff_taskOk hu he hr0]
      exact ⟨taskOk_transfer hnd flt noFaults n hu hc hroot he hne hsp hsp0,
        taskOk_transfer hnd noFaults flt n hu hc hroot he hne hsp0 hsp⟩
  exact ⟨hiff, fun h0 => fault_contained_agrees cfg hnd flt scan dst n hu hc hroot hino e he hne (hiff.2 h0) h0⟩

/-- a fault on `g` (first name of the hard-link pair) that leaves a symlink behind -/
def exFlt : Faults := fun t => if t.rel = ["g"] then some (some (.symlink "garbage")) else none

/-- the report of the faulted run, evaluated once: it fails, and the actions at `d/f` and `d/h` are reported as done -/
theorem exFlt_report : (runF C01.exCfg exFlt exScan exDst 1000).exit = 1 ∧
    (Act.update, ["d", "f"]) ∈ (runF C01.exCfg exFlt exScan exDst 1000).events ∧
    (Act.create, ["d", "h"]) ∈ (runF C01.exCfg exFlt exScan exDst 1000).events := by decide

/-- the run fails (exit ≠ 0) … -/
example : (runF C01.exCfg exFlt exScan exDst 1000).exit = 1 := exFlt_report.1

/-- … `d/f` was reported as updated and carries the source's data all the same -/
example : ∃ d, (runF C01.exCfg exFlt exScan exDst 1000).dst.get? ["d", "f"] = some (.file d) ∧
    Matches C01.exCfg d (exMeta 1 10 5000000000 3) := by
  have h := fault_contained C01.exCfg rfl exFlt exScan exDst 1000 exScan_uniqueRels
    exScan_delete_ok (fun _ => exScan_inoConsistent)
    ⟨["d", "f"], .file (exMeta 1 10 5000000000 3) 1, 10, false⟩ (by decide) exFlt_report.2.1
  obtain ⟨d, h1, _, h3, _⟩ := h.file _ _ rfl
  exact ⟨d, h1, h3 (by decide)⟩

/-- … and the second name `d/h`, which now becomes the first writer of its group, agrees with
    the fault-free run up to the inode number -/
example : NodeSim ((runF C01.exCfg exFlt exScan exDst 1000).dst.get? ["d", "h"])
    ((run C01.exCfg exScan exDst 1000).dst.get? ["d", "h"]) :=
  fault_contained_agrees C01.exCfg rfl exFlt exScan exDst 1000 exScan_uniqueRels exScan_parentClosed (fun _ => exDst_root)
    (fun _ => exScan_inoConsistent) _ C01.exRunH_dh (by decide) exFlt_report.2.2 C01.exRun_report.2.1

/-- the strong form applied: `d/h` is spared by `exFlt` (which hits `g` only) -/
example : ((Act.create, ["d", "h"]) ∈ (runF C01.exCfg exFlt exScan exDst 1000).events ↔
    (Act.create, ["d", "h"]) ∈ (run C01.exCfg exScan exDst 1000).events) :=
  (fault_contained_strong C01.exCfg rfl exFlt exScan exDst 1000 exScan_uniqueRels exScan_parentClosed (fun _ => exDst_root)
    (fun _ => exScan_inoConsistent) _ C01.exRunH_dh (by decide)
    (by
      intro t ht hp
      have : t.rel ≠ ["g"] := by
        intro h; rw [h] at hp; revert hp; decide
      simp [exFlt, this])).1

example : (runF C01.exCfg noFaults exScan exDst 1000) = run C01.exCfg exScan exDst 1000 := rfl

end SyModel.Props.C10Post
