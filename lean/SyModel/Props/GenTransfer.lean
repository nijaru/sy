/-
  GenTransfer — the translated task executors of the one-way engine (`SyModel/Generated/Code/Transfer.lean`,
  regenerated on every run from src/sync/transfer.rs: `Transferrer::{create, update, delete, create_directory,
  copy_file, handle_symlink}`) do what the handwritten engine model's `perform` (`Engine/Model.lean`) does for the
  task they are called for — the `perform` that C01, C03, C06, C08, C10, C17, C19 are about.

  The world `XWorld` (the model's own `World` under a root text + what source path texts resolve to), the instance
  `extOf cfg : Ext XWorld` (every transport operation = the model's own helper at the key of its path: `mkdirAll`,
  `writeFile`, `writeSymlink`, `linkFile`/`relinkFile`, erase) and the abstraction maps (`absMode`, `absPayload`,
  `absTask`, `metaOf`, `Agrees`) are defined and documented in `Lemmas/GenTransfer.lean`.  Because the instance reuses
  the model's helpers, the theorems below are about the CONTROL FLOW of the executors: which operation is called when,
  on which path, what a dry run does, what each symlink mode does, when the hard-link hand-off is taken, what is
  written after a transfer.

  `runM x w` = (result, world afterwards).  `Agree xw k res m` reads: when the model's answer `m` is `some w'` the call
  returned `Ok` and the world is `xw` with `w := w'` (the WHOLE model world: destination map, link map, next inode,
  byte count); when it is `none` the call returned `Err(io)` and what is left is described by `Left`: `xw` itself, or
  `xw` with the parent directories of `k` created, or (`update` of a directory entry only) `xw` with the link at `k`
  removed.

  First come facts for ANY instance `ext : Ext W`; then the bridges on `extOf cfg`, for every executor value, entry,
  key and world, under these hypotheses (each with a satisfiability example at the end of the file):
    * `Agrees self cfg`   the executor value and `cfg` describe the same run (dry_run, -H, symlink mode);
    * `CleanPath k`, and the call is made with `dest_path = destOf root k = root.join(text of k)`: the destination path
                          of a task is `dest_root.join(relative_path)` of a walked entry (non-empty components, no `/`);
    * `Readable cfg e`    a symlink entry has `symlink_target = Some(..)` unless the mode is skip — the model has no
                          unreadable links; `unreadable_link_fails` says what the code does then;
    * `SrcFile xw e`      a regular-file entry still names a regular file — the model has no vanishing sources;
                          `create_vanished_source_fails` says what the code does then;
    * `HasInode cfg e`    with -H a multiply-linked regular file carries `inode = Some(..)` (always on Unix);
                          `plain_file_call_sequence` says what the code does otherwise (a plain copy);
    * `FlagOK`            (delete only) the `is_dir` flag describes the node (computed by the engine right before).
  Every entry kind is covered: `update` of a plain directory entry (planned for a destination link standing where the
  source has a directory, sy commit 862af11) by `update_dir_call_sequence` and `update_dir_eq_model`.  Then: where code
  and model differ, and C17 restated about the TRANSLATED `create`.
-/
import SyModel.Lemmas.GenTransfer
namespace SyModel.Props.GenTransfer
open SyModel SyModel.Engine SyModel.Generated SyModel.Generated.Transfer SyModel.Lemmas.GenTransfer

section anyInstance
variable {W : Type} (ext : Ext W) (self : Transferrer) (e : FileEntry) (d : Rs.Path) (w : W)

/-- DRY RUN: with `dry_run` all three executors return `Ok` without calling any operation — whatever the operations
    would do, the world is unchanged (diff mode or not, every entry kind, every flag). -/
theorem dry_run_changes_nothing (hdry : self.dry_run = true) (isDir : Bool) :
    runM (self.create ext e d) w = (.ok none, w) ∧ runM (self.update ext e d) w = (.ok none, w) ∧
      runM (self.delete ext d isDir) w = (.ok (), w) := by
  refine ⟨(dry_run_calls_nothing ext self e d w hdry).1, (dry_run_calls_nothing ext self e d w hdry).2, ?_⟩
  unfold Transferrer.delete
  simp only [hdry, ↓reduceIte]
  rfl

/-- `delete` outside a dry run is exactly ONE call of `Transport::remove` on the same path with the same flag. -/
theorem delete_calls_remove_once (hdry : self.dry_run = false) (isDir : Bool) :
    runM (self.delete ext d isDir) w = runM (ext.t_remove self.transport d isDir) w := by
  unfold Transferrer.delete
  simp only [hdry, Bool.false_eq_true, ↓reduceIte, runM_bind]
  rcases runM (ext.t_remove self.transport d isDir) w with ⟨r, w'⟩
  cases r <;> rfl

/-- `create` of a directory entry is exactly one `create_dir_all(dest_path)`; the answer is `Ok(None)`. -/
theorem create_dir_calls_only_create_dir_all (hdry : self.dry_run = false) (hs : e.is_symlink = false)
    (hd : e.is_dir = true) :
    runM (self.create ext e d) w = runM (ext.t_create_dir_all self.transport d >>= fun _ => pure none) w := by
  unfold Transferrer.create Transferrer.create_directory
  simp only [hdry, hs, hd, Bool.false_eq_true, ↓reduceIte, runM_bind]
  rcases runM (ext.t_create_dir_all self.transport d) w with ⟨r, w'⟩
  cases r <;> rfl

theorem runM_capture {W α : Type} (x : Rs.M W α) (w : W) :
    runM (Rs.capture x) w = ((.ok (runM x w).1 : Except Rs.Err (Except Rs.Err α)), (runM x w).2) :=
  runM_capture_eq x w

/-- `update` of a plain directory entry (planned only when the destination holds a symlink where the source has a
    directory, fix 862af11): a dry run calls nothing; a real run probes the path with `read_link`, removes the entry (as a
    non-directory: the link itself) when the probe answers "a link" — a failing probe is "no link" —, then runs
    `create_dir_all`; the answer is `Ok(None)`, and a failing removal or creation fails the task. -/
theorem update_dir_call_sequence (hdry : self.dry_run = false) (hs : e.is_symlink = false) (hd : e.is_dir = true) :
    runM (self.update ext e d) w =
      match runM (ext.t_read_link self.transport d) w with
      | (.ok (some _), w1) =>
        (match runM (ext.t_remove self.transport d false) w1 with
         | (.ok _, w2) =>
           (match runM (ext.t_create_dir_all self.transport d) w2 with
            | (.ok _, w3) => (.ok none, w3)
            | (.error er, w3) => (.error er, w3))
         | (.error er, w2) => (.error er, w2))
      | (_, w1) =>
        (match runM (ext.t_create_dir_all self.transport d) w1 with
         | (.ok _, w3) => (.ok none, w3)
         | (.error er, w3) => (.error er, w3)) := by
  unfold Transferrer.update Transferrer.create_directory
  simp only [hdry, hs, hd, Bool.false_eq_true, ↓reduceIte, Bool.not_true, Bool.false_and, runM_bind, runM_capture]
  rcases h1 : runM (ext.t_read_link self.transport d) w with ⟨r, w1⟩
  rcases r with er | (_ | t)
  · simp only [runM_bind, runM_pure]
    rcases runM (ext.t_create_dir_all self.transport d) w1 with ⟨r3, w3⟩
    cases r3 <;> rfl
  · simp only [runM_bind, runM_pure]
    rcases runM (ext.t_create_dir_all self.transport d) w1 with ⟨r3, w3⟩
    cases r3 <;> rfl
  · simp only [runM_bind, runM_pure]
    rcases runM (ext.t_remove self.transport d false) w1 with ⟨r2, w2⟩
    cases r2
    · rfl
    · simp only []
      rcases runM (ext.t_create_dir_all self.transport d) w2 with ⟨r3, w3⟩
      cases r3 <;> rfl

/-- a dry run of `update` calls nothing, whatever the entry is -/
theorem update_dir_dry_run_does_nothing (hdry : self.dry_run = true) :
    runM (self.update ext e d) w = (.ok none, w) :=
  (dry_run_changes_nothing ext self e d w hdry false).2.1

/-- SKIP mode: nothing is called for a symlink entry, by `create` or by `update`. -/
theorem skip_mode_calls_nothing (hs : e.is_symlink = true) (hm : self.symlink_mode = .Skip) :
    runM (self.create ext e d) w = (.ok none, w) ∧ runM (self.update ext e d) w = (.ok none, w) := by
  cases hdry : self.dry_run with
  | true => exact ⟨(dry_run_changes_nothing ext self e d w hdry false).1, (dry_run_changes_nothing ext self e d w hdry false).2.1⟩
  | false =>
    unfold Transferrer.create Transferrer.update Transferrer.handle_symlink
    constructor <;> simp only [hdry, hs, hm, Bool.false_eq_true, ↓reduceIte] <;> rfl

/-- PRESERVE mode: exactly one `create_symlink(target text, dest_path)`; the answer is `Ok(None)`. -/
theorem preserve_mode_calls_create_symlink_once (hdry : self.dry_run = false) (hs : e.is_symlink = true)
    (hm : self.symlink_mode = .Preserve) (t : Rs.Path) (ht : e.symlink_target = some t) :
    runM (self.create ext e d) w = runM (ext.t_create_symlink self.transport t d >>= fun _ => pure none) w ∧
      runM (self.update ext e d) w = runM (ext.t_create_symlink self.transport t d >>= fun _ => pure none) w := by
  unfold Transferrer.create Transferrer.update Transferrer.handle_symlink
  constructor <;> simp only [hdry, hs, hm, ht, Bool.false_eq_true, ↓reduceIte]

/-- a link the scanner could not read (`symlink_target = None`) is an ERROR in preserve and in follow mode, and nothing
    is called. -/
theorem unreadable_link_fails (hdry : self.dry_run = false) (hs : e.is_symlink = true)
    (hm : self.symlink_mode ≠ .Skip) (ht : e.symlink_target = none) :
    runM (self.create ext e d) w = (.error .io, w) ∧ runM (self.update ext e d) w = (.error .io, w) := by
  unfold Transferrer.create Transferrer.update Transferrer.handle_symlink
  cases hmode : self.symlink_mode with
  | Skip => exact absurd hmode hm
  | Preserve =>
    constructor <;> simp only [hdry, hs, ht, Bool.false_eq_true, ↓reduceIte] <;> rfl
  | Follow =>
    constructor <;>
      simp only [hdry, hs, ht, Rs.is_some, Option.isSome_none, Bool.false_eq_true, ↓reduceIte] <;> rfl

/-- -H: a regular file with several names and a known inode is handed to `transfer_link_member` — with
    `is_update = false` by `create`, `true` by `update` — and NOTHING else is called (no `write_xattrs` afterwards). -/
theorem hardlink_candidate_is_handed_off (hdry : self.dry_run = false) (hs : e.is_symlink = false)
    (hd : e.is_dir = false) (hh : self.preserve_hardlinks = true) (hn : 1 < e.nlink) (i : Nat)
    (hi : e.inode = some i) :
    runM (self.create ext e d) w = runM (ext.transfer_link_member self e d i false) w ∧
      runM (self.update ext e d) w = runM (ext.transfer_link_member self e d i true) w := by
  have hn' : decide (e.nlink > 1) = true := by simpa using hn
  unfold Transferrer.create Transferrer.update
  constructor
  · simp only [hdry, hs, hd, hh, hn', hi, Bool.false_eq_true, ↓reduceIte, Bool.and_self]
  · simp only [hdry, hs, hd, hh, hn', hi, Bool.false_eq_true, ↓reduceIte, Bool.not_false, Bool.and_self, runM_bind]
    rcases runM (ext.transfer_link_member self e d i true) w with ⟨r, w'⟩
    cases r <;> rfl

/-- without -H, or for a singly linked file, or when the entry carries no inode number, `transfer_link_member` is never
    called: `create` is `copy_file` then the
    three attribute writers, `update` is `sync_file_with_delta` then the three attribute writers — in this order, on
    `(source.path, dest_path)`. -/
theorem plain_file_call_sequence (hdry : self.dry_run = false) (hs : e.is_symlink = false) (hd : e.is_dir = false)
    (hh : self.preserve_hardlinks = false ∨ e.nlink ≤ 1 ∨ e.inode = none) :
    runM (self.create ext e d) w =
        runM (self.copy_file ext e.path d >>= fun r => ext.write_xattrs self e d >>= fun _ =>
          ext.write_acls self e d >>= fun _ => ext.write_bsd_flags self e d >>= fun _ => pure (some r)) w ∧
      runM (self.update ext e d) w =
        runM (ext.t_sync_file_with_delta self.transport e.path d >>= fun r => ext.write_xattrs self e d >>= fun _ =>
          ext.write_acls self e d >>= fun _ => ext.write_bsd_flags self e d >>= fun _ => pure (some r)) w := by
  unfold Transferrer.create Transferrer.update
  rcases hh with h | h | h
  · constructor <;> simp only [hdry, hs, hd, h, Bool.false_eq_true, ↓reduceIte, Bool.not_false, Bool.false_and,
      Bool.and_false]
  · have hc : decide (e.nlink > 1) = false := by
      have : ¬ (e.nlink > 1) := by omega
      simp [this]
    constructor <;> simp only [hdry, hs, hd, hc, Bool.false_eq_true, ↓reduceIte, Bool.not_false,
      Bool.and_false, Bool.true_and]
  · constructor <;> (simp only [hdry, hs, hd, h, Bool.false_eq_true, ↓reduceIte, Bool.not_false, Bool.true_and]
                     split <;> rfl)

end anyInstance

/-- BRIDGE (`create`): for every executor value, entry, key and world, running the translated `create` on the model's
    instance agrees with `perform` of the create task for that entry: `Ok` in exactly the world `perform` computes, `Err`
    exactly when `perform` gives `none`.  Every payload kind: directory, regular file, hard-link candidate with/without
    -H (first member or later member), symlink in skip / preserve / follow mode (dangling, directory and file targets),
    with and without dry run. -/
theorem create_eq_model (cfg : Cfg) (self : Transferrer) (ha : Agrees self cfg) (xw : XWorld) (e : FileEntry)
    (k : Engine.Path) (hk : CleanPath k) (hread : Readable cfg e) (hsrc : SrcFile xw e) (hino : HasInode cfg e) :
    Agree xw k (runM (self.create (extOf cfg) e (destOf xw.root k)) xw)
      (perform cfg xw.w (absTask cfg xw .create e k)) :=
  create_agree cfg self ha xw e k hk hread hsrc hino

/-- BRIDGE (`update`): the same for the update task (later members of a link group are RE-linked; `sync_file_with_delta`
    instead of `copy_file`). -/
theorem update_eq_model (cfg : Cfg) (self : Transferrer) (ha : Agrees self cfg) (xw : XWorld) (e : FileEntry)
    (k : Engine.Path) (hk : CleanPath k) (hread : Readable cfg e) (hsrc : SrcFile xw e) (hino : HasInode cfg e) :
    Agree xw k (runM (self.update (extOf cfg) e (destOf xw.root k)) xw)
      (perform cfg xw.w (absTask cfg xw .update e k)) :=
  update_agree cfg self ha xw e k hk hread hsrc hino

/-- BRIDGE (`update` of a plain DIRECTORY entry, fix 862af11 — the replacement of a destination link standing where the
    source has a directory): running the translated `update` (`read_link` probe → `remove(path, false)` of a link →
    `create_dir_all`) on the model's instance agrees with `perform` of the `.update` task with payload `.dir`, success
    and failure, for EVERY node at the key — absent or a directory (`create_dir_all` alone), a regular file (the probe
    answers "not a link", `create_dir_all` fails, nothing changes), a symlink (unlinked as itself, never followed; then
    the directory is created).  No hypothesis on the entry beyond its kind. -/
theorem update_dir_eq_model (cfg : Cfg) (self : Transferrer) (ha : Agrees self cfg) (xw : XWorld) (e : FileEntry)
    (k : Engine.Path) (hk : CleanPath k) (hs : e.is_symlink = false) (hdir : e.is_dir = true) :
    Agree xw k (runM (self.update (extOf cfg) e (destOf xw.root k)) xw)
      (perform cfg xw.w (absTask cfg xw .update e k)) :=
  update_dir_agree cfg self ha xw e k hk hs hdir

/-- … and what that means at the key, for a real (non-dry) run over a symlink node whose ancestors are all
    directories: `Ok`, the node at the key is a directory afterwards, and every other path of the destination map is as
    it was — the link's text is never used. -/
theorem update_dir_over_link_replaces (cfg : Cfg) (self : Transferrer) (ha : Agrees self cfg) (hnd : cfg.dryRun = false)
    (xw : XWorld) (e : FileEntry) (k : Engine.Path) (hk : CleanPath k) (hs : e.is_symlink = false)
    (hdir : e.is_dir = true) (t : String) (hl : xw.w.dst.get? k = some (.symlink t))
    (hanc : ∀ a, a ≠ [] → isPrefix a k = true → a ≠ k → xw.w.dst.get? a = some .dir) :
    ∃ r xw', runM (self.update (extOf cfg) e (destOf xw.root k)) xw = (.ok r, xw') ∧
      xw'.w.dst.get? k = some .dir ∧ ∀ x, x ≠ k → xw'.w.dst.get? x = xw.w.dst.get? x := by
  have hag := update_dir_eq_model cfg self ha xw e k hk hs hdir
  have hp : ∃ w', perform cfg xw.w (absTask cfg xw .update e k) = some w' ∧ w'.dst.get? k = some .dir ∧
      ∀ x, x ≠ k → w'.dst.get? x = xw.w.dst.get? x := by
    unfold absTask
    rw [perform_update cfg _ _ _ hnd]
    simp only [absPayload, hs, hdir, cuArm, Bool.false_eq_true, ↓reduceIte, mkdirW, unlinkLink_of_link _ _ t hl]
    have hdirs : ∀ x, x ≠ [] → isPrefix x k = true → x ≠ k → (xw.w.dst.erase k).get? x = some .dir := by
      intro x hx hp hne
      rw [Map.get?_erase]; simp only [Ne.symm hne, ↓reduceIte]; exact hanc x hx hp hne
    -- every strict ancestor is a directory and the key is free once the link is gone: `mkdirAll` creates exactly `k`
    rw [mkdirAll_fresh hk.1 hdirs (by simp [Map.get?_erase])]
    refine ⟨_, rfl, Map.get?_set_same .., fun x hx => ?_⟩
    show ((xw.w.dst.erase k).set k .dir).get? x = _
    rw [Map.get?_set, Map.get?_erase]
    simp [Ne.symm hx]
  obtain ⟨w', hw, h1, h2⟩ := hp
  rw [hw] at hag
  obtain ⟨r, hr⟩ := hag
  exact ⟨r, _, hr, h1, h2⟩

/-- BRIDGE (`delete`), entry present: `Ok`, and the world is `perform`'s — a directory goes with its subtree, a file or
    link alone; a dry run changes nothing.  (`perform` never answers `none` for a delete task.) -/
theorem delete_eq_model (cfg : Cfg) (self : Transferrer) (hdry : self.dry_run = cfg.dryRun) (xw : XWorld)
    (k : Engine.Path) (hk : CleanPath k) (isDir : Bool) (pl : Payload) (n : DNode) (hn : xw.w.dst.get? k = some n)
    (hf : FlagOK xw.w k isDir) :
    Agree xw k (runM (self.delete (extOf cfg) (destOf xw.root k) isDir) xw) (perform cfg xw.w ⟨.delete, k, pl⟩) := by
  rw [delete_run cfg self xw k hk isDir, perform_delete (t := ⟨.delete, k, pl⟩) rfl, hdry]
  cases hd : cfg.dryRun with
  | true => exact ⟨(), rfl⟩
  | false =>
    simp only [Bool.false_eq_true, ↓reduceIte, removeW, hn]
    cases n with
    | dir => simp only [hf.1 hn, ↓reduceIte, Option.map_some, outcome_some]; exact ⟨(), rfl⟩
    | file m => simp only [hf.2 m hn, Bool.false_eq_true, ↓reduceIte, Option.map_some, outcome_some]; exact ⟨(), rfl⟩
    | symlink t => simp only [Option.map_some, outcome_some]; exact ⟨(), rfl⟩

/-- `delete`, entry ABSENT (it went with its parent directory): `Transport::remove` fails (NotFound) and so does
    `Transferrer::delete`, leaving the world as it was — which is the world `perform` answers.  The engine turns exactly
    this error into success OUTSIDE the translated unit (the Delete arm of `SyncEngine::sync`, src/sync/mod.rs: the
    match on `transferrer.delete(..)` right after `task.dest_path.is_dir()`), which is what `perform` records. -/
theorem delete_absent_is_not_found (cfg : Cfg) (self : Transferrer) (hdry : self.dry_run = false)
    (hd : cfg.dryRun = false) (xw : XWorld) (k : Engine.Path) (hk : CleanPath k) (isDir : Bool) (pl : Payload)
    (hn : xw.w.dst.get? k = none) :
    runM (self.delete (extOf cfg) (destOf xw.root k) isDir) xw = (.error .io, xw) ∧
      perform cfg xw.w ⟨.delete, k, pl⟩ = some xw.w := by
  rw [delete_run cfg self xw k hk isDir, perform_delete (t := ⟨.delete, k, pl⟩) rfl]
  simp [hdry, hd, removeW, hn]

/-- a wrong flag makes `remove` fail and nothing is removed (`remove_file` on a directory: EISDIR; `remove_dir_all` on a
    regular file: ENOTDIR). -/
theorem delete_wrong_flag_fails (cfg : Cfg) (self : Transferrer) (hdry : self.dry_run = false) (xw : XWorld)
    (k : Engine.Path) (hk : CleanPath k) :
    (xw.w.dst.get? k = some .dir → runM (self.delete (extOf cfg) (destOf xw.root k) false) xw = (.error .io, xw)) ∧
    (∀ m, xw.w.dst.get? k = some (.file m) →
      runM (self.delete (extOf cfg) (destOf xw.root k) true) xw = (.error .io, xw)) := by
  refine ⟨fun hn => ?_, fun m hn => ?_⟩ <;>
    rw [delete_run cfg self xw k hk] <;> simp [hdry, removeW, hn]

section plain
variable (cfg : Cfg) (self : Transferrer) (ha : Agrees self cfg) (xw : XWorld) (e : FileEntry) (k : Engine.Path)
  (hk : CleanPath k) (hread : Readable cfg e) (hsrc : SrcFile xw e) (hino : HasInode cfg e)
include ha hk hread hsrc hino

/-- `create` returns `Ok` exactly when the model's task succeeds … -/
theorem create_ok_iff_model :
    (∃ r xw', runM (self.create (extOf cfg) e (destOf xw.root k)) xw = (.ok r, xw')) ↔
      (perform cfg xw.w (absTask cfg xw .create e k)).isSome = true :=
  (create_eq_model cfg self ha xw e k hk hread hsrc hino).ok_iff

/-- … then the world it leaves is the model's (root and sources untouched) … -/
theorem create_ok_world (r : Option TransferResult) (xw' : XWorld)
    (h : runM (self.create (extOf cfg) e (destOf xw.root k)) xw = (.ok r, xw')) :
    perform cfg xw.w (absTask cfg xw .create e k) = some xw'.w ∧ xw' = { xw with w := xw'.w } :=
  (create_eq_model cfg self ha xw e k hk hread hsrc hino).world h

/-- … and it returns `Err` exactly when the model's task fails. -/
theorem create_err_iff_model :
    (∃ er xw', runM (self.create (extOf cfg) e (destOf xw.root k)) xw = (.error er, xw')) ↔
      perform cfg xw.w (absTask cfg xw .create e k) = none :=
  (create_eq_model cfg self ha xw e k hk hread hsrc hino).err_iff

/-- what a failed `create` leaves is described by `Left`.  (The statement allows all three cases; the code reaches the
    first two only — the world as it was, or with the parent directories of the path created —, which is proved for
    `copy_file`: `copy_file_err_strong`.) -/
theorem create_err_left (er : Rs.Err) (xw' : XWorld)
    (h : runM (self.create (extOf cfg) e (destOf xw.root k)) xw = (.error er, xw')) : er = .io ∧ Left xw xw' k :=
  ((create_eq_model cfg self ha xw e k hk hread hsrc hino).left h).2

theorem update_ok_iff_model :
    (∃ r xw', runM (self.update (extOf cfg) e (destOf xw.root k)) xw = (.ok r, xw')) ↔
      (perform cfg xw.w (absTask cfg xw .update e k)).isSome = true :=
  (update_eq_model cfg self ha xw e k hk hread hsrc hino).ok_iff

theorem update_ok_world (r : Option TransferResult) (xw' : XWorld)
    (h : runM (self.update (extOf cfg) e (destOf xw.root k)) xw = (.ok r, xw')) :
    perform cfg xw.w (absTask cfg xw .update e k) = some xw'.w ∧ xw' = { xw with w := xw'.w } :=
  (update_eq_model cfg self ha xw e k hk hread hsrc hino).world h

theorem update_err_iff_model :
    (∃ er xw', runM (self.update (extOf cfg) e (destOf xw.root k)) xw = (.error er, xw')) ↔
      perform cfg xw.w (absTask cfg xw .update e k) = none :=
  (update_eq_model cfg self ha xw e k hk hread hsrc hino).err_iff

end plain

/-! ## where the code and the model differ -/

/-- OUTSIDE THE MODEL (a source that vanished or stopped being a regular file after the scan): `create` of a
    regular-file entry fails in `copy_file`, after `create_dir_all(parent)`; nothing is written at the path.  The model
    has no such event of its own — it is one of the faults of `execTask`'s fault plan (the task fails, the path keeps
    what it had). -/
theorem create_vanished_source_fails (cfg : Cfg) (self : Transferrer) (xw : XWorld) (e : FileEntry) (k : Engine.Path)
    (hk : CleanPath k) (hdry : self.dry_run = false) (hs : e.is_symlink = false) (hdir : e.is_dir = false)
    (hh : self.preserve_hardlinks = false ∨ e.nlink ≤ 1 ∨ e.inode = none)
    (hgone : ∀ sm, xw.src e.path ≠ .file sm) :
    ∃ xw', runM (self.create (extOf cfg) e (destOf xw.root k)) xw = (.error .io, xw') ∧ Left xw xw' k ∧
      xw'.w.dst.get? k = xw.w.dst.get? k := by
  rw [(plain_file_call_sequence (extOf cfg) self e _ xw hdry hs hdir hh).1]
  obtain ⟨xw', h1, h2⟩ := copy_file_err_strong cfg self xw e.path k hk (fun sm h => absurd h (hgone sm))
  refine ⟨xw', runM_bind_error h1, h2.elim Or.inl (fun h => Or.inr (Or.inl h)), ?_⟩
  rcases h2 with rfl | ⟨d, hm, rfl⟩
  · rfl
  · exact get?_of_parent hm

/-- the follow arm of `handle_symlink` (a SYMLINK entry in follow mode) transfers no attributes even with -X: it calls
    `copy_file` only.  In the engine that arm is not reached for links to files: `plan_symlink` hands the executors a
    dereferenced NON-symlink entry (the `SymlinkMode::Follow` arm of `plan_symlink`, src/sync/mod.rs), which takes the regular-file path and does write the
    entry's attributes; the model's `planEntry` payload `.file m 1` (the target's meta) describes that path.  Stated as
    `create_follow_copies_target` below (`node.xattrs = []`). -/
theorem follow_arm_payload_has_no_xattrs (sm : FileMeta) : (followMeta sm).xattrs = [] := rfl

section c17
variable (cfg : Cfg) (self : Transferrer) (ha : Agrees self cfg) (xw : XWorld) (e : FileEntry) (k : Engine.Path)
  (hk : CleanPath k) (hd : cfg.dryRun = false)
include ha hk hd

/-- C17 preserve: after a successful `create` of a symlink entry the destination holds a SYMLINK with exactly the
    source link's target text — whatever was at the path before (nothing, a file, another link), whatever the link
    points to (dangling, relative, absolute, a directory). -/
theorem create_preserve_places_link (hs : e.is_symlink = true) (hl : cfg.links = .preserve) (t : Rs.Path)
    (ht : e.symlink_target = some t) (r : Option TransferResult) (xw' : XWorld)
    (h : runM (self.create (extOf cfg) e (destOf xw.root k)) xw = (.ok r, xw')) :
    xw'.w.dst.get? k = some (.symlink (String.ofList t)) := by
  have hw := ((create_eq_model cfg self ha xw e k hk (fun _ _ => by simp [ht]) (fun h' => by simp [hs] at h')
    (fun h' => by simp [hs] at h')).world h).1
  unfold absTask at hw
  rw [perform_create cfg _ _ _ hd] at hw
  simp only [absPayload, hs, hl, ht, ↓reduceIte, cuArm] at hw
  obtain ⟨d, _, _, hdst, _⟩ := writeSymlink_spec hw
  rw [hdst, Map.get?_set_same]

/-- C17 follow: a link whose target is a regular file becomes a REGULAR FILE with the target's content, size and mtime
    (and no attributes: see `follow_arm_payload_has_no_xattrs`). -/
theorem create_follow_copies_target (hs : e.is_symlink = true) (hl : cfg.links = .follow) (t : Rs.Path)
    (ht : e.symlink_target = some t) (sm : FileMeta) (hsm : xw.src e.path = .file sm) (r : Option TransferResult)
    (xw' : XWorld) (h : runM (self.create (extOf cfg) e (destOf xw.root k)) xw = (.ok r, xw')) :
    ∃ node, xw'.w.dst.get? k = some (.file node) ∧ node.content = sm.content ∧ node.size = sm.size ∧
      node.mtime = sm.mtime ∧ node.xattrs = [] := by
  have hw := ((create_eq_model cfg self ha xw e k hk (fun _ _ => by simp [ht]) (fun h' => by simp [hs] at h')
    (fun h' => by simp [hs] at h')).world h).1
  unfold absTask at hw
  rw [perform_create cfg _ _ _ hd] at hw
  simp only [absPayload, hs, hl, hsm, ↓reduceIte, cuArm, fileArm, Nat.lt_irrefl, decide_false, Bool.and_false,
    Bool.false_eq_true] at hw
  obtain ⟨d, node, _, _, hdst, ⟨h1, h2, h3, h4⟩, _, _⟩ := writeFile_spec hw
  refine ⟨node, by rw [hdst, Map.get?_set_same], h1, h2, h3, ?_⟩
  rw [h4]; cases cfg.xattrs <;> rfl

/-- C17 follow, dangling link or link to a directory: `Ok`, and nothing is created. -/
theorem create_follow_skips_unfollowable (hs : e.is_symlink = true) (hl : cfg.links = .follow) (t : Rs.Path)
    (ht : e.symlink_target = some t) (hsrc : xw.src e.path = .dangling ∨ xw.src e.path = .dir) :
    ∃ r, runM (self.create (extOf cfg) e (destOf xw.root k)) xw = (.ok r, xw) := by
  have hag := create_eq_model cfg self ha xw e k hk (fun _ _ => by simp [ht]) (fun h' => by simp [hs] at h')
    (fun h' => by simp [hs] at h')
  unfold absTask at hag
  rw [perform_create cfg _ _ _ hd] at hag
  rcases hsrc with hsrc | hsrc <;>
    · simp only [absPayload, hs, hl, hsrc, ↓reduceIte, cuArm] at hag
      exact hag

omit hk hd in
/-- C17 skip: `Ok(None)`, and nothing is created. -/
theorem create_skip_creates_nothing (hs : e.is_symlink = true) (hl : cfg.links = .skip) :
    runM (self.create (extOf cfg) e (destOf xw.root k)) xw = (.ok none, xw) := by
  have hm : self.symlink_mode = .Skip := by
    obtain ⟨_, _, this⟩ := ha; rw [hl] at this
    cases hmode : self.symlink_mode <;> simp [hmode, absMode] at this ⊢
  exact (skip_mode_calls_nothing (extOf cfg) self e _ xw hs hm).1

/-- C17 xattrs: a regular file transferred by `create` (not through the hard-link hand-off) carries exactly the
    ENTRY's attributes with -X and none without; content, size and mtime are the source file's. -/
theorem create_file_xattrs (hs : e.is_symlink = false) (hdir : e.is_dir = false)
    (hh : cfg.hardlinks = false ∨ e.nlink ≤ 1) (sm : FileMeta) (hsm : xw.src e.path = .file sm)
    (r : Option TransferResult) (xw' : XWorld)
    (h : runM (self.create (extOf cfg) e (destOf xw.root k)) xw = (.ok r, xw')) :
    ∃ node, xw'.w.dst.get? k = some (.file node) ∧ node.content = sm.content ∧ node.size = sm.size ∧
      node.mtime = sm.mtime ∧ node.xattrs = if cfg.xattrs then absX xw.valId e.xattrs else [] := by
  have hc : (cfg.hardlinks && decide (1 < e.nlink)) = false := by
    rcases hh with h' | h'
    · simp [h']
    · have : ¬ (1 < e.nlink) := by omega
      simp [this]
  have hw := ((create_eq_model cfg self ha xw e k hk (fun h' => by simp [hs] at h') (fun _ _ => ⟨sm, hsm⟩)
    (fun _ _ h1 h2 => by simp [h1, h2] at hc)).world h).1
  unfold absTask at hw
  rw [perform_create cfg _ _ _ hd] at hw
  simp only [absPayload, hs, hdir, Bool.false_eq_true, ↓reduceIte, cuArm, fileArm, hc] at hw
  obtain ⟨d, node, _, _, hdst, ⟨h1, h2, h3, h4⟩, _, _⟩ := writeFile_spec hw
  refine ⟨node, by rw [hdst, Map.get?_set_same], ?_, ?_, ?_, ?_⟩
  · rw [h1]; simp [metaOf, hsm]
  · rw [h2]; simp [metaOf, hsm]
  · rw [h3]; simp [metaOf, hsm]
  · rw [h4, metaOf_xattrs]

end c17

/-! ## the hypotheses are satisfiable; concrete runs of the translated code -/

def exCfg : Cfg where
  delete := true
  force := false
  dryRun := false
  xattrs := true
  hardlinks := true
  threshold := 50
  links := .preserve
  compare := .default
  minSize := none
  maxSize := none
  maxErrors := 100
  tie := false

def exSelf : Transferrer := { transport := ⟨⟩, dry_run := false, diff_mode := false, symlink_mode := .Preserve,
                              preserve_hardlinks := true }

/-- destination `/dst` holding the directory `a` and the file `a/old`; sources `/src/f` (a regular file, two names) and
    `/src/l` (a link to it) -/
def exWorld : XWorld where
  root := ['/', 'd', 's', 't']
  w := { dst := [(["a"], .dir), (["a", "old"], .file ⟨9, 1, 1, [], 4⟩)], linkMap := [], nextIno := 7, bytes := 0 }
  src := fun p => if p = ['/', 's', 'r', 'c', '/', 'f'] ∨ p = ['/', 's', 'r', 'c', '/', 'l']
                  then .file ⟨1, 10, 5000, [], 3⟩ else .dangling
  valId := List.length

def exFile : FileEntry :=
  { path := ['/', 's', 'r', 'c', '/', 'f'], relative_path := ['f'], size := 10, modified := 5000, is_dir := false,
    is_symlink := false, symlink_target := none, is_sparse := false, allocated_size := 0,
    xattrs := some [(['u', 's', 'e', 'r', '.', 'k'], [1, 2])], inode := some 3, nlink := 2, acls := none,
    bsd_flags := none }

def exLink : FileEntry :=
  { exFile with path := ['/', 's', 'r', 'c', '/', 'l'], relative_path := ['l'], is_symlink := true,
                symlink_target := some ['f'], xattrs := none, nlink := 1 }

def exDir : FileEntry := { exFile with is_dir := true, xattrs := none, nlink := 1 }

example : Agrees exSelf exCfg := ⟨rfl, rfl, rfl⟩
example : CleanPath ["a", "f"] := by decide
example : Readable exCfg exLink := fun _ _ => rfl
example : Readable exCfg exFile := fun h => by cases h
example : SrcFile exWorld exFile := fun _ _ => ⟨_, rfl⟩
example : HasInode exCfg exFile := fun _ _ _ _ => rfl
example : NotPlainDir exFile := fun _ => rfl
example : FlagOK exWorld.w ["a"] true := ⟨fun _ => rfl, fun m h => by simp [exWorld, Map.get?_cons] at h⟩
example : FlagOK exWorld.w ["a", "old"] false := ⟨fun h => by simp [exWorld, Map.get?_cons] at h, fun _ _ => rfl⟩

/-- the translated `create`, run on the instance: the link is placed with its text, under the existing directory -/
example : (runM (exSelf.create (extOf exCfg) exLink (destOf exWorld.root ["a", "l"])) exWorld).2.w.dst.get? ["a", "l"]
    = some (.symlink "f") := by decide

/-- the first member of a link group with -H: copied with the entry's attributes and recorded as the group's path -/
example : (runM (exSelf.create (extOf exCfg) exFile (destOf exWorld.root ["a", "f"])) exWorld).2.w.dst.get? ["a", "f"]
    = some (.file ⟨1, 10, 5000, [("user.k", 2)], 7⟩) := by decide
example : (runM (exSelf.create (extOf exCfg) exFile (destOf exWorld.root ["a", "f"])) exWorld).2.w.linkMap
    = [(3, ["a", "f"], 7)] := by decide

/-- a directory over the existing file `a/old`: `create_dir_all` fails, nothing changes -/
theorem exCreateDir_report :
    let r := runM (exSelf.create (extOf exCfg) exDir (destOf exWorld.root ["a", "old"])) exWorld
    r.2.w.dst = exWorld.w.dst ∧ r.1.toBool = false := by
  decide

example : (runM (exSelf.create (extOf exCfg) exDir (destOf exWorld.root ["a", "old"])) exWorld).2.w.dst
    = exWorld.w.dst := exCreateDir_report.1
example : (runM (exSelf.create (extOf exCfg) exDir (destOf exWorld.root ["a", "old"])) exWorld).1.toBool = false :=
  exCreateDir_report.2

/-- `exWorld` with the link `lk -> /elsewhere` added -/
def exWorldLink : XWorld :=
  { exWorld with w := { exWorld.w with dst := (["lk"], .symlink "/elsewhere") :: exWorld.w.dst } }

/-- `update` of a directory entry over a destination LINK (fix 862af11): the translated `update` answers `Ok`, the link
    is gone and a directory stands at the key; `a/old` is as it was -/
theorem exUpdateLink_report :
    let r := runM (exSelf.update (extOf exCfg) exDir (destOf exWorldLink.root ["lk"])) exWorldLink
    r.1.toBool = true ∧ r.2.w.dst.get? ["lk"] = some .dir ∧
      r.2.w.dst.get? ["a", "old"] = exWorldLink.w.dst.get? ["a", "old"] := by
  decide

example : (runM (exSelf.update (extOf exCfg) exDir (destOf exWorldLink.root ["lk"])) exWorldLink).1.toBool = true :=
  exUpdateLink_report.1
example : (runM (exSelf.update (extOf exCfg) exDir (destOf exWorldLink.root ["lk"])) exWorldLink).2.w.dst.get? ["lk"]
    = some .dir := exUpdateLink_report.2.1
example : (runM (exSelf.update (extOf exCfg) exDir (destOf exWorldLink.root ["lk"])) exWorldLink).2.w.dst.get? ["a", "old"]
    = exWorldLink.w.dst.get? ["a", "old"] := exUpdateLink_report.2.2
/-- … and it is what the model's `perform` computes (`update_dir_eq_model` applied) -/
example : Agree exWorldLink ["lk"]
    (runM (exSelf.update (extOf exCfg) exDir (destOf exWorldLink.root ["lk"])) exWorldLink)
    (perform exCfg exWorldLink.w (absTask exCfg exWorldLink .update exDir ["lk"])) :=
  update_dir_eq_model exCfg exSelf ⟨rfl, rfl, rfl⟩ exWorldLink exDir ["lk"] (by decide) rfl rfl
/-- over the regular file `a/old` the probe answers "not a link" and `create_dir_all` fails: nothing changes -/
example : (runM (exSelf.update (extOf exCfg) exDir (destOf exWorld.root ["a", "old"])) exWorld).1.toBool = false ∧
    (runM (exSelf.update (extOf exCfg) exDir (destOf exWorld.root ["a", "old"])) exWorld).2.w.dst = exWorld.w.dst ∧
    perform exCfg exWorld.w (absTask exCfg exWorld .update exDir ["a", "old"]) = none := by decide

/-- deleting the directory `a` takes `a/old` with it -/
example : (runM (exSelf.delete (extOf exCfg) (destOf exWorld.root ["a"]) true) exWorld).2.w.dst = [] := by decide

end SyModel.Props.GenTransfer
