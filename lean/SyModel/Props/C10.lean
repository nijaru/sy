/-
  C10 — I/O faults are contained and truthfully reported.
  Property theorems only (first part: the exit status; the post-condition under faults is in `Props/C10Post`).
-/
import SyModel.Lemmas.Engine
import SyModel.Generated.Consts
namespace SyModel.Props.C10
open SyModel SyModel.Engine

/-- `main` consults both the error list and the verification-failure counter when choosing the
    exit status (regenerated from src/main.rs each run). -/
theorem consts_ok_exit_consults_errors : Generated.EXIT_CONSULTS_ERRORS = true := by decide
theorem consts_ok_exit_consults_verification : Generated.EXIT_CONSULTS_VERIFICATION = true := by decide

/-- Exit status 0 implies that the run was not refused and no planned operation failed. -/
theorem exit_zero_clean (cfg : Cfg) (flt : Faults) (scan : List SEntry) (dst : Map DNode) (n : Nat)
    (h : (runF cfg flt scan dst n).exit = 0) :
    (runF cfg flt scan dst n).refused = false ∧ (runF cfg flt scan dst n).errors = [] := by
  obtain ⟨hr, he⟩ := runF_exit_zero h
  exact ⟨hr, by rw [(runF_of_not_refused hr).errors, he]; rfl⟩

/-- Conversely any failed operation makes the exit status non-zero, whatever the error budget. -/
theorem failure_exit_nonzero (cfg : Cfg) (flt : Faults) (scan : List SEntry) (dst : Map DNode) (n : Nat)
    (h : (runF cfg flt scan dst n).errors ≠ []) : (runF cfg flt scan dst n).exit ≠ 0 := by
  intro h0; exact h (exit_zero_clean cfg flt scan dst n h0).2

/-- A run that reaches the error budget reports `aborted` and exits non-zero.  (The budget is looked at once all
    tasks have run, `runF`: it stops nothing.) -/
theorem budget_abort (cfg : Cfg) (flt : Faults) (scan : List SEntry) (dst : Map DNode) (n : Nat)
    (h : (runF cfg flt scan dst n).aborted = true) : (runF cfg flt scan dst n).exit ≠ 0 := by
  apply failure_exit_nonzero
  rcases runF_cases cfg flt scan dst n with ⟨_, he⟩ | ⟨_, he⟩ <;> rw [he] at h ⊢
  · cases h
  · simp only [Bool.and_eq_true, decide_eq_true_eq] at h
    intro hnil
    simp only [List.reverse_eq_nil_iff] at hnil
    rw [hnil] at h; simp at h; omega

end SyModel.Props.C10
