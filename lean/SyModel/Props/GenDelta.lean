/-
  Props.GenDelta — bridge theorems for the translated unit `Delta` (`SyModel/Generated/Code/Delta.lean`, translated
  from /repo/src/delta/generator.rs): the translated `generate_delta`, run on the documented instance `inst strong`
  of its `Ext` record (the trusted first part of Lemmas/GenDelta.lean), computes exactly the handwritten model
  `SyModel.Delta.genMem` the C04 theorems are about; C04 restated about the TRANSLATED function.  For every `Ext`: the
  normal form, the bucket scan as `find?`, that the `while`'s fuel suffices when `0 < block_size`
  (`generate_delta_counterexample_bs0`: at 0 Rust, translation and model all differ), and that every slice and index
  evaluated is in range (`generate_delta_accesses_in_range`).
-/
import SyModel.Lemmas.GenDeltaStream
import SyModel.Props.C04
set_option autoImplicit false
set_option linter.unusedVariables false
namespace SyModel.Props.GenDelta
open SyModel SyModel.Delta SyModel.Generated SyModel.Generated.Delta SyModel.GenDelta
open SyModel.Generated.Rs (run_bind_ok run_bind_error run_pure)

/-! ### the op abstraction is lossless -/

theorem absOp_repOp (o : Op) : absOp (repOp o) = o := by
  cases o <;> simp [absOp, repOp]

theorem absOps_repOps (ops : List Op) : (ops.map repOp).map absOp = ops := by
  induction ops with
  | nil => rfl
  | cons x t ih => simp only [List.map_cons, absOp_repOp, ih]

theorem absBlock_repBlock (bs : Nat) (c : Block Nat) : absBlock (repBlock bs c) = c := rfl

/-- NORMAL FORM (every `Ext`): the only theorem about `generate_delta` that depends on the shape of the generated
    code; everything below is about `memStep` / `memResult`. -/
theorem generate_delta_normal_form {W : Type} (ext : Ext W) (p : Rs.Path) (cs : List BlockChecksum) (bs : Nat) :
    generate_delta ext p cs bs =
      (ext.File_open p >>= fun h => ext.h_read_to_end h [] >>= fun data => pure (memResult ext cs bs data)) :=
  generate_delta_nf ext p cs bs

/-- the `HashMap` built with `entry().or_default().push()`, `get(&weak)` and the `for … break` scan over the
    bucket find what `find?` with the weak test finds on the whole list: buckets keep insertion order. -/
theorem bucket_scan_eq_find (cs : List BlockChecksum) (k : Nat) (q : BlockChecksum → Bool) :
    (Rs.get (buildMap cs) k = none ∧ cs.find? (fun c => c.weak == k && q c) = none) ∨
    (∃ cands, Rs.get (buildMap cs) k = some cands ∧ cands.find? q = cs.find? (fun c => c.weak == k && q c)) :=
  scan_buildMap cs k q

/-- FUEL (every `Ext`, every data): with `0 < block_size` the `len` rounds the translation gives the `while` loop
    are enough — the loop has stopped by its own condition (`pos = len`) and any extra fuel changes nothing. -/
theorem generate_delta_fuel_sufficient {W : Type} (ext : Ext W) (cs : List BlockChecksum) (bs : Nat) (hbs : 0 < bs)
    (data : List Nat) (r0 : RollSt) :
    (iter (memStep ext (buildMap cs) data bs) data.length ([], [], 0, r0)).2.2.1 = data.length ∧
      ∀ extra, iter (memStep ext (buildMap cs) data bs) (data.length + extra) ([], [], 0, r0) =
        iter (memStep ext (buildMap cs) data bs) data.length ([], [], 0, r0) :=
  fuel_sufficient ext (buildMap cs) data bs hbs data.length ([], [], 0, r0) (Nat.zero_le _) (by simp)

theorem memResult_inst (strong : Bytes → Nat) (cs : List BlockChecksum) (bs : Nat) (hbs : 0 < bs) (new : Bytes) :
    memResult (inst strong) cs bs (ofU8 new) =
      { ops := (genMem strong (cs.map absBlock) bs new).map repOp, source_size := new.length, block_size := bs } := by
  unfold memResult memResultA
  split
  · rename_i he
    have : new = [] := by simpa [Rs.is_empty, Rs.len, ofU8_eq_nil] using he
    subst this
    simp [genMem, genMemGo, flush]
  · have hr := GenDeltaStream.inst_update_if strong bs Adler.init new
    have := GenDeltaStream.memLoop_eq strong cs bs hbs new
      { wrest := new, wpos := 0, fileRest := [], bytesRead := 0, litRev := [], opsRev := [],
        roll := if hasAtLeast bs new then Adler.ofBlock (new.take bs) else Adler.ofBlock [] }
      ⟨rfl, Nat.zero_le _⟩ new.length (Nat.le_refl _)
    simp only [Acc.rs, inst_new, hr]
    simp only [len_ofU8]
    simp only [GenDeltaStream.memSt, List.reverse_nil, List.map_nil, ofU8_nil] at this
    simp only [genMem]
    rw [← this]
    rfl

/-- **`generate_delta` = model.**  For every world in which `p` is a regular file with content `new`, every list of
    checksums and every `0 < block_size`, the translated `generate_delta` on the instance succeeds with exactly the
    model's op list (literal boundaries included), `source_size = |new|`, `block_size`; afterwards the file contents
    are what they were (one more open handle, at end of file). -/
theorem generate_delta_eq_model (strong : Bytes → Nat) (w : DWorld) (p : Rs.Path) (new : Bytes)
    (hfile : w.files p = some new) (cs : List BlockChecksum) (bs : Nat) (hbs : 0 < bs) :
    generate_delta (inst strong) p cs bs w =
      (.ok { ops := (genMem strong (cs.map absBlock) bs new).map repOp, source_size := new.length, block_size := bs },
       { w with opened := w.opened + 1, handle := upd w.handle (w.opened + 1) (some (p, new.length)) }) := by
  have hfile' : ({ w with opened := w.opened + 1 } : DWorld).files p = some new := hfile
  rw [generate_delta_nf, run_bind_ok (open_inst strong hfile), run_bind_ok (read_to_end_inst strong hfile' _ 0 []),
    run_pure, Nat.zero_max]
  exact congrArg (·, _) (congrArg Except.ok (memResult_inst strong cs bs hbs new))

/-- a missing source file: the `File::open` error, nothing changes -/
theorem generate_delta_missing (strong : Bytes → Nat) (w : DWorld) (p : Rs.Path) (hfile : w.files p = none)
    (cs : List BlockChecksum) (bs : Nat) :
    generate_delta (inst strong) p cs bs w = (.error .io, w) := by
  rw [generate_delta_nf, run_bind_error (open_inst_none strong hfile)]

/-- the file contents are never changed (with or without the file) -/
theorem generate_delta_files_unchanged (strong : Bytes → Nat) (w : DWorld) (p : Rs.Path)
    (cs : List BlockChecksum) (bs : Nat) (hbs : 0 < bs) :
    (generate_delta (inst strong) p cs bs w).2.files = w.files := by
  cases hfile : w.files p with
  | none => rw [generate_delta_missing strong w p hfile]
  | some new => rw [generate_delta_eq_model strong w p new hfile cs bs hbs]


/-! ### `block_size = 0`: why `0 < bs` is a hypothesis -/

/-- the world of the witness: one file `f` holding the single byte 7 -/
def w0 : DWorld := { files := fun p => if p = ['f'] then some [7] else none, opened := 0, handle := fun _ => none }

/-- a zero-size checksum whose weak hash is the digest of the empty window and whose strong hash is that of `[]` -/
def c0 (strong : Bytes → Nat) : BlockChecksum := ⟨0, 0, 0, 1, strong []⟩

/-- `block_size = 0` with a zero-size checksum in the list (hand-made: `compute_checksums` never emits one).  The
    RUST code matches the empty block at `pos = 0`, adds `pos += 0` and never leaves the `while`: it pushes
    `Copy{0,0}` forever.  The TRANSLATION gives the loop `len = 1` round of fuel and then returns normally with
    `ops = [Copy 0 0]` — the loop state still has `pos = 0 < len`, i.e. the bounded loop was cut off, not finished.
    The MODEL (`genMemGo`, branch `bs = 0`) returns early with no op.  So without `0 < bs` the three disagree:
    `generate_delta_eq_model` is false, and `generate_delta_fuel_sufficient` is false. -/
theorem generate_delta_counterexample_bs0 (strong : Bytes → Nat) :
    (generate_delta (inst strong) ['f'] [c0 strong] 0 w0).1 =
        .ok { ops := [DeltaOp.Copy 0 0], source_size := 1, block_size := 0 } ∧
      (genMem strong ([c0 strong].map absBlock) 0 [7]).map repOp = [] ∧
      (iter (memStep (inst strong) (buildMap [c0 strong]) (ofU8 [7]) 0) 1
        ([], [], 0, rollOf 0 (Adler.ofBlock []))).2.2.1 = 0 := by
  have hd : Adler.digest (Adler.ofBlock []) = 1 := by decide
  have hstep := GenDeltaStream.memStep_sbody strong [c0 strong] 0 [7]
    { wrest := [7], wpos := 0, fileRest := [], bytesRead := 0, roll := Adler.ofBlock [], litRev := [], opsRev := [] } 7 []
    ⟨rfl, Nat.zero_le _⟩ rfl
  simp [GenDeltaStream.memSt, sbody, hasAtLeast, findFull, c0, absBlock, hd, flush, repOp] at hstep
  have hm : memStepA Acc.rs (inst strong) = memStep (inst strong) := rfl
  refine ⟨?_, ?_, ?_⟩
  · have hfile : w0.files ['f'] = some [7] := by simp [w0]
    have hfile' : ({ w0 with opened := w0.opened + 1 } : DWorld).files ['f'] = some [7] := hfile
    rw [generate_delta_nf, run_bind_ok (open_inst strong hfile), run_bind_ok (read_to_end_inst strong hfile' _ 0 []),
      run_pure, List.nil_append, List.drop_zero]
    have hr0 : (if decide (Rs.len (ofU8 [7]) ≥ 0) = true then
        (inst strong).adler_update_block ((inst strong).Adler32_new 0) (Acc.rs.slice (ofU8 [7]) 0 0)
        else (inst strong).Adler32_new 0) = rollOf 0 (Adler.ofBlock []) := by
      simp [Acc.rs]; rfl
    have he : Rs.is_empty (ofU8 [7]) = false := by decide
    simp only [memResult, memResultA, hr0, he, Bool.false_eq_true, if_false, hm]
    simp only [len_ofU8, List.length_cons, List.length_nil, Nat.zero_add, iter, c0, hstep]
    rfl
  · simp [genMem, genMemGo, hasAtLeast, findFull, c0, absBlock, hd, flush]
  · simp only [iter, c0, hstep]

/-- Rust panics on `&v[a..b]` with `a > b` or `b > len`, on `&v[a..]` with `a > len` and on `v[i]` with `i ≥ len`; the
    Prelude's `Rs.slice`, `Rs.slice_from`, `Rs.index` are total.  For EVERY `Ext` and every data (`hbs` is not
    used), replacing the three accessors by functions that answer ANYTHING outside those ranges (`Acc.InRange`) does not
    change what `generate_delta` computes: every slice and index it evaluates is in range — the translated function
    never panics there and the totalisation is never exercised. -/
theorem generate_delta_accesses_in_range {W : Type} (A : Acc) (hA : A.InRange) (ext : Ext W)
    (cs : List BlockChecksum) (bs : Nat) (hbs : 0 < bs) (data : List Nat) :
    memResultA A ext cs bs data = memResult ext cs bs data :=
  GenDeltaStream.memResultA_inRange A hA ext bs cs data

/-- … and per round of the loop, from any state (`hpos` is not used; no condition on `block_size`) -/
theorem generate_delta_step_in_range {W : Type} (A : Acc) (hA : A.InRange) (ext : Ext W)
    (cmap : Rs.HashMap Nat (List BlockChecksum)) (data : List Nat) (bs : Nat) (s : MemSt)
    (hpos : s.2.2.1 ≤ data.length) :
    memStepA A ext cmap data bs s = memStep ext cmap data bs s :=
  GenDeltaStream.memStepA_inRange A hA ext cmap bs data s

/-- non-vacuity and sharpness of `Acc.InRange`: an accessor set that answers garbage out of range satisfies it … -/
def garbage : Acc :=
  ⟨fun l lo hi => if lo ≤ hi ∧ hi ≤ l.length then Rs.slice l lo hi else [42],
   fun l lo => if lo ≤ l.length then Rs.slice_from l lo else [42],
   fun l i => if i < l.length then Rs.index l i else 42⟩

theorem garbage_inRange : garbage.InRange :=
  ⟨fun l lo hi h1 h2 => by simp [garbage, h1, h2], fun l lo h => by simp [garbage, h],
   fun l i h => by simp [garbage, h]⟩

/-- … and differs from the Prelude out of range -/
example : garbage.slice [1, 2] 1 5 ≠ Rs.slice [1, 2] 1 5 := by decide

/-! ### C04 about the TRANSLATED function -/

/-- The candidate list need not be the checksums of `old`: it only has to be sound for `new` (`CandidatesSound`: a
    strong-hash hit means the referenced range of `old` holds those bytes).  The model's checksums are, under
    `NoCollision` (`translated_genMem_reconstructs`); so are the entries `compute_checksums` answers under short reads,
    for an injective strong hash (`GenChecksums.translated_pipeline_short_reads_still_reconstruct`). -/
theorem generate_delta_reconstructs_of_sound (strong : Bytes → Nat) (w : DWorld) (p : Rs.Path) (old new : Bytes)
    (hfile : w.files p = some new) (cs : List BlockChecksum) (bs : Nat) (hbs : 0 < bs)
    (hs : CandidatesSound strong old new (cs.map absBlock)) :
    ∃ d w', generate_delta (inst strong) p cs bs w = (.ok d, w') ∧ w'.files = w.files ∧
      d.source_size = new.length ∧ d.block_size = bs ∧
      applyOps old (d.ops.map absOp) = some new :=
  ⟨_, _, generate_delta_eq_model strong w p new hfile cs bs hbs, rfl, rfl, rfl,
    (absOps_repOps _).symm ▸ genMem_spec strong old new _ bs hbs hs⟩

/-- **C04 (in-memory generator), translated.**  Under `NoCollision` (as in `Props/C04`) and `0 < bs`: running the
    translated `generate_delta` on the checksums of `old` succeeds, leaves all file contents as they were, and
    applying the ops it returns to `old` gives exactly `new`. -/
theorem translated_genMem_reconstructs (strong : Bytes → Nat) (w : DWorld) (p : Rs.Path) (old new : Bytes)
    (hfile : w.files p = some new) (cs : List BlockChecksum) (bs : Nat)
    (hcs : cs.map absBlock = checksums strong bs old) (hbs : 0 < bs) (hc : NoCollision strong old new bs) :
    ∃ d w', generate_delta (inst strong) p cs bs w = (.ok d, w') ∧ w'.files = w.files ∧
      d.source_size = new.length ∧ d.block_size = bs ∧
      applyOps old (d.ops.map absOp) = some new :=
  generate_delta_reconstructs_of_sound strong w p old new hfile cs bs hbs
    (hcs ▸ candidatesSound_of_noCollision strong old new bs hc)

/-- every `Copy` the translated `generate_delta` returns references a range inside `old` -/
theorem translated_copies_in_range (strong : Bytes → Nat) (w : DWorld) (p : Rs.Path) (old new : Bytes)
    (hfile : w.files p = some new) (cs : List BlockChecksum) (bs : Nat)
    (hcs : cs.map absBlock = checksums strong bs old) (hbs : 0 < bs) (hc : NoCollision strong old new bs) :
    ∃ d w', generate_delta (inst strong) p cs bs w = (.ok d, w') ∧
      ∀ off sz, DeltaOp.Copy off sz ∈ d.ops → sz = 0 ∨ off + sz ≤ old.length := by
  obtain ⟨d, w', hrun, -, -, -, happ⟩ := translated_genMem_reconstructs strong w p old new hfile cs bs hcs hbs hc
  exact ⟨d, w', hrun, copies_of_apply happ⟩


/-! ### non-vacuity of the hypotheses -/

/-- `w.files p = some new`, `0 < bs`: a world and a call; the theorem computes the delta -/
example : (generate_delta (inst (fun _ => 0)) ['f'] [] 3 w0).1 =
    .ok { ops := [DeltaOp.Data [7]], source_size := 1, block_size := 3 } := by
  rw [generate_delta_eq_model (fun _ => 0) w0 ['f'] [7] (by simp [w0]) [] 3 (by decide)]
  simp [genMem, genMemGo, hasAtLeast, findPartial, flush, repOp, ofU8]

/-- `cs.map absBlock = checksums strong bs old` is satisfiable for every `old`: take `repBlock` of the model's list -/
example (strong : Bytes → Nat) (bs : Nat) (old : Bytes) :
    ((checksums strong bs old).map (repBlock bs)).map absBlock = checksums strong bs old := by
  rw [List.map_map]; exact List.map_id _

/-- `NoCollision` holds for every pair of files when the strong hash is injective (an injective `Bytes → Nat`
    exists; xxh3 is assumed collision-free only on the blocks actually compared) -/
example (strong : Bytes → Nat) (hinj : ∀ a b, strong a = strong b → a = b) (old new : Bytes) (bs : Nat) :
    NoCollision strong old new bs :=
  noCollision_of_injective strong hinj old new bs

/-- missing file: `w.files p = none` is satisfiable -/
example : (generate_delta (inst (fun _ => 0)) ['g'] [] 3 w0).1 = .error .io := by
  rw [generate_delta_missing _ w0 ['g'] (by simp [w0])]

end SyModel.Props.GenDelta
