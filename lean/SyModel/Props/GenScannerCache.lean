/-
  GenScannerCache — the scanner's side of the directory-cache invariant (C18).

  `GenEngineCache.record_scan_keeps_root_absent` ASSUMES that no scanned entry has the relative path "." ("the scanner skips
  the root itself").  `GenScanner.relative_path_ne_dot` PROVES that about the translated `StreamingScanner::next`: the root is
  skipped (`listed_path_ne_root`) and `strip_prefix` of a different, clean path is never ".".  Here the two are put together.
  The `FileEntry` structures of the two units are distinct generated copies of the same Rust struct; `toCache` converts
  field by field.

  Hypotheses that remain: every file of the list was answered by `next` (`Listed`: some world, any instance of the walker and
  the attribute reads), and its path text is clean (`noDotTail`: not "." and not ending in "/." — what the `ignore` walker
  yields, root joined with directory-entry names).
-/
import SyModel.Props.GenScanner
import SyModel.Props.GenEngineCache
namespace SyModel.Props.GenScannerCache
open SyModel.Generated SyModel.Lemmas.GenScanner

/-- the scanner unit's `FileEntry` as the engine-cache unit's `FileEntry` (same Rust struct, field by field) -/
def toCache (f : Scanner.FileEntry) : EngineCache.FileEntry :=
  { path := f.path, relative_path := f.relative_path, size := f.size, modified := f.modified, is_dir := f.is_dir,
    is_symlink := f.is_symlink, symlink_target := f.symlink_target, is_sparse := f.is_sparse,
    allocated_size := f.allocated_size, xattrs := f.xattrs, inode := f.inode, nlink := f.nlink, acls := f.acls,
    bsd_flags := f.bsd_flags }

theorem toCache_relative_path (f : Scanner.FileEntry) : (toCache f).relative_path = f.relative_path := rfl

theorem rootKey_eq : GenScanner.rootKey = GenEngineCache.rootKey := rfl

/-- **the assumption of `record_scan_keeps_root_absent`, discharged**: a list of entries answered by the translated scanner
    (clean path texts) has no entry with the relative path "." -/
theorem scanned_no_root_key {W : Type} (sext : Scanner.Ext W) (self : Scanner.StreamingScanner) (files : List Scanner.FileEntry)
    (hl : ∀ f ∈ files, GenScanner.Listed sext self f) (hclean : ∀ f ∈ files, noDotTail f.path = true) :
    ∀ g ∈ files.map toCache, g.relative_path ≠ GenEngineCache.rootKey := by
  intro g hg
  obtain ⟨f, hf, rfl⟩ := List.mem_map.mp hg
  exact GenScanner.relative_path_ne_dot sext self f (hclean f hf) (hl f hf)

/-- **C18, scanner and cache together**: recording a scan made of entries the translated scanner answered keeps a cache
    without the key "." without it — for any instance of the scanner's operations and of the cache unit's operations -/
theorem record_scanned_keeps_root_absent {W V : Type} (sext : Scanner.Ext W) (self : Scanner.StreamingScanner)
    (cext : EngineCache.Ext V) (c : EngineCache.DirectoryCache) (files : List Scanner.FileEntry) (v : V)
    (hroot : GenEngineCache.hasDir c GenEngineCache.rootKey = false)
    (hl : ∀ f ∈ files, GenScanner.Listed sext self f) (hclean : ∀ f ∈ files, noDotTail f.path = true) :
    ∃ c', GenEngineCache.runM (EngineCache.record_scan cext c (files.map toCache)) v = (.ok ((), c'), v) ∧
      GenEngineCache.hasDir c' GenEngineCache.rootKey = false :=
  GenEngineCache.record_scan_keeps_root_absent cext c (files.map toCache) v hroot
    (scanned_no_root_key sext self files hl hclean)

/-- non-vacuity: the listed symlink entry of `GenScanner`'s concrete instance, recorded into the empty cache -/
example : ∃ c', GenEngineCache.runM (EngineCache.record_scan (⟨fun _ w => (.ok default, w), fun _ _ w => (.ok [], w)⟩ : EngineCache.Ext Unit)
      ⟨[], []⟩ ([GenScanner.linkFe].map toCache)) () = (.ok ((), c'), ()) ∧
      GenEngineCache.hasDir c' GenEngineCache.rootKey = false :=
  record_scanned_keeps_root_absent (GenScanner.testExt 5) GenScanner.self0 _ _ [GenScanner.linkFe] () rfl
    (fun f hf => by
      have : f = GenScanner.linkFe := by simpa using hf
      subst this; exact GenScanner.nv_listed)
    (fun f hf => by
      have : f = GenScanner.linkFe := by simpa using hf
      subst this; exact GenScanner.nv_clean)

end SyModel.Props.GenScannerCache
