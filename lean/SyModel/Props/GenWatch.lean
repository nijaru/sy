/-
  Props/GenWatch — bridge between the TRANSLATED watch loop (Generated/Code/Watch.lean, regenerated from
  src/sync/watch.rs on every run by tools/rs2lean.py) and the handwritten model `SyModel.Watch` that the theorems
  of Props/C20 are about.  The world `WWorld`, the instance `inst` (trusted), the abstraction and helper lemmas are in
  Lemmas/GenWatch.lean; the rest of the vocabulary (`afterPre`, `preIn`, `durIn`, `timedOut`, `recvIter`, `iterW`, `wInit`,
  `itemsOf`, `armW`, `atLoop`) is defined below where it is first used.

  For ANY instance of the externs, `watch_eq` fixes the call sequence (the watcher armed BEFORE the initial sync).
  On `inst`, one iteration of the loop body is a function of the loop locals and the world (`iterW`, outcome by
  outcome of `tokio_select` / `recv_timeout`; `body_inst`), and its abstraction is the model's move(s) (`iter_sim`);
  hence `loop_sim` for every fuel and `watch_sim` for the whole function from the model's initial state: through
  them the theorems of Props/C20 about `run` speak of the translated loop.  No theorem here instantiates a C20
  theorem; the import of Props/C20 serves only `C20.v0`, `C20.d0`, `C20.v1` in the examples.
  Line numbers of watch.rs are those of the current tree of /repo.
-/
import SyModel.Lemmas.GenWatch
import SyModel.Props.C20
namespace SyModel.Props.GenWatch
open SyModel SyModel.Watch SyModel.Generated SyModel.Generated.Watch

/-! ## the event filter -/

/-- the translated `should_sync_event` is the model's `Kind.kept` of the abstracted kind — for every event.  This is
    `should_sync_event_kept` of Lemmas/GenWatch (where `step_abs_event` needs it), stated here under the name by which
    the registry of the bridge theorems (tools/props.py) cites it. -/
theorem should_sync_event_eq_model (self : WatchMode) (ev : Event) :
    WatchMode.should_sync_event self ev = (absKind ev.kind).kept :=
  should_sync_event_kept self ev

theorem should_sync_event_ignores_self_and_payload (s1 s2 : WatchMode) (e1 e2 : Event)
    (h : absKind e1.kind = absKind e2.kind) :
    WatchMode.should_sync_event s1 e1 = WatchMode.should_sync_event s2 e2 := by
  rw [should_sync_event_eq_model, should_sync_event_eq_model, h]

/-- the abstraction reaches every kind of the model except `error` (which is the `Ok(Err(e))` item) -/
theorem absKind_surjective (k : Kind) (hk : k ≠ .error) : ∃ e : EventKind, absKind e = k := by
  cases k
  · exact ⟨.Any, rfl⟩
  · exact ⟨.Access ⟨⟩, rfl⟩
  · exact ⟨.Create ⟨⟩, rfl⟩
  · exact ⟨.Modify ⟨⟩, rfl⟩
  · exact ⟨.Remove ⟨⟩, rfl⟩
  · exact ⟨.Other, rfl⟩
  · exact absurd rfl hk

/-! ## the call sequence of `watch`, for ANY instance -/

/-- **Order of arming.**  For every instance of the externs the translated `watch` IS this computation: create the
    channel, create the watcher, ARM it (`watcher.watch`), and only then run the initial sync; read the clock,
    create the `ctrl_c` future, and iterate `body` at most `fuel` times from `(pending_changes, last_sync) = ([], t)`.
    (`rfl`: any reordering of these statements in the Rust source — e.g. the pinned order, initial sync before
    `watcher.watch` — changes the generated term and breaks this theorem.) -/
theorem watch_eq {W : Type} (ext : Ext W) (self : WatchMode) :
    WatchMode.watch ext self = (do
      let (tx, rx) ← ext.channel ()
      let watcher ← ext.notify_recommended_watcher tx
      ext.watcher_watch watcher self.source ()
      let _ ← ext.engine_sync self.engine self.source self.destination
      let t ← ext.Instant_now ()
      let _ ← ext.signal_ctrl_c ()
      let _ ← loopN ext.fuel (body ext self rx) ([], t)
      pure ()) := by
  -- with `loopN` written back as the `for` loop it came from, the two sides are the same term
  simp only [← forIn_range_eq_loopN]
  rfl

section AnyInstance
variable {W : Type} (ext : Ext W) (self : WatchMode) {w w1 w2 w3 w4 : W} {tx rx wt : Rs.Opaque}

/-- **A failing initial sync makes `watch` fail** (`?`, watch.rs:86) with that error, in the world the sync left:
    neither the clock is read, nor `ctrl_c` created, nor the loop entered. -/
theorem watch_initial_sync_failure {e : Rs.Err} (h1 : runM (ext.channel ()) w = (.ok (tx, rx), w1))
    (h2 : runM (ext.notify_recommended_watcher tx) w1 = (.ok wt, w2))
    (h3 : runM (ext.watcher_watch wt self.source ()) w2 = (.ok (), w3))
    (h4 : runM (ext.engine_sync self.engine self.source self.destination) w3 = (.error e, w4)) :
    runM (WatchMode.watch ext self) w = (.error e, w4) := by
  rw [watch_eq, runM_bind_ok h1]
  dsimp only
  rw [runM_bind_ok h2, runM_bind_ok h3, runM_bind_error h4]

/-- a failure to arm the watcher ends `watch` BEFORE the initial sync is called -/
theorem watch_arm_failure_skips_initial_sync {e : Rs.Err} (h1 : runM (ext.channel ()) w = (.ok (tx, rx), w1))
    (h2 : runM (ext.notify_recommended_watcher tx) w1 = (.ok wt, w2))
    (h3 : runM (ext.watcher_watch wt self.source ()) w2 = (.error e, w3)) :
    runM (WatchMode.watch ext self) w = (.error e, w3) := by
  rw [watch_eq, runM_bind_ok h1]
  dsimp only
  rw [runM_bind_ok h2, runM_bind_error h3]

theorem watch_run_after_init {r : Rs.Opaque} {t : Nat} {cc : Rs.Opaque} {w5 w6 : W}
    (h1 : runM (ext.channel ()) w = (.ok (tx, rx), w1))
    (h2 : runM (ext.notify_recommended_watcher tx) w1 = (.ok wt, w2))
    (h3 : runM (ext.watcher_watch wt self.source ()) w2 = (.ok (), w3))
    (h4 : runM (ext.engine_sync self.engine self.source self.destination) w3 = (.ok r, w4))
    (h5 : runM (ext.Instant_now ()) w4 = (.ok t, w5))
    (h6 : runM (ext.signal_ctrl_c ()) w5 = (.ok cc, w6)) :
    runM (WatchMode.watch ext self) w =
      runM (loopN ext.fuel (body ext self rx) ([], t) >>= fun _ => pure ()) w6 := by
  rw [watch_eq, runM_bind_ok h1]
  dsimp only
  rw [runM_bind_ok h2, runM_bind_ok h3, runM_bind_ok h4, runM_bind_ok h5, runM_bind_ok h6]

/-- **A failing sync INSIDE the loop does not end the loop** — for any instance: the iteration continues
    (`yield`), with `pending_changes` cleared and `last_sync` reset to the clock read after the failure.  An event
    received before that sync started is thereby forgotten although it was never propagated; what saves C20 is that
    the failure is caused by a change whose own event is still in the channel (`C20.failed_sync_recovers`). -/
theorem loop_sync_failure_is_swallowed (loc : Locals) {e : Rs.Err} {t : Nat}
    (hs : runM (ext.engine_sync self.engine self.source self.destination) w = (.error e, w1))
    (hn : runM (ext.Instant_now ()) w1 = (.ok t, w2)) :
    runM (syncPart ext self loc) w = (.ok (.yield ([], t)), w2) :=
  syncPart_any ext self loc hs hn

end AnyInstance

/-! ## one iteration of the translated loop on `inst` is the model's move(s) -/

/-- the world after the environment's next `pre` chunk (what `tokio_select` lets happen first) -/
def afterPre (w : WWorld) : WWorld := wrun { w with pre := w.pre.tail } (w.pre.headD [])
/-- that chunk as model inputs -/
def preIn (w : WWorld) : List Input := (w.pre.headD []).map absIn
/-- the environment's next `during` entry as model inputs -/
def durIn (w : WWorld) : List Input × Bool :=
  ((w.during.headD ([], true)).1.map absIn, (w.during.headD ([], true)).2)

theorem afterPre_fields (w : WWorld) : (afterPre w).handler = w.handler ∧ (afterPre w).disc = w.disc ∧
    (afterPre w).pre = w.pre.tail ∧ (afterPre w).during = w.during ∧ (afterPre w).log = w.log ∧
    (afterPre w).armed = w.armed :=
  wrun_fields _ _

theorem abs_afterPre (c : Cfg) (loc : Locals) (w : WWorld) (hh : w.handler = true) :
    absAt .loop loc (afterPre w) = run c (absAt .loop loc w) (preIn w) :=
  absAt_wrun c .loop loc (by decide) _ { w with pre := w.pre.tail } (Or.inl hh)

theorem run_pre_step (c : Cfg) (loc : Locals) (w : WWorld) (hh : w.handler = true) :
    run c (absAt .loop loc w) (preIn w ++ [.step]) = (step c (absAt .loop loc (afterPre w))).1 := by
  rw [run_append, ← abs_afterPre c loc w hh]; rfl

theorem syncW_ok (c : Cfg) (w : WWorld) (h : (w.during.headD ([], true)).2 = true) :
    syncW c w = (.ok ⟨⟩, { wrun (syncStarted w) (w.during.headD ([], true)).1 with
      dst := syncTo c (wrun (syncStarted w) (w.during.headD ([], true)).1).snap
                      (wrun (syncStarted w) (w.during.headD ([], true)).1).dst }) := by
  simp only [syncW, h, if_true]

theorem syncW_err (c : Cfg) (w : WWorld) (h : (w.during.headD ([], true)).2 = false) :
    syncW c w = (.error .io, { wrun (syncStarted w) (w.during.headD ([], true)).1 with ok := false }) := by
  simp only [syncW, h, Bool.false_eq_true, if_false]

theorem recvW_nil (d : Rs.Duration) (w : WWorld) (hq : w.queue = []) :
    recvW d w = if w.disc then (.ok (.error .Disconnected), w)
      else (.ok (.error .Timeout), { w with now := w.now + d }) := by
  simp only [recvW, hq]

section Iter
variable (c : Cfg) (fuel : Nat) (self : WatchMode) (rx : Rs.Opaque) (loc : Locals) (w : WWorld)

/-- `recv_timeout` and what follows it on `inst`, as a function of the loop locals and the world `w` the `select!`
    left: what the iteration returns and the world it leaves, outcome by outcome (`recvPart_inst`) -/
def recvIter : ForInStep Locals × WWorld :=
  match w.queue with
  | .ok ev :: q =>                                                  -- `Ok(Ok(event))`: pushed iff kept
    (.yield (if WatchMode.should_sync_event self ev then loc.1 ++ [ev] else loc.1, loc.2), { w with queue := q })
  | .error _ :: q => (.yield loc, { w with queue := q })            -- `Ok(Err(e))`: popped and ignored
  | [] =>
    if w.disc then (.done loc, w)                                   -- `Err(Disconnected)`: `break`
    else
      let w3 : WWorld := { w with now := w.now + Rs.duration_from_millis 100 }
      if loc.1 = [] ∨ w3.now - loc.2 < self.debounce then (.yield loc, w3)    -- `Err(Timeout)`, no sync
      else (.yield ([], (syncW c w3).2.now), (syncW c w3).2)                  -- `Err(Timeout)`, sync due

theorem recvPart_inst :
    runM (recvPart (inst c fuel) self rx loc) w = (.ok (recvIter c self loc w).1, (recvIter c self loc w).2) := by
  unfold recvIter
  split
  · rename_i ev q hq
    exact recvPart_event (inst c fuel) self rx loc (show recvW _ w = _ by simp only [recvW, hq])
  · rename_i e q hq
    exact recvPart_watch_error (e := e) (inst c fuel) self rx loc (show recvW _ w = _ by simp only [recvW, hq])
  · rename_i hq
    have hr : runM ((inst c fuel).recv_timeout rx (Rs.duration_from_millis 100)) w = _ := recvW_nil _ w hq
    split
    · rename_i hd
      exact recvPart_disconnected (inst c fuel) self rx loc (hr.trans (if_pos hd))
    · rename_i hd
      replace hr := hr.trans (if_neg hd)
      dsimp only
      split
      · rename_i hidle
        by_cases hp : loc.1 = []
        · exact recvPart_timeout_empty (inst c fuel) self rx loc hp hr
        · rw [recvPart_timeout_pending (inst c fuel) self rx loc hp hr rfl]
          exact if_neg (Nat.not_le.mpr (hidle.resolve_left hp))
      · rename_i hidle
        rw [recvPart_timeout_pending (inst c fuel) self rx loc (fun h => hidle (Or.inl h)) hr rfl,
          if_pos (Nat.le_of_not_lt fun h => hidle (Or.inr h))]
        exact syncPart_any (inst c fuel) self loc (r := (syncW c _).1) rfl rfl

/-- the world when `recv_timeout` answered `Timeout` -/
def timedOut (w : WWorld) : WWorld :=
  { afterPre w with now := (afterPre w).now + c.selectSleep + Rs.duration_from_millis 100 }

/-- ONE iteration of the translated loop body on `inst` (`body_inst`): the environment's chunk happens; `break` if a
    SIGINT is then pending (the model's `exitSigint`), else the select's sleep and `recvIter` -/
def iterW : ForInStep Locals × WWorld :=
  if (afterPre w).sig then (.done loc, afterPre w)
  else recvIter c self loc { afterPre w with now := (afterPre w).now + c.selectSleep }

theorem selW_eq : selW c w = if (afterPre w).sig then (.ok 0, afterPre w)
    else (.ok 1, { afterPre w with now := (afterPre w).now + c.selectSleep }) := rfl

theorem body_inst :
    runM (body (inst c fuel) self rx loc) w = (.ok (iterW c self loc w).1, (iterW c self loc w).2) := by
  unfold iterW
  split
  · rename_i hs
    exact body_sigint (inst c fuel) self rx loc ((selW_eq c w).trans (if_pos hs))
  · rename_i hs
    rw [body_sleep (k := 0) (inst c fuel) self rx loc ((selW_eq c w).trans (if_neg hs))]
    exact recvPart_inst c fuel self rx loc _

/-- **`Err(Disconnected)`** (unreachable in the real program, see `WWorld.disc`): the loop `break`s, no sync,
    nothing cleared. -/
theorem iter_disconnected (hs : (afterPre w).sig = false) (hq : (afterPre w).queue = []) (hd : w.disc = true) :
    runM (body (inst c fuel) self rx loc) w =
      (.ok (.done loc), { afterPre w with now := (afterPre w).now + c.selectSleep }) := by
  rw [body_inst]
  unfold iterW recvIter
  simp only [hs, hq, (afterPre_fields w).2.1, hd, if_true, Bool.false_eq_true, if_false]

/-- what the model does for a sync of the loop: the `during` chunk, then the move that completes (or fails) it -/
theorem abs_syncW (w3 : WWorld) (hh : w3.handler = true) :
    absAt .loop ([], (syncW c w3).2.now) (syncW c w3).2 =
      run c (absAt .sync loc { w3 with snap := w3.src, syncs := w3.syncs + 1, ok := true })
        ((durIn w3).1 ++ [if (durIn w3).2 then .step else .fail]) := by
  rw [run_append]
  have hrun := absAt_wrun c .sync loc (by decide) (w3.during.headD ([], true)).1 (syncStarted w3) (Or.inl hh)
  have hsame : absAt .sync loc (syncStarted w3) =
      absAt .sync loc { w3 with snap := w3.src, syncs := w3.syncs + 1, ok := true } := rfl
  rw [hsame] at hrun
  simp only [durIn]
  rw [← hrun]
  by_cases hd2 : (w3.during.headD ([], true)).2 = true
  case neg =>
    have hd3 := Bool.eq_false_iff.mpr hd2
    rw [syncW_err c w3 hd3]
    simp only [hd3, Bool.false_eq_true, if_false]
    rfl
  case pos =>
    rw [syncW_ok c w3 hd2]
    simp only [hd2, if_true]
    exact (step_sync_end c (absAt .sync loc _) rfl).symm

end Iter

theorem syncW_fields (c : Cfg) (w : WWorld) : (syncW c w).2.handler = w.handler ∧ (syncW c w).2.disc = w.disc ∧
    (syncW c w).2.pre = w.pre ∧ (syncW c w).2.during = w.during.tail ∧ (syncW c w).2.armed = w.armed ∧
    (syncW c w).2.log = w.log ++ [⟨w.now, w.armed, w.queue.length, (w.during.headD ([], true)).2⟩] := by
  obtain ⟨h1, h2, h3, h4, h5, h6⟩ := wrun_fields (w.during.headD ([], true)).1 (syncStarted w)
  by_cases hd2 : (w.during.headD ([], true)).2 = true
  · rw [syncW_ok c w hd2]; exact ⟨h1, h2, h3, h4, h6, h5⟩
  · rw [syncW_err c w (Bool.eq_false_iff.mpr hd2)]; exact ⟨h1, h2, h3, h4, h6, h5⟩

theorem absPre_head (w : WWorld) : (absPre w).headD [] = preIn w := by
  cases h : w.pre <;> simp [absPre, preIn, h]
theorem absDur_head (w : WWorld) : (absDur w).headD ([], true) = durIn w := by
  cases h : w.during <;> simp [absDur, durIn, h]

section Sim
variable (c : Cfg) (fuel : Nat) (self : WatchMode) (rx : Rs.Opaque)

/-- **Loop-iteration bridge.**  From any world with tokio's handler installed and a live channel,
    ONE iteration of the translated loop body on `inst` succeeds, and the abstraction of what it returns and leaves is
    the model's `run` over `iterIn`: the environment's `pre` chunk, one `step` of the loop thread, and — exactly when
    that step started a sync — the `during` chunk and the completing `step` / `fail`.  It `break`s exactly when the
    model's step went to `done`; it consumes one `pre` chunk, and one `during` entry exactly when a sync ran.
    (Outcome by outcome of `iterW`: `break` on SIGINT is `exitSigint`; `Ok(Ok(event))` is `eventKept` / `eventDropped`;
    `Ok(Err(e))` is `eventDropped error`; `Timeout` without a sync is `timeoutIdle`; `Timeout` with a sync due is
    `timeoutSync`, the `during` chunk, then `syncEnd` or `syncFailed`.) -/
theorem iter_sim (ht : Tied c self) (loc : Locals) (w : WWorld) (hh : w.handler = true) (hd : w.disc = false) :
    ∃ r w', runM (body (inst c fuel) self rx loc) w = (.ok r, w') ∧ w'.handler = true ∧ w'.disc = false ∧
      absR r w' = run c (absAt .loop loc w) (iterIn c (absAt .loop loc w) (preIn w) (durIn w)) ∧
      w'.pre = w.pre.tail ∧
      w'.during = (if (run c (absAt .loop loc w) (preIn w ++ [.step])).phase = .sync then w.during.tail
                   else w.during) ∧
      ((∃ l, r = .done l) ↔ (run c (absAt .loop loc w) (preIn w ++ [.step])).phase = .done) := by
  obtain ⟨f1, f2, f3, f4, _, _⟩ := afterPre_fields w
  have hh' : (afterPre w).handler = true := f1.trans hh
  have hd' : (afterPre w).disc = false := f2.trans hd
  refine ⟨_, _, body_inst c fuel self rx loc w, ?_⟩
  -- an outcome that is ONE model step and leaves the `during` script alone
  have plain : ∀ {r w'}, (step c (absAt .loop loc (afterPre w))).1 = absR r w' → w'.handler = true → w'.disc = false →
      w'.pre = w.pre.tail → w'.during = w.during →
      w'.handler = true ∧ w'.disc = false ∧
      absR r w' = run c (absAt .loop loc w) (iterIn c (absAt .loop loc w) (preIn w) (durIn w)) ∧
      w'.pre = w.pre.tail ∧
      w'.during = (if (run c (absAt .loop loc w) (preIn w ++ [.step])).phase = .sync then w.during.tail
                   else w.during) ∧
      ((∃ l, r = .done l) ↔ (run c (absAt .loop loc w) (preIn w ++ [.step])).phase = .done) := by
    intro r w' h2 g1 g2 g3 g4
    rw [← run_pre_step c loc w hh] at h2
    obtain ⟨k1, k2, k3⟩ := absR_plain (durIn w) h2.symm
    exact ⟨g1, g2, k2, g3, g4.trans (if_neg k1).symm, k3⟩
  generalize hi : iterW c self loc w = o
  unfold iterW at hi
  split at hi
  · rename_i hs
    subst hi
    exact plain (step_exit c _ rfl hs) hh' hd' f3 f4
  · rename_i hs
    replace hs := Bool.eq_false_iff.mpr hs
    unfold recvIter at hi
    split at hi
    · rename_i ev q hq
      subst hi
      exact plain (step_abs_event c self loc _ hs hq) hh' hd' f3 f4
    · rename_i e q hq
      subst hi
      exact plain (step_abs_watch_error c loc _ hs hq) hh' hd' f3 f4
    · rename_i hq
      rw [if_neg (ne_true_of_eq_false hd')] at hi
      dsimp only at hi
      split at hi
      · rename_i hidle
        subst hi
        exact plain (r := .yield loc) ((step_abs_idle c loc _ hs hq
          (hidle.imp_right fun h => by rw [ht.hdeb, ht.hrecv]; exact h)).trans (by rw [ht.hrecv]; rfl)) hh' hd' f3 f4
      · rename_i hidle
        subst hi
        have hp : loc.1 ≠ [] := fun h => hidle (Or.inl h)
        have hdue : self.debounce ≤ (timedOut c w).now - loc.2 := Nat.le_of_not_lt fun h => hidle (Or.inr h)
        have hstep := step_abs_sync c loc (afterPre w) hs hq hp (by rw [ht.hdeb, ht.hrecv]; exact hdue)
        have h3 : (run c (absAt .loop loc w) (preIn w ++ [.step])).phase = .sync := by
          rw [run_pre_step c loc w hh, hstep]; rfl
        obtain ⟨k1, k2, k3, k4, _, _⟩ := syncW_fields c (timedOut c w)
        refine ⟨k1.trans hh', k2.trans hd', ?_, k3.trans f3, ?_, ?_⟩
        · rw [iterIn_of_sync _ _ _ _ h3, List.append_assoc, run_append, run_pre_step c loc w hh, hstep, ht.hrecv]
          have hdur : durIn (timedOut c w) = durIn w := by simp only [durIn, timedOut, f4]
          rw [← hdur]
          exact abs_syncW c loc (timedOut c w) hh'
        · rw [if_pos h3]; exact k4.trans (congrArg List.tail f4)
        · exact ⟨fun ⟨l, hl⟩ => (nomatch hl), fun h => (nomatch h3.symm.trans h)⟩

/-- **The translated loop, for EVERY fuel `n`.**  Running `n` iterations of the translated body on `inst` succeeds,
    and the model's `run` over the schedule `sched` (the environment's scripts interleaved with the loop thread's
    moves, computed by the MODEL) ends in the abstraction of the locals and the world the translated loop ended
    with, seen at the top of the loop or after `exitSigint`.  (Which of the two goes with which outcome — fuel
    exhausted, `break` — is said per iteration by `iter_sim`, not here; nor is `disc = false` carried along.) -/
theorem loop_sim (ht : Tied c self) : ∀ (n : Nat) (loc : Locals) (w : WWorld), w.handler = true → w.disc = false →
    ∃ l' w', runM (loopN n (body (inst c fuel) self rx) loc) w = (.ok l', w') ∧ w'.handler = true ∧
      (run c (absAt .loop loc w) (sched c n (absAt .loop loc w) (absPre w) (absDur w)) = absAt .loop l' w' ∨
       run c (absAt .loop loc w) (sched c n (absAt .loop loc w) (absPre w) (absDur w)) =
         exited (absAt .loop l' w')) := by
  intro n
  induction n with
  | zero => intro loc w hh _; exact ⟨loc, w, rfl, hh, Or.inl rfl⟩
  | succ n ih =>
    intro loc w hh hd
    obtain ⟨r, w', hrun, hh', hd', habs, hpre, hdur, hdone⟩ := iter_sim c fuel self rx ht loc w hh hd
    simp only [sched, absPre_head, absDur_head]
    cases r with
    | done l =>
      have hph := hdone.mp ⟨l, rfl⟩
      rw [if_pos hph]
      refine ⟨l, w', runM_loopN_done n hrun, hh', Or.inr ?_⟩
      rw [iterIn_of_not_sync _ _ _ _ (by rw [hph]; decide)] at habs
      exact habs.symm
    | yield l =>
      have hph : (run c (absAt .loop loc w) (preIn w ++ [.step])).phase ≠ .done := by
        intro h; obtain ⟨l', hl'⟩ := hdone.mpr h; cases hl'
      rw [if_neg hph, runM_loopN_yield n hrun]
      have hp' : absPre w' = (absPre w).tail := by simp [absPre, hpre]
      obtain ⟨l', w'', k1, k2, k3⟩ := ih l w' hh' hd'
      refine ⟨l', w'', k1, k2, ?_⟩
      have habs' : run c (absAt .loop loc w) (iterIn c (absAt .loop loc w) (preIn w) (durIn w)) =
          absAt .loop l w' := habs.symm
      by_cases hsy : (run c (absAt .loop loc w) (preIn w ++ [.step])).phase = .sync
      · rw [if_pos hsy] at hdur ⊢
        have hd'' : absDur w' = (absDur w).tail := by simp [absDur, hdur]
        rw [run_append, habs', ← hp', ← hd'']
        exact k3
      · rw [if_neg hsy] at hdur ⊢
        have hd'' : absDur w' = absDur w := by simp [absDur, hdur]
        rw [run_append, habs', ← hp', ← hd'']
        exact k3

end Sim

/-! ## the start of `watch` on `inst`, and the whole function -/

/-- the world `watch` starts in: nothing armed, nothing queued, clock 0 — the model's `init v0 d0` -/
def wInit (v0 d0 : Ver) (pre : List (List EnvIn)) (during : List (List EnvIn × Bool)) : WWorld :=
  { queue := [], armed := false, now := 0, src := v0, dst := d0, snap := d0, handler := false, sig := false,
    disc := false, syncs := 0, ok := true, log := [], pre := pre, during := during }

theorem abs_wInit (v0 d0 : Ver) (pre during) : absAt .boot ([], 0) (wInit v0 d0 pre during) = init v0 d0 := rfl

/-- the items the environment sends in a chunk -/
def itemsOf : List EnvIn → List (Except Rs.Err Event)
  | [] => []
  | .event it _ :: t => it :: itemsOf t
  | _ :: t => itemsOf t

theorem wrun_queue_armed (es : List EnvIn) : ∀ w : WWorld, w.armed = true →
    (wrun w es).queue = w.queue ++ itemsOf es := by
  induction es with
  | nil => intro w _; simp [wrun, itemsOf]
  | cons e t ih =>
    intro w ha
    show (wrun (wapply w e) t).queue = _
    rw [ih _ ((wapply_fields w e).2.2.2.2.2.trans ha)]
    cases e with
    | event it ed =>
      rw [wapply_event, if_pos ha]
      exact List.append_assoc _ _ _
    | tick δ => rfl
    | sigint => rfl

/-- the world after `watcher.watch(..)` -/
def armW (w : WWorld) : WWorld := { w with armed := true }

section Boot
variable (c : Cfg) (fuel : Nat) (self : WatchMode)

/-- the world in which the loop is entered, when the initial sync succeeded -/
def atLoop (w : WWorld) : WWorld := { (syncW c (armW w)).2 with handler := true }

/-- **The start of `watch` on `inst`** (initial sync succeeds, no SIGINT before the handler exists): the translated
    prefix is the model's four moves `armed`, `initialSyncStart`, `initialSyncEnd`, `loopStart` of the REPAIRED order
    (`armFirst = true`) around the environment's chunk; the loop is entered with `([], now)`. -/
theorem boot_sim (hfix : c.armFirst = true) (w : WWorld) (ha : w.armed = false)
    (hns : ∀ e ∈ (w.during.headD ([], true)).1, e ≠ .sigint) (hok : (w.during.headD ([], true)).2 = true) :
    runM (WatchMode.watch (inst c fuel) self) w =
      runM (loopN fuel (body (inst c fuel) self ⟨⟩) ([], (atLoop c w).now) >>= fun _ => pure ()) (atLoop c w) ∧
    absAt .loop ([], (atLoop c w).now) (atLoop c w) =
      run c (absAt .boot ([], 0) w) ([.step, .step] ++ (durIn w).1 ++ [.step, .step]) := by
  refine ⟨?_, ?_⟩
  · have hsy : runM ((inst c fuel).engine_sync self.engine self.source self.destination) (armW w) =
        (.ok ⟨⟩, (syncW c (armW w)).2) := by
      show syncW c _ = _
      rw [syncW_ok c (armW w) hok]
    exact watch_run_after_init (inst c fuel) self (w := w) (w1 := w) (w2 := w) (tx := ⟨⟩) (rx := ⟨⟩) (wt := ⟨⟩)
      rfl rfl rfl hsy rfl rfl
  · have e1 : (step c (absAt .boot ([], 0) w)).1 = absAt .boot ([], 0) (armW w) :=
      step_boot_arm c _ rfl hfix ha
    have e2 : (step c (absAt .boot ([], 0) (armW w))).1 =
        absAt .initSync ([], 0) (syncStarted (armW w)) :=
      step_boot_start c _ rfl fun _ => rfl
    have e3 := absAt_wrun c .initSync ([], 0) (by decide) (w.during.headD ([], true)).1
      (syncStarted (armW w)) (Or.inr hns)
    obtain ⟨_, _, _, _, _, harm⟩ := wrun_fields (w.during.headD ([], true)).1 (syncStarted (armW w))
    have harm' : (wrun (syncStarted (armW w)) (w.during.headD ([], true)).1).armed = true := harm
    rw [run_append, run_append]
    show _ = (step c (step c (run c (step c (step c _).1).1 _)).1).1
    rw [e1, e2]
    simp only [durIn]
    rw [← e3]
    unfold atLoop
    have hdur : (armW w).during = w.during := rfl
    rw [syncW_ok c (armW w) hok, hdur]
    generalize wrun (syncStarted (armW w)) (w.during.headD ([], true)).1 = w5 at harm' ⊢
    rw [step_init_end c (absAt .initSync ([], 0) w5) rfl, step_post_loop c _ rfl harm']
    rfl

/-- **A failing initial sync on `inst`**: `watch` returns the error (the model's `initialSyncFailed`: exit status 1);
    the loop is never entered, tokio's handler never installed. -/
theorem boot_fail (w : WWorld) (hok : (w.during.headD ([], true)).2 = false) :
    runM (WatchMode.watch (inst c fuel) self) w = (.error .io, (syncW c (armW w)).2) ∧
    (syncW c (armW w)).2.handler = w.handler := by
  refine ⟨?_, (syncW_fields c _).1⟩
  have hsy : runM ((inst c fuel).engine_sync self.engine self.source self.destination) (armW w) =
      (.error .io, (syncW c (armW w)).2) := by
    show syncW c _ = _
    rw [syncW_err c (armW w) hok]
  exact watch_initial_sync_failure (inst c fuel) self (w := w) (w1 := w) (w2 := w) (tx := ⟨⟩) (rx := ⟨⟩) (wt := ⟨⟩)
    rfl rfl rfl hsy

/-- **Events during the initial sync are queued** (the point of arming first, fix fbc3639): on `inst`, every item
    the environment sends while the initial sync runs is in the channel, in order, when the loop is entered. -/
theorem gen_event_during_initial_sync_is_queued (w : WWorld) :
    (atLoop c w).queue = w.queue ++ itemsOf (w.during.headD ([], true)).1 := by
  unfold atLoop
  by_cases hok : (w.during.headD ([], true)).2 = true
  · rw [syncW_ok c (armW w) hok]
    exact wrun_queue_armed _ (syncStarted (armW w)) rfl
  · rw [syncW_err c (armW w) (Bool.eq_false_iff.mpr hok)]
    exact wrun_queue_armed _ (syncStarted (armW w)) rfl

/-- the initial sync is logged as started with the watcher ARMED -/
theorem gen_initial_sync_logged_armed (w : WWorld) :
    (atLoop c w).log = w.log ++ [⟨w.now, true, w.queue.length, (w.during.headD ([], true)).2⟩] :=
  (syncW_fields c (armW w)).2.2.2.2.2

/-- **The whole translated `watch` on `inst`, for every fuel, every environment script, every `WatchMode`.**
    From the model's initial state, `watch` returns `Ok(())`, and the model's `run` over: the four boot moves around
    the initial sync's chunk, then the schedule of `fuel` iterations, ends in the abstraction of the world `watch`
    left, seen at the top of the loop or after `exitSigint` (as in `loop_sim`, the statement does not say which). -/
theorem watch_sim (ht : Tied c self) (hfix : c.armFirst = true) (v0 d0 : Ver) (pre : List (List EnvIn))
    (during : List (List EnvIn × Bool))
    (hns : ∀ e ∈ (during.headD ([], true)).1, e ≠ .sigint) (hok : (during.headD ([], true)).2 = true) :
    let w := wInit v0 d0 pre during
    let sL := absAt .loop ([], (atLoop c w).now) (atLoop c w)
    let is := [.step, .step] ++ (durIn w).1 ++ [.step, .step] ++ sched c fuel sL (absPre (atLoop c w)) (absDur (atLoop c w))
    ∃ l' w', runM (WatchMode.watch (inst c fuel) self) w = (.ok (), w') ∧
      (run c (init v0 d0) is = absAt .loop l' w' ∨ run c (init v0 d0) is = exited (absAt .loop l' w')) := by
  intro w sL is
  obtain ⟨h1, h2⟩ := boot_sim c fuel self hfix w rfl hns hok
  have hdisc : (atLoop c w).disc = false := (syncW_fields c (armW w)).2.1
  obtain ⟨l', w', k1, _, k3⟩ := loop_sim c fuel self ⟨⟩ ht fuel ([], (atLoop c w).now) (atLoop c w) rfl hdisc
  refine ⟨l', w', ?_, ?_⟩
  · rw [h1, runM_bind_ok k1]; rfl
  · show run c (absAt .boot ([], 0) w) _ = _ ∨ run c (absAt .boot ([], 0) w) _ = _
    rw [run_append, ← h2]
    exact k3

end Boot

/-! ## corollaries about the translated loop -/

section Corollaries
variable (c : Cfg) (fuel : Nat) (self : WatchMode) (rx : Rs.Opaque)

/-- **A dropped kind never triggers a sync** — for ANY instance: receiving an event whose kind the model drops
    leaves `pending_changes` as it was and performs no operation after `recv_timeout` (the world is the one
    `recv_timeout` left: in particular `engine_sync` is not called); and a `Timeout` with nothing pending does not
    sync either (the second conjunct: `recvPart_timeout_empty`, which needs neither `hk` nor `h`). -/
theorem gen_dropped_kind_never_syncs {W : Type} (ext : Ext W) (loc : Locals) {w w1 : W} {ev : Event}
    (hk : (absKind ev.kind).kept = false)
    (h : runM (ext.recv_timeout rx (Rs.duration_from_millis 100)) w = (.ok (.ok (.ok ev)), w1)) :
    runM (recvPart ext self rx loc) w = (.ok (.yield loc), w1) ∧
    (loc.1 = [] → ∀ w2 w3, runM (ext.recv_timeout rx (Rs.duration_from_millis 100)) w2 = (.ok (.error .Timeout), w3) →
      runM (recvPart ext self rx loc) w2 = (.ok (.yield loc), w3)) := by
  refine ⟨?_, fun hp w2 w3 h2 => recvPart_timeout_empty ext self rx loc hp h2⟩
  rw [recvPart_event ext self rx loc h, should_sync_event_eq_model, hk]; rfl

/-- **`pending_changes` is cleared only by a sync that STARTED after the events were received.**  On `inst`: if an
    iteration that began with something pending ends with nothing pending, then exactly one sync was logged in that
    iteration, it started at the clock of the `Timeout` (after everything in `pending_changes` had been received, in
    earlier iterations), with an EMPTY channel, so its snapshot is at least as new as every received event; events
    arriving later stay in the channel (the sync outcome of `iterW`, abstracted by `abs_syncW`). -/
theorem gen_pending_cleared_only_by_sync (ht : Tied c self) (loc l' : Locals) (w w' : WWorld)
    (hh : w.handler = true) (hd : w.disc = false) (hp : loc.1 ≠ [])
    (hrun : runM (body (inst c fuel) self rx loc) w = (.ok (.yield l'), w')) (hclr : l'.1 = []) :
    ∃ ok, w'.log = w.log ++ [⟨(timedOut c w).now, w.armed, 0, ok⟩] ∧
      self.debounce ≤ (timedOut c w).now - loc.2 ∧ l'.2 = w'.now ∧ (afterPre w).queue = [] := by
  obtain ⟨_, f2, _, _, f5, f6⟩ := afterPre_fields w
  -- `hrun` against each outcome of `iterW`: only the sync yields an empty `pending_changes` from a non-empty one
  have hi : iterW c self loc w = (.yield l', w') := by
    have := (body_inst c fuel self rx loc w).symm.trans hrun
    exact Prod.ext (Except.ok.inj (congrArg Prod.fst this) :) (congrArg Prod.snd this :)
  unfold iterW recvIter at hi
  split at hi
  · cases hi
  · split at hi
    · cases hi
      split at hclr
      · exact absurd hclr (List.append_ne_nil_of_right_ne_nil _ (List.cons_ne_nil _ _))
      · exact absurd hclr hp
    · cases hi
      exact absurd hclr hp
    · rename_i hq
      rw [if_neg (ne_true_of_eq_false (f2.trans hd))] at hi
      dsimp only at hi
      split at hi
      · cases hi
        exact absurd hclr hp
      · rename_i hidle
        cases hi
        refine ⟨((timedOut c w).during.headD ([], true)).2, (syncW_fields c (timedOut c w)).2.2.2.2.2.trans ?_,
          Nat.le_of_not_lt fun h => hidle (Or.inr h), rfl, hq⟩
        show (afterPre w).log ++ [⟨(timedOut c w).now, (afterPre w).armed, (afterPre w).queue.length, _⟩] = _
        rw [f5, f6, show (afterPre w).queue = [] from hq]
        rfl

end Corollaries

/-! ## non-vacuity: every hypothesis is satisfiable, on worlds where something happens -/

/-- `sy --watch` as main.rs builds it: debounce 500 ms -/
def wmEx : WatchMode := { engine := ⟨⟩, source := ['s'], destination := ['d'], debounce := Rs.duration_from_millis 500 }
/-- the model configuration tied to it: sy's constants in nanoseconds -/
def cEx : Cfg := cfgOf { Cfg.sy with selectSleep := Rs.duration_from_millis 10 } wmEx

example : Tied cEx wmEx := tied_cfgOf _ _
example : cEx.armFirst = true := rfl
example : cEx.debounce = 1000000 * Cfg.sy.debounce ∧ cEx.recvTimeout = 1000000 * Cfg.sy.recvTimeout ∧
    cEx.selectSleep = 1000000 * Cfg.sy.selectSleep := by decide

/-- a file is created WHILE THE INITIAL SYNC RUNS; later an access event, a watcher error, and a SIGINT in the 12th
    select; the second sync (the loop's) fails -/
def wEx : WWorld :=
  wInit C20.v0 C20.d0 ([[], [.event (repItem .access) none], [.event (.error .io) none]] ++ List.replicate 8 [] ++ [[.sigint]])
    [([.event (repItem .create) (some C20.v1), .tick 7], true), ([.tick 5], false)]

example : ∀ e ∈ (wEx.during.headD ([], true)).1, e ≠ EnvIn.sigint := by
  intro e he; simp [wEx, wInit] at he; rcases he with h | h <;> (rw [h]; exact fun h => nomatch h)
example : (wEx.during.headD ([], true)).2 = true := rfl
example : wEx.armed = false := rfl
/-- the created file's event is in the channel when the loop is entered (`gen_event_during_initial_sync_is_queued`) -/
example : (atLoop cEx wEx).queue.map absItem = [.create] := by decide
/-- a failing initial sync: `watch` fails (`boot_fail`) -/
example : ((runM (WatchMode.watch (inst cEx 40) wmEx) (wInit C20.v0 C20.d0 [] [([], false)])).1
    matches .error _) = true := by decide

/-- a world at the top of the loop with a pending SIGINT after the next chunk (the `break` outcome of `iterW`) -/
def wSig : WWorld := { atLoop cEx wEx with pre := [[.tick 3, .sigint]] }
example : wSig.handler = true ∧ wSig.disc = false ∧ (afterPre wSig).sig = true := by decide
/-- the `Ok(Ok(event))` outcome of `recvIter`: the create event is the oldest item -/
example : (atLoop cEx wEx).handler = true ∧ (afterPre (atLoop cEx wEx)).sig = false ∧
    (afterPre (atLoop cEx wEx)).queue.map absItem = [.create] := by decide
/-- the other outcomes of `recvIter` (`Ok(Err(e))`, `Timeout` idle and with a sync due, `Disconnected`) on hand-made worlds -/
def wErr : WWorld := { atLoop cEx wEx with queue := [.error .io], pre := [] }
example : (afterPre wErr).sig = false ∧ ((afterPre wErr).queue matches [.error _]) = true := by decide
def wQuiet : WWorld := { atLoop cEx wEx with queue := [], pre := [[.tick 1000000000]] }
example : (afterPre wQuiet).sig = false ∧ (afterPre wQuiet).queue.length = 0 ∧ wQuiet.disc = false ∧
    wmEx.debounce ≤ (timedOut cEx wQuiet).now - 7 ∧ ¬ (timedOut cEx { wQuiet with pre := [] }).now - 7 ≥ wmEx.debounce := by
  decide
example : ({ wQuiet with disc := true } : WWorld).disc = true := rfl
/-- `gen_pending_cleared_only_by_sync` is not vacuous: that iteration does clear a non-empty `pending_changes` -/
example : ((runM (body (inst cEx 1) wmEx ⟨⟩ ([⟨.Create ⟨⟩⟩], 7)) wQuiet).1 matches .ok (.yield ([], _))) = true := by
  decide
/-- `gen_dropped_kind_never_syncs`: an access event is a dropped kind -/
example : (absKind (EventKind.Access ⟨⟩)).kept = false := rfl

end SyModel.Props.GenWatch
