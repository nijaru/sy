/-
  GenEngineGuard — the DENOMINATOR of the mass-deletion guard of `SyncEngine::sync` (src/sync/mod.rs), TRANSLATED on every
  run into `SyModel/Generated/Code/EngineGuard.lean`: `let dest_file_count = Scanner::new(destination).scan().map(|files|
  files.iter().filter(|f| !is_own_metadata_file(&f.relative_path)).count()).unwrap_or(0)`, together with
  `SyncEngine::is_own_metadata_file`.  (The numerator / comparison fragments are unit Guards, Props/GenGuards.)

  Proved for ANY instance of the scan operation:
    * `dest_file_count_eq` — the count is the number of entries of a FRESH scan of the destination whose relative path is
      not one of sy's three metadata names; it does not depend on the plan, on the source or on any flag;
    * `dest_file_count_scan_error` — a failing scan gives 0, which switches the guard off (`dest_file_count > 0` is its
      precondition): recorded as an observation, C07 assumes a successful scan (props.py);
    * `is_own_metadata_file_iff`, `own_names_eq_model` — the excluded names are exactly the model's `ownMetadata`, by
      which the model's `destCount` filters its keys.
-/
import SyModel.Generated.Code.EngineGuard
import SyModel.Engine.Model
namespace SyModel.Props.GenEngineGuard
open SyModel SyModel.Engine SyModel.Generated SyModel.Generated.EngineGuard

def runM {W α : Type} (x : Rs.M W α) (w : W) : Except Rs.Err α × W := x.run.run w

/-- the three names, as texts -/
def ownNames : List Rs.Path := [".sy-checksums.db".toList, ".sy-dir-cache.json".toList, ".sy-state.json".toList]

/-- the three names are written out once (`String.reduceToList`); then the arms of the translated `match` are the
    three disjuncts of `contains`, and its default arm knows `p` is none of them -/
theorem is_own_metadata_file_iff (p : Rs.Path) : is_own_metadata_file p = ownNames.contains p := by
  unfold ownNames
  simp only [String.reduceToList, List.contains_cons, List.contains_nil, Bool.or_false]
  unfold is_own_metadata_file
  split
  · rename_i h
    cases h
    simp only [beq_self_eq_true, Bool.true_or]
  · rename_i h
    cases h
    simp only [beq_self_eq_true, Bool.true_or, Bool.or_true]
  · rename_i h
    cases h
    simp only [beq_self_eq_true, Bool.or_true]
  · rename_i h1 h2 h3
    symm
    simp only [Bool.or_eq_false_iff, beq_eq_false_iff_ne]
    exact ⟨fun h => h1 (congrArg some h), fun h => h2 (congrArg some h), fun h => h3 (congrArg some h)⟩

/-- the model's `ownMetadata` (single-component paths) are these names -/
theorem own_names_eq_model : ownMetadata = ownNames.map (fun n => [String.ofList n]) := by
  unfold ownMetadata ownNames
  simp only [List.map, String.ofList_toList]

/-- the fragment runs the scan and counts on its answer; a failing scan is caught (`.map(..).unwrap_or(0)`) -/
theorem dest_file_count_run {W : Type} (ext : Ext W) (d : Rs.Path) (w : W) :
    runM (dest_file_count ext d) w =
      (.ok (Rs.unwrap_or (resultMap (runM (ext.scanner_scan (ext.scanner_Scanner_new d)) w).1 fun files =>
        Rs.count (Rs.filter files fun f => !is_own_metadata_file f.relative_path)) 0),
       (runM (ext.scanner_scan (ext.scanner_Scanner_new d)) w).2) :=
  rfl

/-- **the guard's denominator, for ANY scan operation**: a successful fresh scan of the destination, minus sy's own
    metadata names; the world is whatever the scan leaves -/
theorem dest_file_count_eq {W : Type} (ext : Ext W) (d : Rs.Path) (w w' : W) (files : List FileEntry)
    (hs : runM (ext.scanner_scan (ext.scanner_Scanner_new d)) w = (.ok files, w')) :
    runM (dest_file_count ext d) w =
      (.ok (files.filter (fun f => !(ownNames.contains f.relative_path))).length, w') := by
  rw [dest_file_count_run, hs]
  simp only [is_own_metadata_file_iff]
  rfl

/-- a failing scan gives 0 (the guard's `dest_file_count > 0` precondition then fails: the guard is off) -/
theorem dest_file_count_scan_error {W : Type} (ext : Ext W) (d : Rs.Path) (w w' : W) (e : Rs.Err)
    (hs : runM (ext.scanner_scan (ext.scanner_Scanner_new d)) w = (.error e, w')) :
    runM (dest_file_count ext d) w = (.ok 0, w') := by
  rw [dest_file_count_run, hs]
  rfl

/-- non-vacuity of the error case: a failing scan gives 0 -/
example : (runM (dest_file_count (W := Unit) ⟨id, fun _ => throw .io⟩ []) ()).1 = .ok 0 := rfl

end SyModel.Props.GenEngineGuard
