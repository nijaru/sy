/-
  GenEngineRun — THE CAPSTONE: the SEQUENTIAL composition of the translated pieces of the one-way engine
  (`SyncEngine::sync`, src/sync/mod.rs, and the exit decision of `main`, src/main.rs) IS the model's run
  (`Engine.run` = `Engine.runF … noFaults`, Engine/Model.lean) — so every property theorem about `runF` (C01, C03, C06, C07,
  C08, C10, C19 …) is, for fault-free sequential runs, a theorem about "the translated pieces glued by a fold".

  The glue is `seqEngine` (Lemmas/GenEngineRunGlue.lean, TRUSTED): planning = the translated
  round `EnginePlan.plan_round` (instance `ext2`: planner operations = unit PlannerFx) folded over the filtered scan;
  with `--delete` the translated `plan_deletions`, the `retain`, the guard with the translated fragments
  (`EngineGuard.dest_file_count`, `Guards.delete_percentage`, `Guards.threshold_exceeded`); execution = the translated
  `EngineTask.run_task` (instance `engineExt cfg`: executors = unit Transfer) folded over the tasks with the statistics
  threaded; exit status = the translated `MainExit.sync_failed`.

  The proof follows the glue's (a)–(d): `planning_stage` ((a) and the deletions of (b)), `guard_stage` (the guard of
  (b)), `execution_stage` (c), `exit_stage` (d), put together in
  `seqEngine_eq_model`: `absOut (seqEngine …) = run cfg scan dst n`; `translated_*` restate C19, C19Truth, C10, C07, C08,
  C01 about the translated composition.

  Hypotheses: ONE structure `RunHyp` (each clause documented; non-vacuity: `exRunHyp`, and the composition RUN by the
  kernel on that instance: `exRun_*`).

  NOT covered: more than one worker (C05's interleaving theorem + the Steps refinement), fault
  plans other than `noFaults`, runs in which a failed Create/Update leaves created parent directories behind (`FailClean`),
  the checksum database, the filter closure (its bridge is Props/GenFilter; the filtered list is an input here), the
  sort / barrier after planning, the unreplaced-link guard of the worker loop (src/sync/mod.rs:774-808: a run in which
  the replacement of a destination link by a directory fails is a run of the code without that guard; the guard alone is
  `Props/GenEngineLinkGuard.lean`), `Start` / `Summary` events, post-transfer verification (`verification_mode ≠ None`),
  `max_errors`, the f64 tie of the guard.
-/
import SyModel.Lemmas.GenEngineRunPlan
import SyModel.Lemmas.GenEngineRunExec
import SyModel.Props.C19
import SyModel.Props.C19Truth
import SyModel.Props.C10
import SyModel.Props.C07
import SyModel.Props.C08
import SyModel.Props.C01
namespace SyModel.Props.GenEngineRun
open SyModel SyModel.Engine SyModel.Generated SyModel.GenEngineTask SyModel.Lemmas.GenEngineRun
open SyModel.Lemmas.GenEnginePlan (ext2 toPEntry ofPTask NothingBelowLinks)
open SyModel.Props.GenEnginePlan (planLoop walkOrder_of_abs)

/-- **ALL hypotheses of the capstone**, collected from the component bridges.  `cfg` is the model's configuration (the
    engine's fields are read off it: `engOf`, `plannerOf`, `selfOf`, `GenGuards.viewOf`), `I` the run's other inputs
    (filtered files, scanned paths, the planner's extra view, the verification mode), `ew` the world the run starts in;
    `scan`, `dst`, `n` are what the model quantifies over. -/
structure RunHyp (cfg : Cfg) (I : RunIn) (ew : EWorld) (scan : List SEntry) (dst : Map DNode) (n : Nat) : Prop where
  /-- the world starts as the model's `initExec dst n`: destination map `dst`, no link group recorded, next inode `n`,
      byte counter 0 … -/
  init : ew.xw.w = { dst := dst, linkMap := [], nextIno := n, bytes := 0 }
  /-- … and nothing emitted yet -/
  logEmpty : ew.log = []
  /-- exact arithmetic in the guard (`f64` as ℚ; Props/GenGuards) -/
  tie : cfg.tie = false
  /-- no post-transfer verification (`verification_mode = None`: the model's verification failures are error records) -/
  modeNone : I.mode = .None
  /-- the files handed to the planning loop are the model's filtered scan (the filter closure is NOT composed here:
      Props/GenFilter `scan_filter_eq_model`) -/
  filtered : I.files.map (absS ew.xw) = scanFilter cfg scan
  /-- `scanned_paths` are the relative paths of the model's scan -/
  scannedRels : I.scanned.map SyModel.Lemmas.GenPlannerFx.compsOf = scan.map (·.rel)
  /-- the per-entry hypotheses (`CleanPath`, `Readable`, `SrcFile`, `HasInode`, `EntryOK`) -/
  files : ∀ f ∈ I.files, FileOK cfg ew I.view f
  /-- `CleanKeys` of Lemmas/GenPlannerFx: the destination's keys are paths a walk produces -/
  cleanKeys : ∀ k ∈ dst.keys, SyModel.Lemmas.GenPlannerFx.CleanPath k
  /-- no path twice / parents first in the filtered scan (`UniqueRels`, `ParentsFirst` of Lemmas/EngineWF) -/
  unique : UniqueRels (scanFilter cfg scan)
  parentsFirst : ParentsFirst (scanFilter cfg scan)
  /-- the destination map lists nothing below a symlink node (links are not resolved; GenEnginePlan `modelAt_self`) -/
  nothingBelowLinks : NothingBelowLinks dst
  /-- failed tasks leave nothing behind (Lemmas/GenEngineRun: the `Left` relation collapses) -/
  failClean : FailClean cfg (initExec dst n) (plan cfg scan dst)

/-- the retained deletions of the run (`[]` without `--delete`) -/
def delsOfRun (cfg : Cfg) (I : RunIn) (ew : EWorld) : List PlannerFx.SyncTask :=
  if cfg.delete then
    retainGlue I.scanned ew.xw.root
      (SyModel.Lemmas.GenPlannerFx.delsOf (I.files.map toPEntry) ((planWorldOf ew I.view).scanOf ew.xw.root))
  else []

/-- the task list handed to the execution loop, given what the planning loop returned -/
def tasksOfRun (cfg : Cfg) (I : RunIn) (ew : EWorld) (ts : List EnginePlan.SyncTask) : List EngineTask.SyncTask :=
  ts.map toXTask ++ (delsOfRun cfg I ew).map (fun d => toXTask (ofPTask d))

/-- the glue, with the planning loop's result named -/
theorem seqEngine_unfold (cfg : Cfg) (I : RunIn) (ew : EWorld) (ts : List EnginePlan.SyncTask) (rl : List Rs.Path)
    (hplan : SyModel.Lemmas.GenPlannerFx.runM
      (planLoop (ext2 (plannerOf cfg)) (engOf cfg) (planWorldOf ew I.view).root {} none I.files [] [])
      (planWorldOf ew I.view) = (.ok (ts, rl), planWorldOf ew I.view)) :
    seqEngine cfg I ew =
      if (cfg.delete && guardGlue cfg (delsOfRun cfg I ew) (planWorldOf ew I.view)) = true then
        some { refused := true, tasks := tasksOfRun cfg I ew ts, stats := stats0, results := [], world := ew, exit := 1 }
      else
        match SyModel.Lemmas.GenTransfer.runM
            (execLoop (engineExt cfg) {} {} cfg.dryRun true I.mode none none (tasksOfRun cfg I ew ts) stats0 []) ew with
        | (.error _, _) => none
        | (.ok (st, rs), ew') =>
          some { refused := false, tasks := tasksOfRun cfg I ew ts, stats := st, results := rs, world := ew',
                 exit := if MainExit.sync_failed ⟨st.errors.map fun _ => ⟨⟩, st.verification_failures⟩ then 1 else 0 } := by
  unfold seqEngine
  simp only [hplan, SyModel.Lemmas.GenPlannerFx.plan_deletions_run]
  rfl

section stages
variable {cfg : Cfg} {I : RunIn} {ew : EWorld} {scan : List SEntry} {dst : Map DNode} {n : Nat}

theorem RunHyp.dst_eq (H : RunHyp cfg I ew scan dst n) : ew.xw.w.dst = dst := by rw [H.init]

theorem RunHyp.cleanKeysW (H : RunHyp cfg I ew scan dst n) :
    PF.CleanKeys (planWorldOf ew I.view) := by
  intro k hk
  have : k ∈ ew.xw.w.dst.keys := hk
  rw [H.dst_eq] at this
  exact H.cleanKeys k this

theorem RunHyp.init_exec (H : RunHyp cfg I ew scan dst n) : absExec ew stats0 = initExec dst n := by
  unfold absExec absBook initExec
  rw [H.init, H.logEmpty]
  rfl

/-- **The planning stage IS `Engine.plan`.**  The translated round folded over the filtered files never
    fails and leaves the world alone; the tasks it returns, followed by the retained result of the translated
    `plan_deletions` (with `--delete`), converted to the executors' type and read by THEIR abstraction (`absTaskE` at the
    task's key), are exactly the model's plan — same tasks, same order, payloads (xattrs included) as the executors will
    transfer them.  Every task satisfies the hypotheses of the execution bridge. -/
theorem planning_stage (H : RunHyp cfg I ew scan dst n) :
    ∃ ts rl,
      SyModel.Lemmas.GenPlannerFx.runM
        (planLoop (ext2 (plannerOf cfg)) (engOf cfg) (planWorldOf ew I.view).root {} none I.files [] [])
        (planWorldOf ew I.view) = (.ok (ts, rl), planWorldOf ew I.view) ∧
      (tasksOfRun cfg I ew ts).map (fun t => absTaskE cfg ew.xw t (keyOfTask ew.xw.root t)) = plan cfg scan dst ∧
      (∀ t ∈ tasksOfRun cfg I ew ts, TaskOK cfg ew.xw t (keyOfTask ew.xw.root t)) ∧
      (delsOfRun cfg I ew).length = ((plan cfg scan dst).filter (·.act == .delete)).length := by
  have hdst := H.dst_eq
  obtain ⟨ts, rl, hplan, hts, hok⟩ := planLoop_plans cfg ew I.view I.files H.files
    (walkOrder_of_abs (absS ew.xw) (absS_rel ew.xw) (absS_kind_dir ew.xw) I.files (by rw [H.filtered]; exact H.unique)
      (by rw [H.filtered]; exact H.parentsFirst) (fun f hf => rel_ne_nil_of_clean _ (H.files f hf).clean))
    (by rw [hdst]; exact H.nothingBelowLinks)
  obtain ⟨hdelabs, hdelE⟩ :
      (delsOfRun cfg I ew).map (PF.absTask (planWorldOf ew I.view)) =
        (if cfg.delete then planDeletions (scanFilter cfg scan) scan dst else []) ∧
      ∀ d ∈ delsOfRun cfg I ew,
        absTaskE cfg ew.xw (toXTask (ofPTask d)) (keyOfTask ew.xw.root (toXTask (ofPTask d))) =
          PF.absTask (planWorldOf ew I.view) d ∧
        TaskOK cfg ew.xw (toXTask (ofPTask d)) (keyOfTask ew.xw.root (toXTask (ofPTask d))) := by
    unfold delsOfRun
    cases cfg.delete
    · exact ⟨rfl, fun d hd => nomatch hd⟩
    · refine ⟨?_, fun d hd => deletion_taskE cfg ew I.view H.cleanKeysW _ _ d hd⟩
      have := deletions_eq_model cfg (planWorldOf ew I.view) H.cleanKeysW I.files I.scanned scan ew.xw H.scannedRels
        H.filtered
      rwa [show (planWorldOf ew I.view).dst = dst from hdst] at this
  refine ⟨ts, rl, hplan, ?_, ?_, ?_⟩
  · unfold tasksOfRun
    rw [List.map_append, List.map_map, List.map_map, plan_eq]
    congr 1
    · refine Eq.trans hts ?_
      rw [hdst, ← H.filtered, List.map_map]
      rfl
    · rw [← hdelabs]
      exact List.map_congr_left (fun d hd => (hdelE d hd).1)
  · intro t' ht'
    unfold tasksOfRun at ht'
    rcases List.mem_append.1 ht' with h | h
    · obtain ⟨t, ht, rfl⟩ := List.mem_map.1 h
      exact hok t ht
    · obtain ⟨d, hd, rfl⟩ := List.mem_map.1 h
      exact (hdelE d hd).2
  · rw [plan_filter_delete, ← hdelabs, List.length_map]

/-- **The guard stage IS `guardRefuses`** — numerator = the number of deletion tasks of the model's plan,
    denominator = `destCount dst` (through the translated `dest_file_count`), comparison = the translated fragments. -/
theorem guard_stage (H : RunHyp cfg I ew scan dst n) :
    (cfg.delete && guardGlue cfg (delsOfRun cfg I ew) (planWorldOf ew I.view)) =
      guardRefuses cfg ((plan cfg scan dst).filter (·.act == .delete)).length (destCount dst) := by
  obtain ⟨_, _, _, _, _, hlen⟩ := planning_stage H
  rw [guardGlue_eq cfg H.tie _ H.cleanKeysW, hlen]
  rw [show (planWorldOf ew I.view).dst = dst from H.dst_eq]

/-- **The execution stage IS the model's fold of `execTask cfg noFaults` over the plan.**  The translated task
    body folded over the run's task list from the initial world and `SyncStats::default()`: the loop never throws; the
    abstraction of the final world, statistics and event stream is the model's final `Exec`; no verification failure is
    counted; every error record is one the report's abstraction reads. -/
theorem execution_stage (H : RunHyp cfg I ew scan dst n) (ts : List EnginePlan.SyncTask)
    (habs : (tasksOfRun cfg I ew ts).map (fun t => absTaskE cfg ew.xw t (keyOfTask ew.xw.root t)) = plan cfg scan dst)
    (hok : ∀ t ∈ tasksOfRun cfg I ew ts, TaskOK cfg ew.xw t (keyOfTask ew.xw.root t)) :
    ∃ st rs ew',
      SyModel.Lemmas.GenTransfer.runM
        (execLoop (engineExt cfg) {} {} cfg.dryRun true I.mode none none (tasksOfRun cfg I ew ts) stats0 []) ew =
          (.ok (st, rs), ew') ∧
      absExec ew' st = (plan cfg scan dst).foldl (execTask cfg noFaults) (initExec dst n) ∧
      rs.length = (plan cfg scan dst).length ∧
      st.verification_failures = 0 ∧ AllErrAbs ew'.xw.root st := by
  let tks : List (EngineTask.SyncTask × Engine.Path) :=
    (tasksOfRun cfg I ew ts).map fun t => (t, keyOfTask ew.xw.root t)
  have htks1 : tks.map (·.1) = tasksOfRun cfg I ew ts := by
    simp only [tks, List.map_map]
    exact List.map_id' _
  have htksA : absTasksE cfg ew.xw tks = plan cfg scan dst := by
    rw [← habs]
    simp only [absTasksE, tks, List.map_map]
    rfl
  obtain ⟨st, rs, ew', hrun, henv, hfold, hlen, hv, herr⟩ :=
    execLoop_eq_foldl cfg {} {} I.mode none none tks ew stats0 []
      (by
        intro tk htk
        obtain ⟨t, ht, rfl⟩ := List.mem_map.1 htk
        exact hok t ht)
      (by rw [htksA, H.init_exec]; exact H.failClean)
  rw [htks1] at hrun
  rw [htksA, H.init_exec] at hfold
  refine ⟨st, rs, ew', by simpa using hrun, hfold, ?_, hv H.modeNone, ?_⟩
  · rw [hlen, ← htksA]; simp [absTasksE]
  · rw [henv.1]
    exact herr (by intro r hr; cases hr)

/-- **The exit stage: the translated failure test decides the model's exit status** whenever no verification failure was
    counted and the model's error list is as long as `stats.errors` -/
theorem exit_stage (st : EngineTask.SyncStats) (b : Book) (hv : st.verification_failures = 0)
    (hl : b.errors.length = st.errors.length) :
    (if MainExit.sync_failed ⟨st.errors.map fun _ => ⟨⟩, st.verification_failures⟩ then 1 else 0) =
      if b.errors.isEmpty then 0 else 1 := by
  unfold MainExit.sync_failed
  rw [hv]
  -- the two error lists have the same length: both are empty or neither is
  cases hs : st.errors <;> cases hb : b.errors <;> simp_all [Rs.is_empty, Rs.Len.len]

/-- **THE CAPSTONE.**  Under `RunHyp`: the sequential composition of the translated pieces answers, and the abstraction
    of what it answers — refused flag, final destination map, tasks, the four counters, byte counter, event list, error
    list, exit status — IS the model's fault-free run `run cfg scan dst n`. -/
theorem seqEngine_eq_model (H : RunHyp cfg I ew scan dst n) :
    ∃ o, seqEngine cfg I ew = some o ∧ absOut cfg ew o = run cfg scan dst n := by
  obtain ⟨ts, rl, hplan, habs, hok, _⟩ := planning_stage H
  have hguard := guard_stage H
  rw [seqEngine_unfold cfg I ew ts rl hplan]
  unfold run runF
  simp only []
  by_cases hg : guardRefuses cfg ((plan cfg scan dst).filter (·.act == .delete)).length (destCount dst) = true
  · rw [hguard, if_pos hg, if_pos hg]
    refine ⟨_, rfl, ?_⟩
    unfold absOut
    simp only [habs, H.logEmpty, H.dst_eq]
    rw [H.init]
    rfl
  · rw [hguard, if_neg hg, if_neg hg]
    obtain ⟨st, rs, ew', hrun, hfold, _, hv, herr⟩ := execution_stage H ts habs hok
    rw [hrun]
    refine ⟨_, rfl, ?_⟩
    have hw : ew'.xw.w = ((plan cfg scan dst).foldl (execTask cfg noFaults) (initExec dst n)).w :=
      congrArg Exec.w hfold
    have hb : absBook ew'.xw.root st ew'.log = ((plan cfg scan dst).foldl (execTask cfg noFaults) (initExec dst n)).b :=
      congrArg Exec.b hfold
    have hlen := absBook_errors_length ew'.xw.root st ew'.log herr
    unfold absOut
    simp only [habs, hw, hb, exit_stage st _ hv (hb ▸ hlen), Bool.not_false, Bool.true_and]

end stages

/-- in a DRY RUN no task fails -/
theorem failClean_of_dry_run (cfg : Cfg) (hd : cfg.dryRun = true) (ts : List Task) (st : Exec) :
    FailClean cfg st ts := by
  induction ts generalizing st with
  | nil => trivial
  | cons t ts ih =>
    refine ⟨fun h => ?_, ih _⟩
    rw [perform_dry cfg hd st.w t] at h
    cases h

/-- a run in which the MODEL records no error has no failed task -/
theorem failClean_of_no_new_errors (cfg : Cfg) (ts : List Task) (st : Exec)
    (h : (ts.foldl (execTask cfg noFaults) st).b.errors.length = st.b.errors.length) : FailClean cfg st ts := by
  induction ts generalizing st with
  | nil => trivial
  | cons t ts ih =>
    rw [List.foldl_cons] at h
    have hs := step_ok_of_fold (Nat.le_of_eq h)
    refine ⟨fun hp => ?_, ih _ (by rw [h, hs])⟩
    rw [execTask_noFaults_eq, hp] at hs
    exact absurd (congrArg List.length hs) (by simp [Book.fail_errors])

/-- … in particular a run the model reports error-free -/
theorem failClean_of_no_errors (cfg : Cfg) (scan : List SEntry) (dst : Map DNode) (n : Nat)
    (h : ((plan cfg scan dst).foldl (execTask cfg noFaults) (initExec dst n)).b.errors = []) :
    FailClean cfg (initExec dst n) (plan cfg scan dst) :=
  failClean_of_no_new_errors cfg _ _ (by rw [h]; rfl)

section corollaries
variable {cfg : Cfg} {I : RunIn} {ew : EWorld} {scan : List SEntry} {dst : Map DNode} {n : Nat}

/-- C19 `counters_eq_events`: the counters the translated composition reports are the numbers of events it emitted -/
theorem translated_counters_eq_events (H : RunHyp cfg I ew scan dst n) :
    ∃ o, seqEngine cfg I ew = some o ∧
      (absOut cfg ew o).created = countAct .create (absOut cfg ew o).events ∧
      (absOut cfg ew o).updated = countAct .update (absOut cfg ew o).events ∧
      (absOut cfg ew o).skipped = countAct .skip (absOut cfg ew o).events ∧
      (absOut cfg ew o).deleted = countAct .delete (absOut cfg ew o).events := by
  obtain ⟨o, ho, heq⟩ := seqEngine_eq_model H
  exact ⟨o, ho, heq ▸ SyModel.Props.C19.counters_eq_events cfg noFaults scan dst n⟩

/-- C19Truth `events_truthful`: every event of the translated composition is true of the destination it leaves -/
theorem translated_events_truthful (H : RunHyp cfg I ew scan dst n) (hnd : cfg.dryRun = false) (hu : UniqueRels scan)
    (hnr : NoRoot scan) (hk : dst.keys.Nodup) (hdel : cfg.delete = true → ParentClosed scan ∧ dst.get? [] = none)
    (hino : cfg.hardlinks = true → InoConsistent scan) (p : Engine.Path) :
    ∃ o, seqEngine cfg I ew = some o ∧
      ((Act.create, p) ∈ (absOut cfg ew o).events → dst.get? p = none ∧ (absOut cfg ew o).dst.get? p ≠ none) ∧
      ((Act.update, p) ∈ (absOut cfg ew o).events → dst.get? p ≠ none ∧ (absOut cfg ew o).dst.get? p ≠ none) ∧
      ((Act.delete, p) ∈ (absOut cfg ew o).events → dst.get? p ≠ none ∧ (absOut cfg ew o).dst.get? p = none) ∧
      ((Act.skip, p) ∈ (absOut cfg ew o).events →
        ∃ e ∈ scanFilter cfg scan, e.rel = p ∧ Unchanged cfg scan dst e ((absOut cfg ew o).dst.get? p)) := by
  obtain ⟨o, ho, heq⟩ := seqEngine_eq_model H
  exact ⟨o, ho, heq ▸ SyModel.Props.C19Truth.events_truthful cfg hnd noFaults scan dst n hu hnr hk hdel hino p⟩

/-- C10 `exit_zero_clean`: exit status 0 of the translated composition means not refused and no error record -/
theorem translated_exit_zero_clean (H : RunHyp cfg I ew scan dst n) :
    ∃ o, seqEngine cfg I ew = some o ∧
      ((absOut cfg ew o).exit = 0 → (absOut cfg ew o).refused = false ∧ (absOut cfg ew o).errors = []) := by
  obtain ⟨o, ho, heq⟩ := seqEngine_eq_model H
  exact ⟨o, ho, heq ▸ SyModel.Props.C10.exit_zero_clean cfg noFaults scan dst n⟩

/-- … and on the raw output: exit status 0 means `stats.errors` is empty -/
theorem translated_exit_zero_no_error_records (H : RunHyp cfg I ew scan dst n) :
    ∃ o, seqEngine cfg I ew = some o ∧ (o.exit = 0 → o.refused = false ∧ o.stats.errors = []) := by
  obtain ⟨ts, rl, hplan, habs, hok, _⟩ := planning_stage H
  rw [seqEngine_unfold cfg I ew ts rl hplan]
  split
  · exact ⟨_, rfl, fun h => by cases h⟩
  · obtain ⟨st, rs, ew', hrun, _, _, hv, _⟩ := execution_stage H ts habs hok
    rw [hrun]
    refine ⟨_, rfl, fun h => ⟨rfl, ?_⟩⟩
    simp only [] at h
    have hf : MainExit.sync_failed ⟨st.errors.map fun _ => ⟨⟩, st.verification_failures⟩ = false := by
      cases hsf : MainExit.sync_failed ⟨st.errors.map fun _ => ⟨⟩, st.verification_failures⟩
      · rfl
      · rw [hsf] at h; simp at h
    have := (SyModel.Props.GenMainExit.sync_ok_clean _ hf).1
    simpa using this

/-- C07 `refuse_changes_nothing`: a refused run of the translated composition changes nothing and exits non-zero -/
theorem translated_refuse_changes_nothing (H : RunHyp cfg I ew scan dst n) :
    ∃ o, seqEngine cfg I ew = some o ∧
      ((absOut cfg ew o).refused = true →
        (absOut cfg ew o).dst = dst ∧ (absOut cfg ew o).events = [] ∧ (absOut cfg ew o).created = 0 ∧
        (absOut cfg ew o).updated = 0 ∧ (absOut cfg ew o).deleted = 0 ∧ (absOut cfg ew o).exit ≠ 0) := by
  obtain ⟨o, ho, heq⟩ := seqEngine_eq_model H
  exact ⟨o, ho, heq ▸ SyModel.Props.C07.refuse_changes_nothing cfg noFaults scan dst n⟩

/-- C08 `dry_run_noop`: with `--dry-run` the translated composition returns the destination unchanged -/
theorem translated_dry_run_noop (H : RunHyp cfg I ew scan dst n) (hd : cfg.dryRun = true) :
    ∃ o, seqEngine cfg I ew = some o ∧ o.world.xw.w.dst = dst := by
  obtain ⟨o, ho, heq⟩ := seqEngine_eq_model H
  exact ⟨o, ho, (congrArg Result.dst heq).trans (SyModel.Props.C08.dry_run_noop cfg noFaults scan dst n hd)⟩

/-- C01: if the translated composition exits 0 (not a dry run) every selected entry is present with the right kind and
    every transferred file carries the source's data -/
theorem translated_C01 (H : RunHyp cfg I ew scan dst n) (hnd : cfg.dryRun = false) (hu : UniqueRels scan)
    (hdel : cfg.delete = true → ParentClosed scan ∧ dst.get? [] = none)
    (hino : cfg.hardlinks = true → InoConsistent scan) :
    ∃ o, seqEngine cfg I ew = some o ∧ (o.exit = 0 →
      ∀ e ∈ scanFilter cfg scan,
        (e.kind = .dir → e.rel ≠ [] → o.world.xw.w.dst.get? e.rel = some .dir) ∧
        (∀ m k, e.kind = .file m k → ∃ d, o.world.xw.w.dst.get? e.rel = some (.file d) ∧
          (planFileAct cfg m (dst.get? e.rel) ≠ .skip → SyModel.Props.C01.Carries cfg d m)) ∧
        (∀ text tgt, e.kind = .symlink text tgt → cfg.links = .preserve →
          o.world.xw.w.dst.get? e.rel = some (.symlink text)) ∧
        (∀ text m, e.kind = .symlink text (.file m) → cfg.links = .follow →
          ∃ d, o.world.xw.w.dst.get? e.rel = some (.file d) ∧
            (planFileAct cfg m (dst.get? e.rel) ≠ .skip → SyModel.Props.C01.Carries cfg d m)) ∧
        (∀ text tgt, e.kind = .symlink text tgt →
          (cfg.links = .skip ∨ (cfg.links = .follow ∧ ∀ m, tgt ≠ .file m)) → ParentClosed scan →
          o.world.xw.w.dst.get? e.rel = dst.get? e.rel)) := by
  obtain ⟨o, ho, heq⟩ := seqEngine_eq_model H
  have h := SyModel.Props.C01.C01 cfg hnd noFaults scan dst n hu hdel hino
  rw [← (show run cfg scan dst n = runF cfg noFaults scan dst n from rfl), ← heq] at h
  exact ⟨o, ho, h⟩

end corollaries

section examples

theorem get?_mem {α : Type} : ∀ {m : Map α} {k : Engine.Path} {v : α}, m.get? k = some v → (k, v) ∈ m
  | [], _, _, h => by cases h
  | (q, u) :: t, k, v, h => by
    rw [Map.get?_cons] at h
    split at h
    · rename_i hq; cases h; subst hq; simp
    · exact List.mem_cons_of_mem _ (get?_mem h)

/-- a map without symlink nodes lists nothing below links -/
theorem nothingBelowLinks_of_no_links (m : Map DNode)
    (h : ∀ kv ∈ m, (match kv.2 with | .symlink _ => false | _ => true) = true) : NothingBelowLinks m := by
  intro link q s hl _ _ _
  have := h _ (get?_mem hl)
  simp at this

/-- `--delete --delete-threshold 50`, preserve links, default comparison -/
def exCfg : Cfg := ⟨true, false, false, false, false, 50, .preserve, .default, none, none, 0, false⟩

def exEntry (rel : String) (size mtime : Nat) (dir : Bool) : EnginePlan.FileEntry :=
  { path := Rs.join "s".toList rel.toList, relative_path := rel.toList, size := size, modified := mtime, is_dir := dir,
    is_symlink := false, symlink_target := none, is_sparse := false, allocated_size := 0, xattrs := none,
    inode := none, nlink := 1, acls := none, bsd_flags := none }

/-- the source: the file `a` (unchanged), the directory `sub` with the new file `sub/b` -/
def exFiles : List EnginePlan.FileEntry :=
  [exEntry "a" 3 5000000000 false, exEntry "sub" 0 0 true, exEntry "sub/b" 1 1000000000 false]

/-- the destination `d`: `a` up to date, `old` stale -/
def exDst : Map DNode := [(["a"], .file ⟨7, 3, 5000000000, [], 1⟩), (["old"], .file ⟨9, 1, 1, [], 2⟩)]

def exEW : EWorld :=
  { xw := { root := "d".toList, w := { dst := exDst, linkMap := [], nextIno := 100, bytes := 0 },
            src := fun p => if p = "s/a".toList then .file ⟨7, 3, 5000000000, [], 10⟩
                            else if p = "s/sub/b".toList then .file ⟨8, 1, 1000000000, [], 11⟩
                            else if p = "s/sub".toList then .dir else .dangling,
            valId := fun _ => 0 },
    log := [] }

def exIn : RunIn :=
  { files := exFiles, scanned := ["a".toList, "sub".toList, "sub/b".toList],
    view := { through := fun _ => .dangling, dirInfo := fun _ => (4096, 0), srcRoot := "s".toList }, mode := .None }

/-- the model's scan: the abstraction of the files (nothing is filtered out) -/
def exScan : List SEntry := exFiles.map (absS exEW.xw)

theorem exFileOK (cfg : Cfg) : ∀ f ∈ exIn.files, FileOK cfg exEW exIn.view f := by
  intro f hf
  simp only [exIn, exFiles, List.mem_cons, List.not_mem_nil, or_false] at hf
  rcases hf with rfl | rfl | rfl
  · exact .of_plain (by decide) rfl (by decide) (fun _ => ⟨_, rfl, rfl, rfl⟩) rfl
  · exact .of_plain (by decide) rfl (by decide) (fun h => by cases h) rfl
  · exact .of_plain (by decide) rfl (by decide) (fun _ => ⟨_, rfl, rfl, rfl⟩) rfl

/-- what `RunHyp` asks of the example, for every configuration that filters nothing out of `exScan`: only the tie
    flag, the filter and `FailClean` look at the configuration -/
theorem exRunHyp_of (cfg : Cfg) (htie : cfg.tie = false) (hflt : scanFilter cfg exScan = exScan)
    (hfc : FailClean cfg (initExec exDst 100) (plan cfg exScan exDst)) : RunHyp cfg exIn exEW exScan exDst 100 where
  init := rfl
  logEmpty := rfl
  tie := htie
  modeNone := rfl
  filtered := hflt.symm
  scannedRels := by decide
  files := exFileOK _
  cleanKeys := by decide
  unique := by
    rw [hflt]
    decide
  parentsFirst := by
    rw [hflt]
    decide
  nothingBelowLinks := SyModel.Lemmas.GenEnginePlan.nothingBelowLinks_of_keys _ (by decide)
  failClean := hfc

/-- the model's run on the example records no error -/
theorem exRun_no_errors :
    ((plan exCfg exScan exDst).foldl (execTask exCfg noFaults) (initExec exDst 100)).b.errors = [] := by decide

/-- **`RunHyp` is satisfiable** (every clause, on a run that creates a directory and a file, skips one and deletes one) -/
theorem exRunHyp : RunHyp exCfg exIn exEW exScan exDst 100 :=
  exRunHyp_of _ rfl (by decide) (failClean_of_no_errors _ _ _ _ exRun_no_errors)

/-- the same run with `--delete-threshold 49` -/
def exCfg49 : Cfg := { exCfg with threshold := 49 }

theorem exRunHyp49 : RunHyp exCfg49 exIn exEW exScan exDst 100 := exRunHyp_of _ rfl (by decide) (by decide)

/-- **the capstone on the example**: the composition answers; it is not refused (1 of 2 entries = 50 %, not above the
    threshold), exits 0, leaves `sub`, `sub/b`, `a` (and no `old`), and reports skip `a`, create `sub`, create `sub/b`,
    delete `old` — the values are the MODEL's, transported through `seqEngine_eq_model` -/
theorem exRun_values : ∃ o, seqEngine exCfg exIn exEW = some o ∧
    (absOut exCfg exEW o).refused = false ∧ (absOut exCfg exEW o).exit = 0 ∧
    (absOut exCfg exEW o).dst.keys = [["sub", "b"], ["sub"], ["a"]] ∧
    (absOut exCfg exEW o).events =
      [(.skip, ["a"]), (.create, ["sub"]), (.create, ["sub", "b"]), (.delete, ["old"])] := by
  obtain ⟨o, ho, heq⟩ := seqEngine_eq_model exRunHyp
  refine ⟨o, ho, ?_⟩
  rw [heq]
  decide

/-- … with `--delete-threshold 49` the translated guard REFUSES: exit 1, destination untouched, no event -/
theorem exRun_refused : ∃ o, seqEngine exCfg49 exIn exEW = some o ∧
    (absOut exCfg49 exEW o).refused = true ∧ (absOut exCfg49 exEW o).exit = 1 ∧
    (absOut exCfg49 exEW o).dst = exDst ∧ (absOut exCfg49 exEW o).events = [] := by
  obtain ⟨o, ho, heq⟩ := seqEngine_eq_model exRunHyp49
  refine ⟨o, ho, ?_⟩
  rw [heq]
  decide

/-- a decidable view of what the composition answers -/
structure OutView where
  refused : Bool
  exit : Nat
  keys : List Engine.Path
  created : Nat
  updated : Nat
  skipped : Nat
  deleted : Nat
  errors : Nat
  events : Nat
deriving DecidableEq

def viewOut (o : Option SeqOut) : Option OutView :=
  o.map fun o => ⟨o.refused, o.exit, o.world.xw.w.dst.keys, o.stats.files_created, o.stats.files_updated,
    o.stats.files_skipped, o.stats.files_deleted, o.stats.errors.length, o.world.log.length⟩

/-- **THE COMPOSITION, RUN BY THE KERNEL** with `--force-delete` (the guard's ℚ arithmetic does not reduce under
    `decide`; with `force_delete` the glue does not reach it — the guarded runs above go through the theorem): every
    other translated unit evaluated — three planning rounds, `plan_deletions` + `retain`, four task bodies through the
    translated executors, the exit decision: exit 0, `sub` and `sub/b` created, `a` skipped, `old` deleted, four events -/
theorem exRun_result : viewOut (seqEngine { exCfg with force := true } exIn exEW) =
    some ⟨false, 0, [["sub", "b"], ["sub"], ["a"]], 2, 0, 1, 1, 0, 4⟩ := by decide

/-- a destination that is NOT parent-closed: `p/k` is listed as a directory, `p` is not listed -/
def exBadDst : Map DNode := [(["p", "k"], .dir)]

/-- the model fails the creation of the FILE `p/k` (a directory is in the way) and keeps its world … -/
def exBadTask : Task := ⟨.create, ["p", "k"], .file ⟨1, 1, 1, [], 0⟩ 1⟩

example : perform { exCfg with delete := false } ⟨exBadDst, [], 0, 0⟩ exBadTask = none := by decide

/-- … `FailClean` does not hold of that run: `create_dir_all(p)` has something to create -/
theorem failClean_fails_witness :
    ¬ FailClean { exCfg with delete := false } (initExec exBadDst 0) [exBadTask] := by decide

/-- … and the INSTANCE (the translated `run_task` through the translated `Transferrer::create`) answers `Err` having
    created `p`: after a failure the two worlds differ — which is why the fold theorem carries `FailClean`. -/
theorem left_residue_witness :
    let ew : EWorld := { xw := { root := "d".toList, w := ⟨exBadDst, [], 0, 0⟩,
                                 src := fun _ => .file ⟨1, 1, 1, [], 0⟩, valId := fun _ => 0 }, log := [] }
    let t : EngineTask.SyncTask := toXTask { source := some (exEntry "p/k" 1 1 false), dest_path := "d/p/k".toList,
                                             action := .Create, source_checksum := none, dest_checksum := none }
    let r := SyModel.Lemmas.GenTransfer.runM
      (EngineTask.run_task (engineExt { exCfg with delete := false }) t {} {} stats0 false true .None none none) ew
    (r.1.toOption.map fun x => SyModel.Props.GenEngineTask.isOk x.1) = some false ∧
      r.2.xw.w.dst.keys = [["p"], ["p", "k"]] := by decide

example : NoResidue exDst ["sub", "b"] = False ∨ NoResidue exDst ["a"] := Or.inr (by decide)
example : ¬ NoResidue exBadDst ["p", "k"] := by decide
/-- the model's run on the example records no error: the hypothesis of `failClean_of_no_errors` -/
example : ((plan exCfg exScan exDst).foldl (execTask exCfg noFaults) (initExec exDst 100)).b.errors = [] :=
  exRun_no_errors
example : FailClean exCfg (initExec exDst 100) (plan exCfg exScan exDst) :=
  failClean_of_no_errors exCfg exScan exDst 100 exRun_no_errors
example : FailClean { exCfg with dryRun := true } (initExec exBadDst 0) [exBadTask] :=
  failClean_of_dry_run _ rfl _ _
/-- every task of the example run satisfies `TaskOK` at its key (`planning_stage`) -/
example : ∃ ts, ∀ t ∈ tasksOfRun exCfg exIn exEW ts, TaskOK exCfg exEW.xw t (keyOfTask exEW.xw.root t) := by
  obtain ⟨ts, _, _, _, hok, _⟩ := planning_stage exRunHyp
  exact ⟨ts, hok⟩
theorem exScan_ok : exCfg.dryRun = false ∧ UniqueRels exScan ∧ NoRoot exScan ∧ exDst.keys.Nodup ∧ ParentClosed exScan ∧
    exDst.get? [] = none := by decide
/-- the hypotheses the restated property theorems add (C19Truth, C01) hold of the example together with `RunHyp` -/
example (p : Engine.Path) : True := by
  obtain ⟨hnd, hu, hnr, hk, hpc, h0⟩ := exScan_ok
  have := translated_events_truthful exRunHyp hnd hu hnr hk (fun _ => ⟨hpc, h0⟩) (fun h => by cases h) p
  trivial
example : True := by
  obtain ⟨hnd, hu, _, _, hpc, h0⟩ := exScan_ok
  have := translated_C01 exRunHyp hnd hu (fun _ => ⟨hpc, h0⟩) (fun h => by cases h)
  trivial
example : exCfg.dryRun = false ∧ UniqueRels exScan ∧ NoRoot exScan ∧ exDst.keys.Nodup ∧ ParentClosed exScan ∧
    exDst.get? [] = none := exScan_ok
/-- a dry run satisfies `RunHyp` too (C08's corollary is not vacuous) -/
theorem exRunHypDry : RunHyp { exCfg with dryRun := true } exIn exEW exScan exDst 100 :=
  exRunHyp_of _ rfl (by decide) (failClean_of_dry_run _ rfl _ _)
theorem exRun_dry_noop : ∃ o, seqEngine { exCfg with dryRun := true } exIn exEW = some o ∧ o.world.xw.w.dst = exDst :=
  translated_dry_run_noop exRunHypDry rfl

end examples

end SyModel.Props.GenEngineRun
