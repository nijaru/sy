/-
  GenModes — the TRANSLATED unit `SyModel.Generated.Modes` (regenerated by tools/rs2lean.py on every run from
  /repo/src/cli.rs: `VerificationMode::{checksum_type, verify_blocks}`, `Cli::{verification_mode, symlink_mode}`;
  /repo/src/integrity/mod.rs: `ChecksumType`; /repo/src/sync/dircache.rs: `DirectoryCache::{needs_rescan, update}`).

  Part 1: the decision tables of the mode functions, stated outright for all inputs (there is no handwritten
  model function for them; the theorems ARE the specification the properties rely on: `--verify` wins over
  `--mode`, `--copy-links` wins over `--links`, only `--mode fast` switches verification off, only
  `paranoid` verifies blocks). `absLinkMode` maps `SymlinkMode` onto the engine model's `LinkMode`.

  Part 2: the directory cache. `needs_rescan` in closed form (`needs_rescan_eq`: the engine model's `absDiff` /
  `mtimeMatches` tolerance), "a directory is skipped only when its key is cached"
  (`needs_rescan_false_implies_cached`), `update` (`update_then_fresh`, `update_other`), and the bridge to the
  C18 model `SyModel.Engine.DirCache` (Engine/Caches.lean):

    abstraction   `Abstracts key c d`  :  the model's `d.dirs` and the keys of `c.dir_entries`, read through the
                  key map `key : Rs.Path → Engine.Path`, have the same members (order and duplicates ignored:
                  `canUse` is a membership test, `DirCache.update` appends).
    hypothesis    `key ['.'] = rootKey` — the text `"."` the code looks up (`PathBuf::from(".")`, sync/mod.rs:283)
                  is the model's `rootKey = ["."]`. `pathKey` (split at `/`) satisfies it (`pathKey_root`).

  Every theorem is about the generated definitions by name; a semantic change of the Rust functions changes
  the generated file and breaks the proofs below.  `DirectoryCache::{needs_rescan, update}` are translated a second
  time, into a type of their own, in the unit EngineCache: what `sync` does with the cache is stated about that copy
  (Props/GenEngineCache), the bridge to `Engine.DirCache` about this one only.
-/
import SyModel.Generated.Code.Modes
import SyModel.Engine.Caches
import SyModel.Lemmas.RsMap

namespace SyModel.Props.GenModes
open SyModel
open SyModel.Generated
open SyModel.Generated.Modes

/-- verification is switched off (`ChecksumType::None`) by `--mode fast` and by nothing else -/
theorem checksum_type_none_iff (m : VerificationMode) : m.checksum_type = .None ↔ m = .Fast := by
  cases m <;> simp [VerificationMode.checksum_type]

theorem checksum_type_fast_iff (m : VerificationMode) : m.checksum_type = .Fast ↔ m = .Standard := by
  cases m <;> simp [VerificationMode.checksum_type]

/-- a cryptographic checksum is used exactly in the modes `verify` and `paranoid` -/
theorem checksum_type_crypto_iff (m : VerificationMode) :
    m.checksum_type = .Cryptographic ↔ m = .Verify ∨ m = .Paranoid := by
  cases m <;> simp [VerificationMode.checksum_type]

/-- block-level verification exactly in the mode `paranoid` -/
theorem verify_blocks_iff (m : VerificationMode) : m.verify_blocks = true ↔ m = .Paranoid := by
  cases m <;> simp [VerificationMode.verify_blocks]

/-- block verification implies a cryptographic checksum -/
theorem verify_blocks_implies_crypto (m : VerificationMode) (h : m.verify_blocks = true) :
    m.checksum_type = .Cryptographic := by
  rw [verify_blocks_iff] at h; subst h; rfl

/-- `--verify` wins over `--mode` -/
theorem verification_mode_verify (c : Cli) (h : c.verify = true) : c.verification_mode = .Verify := by
  simp [Cli.verification_mode, h]

theorem verification_mode_default (c : Cli) (h : c.verify = false) : c.verification_mode = c.mode := by
  simp [Cli.verification_mode, h]

/-- with `--verify` the transfer is verified with a cryptographic checksum, whatever `--mode` says
    (in particular `--verify --mode fast` does not switch verification off) -/
theorem verify_flag_is_cryptographic (c : Cli) (h : c.verify = true) :
    c.verification_mode.checksum_type = .Cryptographic := by
  rw [verification_mode_verify c h]; rfl

/-- the effective mode verifies nothing exactly when `--verify` is absent and the mode is `fast` -/
theorem verification_mode_none_iff (c : Cli) :
    c.verification_mode.checksum_type = .None ↔ c.verify = false ∧ c.mode = .Fast := by
  rw [checksum_type_none_iff]
  cases hv : c.verify <;> simp [Cli.verification_mode, hv]

/-- `--verify` never turns block verification on or off by itself: blocks are verified exactly when
    `--verify` is absent and the mode is `paranoid` (`--verify --mode paranoid` is plain `verify`) -/
theorem verification_mode_verify_blocks_iff (c : Cli) :
    c.verification_mode.verify_blocks = true ↔ c.verify = false ∧ c.mode = .Paranoid := by
  rw [verify_blocks_iff]
  cases hv : c.verify <;> simp [Cli.verification_mode, hv]

/-- `--copy-links` wins over `--links` -/
theorem symlink_mode_copy_links (c : Cli) (h : c.copy_links = true) : c.symlink_mode = .Follow := by
  simp [Cli.symlink_mode, h]

theorem symlink_mode_default (c : Cli) (h : c.copy_links = false) : c.symlink_mode = c.links := by
  simp [Cli.symlink_mode, h]

theorem symlink_mode_follow_iff (c : Cli) :
    c.symlink_mode = .Follow ↔ c.copy_links = true ∨ c.links = .Follow := by
  cases hc : c.copy_links <;> simp [Cli.symlink_mode, hc]

/-- symlinks are preserved / skipped only without `--copy-links` -/
theorem symlink_mode_preserve_iff (c : Cli) :
    c.symlink_mode = .Preserve ↔ c.copy_links = false ∧ c.links = .Preserve := by
  cases hc : c.copy_links <;> simp [Cli.symlink_mode, hc]

theorem symlink_mode_skip_iff (c : Cli) :
    c.symlink_mode = .Skip ↔ c.copy_links = false ∧ c.links = .Skip := by
  cases hc : c.copy_links <;> simp [Cli.symlink_mode, hc]

/-- `SymlinkMode` ↦ the engine model's `LinkMode` (a bijection) -/
def absLinkMode : SymlinkMode → Engine.LinkMode
  | .Preserve => .preserve
  | .Follow => .follow
  | .Skip => .skip

theorem absLinkMode_injective (a b : SymlinkMode) (h : absLinkMode a = absLinkMode b) : a = b := by
  cases a <;> cases b <;> first | rfl | cases h

theorem absLinkMode_onto (m : Engine.LinkMode) : ∃ a, absLinkMode a = m := by
  cases m
  · exact ⟨.Preserve, rfl⟩
  · exact ⟨.Follow, rfl⟩
  · exact ⟨.Skip, rfl⟩

/-- the link mode the engine model runs with, from the command line -/
theorem symlink_mode_eq_model (c : Cli) :
    absLinkMode c.symlink_mode = if c.copy_links = true then Engine.LinkMode.follow else absLinkMode c.links := by
  cases hc : c.copy_links <;> simp [Cli.symlink_mode, hc, absLinkMode]

/-- a key that is absent from the cache needs a rescan, at every mtime -/
theorem needs_rescan_absent (c : DirectoryCache) (p : Rs.Path) (t : Rs.SystemTime)
    (h : Rs.contains_key c.dir_entries p = false) : c.needs_rescan p t = true := by
  rw [← Rs.get_eq_none_iff] at h
  simp [DirectoryCache.needs_rescan, h]

/-- **a directory is only ever skipped when its key is in the cache** -/
theorem needs_rescan_false_implies_cached (c : DirectoryCache) (p : Rs.Path) (t : Rs.SystemTime)
    (h : c.needs_rescan p t = false) : Rs.contains_key c.dir_entries p = true := by
  cases hk : Rs.contains_key c.dir_entries p with
  | true => rfl
  | false => rw [needs_rescan_absent c p t hk] at h; cases h

/-- **needs_rescan, closed form**: for a key cached with mtime `m` the answer is "the whole seconds of the
    absolute difference exceed 1" — `Engine.absDiff` is the model's absolute difference (Engine/Model.lean);
    the two branches `Ok(duration)` / `Err(e) ⇒ e.duration()` of dircache.rs:213-216 are its two cases. -/
theorem needs_rescan_eq (c : DirectoryCache) (p : Rs.Path) (t m : Rs.SystemTime)
    (h : Rs.get c.dir_entries p = some m) :
    c.needs_rescan p t = decide (Engine.absDiff t m / 10 ^ 9 > 1) := by
  unfold DirectoryCache.needs_rescan
  rw [h]
  exact Rs.secs_apart t m fun s => decide (s > 1)

/-- the same tolerance as the planner's `mtime_matches` (`Engine.mtimeMatches`): a cached directory is rescanned
    exactly when its mtime does not match the cached one -/
theorem needs_rescan_eq_not_mtimeMatches (c : DirectoryCache) (p : Rs.Path) (t m : Rs.SystemTime)
    (h : Generated.Rs.get c.dir_entries p = some m) :
    c.needs_rescan p t = !Engine.mtimeMatches t m := by
  rw [needs_rescan_eq c p t m h, Engine.mtimeMatches]
  by_cases hd : Engine.absDiff t m / 1000000000 ≤ 1
  · have : ¬ Engine.absDiff t m / 10 ^ 9 > 1 := by simpa using hd
    simp [hd, this]
  · have : Engine.absDiff t m / 10 ^ 9 > 1 := by simpa using hd
    simp [hd, this]

theorem needs_rescan_iff (c : DirectoryCache) (p : Rs.Path) (t : Rs.SystemTime) :
    c.needs_rescan p t = false ↔
      ∃ m, Generated.Rs.get c.dir_entries p = some m ∧ Engine.absDiff t m / 10 ^ 9 ≤ 1 := by
  cases hg : Rs.get c.dir_entries p with
  | none =>
    have := needs_rescan_absent c p t ((Rs.get_eq_none_iff _ _).mp hg)
    simp [this]
  | some m =>
    rw [needs_rescan_eq c p t m hg]
    simp [Nat.not_lt]

theorem get_update_self (c : DirectoryCache) (p : Rs.Path) (t : Rs.SystemTime) :
    Rs.get (c.update p t).dir_entries p = some t :=
  (Rs.get_insert_mut c.dir_entries p t p).trans (if_pos (beq_self_eq_true p))

theorem get_update_other (c : DirectoryCache) (p q : Rs.Path) (t : Rs.SystemTime) (h : p ≠ q) :
    Rs.get (c.update p t).dir_entries q = Rs.get c.dir_entries q :=
  (Rs.get_insert_mut c.dir_entries p t q).trans (if_neg fun hpq => h (beq_iff_eq.mp hpq))

/-- **a directory just recorded with its mtime is fresh at that mtime** -/
theorem update_then_fresh (c : DirectoryCache) (p : Rs.Path) (t : Rs.SystemTime) :
    (c.update p t).needs_rescan p t = false := by
  rw [needs_rescan_eq _ p t t (get_update_self c p t)]
  simp [Engine.absDiff]

/-- … and stays fresh within the tolerance: up to (and excluding) two whole seconds either way -/
theorem update_then_fresh_near (c : DirectoryCache) (p : Rs.Path) (t s : Rs.SystemTime)
    (h : Engine.absDiff s t < 2 * 10 ^ 9) : (c.update p t).needs_rescan p s = false := by
  rw [needs_rescan_eq _ p s t (get_update_self c p t)]
  have : Engine.absDiff s t / 10 ^ 9 ≤ 1 := by
    have := Nat.div_lt_of_lt_mul (m := Engine.absDiff s t) (n := 10 ^ 9) (k := 2) (by omega)
    omega
  simpa using this

/-- **`update` does not touch the verdict on any other directory** -/
theorem update_other (c : DirectoryCache) (p q : Rs.Path) (t s : Rs.SystemTime) (h : p ≠ q) :
    (c.update p t).needs_rescan q s = c.needs_rescan q s := by
  simp only [DirectoryCache.needs_rescan, get_update_other c p q t h]

/-! ## bridge to the C18 model `Engine.DirCache` (Engine/Caches.lean) -/

/-- the keys of `dir_entries`, in the representation's order -/
def cacheKeys (c : DirectoryCache) : List Rs.Path := c.dir_entries.map (·.1)

theorem contains_key_iff_mem_cacheKeys (c : DirectoryCache) (p : Rs.Path) :
    Rs.contains_key c.dir_entries p = true ↔ p ∈ cacheKeys c := by
  simp only [Rs.contains_key, cacheKeys, List.any_eq_true, List.mem_map, beq_iff_eq]

/-- `update` adds exactly its key -/
theorem mem_cacheKeys_update (c : DirectoryCache) (p q : Rs.Path) (t : Rs.SystemTime) :
    q ∈ cacheKeys (c.update p t) ↔ q = p ∨ q ∈ cacheKeys c :=
  Rs.mem_keys_insert_mut c.dir_entries p q t

/-- a path text as the model's component list: the same definition as `PathText.compsOf`, repeated here because the module
    does not import Lemmas/PathText -/
def pathKey (p : Rs.Path) : Engine.Path := (Generated.Rs.split p '/').map String.ofList

/-- the key the code looks up for the root, `"."`, is the model's `rootKey` -/
theorem pathKey_root : pathKey ['.'] = Engine.rootKey := by decide

example : pathKey "a/b.txt".toList = ["a", "b.txt"] := by decide

/-- the abstraction relation: the model's directory keys are the code's keys read through `key`, as sets -/
def Abstracts (key : Rs.Path → Engine.Path) (c : DirectoryCache) (d : Engine.DirCache) : Prop :=
  ∀ k, k ∈ d.dirs ↔ k ∈ (cacheKeys c).map key

/-- the canonical abstraction (no file keys: the generated structure carries `dir_entries` only) -/
def absCache (key : Rs.Path → Engine.Path) (c : DirectoryCache) : Engine.DirCache :=
  { dirs := (cacheKeys c).map key, files := [] }

theorem absCache_abstracts (key : Rs.Path → Engine.Path) (c : DirectoryCache) :
    Abstracts key c (absCache key c) := fun _ => Iff.rfl

/-- the empty cache (what `load` yields for a missing / damaged / other-version file) abstracts to the model's -/
theorem empty_abstracts (key : Rs.Path → Engine.Path) : Abstracts key ⟨[]⟩ Engine.DirCache.loadDamaged := by
  intro k; simp [Engine.DirCache.loadDamaged, Engine.DirCache.empty, cacheKeys]

/-- **the cached scan can replace the real one only when the model says `canUse`**: if the code's staleness
    test for the root key text `"."` answers "no rescan needed", every model cache that abstracts the code's
    cache has `canUse`. (C18's theorems are about caches with `canUse = false`: on those the code rescans.) -/
theorem needs_rescan_root_false_implies_canUse (key : Rs.Path → Engine.Path) (hroot : key ['.'] = Engine.rootKey)
    (c : DirectoryCache) (d : Engine.DirCache) (habs : Abstracts key c d) (t : Rs.SystemTime)
    (h : c.needs_rescan ['.'] t = false) : d.canUse = true := by
  have hk := (contains_key_iff_mem_cacheKeys c ['.']).mp (needs_rescan_false_implies_cached c ['.'] t h)
  simp only [Engine.DirCache.canUse, List.contains_iff_mem]
  rw [habs, ← hroot]
  exact List.mem_map_of_mem hk

/-- contrapositive, the way C18 uses it: a model cache without the root key ⇒ the code rescans, at every mtime -/
theorem not_canUse_implies_needs_rescan (key : Rs.Path → Engine.Path) (hroot : key ['.'] = Engine.rootKey)
    (c : DirectoryCache) (d : Engine.DirCache) (habs : Abstracts key c d) (t : Rs.SystemTime)
    (h : d.canUse = false) : c.needs_rescan ['.'] t = true := by
  cases hn : c.needs_rescan ['.'] t with
  | true => rfl
  | false => rw [needs_rescan_root_false_implies_canUse key hroot c d habs t hn] at h; cases h

/-- with the concrete key map -/
theorem needs_rescan_root_false_implies_canUse_pathKey (c : DirectoryCache) (t : Rs.SystemTime)
    (h : c.needs_rescan ['.'] t = false) : (absCache pathKey c).canUse = true :=
  needs_rescan_root_false_implies_canUse pathKey pathKey_root c _ (absCache_abstracts _ _) t h

/-- **`DirectoryCache::update` adds exactly its key, as `DirCache.update` does for a directory entry**: one
    iteration of the cache-update loop of `sync()` (sync/mod.rs:345-349: `if file.is_dir { cache.update(
    file.relative_path, file.modified) }`) on a scanned directory `e` whose relative path is the key's
    abstraction keeps the abstraction relation. -/
theorem update_abstracts (key : Rs.Path → Engine.Path) (c : DirectoryCache) (d : Engine.DirCache)
    (habs : Abstracts key c d) (p : Rs.Path) (t : Rs.SystemTime) (e : Engine.SEntry)
    (hdir : e.isDir = true) (hrel : e.rel = key p) :
    Abstracts key (c.update p t) (d.update [e]) := by
  intro k
  simp only [Engine.DirCache.update, List.filter_cons, hdir, if_true, List.filter_nil, List.map_cons,
    List.map_nil, List.mem_append, List.mem_singleton, habs k, List.mem_map, mem_cacheKeys_update, hrel]
  constructor
  · rintro (⟨q, hq, rfl⟩ | rfl)
    · exact ⟨q, .inr hq, rfl⟩
    · exact ⟨p, .inl rfl, rfl⟩
  · rintro ⟨q, rfl | hq, rfl⟩
    · exact .inr rfl
    · exact .inl ⟨q, hq, rfl⟩

/-- a scanned entry that is not a directory leaves the directory keys alone on both sides (the code does not call
    `update` for it) -/
theorem update_nondir_abstracts (key : Rs.Path → Engine.Path) (c : DirectoryCache) (d : Engine.DirCache)
    (habs : Abstracts key c d) (e : Engine.SEntry) (hdir : e.isDir = false) :
    Abstracts key c (d.update [e]) := by
  intro k
  simp [Engine.DirCache.update, hdir, habs k]

/-- the membership statement by itself: after `update p t` the abstracted directory keys are the old ones and
    `key p`, nothing else -/
theorem mem_dirs_update (key : Rs.Path → Engine.Path) (c : DirectoryCache) (p : Rs.Path) (t : Rs.SystemTime)
    (k : Engine.Path) :
    k ∈ (absCache key (c.update p t)).dirs ↔ k = key p ∨ k ∈ (absCache key c).dirs := by
  simp only [absCache, List.mem_map, mem_cacheKeys_update]
  constructor
  · rintro ⟨q, rfl | hq, rfl⟩
    · exact .inl rfl
    · exact .inr ⟨q, hq, rfl⟩
  · rintro (rfl | ⟨q, hq, rfl⟩)
    · exact ⟨p, .inl rfl, rfl⟩
    · exact ⟨q, .inr hq, rfl⟩

/-- recording the root directory itself makes the cache usable — which the scanner never does
    (`Engine.NoDotRels`: no scanned entry has the relative path `.`), the reason C18's cache is never used -/
theorem update_root_canUse (key : Rs.Path → Engine.Path) (hroot : key ['.'] = Engine.rootKey)
    (c : DirectoryCache) (t : Rs.SystemTime) : (absCache key (c.update ['.'] t)).canUse = true :=
  needs_rescan_root_false_implies_canUse key hroot _ _ (absCache_abstracts _ _) t (update_then_fresh c ['.'] t)

/-- a cache in which `"."` was recorded 0.5 s ago: not rescanned, and the abstraction can be used -/
example : (DirectoryCache.update ⟨[]⟩ ['.'] 1000000000).needs_rescan ['.'] 1500000000 = false := by decide
example : (absCache pathKey (DirectoryCache.update ⟨[]⟩ ['.'] 1000000000)).canUse = true := by decide
/-- three seconds later it is rescanned; so is an empty cache -/
example : (DirectoryCache.update ⟨[]⟩ ['.'] 1000000000).needs_rescan ['.'] 4000000000 = true := by decide
example : (DirectoryCache.mk []).needs_rescan ['.'] 5 = true := by decide

end SyModel.Props.GenModes
