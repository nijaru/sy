/-
  GenFilter — the translated `FilterRule::matches`, `FilterEngine::{should_include, should_exclude}`
  (src/filter.rs, regenerated into `SyModel/Generated/Code/Filter.lean` on every run) compute the handwritten
  `Filter.Rule.matches` / `Filter.shouldInclude` that C16 is about.

  Abstraction map.
    * `FilterRule ↦ Rule` (`absRule`): `action == Include ↦ isInclude`, `pattern.text ↦ glob`
      (`Pattern::as_str()`), `pattern.toks ↦ toks` (the compiled pattern), `has_slash`, `is_dir_only`,
      `pattern_str ↦ patternStr` (neither side's `matches` reads it).
    * `FilterEngine ↦ List Rule` (`absEngine`): the rules, in order.
    * paths: both sides use `Filter.RelPath` (the component list); the meaning of `Path::to_str`, `file_name`,
      `ancestors` on it is the vocabulary of `Generated/PreludeFilter.lean` (trusted, = the conventions
      documented at the top of `Filter/Rule.lean`).
  No hypotheses: the theorems hold for all rules, all paths (clean or not), both values of `is_dir`.
-/
import SyModel.Generated.Code.Filter
import SyModel.Lemmas.FilterRule
import SyModel.Lemmas.RsMap
namespace SyModel.Props.GenFilter
open SyModel SyModel.Filter SyModel.Generated SyModel.Generated.Filter

def absRule (r : FilterRule) : Rule :=
  { isInclude := r.action == FilterAction.Include
    patternStr := r.pattern_str
    glob := r.pattern.text
    toks := r.pattern.toks
    hasSlash := r.has_slash
    dirOnly := r.is_dir_only }

def absEngine (e : FilterEngine) : List Rule := e.rules.map absRule

/-- the map is onto: every model rule is the image of a generated rule (nothing of the model is vacuous). -/
theorem absRule_onto (m : Rule) : ∃ r : FilterRule, absRule r = m :=
  ⟨⟨if m.isInclude then .Include else .Exclude, ⟨m.glob, m.toks⟩, m.patternStr, m.hasSlash, m.dirOnly⟩, by
    cases m with | mk i p g t h d => cases i <;> simp [absRule]⟩

/-! ### a `for` loop in `Id` whose body is `if c a then return v a` (and nothing else) -/

/-- a loop that runs to the first element satisfying `c` and returns `v` of it, with what follows the loop: the return slot
    holds `some (v a)` for the first such `a`, `none` at the end of the list.  `f` is the body as the `do` elaborator produces
    it; `hf` says what it computes. -/
theorem forIn_early_return_bind {α β γ : Type} (l : List α) (c : α → Bool) (v : α → β)
    (f : α → Option β × Unit → Id (ForInStep (Option β × Unit)))
    (hf : ∀ a s, f a s = if c a = true then pure (ForInStep.done (some (v a), ()))
                          else pure (ForInStep.yield (none, ())))
    (k : Option β × Unit → Id γ) :
    (forIn l ((none : Option β), ()) f >>= k) = k ((l.find? c).map v, ()) := by
  induction l with
  | nil => rfl
  | cons a t ih =>
    rw [List.forIn_cons, hf]
    cases hc : c a
    · simpa [hc] using ih
    · simp [hc]

theorem any_eq_find?_isSome {α : Type} (l : List α) (c : α → Bool) : l.any c = (l.find? c).isSome := by
  induction l with
  | nil => rfl
  | cons a t ih => cases hc : c a <;> simp_all

/-- `for a in l { if c a { return true } }; false` in `Id`  =  `List.any` -/
theorem forIn_return_true_eq_any {α : Type} (l : List α) (c : α → Bool)
    (f : α → Option Bool × Unit → Id (ForInStep (Option Bool × Unit)))
    (hf : ∀ a s, f a s = if c a = true then pure (ForInStep.done (some true, ()))
                          else pure (ForInStep.yield (none, ()))) :
    (forIn l ((none : Option Bool), ()) f >>= fun s => match s.fst with | some r => pure r | none => pure false)
      = (pure (l.any c) : Id Bool) := by
  rw [forIn_early_return_bind l c (fun _ => true) f hf, any_eq_find?_isSome]
  cases List.find? c l <;> rfl

/-- first match decides, `true` if none  =  the model's `shouldIncludeLoop`. -/
theorem shouldIncludeLoop_eq_find? (path : RelPath) (isDir : Bool) (rs : List FilterRule)
    (hm : ∀ r : FilterRule, r.matches path isDir = (absRule r).matches path isDir) :
    shouldIncludeLoop path isDir (rs.map absRule) =
      ((rs.find? (fun r => r.matches path isDir)).map (fun r => r.action == FilterAction.Include)).getD true := by
  rw [shouldIncludeLoop_eq, List.find?_map,
    show ((fun r : Rule => r.matches path isDir) ∘ absRule) = fun r => r.matches path isDir from
      funext fun r => (hm r).symm]
  cases rs.find? _ <;> rfl

theorem skip_ancestors (p : RelPath) : Rs.skip (Rs.ancestors p) 1 = ancestorsSkip1 p := by
  simp [Rs.skip, Rs.ancestors]

theorem as_str_pat (g : Rs.GlobPattern) : Rs.as_str g = g.text := rfl

theorem to_str_path (p : RelPath) : Rs.to_str p = some (pathStr p) := rfl

theorem file_name_to_str (p : RelPath) :
    Rs.and_then (Rs.file_name p) (fun n => Rs.to_str n) = fileName p := by
  unfold Rs.and_then Rs.file_name
  cases fileName p <;> rfl

theorem matches_eq_model (r : FilterRule) (path : RelPath) (is_dir : Bool) :
    r.matches path is_dir = (absRule r).matches path is_dir := by
  obtain ⟨act, pat, pstr, has_slash, dir_only⟩ := r
  unfold FilterRule.matches Rule.matches
  dsimp only [absRule]
  -- the two ancestor loops
  have loop1 := @forIn_early_return_bind _ Bool Bool (ancestorsSkip1 path)
    (fun a => !(pathStr a).isEmpty && globMatch pat.toks (pathStr a)) (fun _ => true)
  have loop2 := @forIn_early_return_bind _ Bool Bool (ancestorsSkip1 path)
    (fun a => matchesBase pat.toks a) (fun _ => true)
  -- the two flags first, so that only the branch taken is rewritten into the vocabulary of the model
  cases dir_only <;> cases has_slash <;>
    simp only [↓reduceIte, Bool.false_eq_true, Id.run, skip_ancestors, to_str_path, file_name_to_str, as_str_pat,
      Rs.is_empty_eq, Rs.matches, any_eq_find?_isSome]
  · -- plain name pattern: the base name
    unfold matchesBase
    cases fileName path <;> rfl
  · -- plain path pattern: the full path
    rfl
  · -- `name/`
    by_cases hw : (pat.text == ['*']) = true
    · -- `*/`: directories only, never their contents
      rw [if_pos hw, if_pos hw]
      cases is_dir
      · rfl
      · simp only [Bool.not_true, Bool.false_eq_true, if_false]
        unfold matchesBase
        cases fileName path <;> rfl
    · -- `build/`: the directory itself, or any ancestor's base name
      rw [if_neg hw, if_neg hw]
      rw [loop2]
      case hf =>
        intro a s
        unfold matchesBase
        cases fileName a <;> rfl
      generalize List.find? _ (ancestorsSkip1 path) = o
      unfold matchesBase
      -- with no base name only an ancestor can match; otherwise the entry's own name counts if it is a directory
      cases fileName path with
      | none => cases o <;> cases is_dir <;> rfl
      | some b =>
        dsimp only
        cases o <;> cases is_dir <;> cases globMatch pat.toks b <;> rfl
  · -- `a/b/`: the full path of the entry (if a directory), then of each non-empty ancestor
    simp only [loop1 _ (fun _ _ => rfl)]
    generalize List.find? _ (ancestorsSkip1 path) = o
    cases o <;> cases is_dir <;> cases globMatch pat.toks (pathStr path) <;> rfl

theorem should_include_eq_model (e : FilterEngine) (path : RelPath) (is_dir : Bool) :
    e.should_include path is_dir = shouldInclude (absEngine e) path is_dir := by
  unfold FilterEngine.should_include shouldInclude absEngine
  have loop := @forIn_early_return_bind _ Bool Bool e.rules (fun r => r.matches path is_dir)
    (fun r => r.action == FilterAction.Include)
  cases hr : e.rules with
  | nil => rfl
  | cons a t =>
    rw [← hr, shouldIncludeLoop_eq_find? path is_dir e.rules (fun r => matches_eq_model r path is_dir)]
    simp only [Rs.is_empty_eq, hr, List.isEmpty_cons, List.map_cons, Bool.false_eq_true, if_false, Id.run]
    rw [← hr, loop _ (fun _ _ => rfl)]
    generalize List.find? _ e.rules = o
    cases o <;> rfl

theorem should_exclude_eq_model (e : FilterEngine) (path : RelPath) (is_dir : Bool) :
    e.should_exclude path is_dir = !shouldInclude (absEngine e) path is_dir := by
  unfold FilterEngine.should_exclude
  rw [should_include_eq_model]

/-! ### the scan filter of `SyncEngine::sync` (src/sync/mod.rs): size bounds, the `.filter(|file| …)` closure

  Abstraction map: `SyncEngine` (the view of the fields the filter reads) ↦ `FilterCfg` (`absCfg`: rules through
  `absEngine`, `min_size ↦ minSize`, `max_size ↦ maxSize`); `FileEntry` (view) ↦ `Entry` (`absEntry`:
  `relative_path ↦ rel`, `is_dir ↦ isDir`, `size`).  The closure's captured `excluded_dirs` is the model's
  `ScanState.excludedDirs`; the model's `kept` is what `.filter(..).collect()` has collected so far. -/

def absCfg (e : SyncEngine) : FilterCfg :=
  { rules := absEngine e.filter_engine, minSize := e.min_size, maxSize := e.max_size }

def absEntry (f : FileEntry) : Entry := { rel := f.relative_path, isDir := f.is_dir, size := f.size }

/-- BRIDGE (a): `should_filter_by_size`, all bounds (present or absent, ordered or not), all sizes. -/
theorem should_filter_by_size_eq_model (e : SyncEngine) (size : Nat) :
    e.should_filter_by_size size = filterBySize (absCfg e) size :=
  Rs.size_filter_do e.min_size e.max_size size

theorem engine_should_exclude_eq_model (e : SyncEngine) (path : RelPath) (is_dir : Bool) :
    e.should_exclude path is_dir = !shouldInclude (absCfg e).rules path is_dir := by
  unfold SyncEngine.should_exclude
  rw [should_exclude_eq_model]; rfl

/-- BRIDGE (b): one call of the closure is one `scanStep`: the new `excluded_dirs` are the model's, and the entry is
    appended to `kept` exactly when the closure answers `true`.  All engines, all `excluded_dirs`, all entries,
    any `kept`. -/
theorem scan_filter_step_eq_model (e : SyncEngine) (dirs : List RelPath) (kept : List Entry) (f : FileEntry) :
    scanStep (absCfg e) ⟨dirs, kept⟩ (absEntry f) =
      ⟨(scan_filter_step e dirs f).2,
       if (scan_filter_step e dirs f).1 = true then kept ++ [absEntry f] else kept⟩ := by
  unfold scan_filter_step scanStep
  simp only [Id.run]
  rw [forIn_early_return_bind dirs (fun d => Rs.starts_with f.relative_path d) (fun _ => (false, dirs)) _
    (fun _ _ => rfl)]
  rw [engine_should_exclude_eq_model, should_filter_by_size_eq_model, any_eq_find?_isSome]
  have hsw : (fun d => startsWith (absEntry f).rel d) = (fun d => Rs.starts_with f.relative_path d) := rfl
  rw [hsw]
  generalize List.find? (fun d => Rs.starts_with f.relative_path d) dirs = o
  have h1 : (absEntry f).rel = f.relative_path := rfl
  have h2 : (absEntry f).isDir = f.is_dir := rfl
  have h3 : (absEntry f).size = f.size := rfl
  rw [h1, h2, h3]
  -- the closure's decision tree, exit by exit
  cases o with
  | some d => rfl
  | none =>
  cases shouldInclude (absCfg e).rules f.relative_path f.is_dir with
  | false => cases f.is_dir <;> rfl
  | true =>
  cases f.is_dir with
  | true => rfl
  | false => cases filterBySize (absCfg e) f.size <;> rfl

/-- `all_files.into_iter().filter(closure).collect()`: the closure threaded over the scan (its captured
    `excluded_dirs` passed along), keeping the entries it answers `true` for. -/
def scanFold (e : SyncEngine) : List RelPath → List FileEntry → List FileEntry
  | _, [] => []
  | dirs, f :: t =>
    let r := scan_filter_step e dirs f
    if r.1 = true then f :: scanFold e r.2 t else scanFold e r.2 t

theorem scanFold_eq_foldl (e : SyncEngine) (scan : List FileEntry) (dirs : List RelPath) (kept : List Entry) :
    ((scan.map absEntry).foldl (scanStep (absCfg e)) ⟨dirs, kept⟩).kept =
      kept ++ (scanFold e dirs scan).map absEntry := by
  induction scan generalizing dirs kept with
  | nil => simp [scanFold]
  | cons f t ih =>
    rw [List.map_cons, List.foldl_cons, scan_filter_step_eq_model, ih]
    have hstep : scanFold e dirs (f :: t) =
        if (scan_filter_step e dirs f).1 = true then f :: scanFold e (scan_filter_step e dirs f).2 t
        else scanFold e (scan_filter_step e dirs f).2 t := rfl
    rw [hstep]
    cases h : (scan_filter_step e dirs f).1 <;> simp

/-- BRIDGE (c): the whole filter of `SyncEngine::sync` is the model's `scanFilter`, for every engine and scan. -/
theorem scan_filter_eq_model (e : SyncEngine) (scan : List FileEntry) :
    (scanFold e [] scan).map absEntry = scanFilter (absCfg e) (scan.map absEntry) := by
  unfold scanFilter
  have := scanFold_eq_foldl e scan [] []
  simpa using this.symm

end SyModel.Props.GenFilter
