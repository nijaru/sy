/-
  GenVerify — the TRANSLATED `SyncEngine::verify` (the body of `sy --verify-only`) and
  `SyncEngine::should_filter_by_size` (src/sync/mod.rs, regenerated into `SyModel/Generated/Code/Verify.lean` on every
  run, in the effect monad `Rs.M W = ExceptT Rs.Err (StateM W)` over the externs `Ext W`) compute the handwritten model
  `Engine.verify` / `VCfg.sizeFiltered` (Engine/Verify.lean) that the C15 theorems are about.

  World, instance and abstraction are those of Lemmas/GenVerify.  `pathOf` is injective on ALL texts (`pathOf_injective`), so
  the bridge needs no hypothesis "the path lies under the root"; everything is proved for all engines, roots and worlds.
-/
import SyModel.Lemmas.GenVerify
import SyModel.Props.C15
namespace SyModel.Props.GenVerify
open SyModel SyModel.Engine SyModel.Generated SyModel.Generated.Verify SyModel.GenVerify
open SyModel.Generated.Rs (run_bind_eq run_bind_error run_forIn_yield Pres Pres.bind)

/-! ### `should_filter_by_size` -/

theorem should_filter_by_size_eq_model (e : SyncEngine) (n : Nat) :
    e.should_filter_by_size n = (cfgOf e).sizeFiltered n :=
  Rs.size_filter_do e.min_size e.max_size n

/-! ### the checksum type -/

/-- the verifier `verify` builds: `--checksum`, or verification mode `fast` (= `ChecksumType::None`, no checksum at
    all), select xxh3; otherwise the configured real checksum.  Never `None`. -/
theorem checksum_type_ne_none (e : SyncEngine) :
    (IntegrityVerifier.mk (if (e.checksum || e.verification_mode == ChecksumType.None) = true then ChecksumType.Fast
      else e.verification_mode) false).checksum_type ≠ ChecksumType.None := by
  show (if _ then _ else _) ≠ _
  split
  · exact fun h => nomatch h
  · rename_i h; simp at h; exact h.2

/-- **The verifier passed to `compare_checksums` never has `checksum_type = None`**, stated extensionally for ANY
    externs: two `Ext`s that differ only in what `compare_checksums` does with a `None` verifier give the same `verify`
    (as computations: same result, same effects).  In particular the degenerate comparison "`Checksum::None ==
    Checksum::None`", which would report every pair of files as matching, is unreachable. -/
theorem verify_never_uses_none {W : Type} (ext ext' : Ext W)
    (hnow : ext'.std_time_Instant_now = ext.std_time_Instant_now)
    (hscan : ext'.transport_scan = ext.transport_scan)
    (helapsed : ext'.instant_elapsed = ext.instant_elapsed)
    (hcmp : ∀ e a b v, v.checksum_type ≠ ChecksumType.None →
      ext'.compare_checksums e a b v = ext.compare_checksums e a b v)
    (e : SyncEngine) (s d : Rs.Path) :
    SyncEngine.verify ext' e s d = SyncEngine.verify ext e s d := by
  have key : ∀ a b, ext'.compare_checksums e a b
        ⟨if (e.checksum || e.verification_mode == ChecksumType.None) = true then ChecksumType.Fast
          else e.verification_mode, false⟩ = ext.compare_checksums e a b
        ⟨if (e.checksum || e.verification_mode == ChecksumType.None) = true then ChecksumType.Fast
          else e.verification_mode, false⟩ :=
    fun a b => hcmp _ _ _ _ (checksum_type_ne_none e)
  unfold SyncEngine.verify
  simp only [hnow, hscan, helapsed, key]

/-- the instance with the `None` shortcut removed (every comparison reads both files) -/
def instReal : Ext World := { inst with compare_checksums := fun _ a b _ => reads (fun w => cmpReal w a b) }

/-- on the instance: the `Ok(true)`-without-reading answer of a `None` verifier is never used -/
theorem verify_inst_eq_instReal (e : SyncEngine) (s d : Rs.Path) :
    SyncEngine.verify inst e s d = SyncEngine.verify instReal e s d :=
  verify_never_uses_none instReal inst rfl rfl rfl
    (fun _ a b v hv => by
      show reads (fun w => cmpContents w a b v) = reads (fun w => cmpReal w a b)
      congr 1; funext w; exact cmpContents_real w a b v hv) e s d

/-! ### the run of the translated `verify` on the instance -/

/-- The whole run, for every engine, pair of roots and world: a root that cannot be scanned aborts it with that error
    (`?`), the source first; otherwise it returns `resultG` (Lemmas/GenVerify: the lists are the source scan
    filtered by the MODEL's `classify` verdict, in scan order).  The world is left as it was.  The run is followed
    call by call with the big-step rules `Rs.run_bind_eq`/`Rs.run_bind_error`; the three loops are folded by
    `Rs.run_forIn_yield`, whose bodies are never written down here (they are found by unification), only what one
    iteration does (`mapStep`, `accStep`, the push). -/
theorem verify_run (e : SyncEngine) (s d : Rs.Path) (w : World) :
    exec (SyncEngine.verify inst e s d) w =
      (w.scan s >>= fun S => w.scan d >>= fun D => pure (resultG e w s d S D), w) := by
  unfold SyncEngine.verify
  refine run_bind_eq (exec_pure _ w) ((congrFun (jp_eq _ _) w).trans ?_)
  cases hs : w.scan s with
  | error x => exact run_bind_error (congrArg (·, w) hs)
  | ok S =>
  refine run_bind_eq (congrArg (·, w) hs) ?_
  cases hd : w.scan d with
  | error x => exact run_bind_error (congrArg (·, w) hd)
  | ok D =>
  refine run_bind_eq (congrArg (·, w) hd) ((congrFun (jp_eq _ _) w).trans ?_)
  -- first loop: `dest_map`
  refine run_bind_eq (run_forIn_yield D _ (mapStep d) w (fun x _ r => ?_) _) ?_
  · unfold mapStep relOf
    split <;> rfl
  -- second loop: one source entry
  refine run_bind_eq (run_forIn_yield S _ (fun f => accStep (relOf s f) (verdictOf e w s d D f)) w
    (fun x _ r => ?_) _) ?_
  · have hrel : Rs.unwrap_or (Rs.strip_prefix x.path s) x.path = relOf s x := rfl
    simp only [hrel, get_dest_map, verdictOf, classify, absEntry, ← should_filter_by_size_eq_model,
      destFile_absScan]
    cases hdir : x.is_dir with
    | true => rfl
    | false =>
    cases hf : e.should_filter_by_size x.size with
    | true => rfl
    | false =>
    cases hdf : destFileG d D (relOf s x) with
    | none => rfl
    | some g =>
      have hc : exec (Rs.capture (inst.compare_checksums e x.path g.path ⟨_, false⟩)) w =
          (.ok (cmpReal w x.path g.path), w) :=
        congrArg (fun c => (Except.ok c, w)) (cmpContents_real w _ _ _ (checksum_type_ne_none e))
      simp only [Option.map_some, absEntry]
      refine run_bind_eq hc ?_
      unfold cmpReal
      cases w.content x.path with
      | none => cases w.content g.path <;> rfl
      | some a =>
        cases w.content g.path with
        | none => rfl
        | some b =>
          by_cases hab : a = b
          · simp [hab, accStep, Rs.run_pure]
          · simp [hab, beq_false_of_ne hab, accStep, Rs.run_pure]
  -- third loop: one destination entry
  refine run_bind_eq (run_forIn_yield D _ (fun g acc =>
      if (!g.is_dir && !((S.filter (!·.is_dir)).map (relOf s)).contains (relOf d g)) = true
      then acc ++ [relOf d g] else acc) w (fun x _ r => ?_) _) ?_
  · have hrel : Rs.unwrap_or (Rs.strip_prefix x.path d) x.path = relOf d x := rfl
    cases hdir : x.is_dir with
    | true => rfl
    | false =>
      have hrel2 : (fun f : FileEntry => Rs.unwrap_or (Rs.strip_prefix f.path s) f.path) = relOf s := rfl
      simp only [hrel, hrel2, Rs.contains, Rs.collect, Rs.map, Rs.filter, Bool.false_eq_true, ↓reduceIte,
        Bool.not_false, Bool.true_and]
      split <;> rfl
  refine run_bind_eq (a := w.elapsed) rfl ?_
  simp only [foldl_accStep, Rs.foldl_push_if, Nat.zero_add, List.nil_append]
  rfl

theorem verify_exec (e : SyncEngine) (s d : Rs.Path) (w : World) (S D : List FileEntry)
    (hs : w.scan s = .ok S) (hd : w.scan d = .ok D) :
    exec (SyncEngine.verify inst e s d) w = (.ok (resultG e w s d S D), w) := by
  rw [verify_run, hs, hd]
  rfl

/-- the returned record, read through the abstraction, IS the model's result: equal lists in equal order -/
theorem absResult_resultG (e : SyncEngine) (w : World) (s d : Rs.Path) (S D : List FileEntry) :
    absResult (resultG e w s d S D) = Engine.verify (cfgOf e) (absScan w s S) (absScan w d D) := by
  simp only [absResult, resultG, Engine.verify, absScan, verdictOf, List.map_map, List.filter_map, List.length_map,
    VResult.mk.injEq]
  refine ⟨rfl, rfl, rfl, ?_, rfl⟩
  rw [List.filter_filter]
  congr 1
  apply List.filter_congr
  intro g _
  simp only [Function.comp_apply, absEntry]
  rw [← contains_map_pathOf, List.map_map, Bool.and_comm]
  rfl

/-- **`verify_eq_model`.**  For every engine configuration, every pair of roots and every world in which both roots
    can be scanned, the translated `SyncEngine::verify` returns `Ok r` — it never fails: an unreadable file becomes
    an `errors` entry — and `r` abstracts to the model's result on the abstracted scans:
      `r.files_matched = matched`, `r.files_mismatched.map pathOf = mismatched`, … `r.errors.map (pathOf ·.path) =
      errors` — equal LISTS (the model's order is the scan order, and so is the code's: `Vec::push` in a loop over
      the scan);
    every error record has action `"verify"`; `duration` is the clock reading; the world is unchanged.

    No hypothesis on the scans is needed.  In particular code and model agree on
      * duplicate relative paths in the destination scan (`HashMap::insert` is last-wins = `destFile`'s `getLast?`);
      * a directory in the destination at a source file's path (not a counterpart: only-in-source; the map holds
        files only);  a source directory at a destination file's path (only-in-destination);
      * the size filter (applied to the SOURCE entry's size, in the second loop only: a filtered source file is not
        reported at all and its destination twin is not "only in destination");
      * paths outside their root (`strip_prefix` fails, `unwrap_or` keeps the absolute path — both sides alike). -/
theorem verify_eq_model (e : SyncEngine) (s d : Rs.Path) (w : World) (S D : List FileEntry)
    (hs : w.scan s = .ok S) (hd : w.scan d = .ok D) :
    ∃ r, exec (SyncEngine.verify inst e s d) w = (.ok r, w) ∧
      absResult r = Engine.verify (cfgOf e) (absScan w s S) (absScan w d D) ∧
      (∀ x ∈ r.errors, x.action = "verify".toList) ∧ r.duration = w.elapsed :=
  ⟨resultG e w s d S D, verify_exec e s d w S D hs hd, absResult_resultG e w s d S D,
    fun x hx => by
      simp only [resultG, List.mem_map] at hx
      obtain ⟨f, _, rfl⟩ := hx
      rfl,
    rfl⟩

theorem verify_eq_model_fields (e : SyncEngine) (s d : Rs.Path) (w : World) (S D : List FileEntry)
    (hs : w.scan s = .ok S) (hd : w.scan d = .ok D) :
    ∃ r, exec (SyncEngine.verify inst e s d) w = (.ok r, w) ∧
      r.files_matched = (Engine.verify (cfgOf e) (absScan w s S) (absScan w d D)).matched ∧
      r.files_mismatched.map pathOf = (Engine.verify (cfgOf e) (absScan w s S) (absScan w d D)).mismatched ∧
      r.files_only_in_source.map pathOf = (Engine.verify (cfgOf e) (absScan w s S) (absScan w d D)).onlySrc ∧
      r.files_only_in_dest.map pathOf = (Engine.verify (cfgOf e) (absScan w s S) (absScan w d D)).onlyDst ∧
      r.errors.map (fun x => pathOf x.path) = (Engine.verify (cfgOf e) (absScan w s S) (absScan w d D)).errors := by
  obtain ⟨r, hr, habs, _⟩ := verify_eq_model e s d w S D hs hd
  refine ⟨r, hr, ?_⟩
  rw [← habs]
  exact ⟨rfl, rfl, rfl, rfl, rfl⟩

/-- a root that cannot be scanned aborts the run with that error (`?`), before anything else happens -/
theorem verify_scan_error_source (e : SyncEngine) (s d : Rs.Path) (w : World) (x : Rs.Err)
    (hs : w.scan s = .error x) : exec (SyncEngine.verify inst e s d) w = (.error x, w) := by
  rw [verify_run, hs]
  rfl

theorem verify_scan_error_dest (e : SyncEngine) (s d : Rs.Path) (w : World) (S : List FileEntry) (x : Rs.Err)
    (hs : w.scan s = .ok S) (hd : w.scan d = .error x) :
    exec (SyncEngine.verify inst e s d) w = (.error x, w) := by
  rw [verify_run, hs, hd]
  rfl

/-- `transport`, `perf_monitor`, `checksum`, `verification_mode`, `quiet` do not influence the run: only the two
    size bounds do -/
theorem verify_depends_on_bounds_only (e e' : SyncEngine) (h : cfgOf e = cfgOf e') (s d : Rs.Path) (w : World) :
    exec (SyncEngine.verify inst e s d) w = exec (SyncEngine.verify inst e' s d) w := by
  rw [verify_run, verify_run]
  simp only [resultG, verdictOf, h]

/-! ### read-only -/

/-- **For ANY externs whose four operations leave the world alone, `verify` leaves the world alone** — whatever it
    returns, also when a scan fails.  Structural: `bind`, `if`, `match`, `capture` and (by induction over the list)
    `for` loops preserve `Rs.Pres` (= `ReadOnly.same`); the translated body contains nothing else, and the proof follows its
    shape. -/
theorem verify_read_only_of_ext {W : Type} (ext : Ext W) (h : ExtReadOnly ext) (e : SyncEngine) (s d : Rs.Path) :
    ReadOnly (SyncEngine.verify ext e s d) := by
  constructor
  unfold SyncEngine.verify
  refine Pres.bind (h.now _).same fun _ => pres_jp ?_
  refine .bind (h.scan _ _).same fun S => .bind (h.scan _ _).same fun D => pres_jp ?_
  refine .bind (.forIn _ _ fun f m => .ite (.pure _) (.pure _)) fun m => ?_
  refine .bind (.forIn _ _ fun f acc => ?_) fun acc =>
    .bind (.forIn _ _ fun g acc => .ite (.pure _) (.ite (.pure _) (.pure _))) fun _ =>
    .bind (h.elapsed _).same fun _ => .pure _
  -- the body of the second loop, the only one that calls an operation
  refine .ite (.pure _) (.ite (.pure _) ?_)
  dsimp only
  split
  · refine .bind (.capture (h.cmp ..).same) fun r => ?_
    split
    · exact .ite (.pure _) (.pure _)
    · exact .pure _
    · exact .pure _
  · exact .pure _

/-- **C15, "never modifies either tree"**: the world after `verify` equals the world before, for every engine, pair
    of roots and world -/
theorem verify_read_only (e : SyncEngine) (s d : Rs.Path) (w : World) :
    (exec (SyncEngine.verify inst e s d) w).2 = w :=
  (verify_read_only_of_ext inst inst_readOnly e s d).same w

/-! ### C15 about the translated function -/

/-- unique relative paths in a scan (generated side) give the model's `UniqueRels` -/
theorem uniqueRels_absScan (w : World) (root : Rs.Path) (l : List FileEntry) (h : (l.map (relOf root)).Nodup) :
    UniqueRels (absScan w root l) := by
  unfold UniqueRels absScan
  rw [List.map_map]
  unfold List.Nodup at *
  rw [List.pairwise_map] at *
  exact h.imp fun hne hp => hne (pathOf_injective hp)

/-- **`sy --verify-only` (the translated `verify`, no size bounds, relative paths of the destination scan unique, all
    files readable) yields exit status 0 iff source and destination hold the same files with identical contents.**
    `exitCode` is src/main.rs:405-414 (`errors` non-empty → 2; any of the three lists non-empty → 1; else 0), which
    reads the result only through `is_empty`, i.e. through `absResult`. -/
theorem verify_exit_zero_iff (e : SyncEngine) (s d : Rs.Path) (w : World) (S D : List FileEntry)
    (hs : w.scan s = .ok S) (hd : w.scan d = .ok D)
    (hnb : e.min_size = none ∧ e.max_size = none)
    (huniq : (D.map (relOf d)).Nodup)
    (hread : ∀ f ∈ S ++ D, f.is_dir = false → w.content f.path ≠ none) :
    ∃ r, exec (SyncEngine.verify inst e s d) w = (.ok r, w) ∧
      (exitCode (absResult r) = 0 ↔
        (∀ f ∈ S, f.is_dir = false →
          ∃ g ∈ D, relOf d g = relOf s f ∧ g.is_dir = false ∧ w.content g.path = w.content f.path) ∧
        (∀ g ∈ D, g.is_dir = false → ∃ f ∈ S, relOf s f = relOf d g ∧ f.is_dir = false)) := by
  obtain ⟨r, hr, habs, _⟩ := verify_eq_model e s d w S D hs hd
  refine ⟨r, hr, ?_⟩
  have hcfg : cfgOf e = noBounds := by unfold cfgOf noBounds; rw [hnb.1, hnb.2]
  have hread' : ∀ v ∈ absScan w s S ++ absScan w d D, v.isDir = false → v.content ≠ none := by
    intro v hv hvd
    rcases List.mem_append.mp hv with h | h <;> obtain ⟨f, hf, rfl⟩ := List.mem_map.mp h
    · exact hread f (List.mem_append_left _ hf) hvd
    · exact hread f (List.mem_append_right _ hf) hvd
  rw [habs, hcfg, C15.verify_exit_zero_iff _ _ (uniqueRels_absScan w d D huniq) hread']
  -- both clauses read through `absEntry`; `pathOf` is injective
  unfold absScan
  simp only [List.forall_mem_map, exists_mem_map]
  simp only [absEntry, pathOf_inj_iff]

/-- the same with the hypothesis a real scan satisfies: every destination path lies under the destination root and is
    listed once (then the relative paths are unique: `nodup_relOf_of_underRoot`) -/
theorem verify_exit_zero_iff_of_underRoot (e : SyncEngine) (s d : Rs.Path) (w : World) (S D : List FileEntry)
    (hs : w.scan s = .ok S) (hd : w.scan d = .ok D)
    (hnb : e.min_size = none ∧ e.max_size = none)
    (hunder : ∀ g ∈ D, UnderRoot d g.path) (honce : (D.map (·.path)).Nodup)
    (hread : ∀ f ∈ S ++ D, f.is_dir = false → w.content f.path ≠ none) :
    ∃ r, exec (SyncEngine.verify inst e s d) w = (.ok r, w) ∧
      (exitCode (absResult r) = 0 ↔
        (∀ f ∈ S, f.is_dir = false →
          ∃ g ∈ D, relOf d g = relOf s f ∧ g.is_dir = false ∧ w.content g.path = w.content f.path) ∧
        (∀ g ∈ D, g.is_dir = false → ∃ f ∈ S, relOf s f = relOf d g ∧ f.is_dir = false)) :=
  verify_exit_zero_iff e s d w S D hs hd hnb (nodup_relOf_of_underRoot d D hunder honce) hread

/-! ### non-vacuity: a concrete world, and the translated code RUN on it

  source `/s`: file `a` (content 1), directory `x`, file `x/b` (content 2);
  destination `/d`: file `a` (content 9), FILE `x` (content 4), file `z` (content 5), file `u` (unreadable) — and the
  source has an unreadable `u` too.  This is C15's `exSrc`/`exDst` plus the unreadable pair.  The hypotheses of the
  theorems above are shown one by one; readability (`hread`) holds only once the unreadable pair is dropped. -/

def mkEntry (p : String) (dir : Bool) (size : Nat) : FileEntry :=
  { (default : FileEntry) with path := p.toList, is_dir := dir, size := size }

def exS : List FileEntry := [mkEntry "/s/a" false 3, mkEntry "/s/x" true 0, mkEntry "/s/x/b" false 5, mkEntry "/s/u" false 1]
def exD : List FileEntry := [mkEntry "/d/a" false 3, mkEntry "/d/x" false 1, mkEntry "/d/z" false 1, mkEntry "/d/u" false 1]

def exWorld : World where
  scan r := if r = "/s".toList then .ok exS else if r = "/d".toList then .ok exD else .error .io
  content p :=
    if p = "/s/a".toList then some 1 else if p = "/s/x/b".toList then some 2
    else if p = "/d/a".toList then some 9 else if p = "/d/x".toList then some 4
    else if p = "/d/z".toList then some 5 else none
  elapsed := 7

def exEngine : SyncEngine :=
  { transport := {}, perf_monitor := none, checksum := false, verification_mode := .None, quiet := false,
    min_size := none, max_size := none }

/-- the translated `verify`, executed by the kernel (verification mode `fast` = `ChecksumType::None`: still compares) -/
theorem ex_run : (exec (SyncEngine.verify inst exEngine "/s".toList "/d".toList) exWorld).1 =
    .ok { files_matched := 0, files_mismatched := ["a".toList], files_only_in_source := ["x/b".toList],
          files_only_in_dest := ["x".toList, "z".toList], errors := [verifyError "u".toList], duration := 7 } := by
  rfl

example : (exec (SyncEngine.verify inst exEngine "/s".toList "/d".toList) exWorld).1 =
    .ok { files_matched := 0, files_mismatched := ["a".toList], files_only_in_source := ["x/b".toList],
          files_only_in_dest := ["x".toList, "z".toList], errors := [verifyError "u".toList], duration := 7 } :=
  ex_run

example : exWorld.scan "/s".toList = .ok exS ∧ exWorld.scan "/d".toList = .ok exD := ⟨rfl, rfl⟩
example : exEngine.min_size = none ∧ exEngine.max_size = none := ⟨rfl, rfl⟩
theorem exD_underRoot : ∀ g ∈ exD, UnderRoot "/d".toList g.path := by
  intro g hg
  simp only [exD, List.mem_cons, List.not_mem_nil, or_false] at hg
  rcases hg with rfl | rfl | rfl | rfl
  · exact .inr ⟨"a".toList, by decide, by decide⟩
  · exact .inr ⟨"x".toList, by decide, by decide⟩
  · exact .inr ⟨"z".toList, by decide, by decide⟩
  · exact .inr ⟨"u".toList, by decide, by decide⟩
theorem exD_once : (exD.map (·.path)).Nodup := by decide

example : ∀ g ∈ exD, UnderRoot "/d".toList g.path := exD_underRoot
example : (exD.map (·.path)).Nodup := exD_once
example : (exD.map (relOf "/d".toList)).Nodup := nodup_relOf_of_underRoot _ _ exD_underRoot exD_once
/-- readability (hypothesis `hread` of `verify_exit_zero_iff`) holds for the world without the unreadable pair -/
example : ∀ f ∈ exS.dropLast ++ exD.dropLast, f.is_dir = false → exWorld.content f.path ≠ none := by decide
/-- the model on the abstraction of the same world: by `absResult_resultG` it is the abstraction of what the run above
    returned -/
example : Engine.verify (cfgOf exEngine) (absScan exWorld "/s".toList exS) (absScan exWorld "/d".toList exD) =
    { matched := 0, mismatched := [["a"]], onlySrc := [["x", "b"]], onlyDst := [["x"], ["z"]], errors := [["u"]] } := by
  have h := congrArg Prod.fst (verify_exec exEngine "/s".toList "/d".toList exWorld exS exD rfl rfl) ▸ ex_run
  rw [← absResult_resultG, Except.ok.inj h]
  decide
/-- the instance is a read-only `Ext` (hypothesis of `verify_read_only_of_ext`) -/
example : ExtReadOnly inst := inst_readOnly

end SyModel.Props.GenVerify
