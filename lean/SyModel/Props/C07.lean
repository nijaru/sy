/-
  C07 — Mass-deletion guard: a run never deletes more than the configured share.
  Property theorems only.
-/
import SyModel.Lemmas.EngineRun
import SyModel.Generated.Consts
namespace SyModel.Props.C07
open SyModel SyModel.Engine

/-- the default `--delete-threshold` extracted from src/cli.rs is a percentage below 100, so an
    all-entries deletion always exceeds it -/
theorem consts_ok_default_threshold : Generated.DELETE_THRESHOLD_DEFAULT < 100 := by decide

/-- Strictly above the threshold the guard refuses, whatever the floating-point tie bit. -/
theorem guard_refuses (cfg : Cfg) (dels cnt : Nat) (hd : cfg.delete = true) (hf : cfg.force = false)
    (hc : 0 < cnt) (hx : dels * 100 > cfg.threshold * cnt) : guardRefuses cfg dels cnt = true := by
  have hpos : 0 < dels := by
    rcases Nat.eq_zero_or_pos dels with h | h
    · subst h; simp at hx
    · exact h
  simp [guardRefuses, hd, hf, hc, hx, hpos]

/-- The guard only ever refuses at or above the threshold (and never with --force-delete or
    without --delete). -/
theorem guard_only_at_or_above (cfg : Cfg) (dels cnt : Nat) (h : guardRefuses cfg dels cnt = true) :
    cfg.delete = true ∧ cfg.force = false ∧ dels * 100 ≥ cfg.threshold * cnt := by
  simp only [guardRefuses, Bool.and_eq_true, Bool.or_eq_true, decide_eq_true_eq, Bool.not_eq_true'] at h
  obtain ⟨⟨⟨⟨h1, h2⟩, _⟩, _⟩, h5⟩ := h
  refine ⟨h1, h2, ?_⟩
  rcases h5 with h | ⟨h, _⟩ <;> omega

/-- A refused run changes nothing, performs no action and exits non-zero. -/
theorem refuse_changes_nothing (cfg : Cfg) (flt : Faults) (scan : List SEntry) (dst : Map DNode) (n : Nat)
    (h : (runF cfg flt scan dst n).refused = true) :
    (runF cfg flt scan dst n).dst = dst ∧ (runF cfg flt scan dst n).events = [] ∧
    (runF cfg flt scan dst n).created = 0 ∧ (runF cfg flt scan dst n).updated = 0 ∧
    (runF cfg flt scan dst n).deleted = 0 ∧ (runF cfg flt scan dst n).exit ≠ 0 := by
  rw [runF_of_refused h]
  simp

/-- Whenever the planned deletions exceed the configured share of the destination's entries (sy's
    own metadata files are not entries: they are neither counted nor ever deleted), the run is
    refused — before any task has run. -/
theorem exceeding_share_refused (cfg : Cfg) (flt : Faults) (scan : List SEntry) (dst : Map DNode) (n : Nat)
    (hd : cfg.delete = true) (hf : cfg.force = false) (hc : 0 < destCount dst)
    (hx : ((plan cfg scan dst).filter (·.act == .delete)).length * 100 > cfg.threshold * destCount dst) :
    (runF cfg flt scan dst n).refused = true ∧ (runF cfg flt scan dst n).dst = dst := by
  rcases runF_cases cfg flt scan dst n with ⟨_, he⟩ | ⟨hg, _⟩
  · rw [he]; exact ⟨rfl, rfl⟩
  · rw [guard_refuses cfg _ _ hd hf hc hx] at hg; cases hg

/-- with an empty source every destination entry that is not sy's own metadata is planned for
    deletion -/
theorem empty_source_deletes_all (cfg : Cfg) (dst : Map DNode) (hd : cfg.delete = true) :
    ((plan cfg [] dst).filter (·.act == .delete)).length = destCount dst := by
  rw [plan_filter_delete, if_pos hd]
  simp [planDeletions, scanFilter, scanFilterGo, destCount]

/-- An empty (unmounted, mistaken) source cannot wipe a destination: every destination entry
    would be deleted, which exceeds any threshold below 100 % — whatever metadata files of sy's own
    earlier runs left in the destination (they are not counted, so they cannot dilute the share). -/
theorem empty_source_cannot_wipe (cfg : Cfg) (flt : Faults) (dst : Map DNode) (n : Nat)
    (hd : cfg.delete = true) (hf : cfg.force = false) (hthr : cfg.threshold < 100)
    (hne : 0 < destCount dst) :
    (runF cfg flt [] dst n).refused = true ∧ (runF cfg flt [] dst n).dst = dst := by
  apply exceeding_share_refused cfg flt [] dst n hd hf hne
  rw [empty_source_deletes_all cfg dst hd]
  have : cfg.threshold * destCount dst < 100 * destCount dst := Nat.mul_lt_mul_of_pos_right hthr hne
  omega

def exCfg : Cfg where
  delete := true
  force := false
  dryRun := false
  xattrs := false
  hardlinks := false
  threshold := 50
  links := .preserve
  compare := .default
  minSize := none
  maxSize := none
  maxErrors := 100
  tie := false

/-- The count the guard would use if sy's own files were counted as entries (they are not: `destCount`): one
    user file next to a checksum database left by an earlier run is wiped by an empty source under the default threshold — 1 of 2 "entries" is not more than 50 %. -/
theorem counting_own_metadata_counterexample :
    guardRefuses exCfg 1 ([(["only.txt"], DNode.dir), ([".sy-checksums.db"], DNode.dir)] : Map DNode).length = false ∧
    guardRefuses exCfg 1 (destCount [(["only.txt"], DNode.dir), ([".sy-checksums.db"], DNode.dir)]) = true := by
  decide

example : guardRefuses exCfg 3 5 = true := guard_refuses exCfg 3 5 rfl rfl (by decide) (by decide)
example : guardRefuses exCfg 2 5 = false := by decide
example : (run exCfg [] [(["a"], .dir), (["b"], .dir)] 10).refused = true :=
  (empty_source_cannot_wipe exCfg noFaults _ 10 rfl rfl (by decide) (by decide)).1
example : (run exCfg [] [(["only.txt"], .dir), ([".sy-checksums.db"], .dir)] 10).refused = true :=
  (empty_source_cannot_wipe exCfg noFaults _ 10 rfl rfl (by decide) (by decide)).1

end SyModel.Props.C07
