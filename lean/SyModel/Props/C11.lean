/-
  C11 — Bidirectional sync converges and never silently loses a version.
  Property theorems, and one evaluated record of the example world (`wEx_report`) that the examples project; helper
  lemmas live in `SyModel/Lemmas/Bisync*.lean`.

  The theorems are about `Cfg.repaired` = /repo with `fix-bisync-state.diff` and
  `fix-bisync-content-equal.diff` applied. On the tree as shipped (`Cfg.pinned`) `converges` is FALSE; the witness
  is proved below (`converges_counterexample_equal_size_different_content`).

  `converges`, `sync_no_errors`, `sync_consistent` and `no_silent_loss` assume `Fresh w stamp`: the conflict names this
  stamp (the wall-clock second) would produce are pairwise distinct and name nothing known. It fails only when a
  conflict copy of the same second exists, and then a rename can overwrite a version (the `¬ Fresh` example below).
  They also assume that the deletion limit did not refuse the run; `refused_changes_nothing` says what a refused run
  does.
-/
import SyModel.Generated.Consts
import SyModel.Lemmas.BisyncWorld
namespace SyModel.Props.C11

/-- the repaired state handling and content comparison are what the current source contains
    (flags extracted from src/bisync/*.rs; the theorems below about `Cfg.repaired`
    speak about the code only while these hold) -/
theorem consts_ok_repaired : SyModel.Generated.BISYNC_STATE_RECORDS_BOTH_SIDES = true ∧
    SyModel.Generated.BISYNC_STATE_SKIPS_FAILED = true ∧
    SyModel.Generated.BISYNC_CONTENT_EQUAL_READS_BYTES = true := by decide

theorem consts_ok_strategies :
    SyModel.Generated.BISYNC_STRATEGIES = ["newer", "larger", "smaller", "source", "dest", "rename"] := by decide
open SyModel SyModel.Bisync

/-- **converges.** After a sync that is not refused by the deletion limit and reports no
    error, both roots hold the same files with identical contents unless the run produced
    conflict copies (rename actions) — and in every case after one further sync. The further
    sync is itself never refused and reports no error. For all worlds with a consistent prior
    state, all six strategies, all limits. -/
theorem converges (strat strat2 : Strategy) (md md2 stamp stamp2 : Nat) (w : World)
    (hc : Consistent w) (hf : Fresh w stamp)
    (hnr : (sync .repaired strat md stamp w).refused = false)
    (_hok : (sync .repaired strat md stamp w).errors = [])
    (hf2 : Fresh (sync .repaired strat md stamp w).world stamp2) :
    (noRenames (sync .repaired strat md stamp w) → treesEqual (sync .repaired strat md stamp w).world) ∧
    (sync .repaired strat2 md2 stamp2 (sync .repaired strat md stamp w).world).refused = false ∧
    (sync .repaired strat2 md2 stamp2 (sync .repaired strat md stamp w).world).errors = [] ∧
    treesEqual (sync .repaired strat2 md2 stamp2 (sync .repaired strat md stamp w).world).world := by
  have hps := sync_postSync strat md stamp w hc hf hnr
  obtain ⟨hs, _, hacts⟩ := sync_spec .repaired rfl strat md stamp w hf hnr
  refine ⟨?_, postSync_not_refused hps _ _ _, ?_, ?_⟩
  · intro hno q
    -- without renames no path is one-sided
    have hren : ∀ p ∈ w.allPaths, isRen (w.act .repaired strat stamp p) = false := by
      intro p hp
      cases ha : w.act .repaired strat stamp p with
      | none => rfl
      | some a =>
        have : a ∈ (sync .repaired strat md stamp w).actions := by
          rw [hacts, List.mem_filterMap]; exact ⟨p, hp, ha⟩
        simpa [isRen] using hno a this
    exact synced_contents (hs.synced hc hren q)
  · exact (sync_spec .repaired rfl strat2 md2 stamp2 _ hf2 (postSync_not_refused hps _ _ _)).2.1
  · intro q
    exact synced_contents (second_sync_synced hps strat2 md2 stamp2 hf2 q)

/-- the hypothesis "reports no error" of `converges` is never violated in the model: every
    action the resolver chooses can be executed on the scanned trees. -/
theorem sync_no_errors (strat : Strategy) (md stamp : Nat) (w : World) (hf : Fresh w stamp)
    (hnr : (sync .repaired strat md stamp w).refused = false) :
    (sync .repaired strat md stamp w).errors = [] :=
  (sync_spec .repaired rfl strat md stamp w hf hnr).2.1

/-- the state a sync leaves behind is again a consistent prior state. -/
theorem sync_consistent (strat : Strategy) (md stamp : Nat) (w : World) (hc : Consistent w)
    (hf : Fresh w stamp) (hnr : (sync .repaired strat md stamp w).refused = false) :
    Consistent (sync .repaired strat md stamp w).world :=
  (sync_postSync strat md stamp w hc hf hnr).consistent

/-- a refused sync (deletion limit) changes neither root nor the state. -/
theorem refused_changes_nothing (cfg : Cfg) (strat : Strategy) (md stamp : Nat) (w : World)
    (h : (sync cfg strat md stamp w).refused = true) :
    (sync cfg strat md stamp w).world.left = w.left ∧ (sync cfg strat md stamp w).world.right = w.right ∧
    (sync cfg strat md stamp w).world.db = w.db ∧ (sync cfg strat md stamp w).actions = [] := by
  rw [sync_of_refused h]
  exact ⟨rfl, rfl, rfl, rfl⟩

/-- **no_silent_loss.** Every file version present before the run still exists afterwards on
    at least one side (as the path's content or as a conflict copy), unless it was the
    previously synchronised version superseded by a one-sided change, or the loser explicitly
    chosen by the selected strategy on a path classified as a conflict. -/
theorem no_silent_loss (strat : Strategy) (md stamp : Nat) (w : World)
    (hp : Paired w) (hf : Fresh w stamp)
    (hnr : (sync .repaired strat md stamp w).refused = false) (v : Nat) (hv : hasVersion w v) :
    hasVersion (sync .repaired strat md stamp w).world v ∨ supersededBase w v ∨
      chosenLoser .repaired strat stamp w v := by
  obtain ⟨hs, _, _⟩ := sync_spec .repaired rfl strat md stamp w hf hnr
  obtain ⟨p, f, hpf, hcid⟩ := hv
  rcases hs.file_after (hp p) hpf with ⟨g, hg, hgc⟩ | h | ⟨rl, rr, h1, h2, h3⟩ | ⟨ct, h1, h2, h3⟩
  · exact .inl ⟨p, g, hg, hgc.trans hcid⟩
  · exact .inl (h.elim (fun h => ⟨_, f, .inl h, hcid⟩) fun h => ⟨_, f, .inr h, hcid⟩)
  · exact .inr (.inl ⟨p, f, rl, rr, Prod.ext h1 h2, hcid, h3⟩)
  · exact .inr (.inr ⟨p, ct, f, h1, h2, hcid, h3⟩)

/-! ### the pinned tree falsifies `converges` -/

def fPath : Path := ['g']

/-- observed run A9 of the table in DESIGN.md (`sy a b -b`): `g` = AAA on the left, BBB on the right, same size,
    no prior state. -/
def wA9 : World := ⟨[(fPath, ⟨1, 3, 1⟩)], [(fPath, ⟨2, 3, 2⟩)], [], 3⟩

/-- Signature `C11/equal-size-different-content`: on the code as shipped the sync of `wA9`
    reports no error, renames nothing, and leaves the two roots different. -/
theorem converges_counterexample_equal_size_different_content :
    Consistent wA9 ∧ Fresh wA9 100 ∧
    (sync .pinned .newer 0 100 wA9).refused = false ∧ (sync .pinned .newer 0 100 wA9).errors = [] ∧
    noRenames (sync .pinned .newer 0 100 wA9) ∧ (sync .pinned .newer 0 100 wA9).actions = [] ∧
    ¬ treesEqual (sync .pinned .newer 0 100 wA9).world := by
  refine ⟨?_, by decide, by decide, by decide, ?_, by decide, ?_⟩
  · refine ⟨?_, ?_⟩
    · intro p; simp [World.rows, wA9, aget]
    · intro p l r rl rr _ _ h; simp [World.rows, wA9, aget] at h
  · intro a ha; have : (sync .pinned .newer 0 100 wA9).actions = [] := by decide
    rw [this] at ha; cases ha
  · intro h
    have := h fPath
    revert this; decide

/-- … and with the content comparison alone repaired the same world converges (the create/create
    conflict is seen and resolved by `newer`). -/
example : treesEqual (sync ⟨true, false⟩ .newer 0 100 wA9).world := by
  intro p
  by_cases h : p = fPath
  · subst h; decide
  · -- only `g` exists: the run is evaluated, and at any other path both roots hold nothing
    have h' : ¬ fPath = p := fun e => h e.symm
    simp [sync, wA9, World.changes, classifyChanges, scan, Db.loadAll, allPathsOf, dedup, classifyOne,
      lookup, classifySingle, contentEqual, File.entry, deletionLimitExceeded, resolveChanges, resolveOne,
      resolveConflict, resolveByMtime, execActions, execOne, copyFile, aget, aset, aerase, fPath,
      ChangeType.isDeletion]
    simp [show ¬ ['g'] = p from h']

/-- a same-second third conflict can overwrite an older conflict copy: `Fresh` is a real
    hypothesis (the stamp is the wall-clock second). Here: it is decidable and fails. -/
example : ¬ Fresh ⟨[(['f'], ⟨1, 3, 1⟩), (conflictName ['f'] 7 .source, ⟨5, 3, 5⟩)], [(['f'], ⟨2, 3, 2⟩)], [], 9⟩ 7 := by
  decide

/-- the two conflict copies of one path never collide with each other (the part of `Fresh` that
    does not depend on what else exists). -/
theorem conflict_names_distinct (p : Path) (stamp : Nat) :
    conflictName p stamp .source ≠ conflictName p stamp .dest :=
  conflictName_side_ne p stamp

/-! ### non-vacuity -/

/-- a world with history: `f` in sync with truthful rows, then edited on both sides (equal size,
    different content, equal mtimes), plus a one-sided new file. -/
def wEx : World :=
  ⟨[(['f'], ⟨7, 3, 7⟩), (['n'], ⟨9, 4, 9⟩)], [(['f'], ⟨8, 3, 7⟩)],
   [((['f'], Side.source), ⟨1, 3⟩), ((['f'], Side.dest), ⟨2, 3⟩)], 10⟩

theorem wEx_consistent : Consistent wEx := by
  refine ⟨?_, ?_⟩
  · intro p
    by_cases h : p = ['f']
    · subst h; simp [World.rows, wEx, aget]
    · have h' : ¬ ['f'] = p := fun e => h e.symm
      simp [World.rows, wEx, aget, h']
  · intro p l r rl rr h1 h2 h3 m1 m2
    by_cases h : p = ['f']
    · subst h
      simp [World.rows, wEx, aget] at h1 h2 h3
      obtain ⟨rfl, rfl⟩ := h3
      subst h1
      simp [isModified, File.entry] at m1
    · have h' : ¬ ['f'] = p := fun e => h e.symm
      simp [World.rows, wEx, aget, h'] at h3

/-- the sync of `wEx` under `newer`, evaluated once (the conflict names are dear to compute: their text comes
    from `String` literals in `Side.str` and `conflictPrefix`) -/
theorem wEx_report : Fresh wEx 100 ∧ (sync .repaired .newer 0 100 wEx).refused = false ∧
    (sync .repaired .newer 0 100 wEx).errors = [] ∧ Fresh (sync .repaired .newer 0 100 wEx).world 101 := by decide

example : Fresh wEx 100 := wEx_report.1
example : (sync .repaired .newer 0 100 wEx).refused = false := wEx_report.2.1
example : (sync .repaired .newer 0 100 wEx).errors = [] := wEx_report.2.2.1
/-- equal mtimes: `newer` falls back to rename, so this run does produce conflict copies … -/
example : ¬ noRenames (sync .repaired .newer 0 100 wEx) := by
  intro h
  have := h (.renameConflict ['f'] ⟨3, 7, false, some 7⟩ ⟨3, 7, false, some 8⟩ 100) (by decide)
  revert this; decide
example : Fresh (sync .repaired .newer 0 100 wEx).world 101 := wEx_report.2.2.2
/-- … and under `source` it does not. -/
example : noRenames (sync .repaired .source 0 100 wEx) := by
  unfold noRenames; decide
example : hasVersion wEx 8 := ⟨['f'], ⟨8, 3, 7⟩, Or.inr (by decide), rfl⟩
/-- version 8 is the loser chosen by `source`. -/
example : chosenLoser .repaired .source 100 wEx 8 :=
  ⟨['f'], .modifiedBoth, ⟨8, 3, 7⟩, by decide, rfl, rfl, Or.inr ⟨by decide, by decide⟩⟩

end SyModel.Props.C11
