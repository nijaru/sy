/-
  Props.GenLocalFs — bridge theorems of the effect unit `LocalFs` (`Generated/Code/LocalFs.lean`, regenerated from
  src/transport/local.rs on every run): what `LocalTransport::{exists, metadata, create_dir_all, remove,
  create_hardlink, create_symlink}`, `break_unshared_hard_link` and `remove_if_symlink` do to a POSIX-level world
  (`Lemmas/GenLocalFs.lean`: `PWorld`, instance `posix` — trusted), for ALL worlds and paths, and the tie to the meanings
  the Transfer bridge ASSUMES of the transport (`Lemmas/GenTransfer.lean`, instance `extOf`).

  Every theorem is about the generated definitions run on `posix` (`runM (f posix …) w` = result and world after).
-/
import SyModel.Lemmas.GenLocalFs
namespace SyModel.Props.GenLocalFs
open SyModel SyModel.Generated SyModel.Generated.LocalFs SyModel.Lemmas.GenLocalFs
open SyModel.Lemmas.GenTransfer (runM runM_op runM_bind parent_destOf_eq)

/-- it never fails — in particular not when `lstat` fails (nothing there) -/
theorem remove_if_symlink_never_fails (w : PWorld) (p : Rs.Path) :
    (runM (remove_if_symlink posix p) w).1 = .ok () := by
  rw [remove_if_symlink_run]
  cases h : w.lstat p with
  | none => rfl
  | some n => cases n <;> rfl

/-- afterwards the path is not a symbolic link -/
theorem remove_if_symlink_not_symlink_after (w : PWorld) (p t : Rs.Path) :
    (runM (remove_if_symlink posix p) w).2.lstat p ≠ some (.symlink t) := by
  rw [remove_if_symlink_run]
  cases h : w.lstat p with
  | none => simp [h]
  | some n =>
    cases n with
    | symlink t' => simp [lstat_unlink_same]
    | dir => simp [h]
    | file i => simp [h]

/-- a link is removed as a NAME: only that name goes; its target, every other name and every inode (content and link
    counts) are exactly as before — nothing is written through the link -/
theorem remove_if_symlink_of_symlink (w : PWorld) (p t : Rs.Path) (h : w.lstat p = some (.symlink t)) :
    let w' := (runM (remove_if_symlink posix p) w).2
    w'.lstat p = none ∧ (∀ q, q ≠ p → w'.lstat q = w.lstat q) ∧ w'.inodes = w.inodes ∧ w'.dirNlink = w.dirNlink := by
  rw [remove_if_symlink_run, h]
  exact ⟨lstat_unlink_same _ _ _, fun q hq => lstat_unlink_ne _ _ _ _ hq, rfl, rfl⟩

/-- in particular what the link pointed to is untouched -/
theorem remove_if_symlink_target_untouched (w : PWorld) (p t : Rs.Path) (h : w.lstat p = some (.symlink t))
    (hne : linkDest p t ≠ p) :
    (runM (remove_if_symlink posix p) w).2.lstat (linkDest p t) = w.lstat (linkDest p t) :=
  (remove_if_symlink_of_symlink w p t h).2.1 _ hne

/-- anything that is not a link (a file, a directory, nothing) leaves the world as it was -/
theorem remove_if_symlink_unchanged (w : PWorld) (p : Rs.Path) (h : ∀ t, w.lstat p ≠ some (.symlink t)) :
    runM (remove_if_symlink posix p) w = (.ok (), w) := by
  rw [remove_if_symlink_run]
  cases hl : w.lstat p with
  | none => rfl
  | some n =>
    cases n with
    | symlink t => exact absurd hl (h t)
    | dir => rfl
    | file i => rfl

/-- the frame of `create_symlink`, success or failure: a name other than `dest` keeps what it held, or was absent and
    is now a directory on the parent chain of `dest` -/
theorem create_symlink_frame (self : LocalTransport) (w : PWorld) (t d q : Rs.Path) (hq : q ≠ d) :
    let w' := (runM (LocalTransport.create_symlink posix self t d) w).2
    w'.lstat q = w.lstat q ∨
      (w.lstat q = none ∧ w'.lstat q = some .dir ∧ ∃ par, Rs.parent d = some par ∧ q ∈ prefixes par) := by
  intro w'
  have hg := mkParent_grew w d
  suffices hs : w'.lstat q = (mkParent w d).1.lstat q by rw [hs]; exact hg.names q
  show (runM (LocalTransport.create_symlink posix self t d) w).2.lstat q = _
  rw [create_symlink_run]
  rcases mkParent w d with ⟨w1, b⟩
  cases b
  · exact placeLink_lstat_ne w1 t d q hq
  · rfl

/-- on success `dest` IS a symbolic link with exactly the given text — whatever non-directory was there before
    (nothing, a file, another link, a dangling link) -/
theorem create_symlink_ok_places (self : LocalTransport) (w : PWorld) (t d : Rs.Path)
    (hok : (runM (LocalTransport.create_symlink posix self t d) w).1 = .ok ()) :
    (runM (LocalTransport.create_symlink posix self t d) w).2.lstat d = some (.symlink t) := by
  rw [create_symlink_run] at hok ⊢
  revert hok
  rcases mkParent w d with ⟨w1, b⟩
  cases b
  · exact placeLink_ok
  · exact fun hok => by cases hok

/-- inodes: replacing a regular file gives back one link of ITS inode (the other names of that inode keep the
    content); in every other case the inode table is untouched.  A replaced link's target is never looked at. -/
theorem create_symlink_inodes (self : LocalTransport) (w : PWorld) (t d : Rs.Path) :
    ((runM (LocalTransport.create_symlink posix self t d) w).2.inodes = w.inodes ∨
      ∃ i, w.lstat d = some (.file i) ∧
        (runM (LocalTransport.create_symlink posix self t d) w).2.inodes = decLink w.inodes i) ∧
      (runM (LocalTransport.create_symlink posix self t d) w).2.dirNlink = w.dirNlink := by
  have hg := mkParent_grew w d
  rw [create_symlink_run]
  rcases hm : mkParent w d with ⟨w1, b⟩
  rw [hm] at hg
  have hgi : w1.inodes = w.inodes := hg.inodes
  have hgd : w1.dirNlink = w.dirNlink := hg.dirNlink
  cases b with
  | true => exact ⟨Or.inl hgi, hgd⟩
  | false =>
    obtain ⟨hi, hd⟩ := placeLink_inodes w1 t d
    refine ⟨?_, hd.trans hgd⟩
    rcases hi with hi | ⟨i, hl, hi⟩
    · exact .inl (hi.trans hgi)
    · exact .inr ⟨i, hg.was hl (by simp), by rw [hi, hgi]⟩

/-- a directory at `dest` makes it FAIL (`symlink` answers EEXIST); the directory and everything else stay — only
    absent parents may have been created -/
theorem create_symlink_dir_fails (self : LocalTransport) (w : PWorld) (t d : Rs.Path) (h : w.lstat d = some .dir) :
    (runM (LocalTransport.create_symlink posix self t d) w).1 = .error .io ∧
      (runM (LocalTransport.create_symlink posix self t d) w).2.lstat d = some .dir ∧
      (runM (LocalTransport.create_symlink posix self t d) w).2.inodes = w.inodes := by
  have hg := mkParent_grew w d
  rw [create_symlink_run]
  rcases hm : mkParent w d with ⟨w1, b⟩
  rw [hm] at hg
  have h1 : w1.lstat d = some .dir := hg.keeps h
  have hgi : w1.inodes = w.inodes := hg.inodes
  cases b with
  | true => exact ⟨rfl, h1, hgi⟩
  | false => simp only [placeLink, h1]; exact ⟨rfl, h1, hgi⟩

set_option linter.unusedVariables false in
/-- it SUCCEEDS whenever the parents can be created, `dest` is not a directory and `dest`'s parent is not itself
    reached through a link (the one case where removing the old entry can take the parent away) -/
theorem create_symlink_succeeds (self : LocalTransport) (w : PWorld) (t d par : Rs.Path)
    (hpar : Rs.parent d = some par) (hmk : (mkdirP w par).2 = false) (hd : w.lstat d ≠ some .dir)
    (hnl : ∀ x, w.lstat par ≠ some (.symlink x)) (hne : par ≠ d) :
    (runM (LocalTransport.create_symlink posix self t d) w).1 = .ok () := by
  have hg := mkParent_grew w d
  have hok := parentOk_of_mkParent (w := w) (d := d) (by simp [hpar])
  rw [create_symlink_run]
  have hmp : mkParent w d = mkdirP w par := by simp [mkParent, hpar]
  rw [hmp] at hg hok ⊢
  rcases hm : mkdirP w par with ⟨w1, b⟩
  rw [hm] at hg hok hmk
  simp only at hmk
  subst hmk
  have hok1 : w1.parentOk d = true := hok rfl
  simp only [placeLink]
  have hkeep := parentOk_unlink hok1 (fun p hp _ x hx => by
    rw [hpar] at hp
    cases hp
    exact hnl x (hg.was hx (by simp)))
  cases hl : w1.lstat d with
  | none => simp [hok1]
  | some n =>
    cases n with
    | dir =>
      rcases hg.names d with e | ⟨_, _, par', hp', m⟩
      · exact absurd (e ▸ hl) hd
      · rw [hpar] at hp'; cases hp'; exact (prefix_not_self hpar m).elim
    | file i => simp [hkeep]
    | symlink t' => simp [hkeep]

set_option linter.unusedVariables false in
/-- replacing an old link never touches what the OLD link pointed to -/
theorem create_symlink_old_target_untouched (self : LocalTransport) (w : PWorld) (t d t' : Rs.Path) (n : PNode)
    (h : w.lstat d = some (.symlink t')) (hne : linkDest d t' ≠ d) (ht : w.lstat (linkDest d t') = some n) :
    (runM (LocalTransport.create_symlink posix self t d) w).2.lstat (linkDest d t') = some n := by
  rcases create_symlink_frame self w t d _ hne with e | ⟨e, _, _⟩
  · exact e.trans ht
  · rw [ht] at e; cases e

/-- it never fails, and the only thing it ever does is unlink the NAME `dest`, and only when `dest` itself (lstat) is a
    regular file whose inode has more than one link; in every other case (a link — even one that resolves to a
    multiply-linked file —, a directory, nothing, a singly linked file) the world is unchanged -/
theorem break_unshared_hard_link_spec (w : PWorld) (s d : Rs.Path) :
    runM (break_unshared_hard_link posix s d) w =
      match w.lstat d with
      | some (.file i) => if (w.inodes i).nlink > 1 then (.ok (), w.unlink d (.file i)) else (.ok (), w)
      | _ => (.ok (), w) := by
  rw [break_unshared_hard_link_run]
  cases hl : w.lstat d with
  | none => cases w.hasLinks d <;> rfl
  | some n =>
    cases n with
    | dir => cases w.hasLinks d <;> rfl
    | symlink t => cases w.hasLinks d <;> rfl
    | file i =>
      have : w.hasLinks d = decide ((w.inodes i).nlink > 1) := by simp [PWorld.hasLinks, stat_of_lstat_file hl]
      rw [this]
      by_cases hn : (w.inodes i).nlink > 1 <;> simp [hn]

theorem break_unshared_hard_link_never_fails (w : PWorld) (s d : Rs.Path) :
    (runM (break_unshared_hard_link posix s d) w).1 = .ok () := by
  rw [break_unshared_hard_link_spec]
  cases hl : w.lstat d with
  | none => rfl
  | some n => cases n <;> simp only <;> split <;> rfl

/-- when it does break the link: `dest` is gone, every other name is as before, the inode keeps its content (size,
    mtime, xattrs) with one link less — the other names of the inode still see the old content -/
theorem break_unshared_hard_link_breaks (w : PWorld) (s d : Rs.Path) (i : Nat)
    (hl : w.lstat d = some (.file i)) (hn : (w.inodes i).nlink > 1) :
    let w' := (runM (break_unshared_hard_link posix s d) w).2
    w'.lstat d = none ∧ (∀ q, q ≠ d → w'.lstat q = w.lstat q) ∧
      (∀ j, j ≠ i → w'.inodes j = w.inodes j) ∧
      w'.inodes i = { w.inodes i with nlink := (w.inodes i).nlink - 1 } ∧ 0 < (w'.inodes i).nlink := by
  rw [break_unshared_hard_link_spec, hl]
  simp only [hn, ↓reduceIte]
  refine ⟨lstat_unlink_same _ _ _, fun q hq => lstat_unlink_ne _ _ _ _ hq, fun j hj => ?_, ?_, ?_⟩
  · simp [PWorld.unlink, decLink, hj]
  · simp [PWorld.unlink, decLink]
  · simp [PWorld.unlink, decLink]; omega

/-- in every other case nothing changes -/
theorem break_unshared_hard_link_unchanged (w : PWorld) (s d : Rs.Path)
    (h : ∀ i, w.lstat d = some (.file i) → (w.inodes i).nlink ≤ 1) :
    runM (break_unshared_hard_link posix s d) w = (.ok (), w) := by
  rw [break_unshared_hard_link_spec]
  cases hl : w.lstat d with
  | none => rfl
  | some n =>
    cases n with
    | dir => rfl
    | symlink t => rfl
    | file i => have := h i hl; simp only; rw [if_neg (by omega)]

/-- `is_dir = false` is `unlink`: a regular file or a link goes as a NAME (a link to a directory: only the link; the
    directory it points to and everything in it stay); a directory or nothing fails, world unchanged -/
theorem remove_file_mode (self : LocalTransport) (w : PWorld) (p : Rs.Path) :
    runM (LocalTransport.remove posix self p false) w =
      match w.lstat p with
      | some .dir => (.error .io, w)
      | some n => (.ok (), w.unlink p n)
      | none => (.error .io, w) := by
  rw [remove_run]
  rcases w.lstat p with _ | (_ | _ | _) <;> rfl

/-- `is_dir = true` is `std::fs::remove_dir_all`: a directory goes with its subtree; a LINK is unlinked itself (it is
    not followed); a regular file or nothing fails, world unchanged -/
theorem remove_dir_mode (self : LocalTransport) (w : PWorld) (p : Rs.Path) :
    runM (LocalTransport.remove posix self p true) w =
      match w.lstat p with
      | some .dir => (.ok (), w.removeTree p)
      | some (.symlink t) => (.ok (), w.unlink p (.symlink t))
      | _ => (.error .io, w) := by
  rw [remove_run]
  rcases w.lstat p with _ | (_ | _ | _) <;> rfl

/-- whatever the flag and the outcome, a name that is neither `p` nor below `p` keeps what it held -/
theorem remove_frame (self : LocalTransport) (w : PWorld) (p q : Rs.Path) (isDir : Bool) (hq : under p q = false) :
    (runM (LocalTransport.remove posix self p isDir) w).2.lstat q = w.lstat q := by
  have hne : q ≠ p := fun e => by rw [e, under_self] at hq; cases hq
  rw [remove_run]
  cases hl : w.lstat p with
  | none => rfl
  | some n =>
    cases n with
    | symlink t => exact lstat_unlink_ne _ _ _ _ hne
    | dir => cases isDir <;> simp [fail, lstat_removeTree, hq]
    | file i => cases isDir <;> simp [fail, lstat_unlink_ne _ _ _ _ hne]

/-- a directory removed with `is_dir = true`: exactly the names at and below `p` go -/
theorem remove_dir_subtree (self : LocalTransport) (w : PWorld) (p q : Rs.Path) (h : w.lstat p = some .dir) :
    (runM (LocalTransport.remove posix self p true) w).1 = .ok () ∧
    (runM (LocalTransport.remove posix self p true) w).2.lstat q = if under p q then none else w.lstat q := by
  rw [remove_dir_mode, h]
  exact ⟨rfl, lstat_removeTree _ _ _⟩

/-- The combination the engine uses (Delete arm of `SyncEngine::sync`: `let is_dir = task.dest_path.is_dir()` — a test that
    FOLLOWS links — then `Transferrer::delete(path, is_dir)` → `transport.remove(path, is_dir)`): for a symbolic link
    at `p`, whatever it points to (a directory: flag `true`; a file, nothing, a loop: flag `false`), only the NAME `p`
    is removed: every other name — in particular everything in the directory the link points to — and every inode is
    exactly as before.  `remove_dir_all` is what makes the `true` case safe: it `lstat`s first (std docs: "does not
    follow symbolic links and it will simply remove the symbolic link itself").  (On a link `remove` ignores the flag
    altogether — `remove_run` — so the same holds for either flag; the statement fixes the engine's.) -/
theorem delete_of_symlink_removes_only_the_link (self : LocalTransport) (w : PWorld) (p t : Rs.Path)
    (h : w.lstat p = some (.symlink t)) :
    let r := runM (LocalTransport.remove posix self p (w.isDir p)) w
    r.1 = .ok () ∧ r.2.lstat p = none ∧ (∀ q, q ≠ p → r.2.lstat q = w.lstat q) ∧ r.2.inodes = w.inodes := by
  rw [remove_run, h]
  exact ⟨rfl, lstat_unlink_same _ _ _, fun q hq => lstat_unlink_ne _ _ _ _ hq, rfl⟩

/-- the flag matters only for real directories and regular files, where the engine's test computes it right:
    with the flag `w.isDir p` the removal of anything present succeeds -/
theorem delete_with_engine_flag_succeeds (self : LocalTransport) (w : PWorld) (p : Rs.Path) (n : PNode)
    (h : w.lstat p = some n) :
    (runM (LocalTransport.remove posix self p (w.isDir p)) w).1 = .ok () := by
  rw [remove_run, h]
  cases n with
  | symlink t => rfl
  | dir => simp [isDir_of_lstat_dir h]
  | file i => simp [PWorld.isDir, stat_of_lstat_file h]

/-- removing a regular file gives one link of its inode back; content, size, mtime of every inode are untouched
    (the other names of a multiply-linked file keep the content) -/
theorem remove_file_inodes (self : LocalTransport) (w : PWorld) (p : Rs.Path) (i : Nat) (h : w.lstat p = some (.file i)) :
    (runM (LocalTransport.remove posix self p false) w).2.inodes = decLink w.inodes i := by
  rw [remove_file_mode, h]; rfl

/-- `exists` never fails and never changes anything; it FOLLOWS links: `true` iff `stat` finds a node; an error of
    `try_exists` (ELOOP) is answered `false` -/
theorem exists_spec (self : LocalTransport) (w : PWorld) (p : Rs.Path) :
    runM (LocalTransport.exists posix self p) w =
      (.ok (match w.stat p with | .node _ _ => true | _ => false), w) := by
  unfold LocalTransport.exists
  simp only [runM_bind, runM_capture, posix, runM_op]
  cases h : w.stat p <;> simp [fail, Rs.unwrap_or, Rs.UnwrapOr.unwrap_or]

/-- a link to something present exists; a dangling link does not (the link itself is not what is asked about) -/
theorem exists_follows (self : LocalTransport) (w : PWorld) (p t : Rs.Path) (h : w.lstat p = some (.symlink t)) :
    (runM (LocalTransport.exists posix self p) w).1 =
      .ok (match resolve w maxLinks (linkDest p t) with | .node _ _ => true | _ => false) := by
  rw [exists_spec]
  simp [PWorld.stat, resolve, h]

/-- `metadata` is `stat` (follows links): the node the path resolves to, an error when there is none -/
theorem metadata_spec (self : LocalTransport) (w : PWorld) (p : Rs.Path) :
    runM (LocalTransport.metadata posix self p) w =
      match w.stat p with
      | .node _ (.file i) => (.ok ⟨false, (w.inodes i).mtime, (w.inodes i).size⟩, w)
      | .node _ .dir => (.ok ⟨true, 0, 0⟩, w)
      | _ => (.error .io, w) := by
  unfold LocalTransport.metadata
  simp only [posix, runM_op]
  rfl

/-- `create_dir_all`: success or not, it only adds directories at absent prefixes of the path; on success every prefix
    resolves to a directory -/
theorem create_dir_all_spec (self : LocalTransport) (w : PWorld) (p : Rs.Path) :
    let r := runM (LocalTransport.create_dir_all posix self p) w
    Grew w r.2 (· ∈ prefixes p) ∧ (r.1 = .ok () → ∀ q ∈ prefixes p, r.2.isDir q = true) := by
  have hg := mkdirP_grew w p
  have hd := mkdirP_dirs (w := w) (p := p)
  rw [create_dir_all_run]
  rcases hm : mkdirP w p with ⟨w1, b⟩
  rw [hm] at hg hd
  cases b with
  | false => exact ⟨hg, fun _ => hd rfl⟩
  | true => exact ⟨hg, fun h => by simp [fail] at h⟩

theorem create_dir_all_idempotent (self : LocalTransport) (w : PWorld) (p : Rs.Path)
    (h : (runM (LocalTransport.create_dir_all posix self p) w).1 = .ok ()) :
    runM (LocalTransport.create_dir_all posix self p) (runM (LocalTransport.create_dir_all posix self p) w).2 =
      (.ok (), (runM (LocalTransport.create_dir_all posix self p) w).2) := by
  have hi := mkdirP_idem (w := w) (p := p)
  have e := create_dir_all_run self w p
  rcases hm : mkdirP w p with ⟨w1, b⟩
  rw [hm] at hi e
  cases b with
  | true => rw [e] at h; simp [fail] at h
  | false =>
    rw [e]
    show runM (LocalTransport.create_dir_all posix self p) w1 = (.ok (), w1)
    rw [create_dir_all_run, hi rfl]

/-- a prefix that is a regular file (or a link that does not resolve to a directory) makes it fail -/
theorem create_dir_all_fails_on_file (self : LocalTransport) (w : PWorld) (p q : Rs.Path) (i : Nat)
    (hq : q ∈ prefixes p) (hf : w.lstat q = some (.file i)) :
    (runM (LocalTransport.create_dir_all posix self p) w).1 = .error .io := by
  have hg := mkdirP_grew w p
  have hd := mkdirP_dirs (w := w) (p := p)
  rw [create_dir_all_run]
  rcases hm : mkdirP w p with ⟨w1, b⟩
  rw [hm] at hg hd
  cases b with
  | true => rfl
  | false =>
    have h1 := hd rfl q hq
    have hk : w1.lstat q = some (.file i) := hg.keeps hf
    simp [PWorld.isDir, stat_of_lstat_file hk] at h1

/-- on success with a regular file at `source`: `dest` and `source` are names of the SAME inode, whose link count grew
    by one and whose content is as before; every other inode is untouched -/
theorem create_hardlink_ok (self : LocalTransport) (w : PWorld) (s d : Rs.Path) (i : Nat)
    (hs : w.lstat s = some (.file i))
    (hok : (runM (LocalTransport.create_hardlink posix self s d) w).1 = .ok ()) :
    let w' := (runM (LocalTransport.create_hardlink posix self s d) w).2
    w'.lstat d = some (.file i) ∧ w'.lstat s = some (.file i) ∧ w.lstat d = none ∧
      w'.inodes i = { w.inodes i with nlink := (w.inodes i).nlink + 1 } ∧ (∀ j, j ≠ i → w'.inodes j = w.inodes j) := by
  have hg := mkParent_grew w d
  rw [create_hardlink_run] at hok ⊢
  rcases hm : mkParent w d with ⟨w1, b⟩
  rw [hm] at hg hok
  have hs1 : w1.lstat s = some (.file i) := hg.keeps hs
  have hgi : w1.inodes = w.inodes := hg.inodes
  cases b with
  | true => simp [fail] at hok
  | false =>
    simp only [posix, runM_op, hs1] at hok ⊢
    cases hd : w1.lstat d with
    | some n => simp [hd, fail] at hok
    | none =>
      cases hp : w1.parentOk d with
      | false => simp [hd, hp, fail] at hok
      | true =>
        have hsd : d ≠ s := fun e => by rw [e, hs1] at hd; cases hd
        have hwd : w.lstat d = none := by
          rcases hg.names d with e | ⟨e, _, _⟩
          · rw [← e]; exact hd
          · exact e
        refine ⟨by simp [PWorld.lstat, PWorld.enter, lookup], ?_, hwd, by simp [incLink, hgi], fun j hj => by simp [incLink, hj, hgi]⟩
        have : (w1.enter d (.file i)).lstat s = some (.file i) := by rw [lstat_enter]; simp [hsd, hs1]
        exact this

/-- it FAILS when `dest` holds anything (EEXIST); nothing but absent parents changed -/
theorem create_hardlink_fails_when_dest_exists (self : LocalTransport) (w : PWorld) (s d : Rs.Path) (n : PNode)
    (hd : w.lstat d = some n) :
    (runM (LocalTransport.create_hardlink posix self s d) w).1 = .error .io ∧
      Grew w (runM (LocalTransport.create_hardlink posix self s d) w).2
        (fun q => ∃ par, Rs.parent d = some par ∧ q ∈ prefixes par) := by
  have hg := mkParent_grew w d
  rw [create_hardlink_run]
  rcases hm : mkParent w d with ⟨w1, b⟩
  rw [hm] at hg
  have hd1 : w1.lstat d = some n := hg.keeps hd
  cases b with
  | true => exact ⟨rfl, hg⟩
  | false => simp only [posix, runM_op, hd1]; exact ⟨rfl, hg⟩

/-! ### the tie to the Transfer bridge: the generated local transport on `posix` IMPLEMENTS the meanings that
    `Lemmas/GenTransfer.lean`'s instance `extOf` ASSUMES of `t_remove`, `t_create_dir_all`, `t_create_symlink`

    `Abs root pw d`: the model's destination map `d` represents the POSIX world `pw` below `root` (`absDst root pw` is
    such a map: `abs_absDst`).  Each theorem runs the ASSUMED operation on an `XWorld` whose destination map
    represents `pw`, and the GENERATED function on `pw`, at the same destination path `destOf root k`. -/

open SyModel.Engine
open SyModel.Lemmas.GenTransfer (XWorld extOf CleanPath destOf at_destOf removeW mkdirW)

/-- `remove`: same outcome, and the worlds after it still correspond (on failure neither changed) -/
theorem remove_implements_t_remove (cfg : Cfg) (o : Rs.Opaque) (self : LocalTransport) (xw : XWorld) (pw : PWorld)
    (k : Engine.Path) (hk : CleanPath k) (isDir : Bool) (habs : Abs xw.root pw xw.w.dst) :
    ((runM ((extOf cfg).t_remove o (destOf xw.root k) isDir) xw).1 = .ok () ↔
      (runM (LocalTransport.remove posix self (destOf xw.root k) isDir) pw).1 = .ok ()) ∧
    Abs xw.root (runM (LocalTransport.remove posix self (destOf xw.root k) isDir) pw).2
      (runM ((extOf cfg).t_remove o (destOf xw.root k) isDir) xw).2.w.dst := by
  simp only [SyModel.Lemmas.GenTransfer.extOf_t_remove, runM_op, at_destOf xw _ rfl k hk]
  rw [remove_run]
  have hg := habs k hk
  unfold removeW
  cases hl : pw.lstat (destOf xw.root k) with
  | none => rw [hl] at hg; simp [hg, fail, XWorld.outcome]; exact habs
  | some n =>
    rw [hl] at hg
    cases n with
    | symlink t =>
      simp only [Option.map_some, absNode] at hg
      simp only [hg, Option.map_some, XWorld.outcome]
      exact ⟨trivial, abs_unlink habs k hk _⟩
    | dir =>
      simp only [Option.map_some, absNode] at hg
      cases isDir with
      | true => simp only [hg, ↓reduceIte, Option.map_some, XWorld.outcome]; exact ⟨trivial, abs_removeTree habs k hk⟩
      | false => simp [hg, fail, XWorld.outcome]; exact habs
    | file i =>
      simp only [Option.map_some, absNode] at hg
      cases isDir with
      | false =>
        simp only [hg, Bool.false_eq_true, ↓reduceIte, Option.map_some, XWorld.outcome]
        exact ⟨trivial, abs_unlink habs k hk _⟩
      | true => simp [hg, fail, XWorld.outcome]; exact habs

/-- `create_dir_all`: same outcome; on success the worlds after it correspond.  On failure the model's operation is
    atomic (world unchanged) while the real one keeps the directories created before the failing prefix — they are
    absent-before directories on the path's own chain (`create_dir_all_spec`), nothing else.
    Hypotheses: the root's own chain exists, and there is no symbolic link on the key's chain (the model has no link
    resolution: see notes/GenLocalFs-INTEGRATION.md). -/
theorem create_dir_all_implements_t_create_dir_all (cfg : Cfg) (o : Rs.Opaque) (self : LocalTransport) (xw : XWorld)
    (pw : PWorld) (k : Engine.Path) (hk : CleanPath k) (hr : RootOk xw.root pw) (hn : NoLinksTo xw.root pw k)
    (habs : Abs xw.root pw xw.w.dst) :
    ((runM ((extOf cfg).t_create_dir_all o (destOf xw.root k)) xw).1 = .ok () ↔
      (runM (LocalTransport.create_dir_all posix self (destOf xw.root k)) pw).1 = .ok ()) ∧
    ((runM ((extOf cfg).t_create_dir_all o (destOf xw.root k)) xw).1 = .ok () →
      Abs xw.root (runM (LocalTransport.create_dir_all posix self (destOf xw.root k)) pw).2
        (runM ((extOf cfg).t_create_dir_all o (destOf xw.root k)) xw).2.w.dst) := by
  simp only [SyModel.Lemmas.GenTransfer.extOf_t_create_dir_all, runM_op, at_destOf xw _ rfl k hk]
  rw [create_dir_all_run]
  have hs := mkdirP_sim xw.root pw xw.w.dst k hk hr hn habs
  unfold mkdirW
  cases hm : mkdirAll xw.w.dst k with
  | none =>
    rw [hm] at hs
    rcases hp : mkdirP pw (destOf xw.root k) with ⟨w1, b⟩
    rw [hp] at hs
    simp only at hs
    subst hs
    simp [XWorld.outcome, fail]
  | some d' =>
    rw [hm] at hs
    obtain ⟨pw', e, a, _⟩ := hs
    rw [e]
    simp only [Option.map_some, XWorld.outcome]
    exact ⟨trivial, fun _ => a⟩

/-- `create_symlink`: same outcome as the model's `writeSymlink` (parents, replace any non-directory, EEXIST on a
    directory); on success the worlds after it correspond.  Hypotheses: the root is a real directory whose chain
    exists, no symbolic link on the chain of the PARENT key. -/
theorem create_symlink_implements_t_create_symlink (cfg : Cfg) (o : Rs.Opaque) (self : LocalTransport) (xw : XWorld)
    (pw : PWorld) (k : Engine.Path) (t : Rs.Path) (hk : CleanPath k) (hr : RootOk xw.root pw)
    (hroot : xw.root ≠ [] → pw.lstat xw.root = some .dir) (hn : NoLinksTo xw.root pw (parentOf k))
    (habs : Abs xw.root pw xw.w.dst) :
    ((runM ((extOf cfg).t_create_symlink o t (destOf xw.root k)) xw).1 = .ok () ↔
      (runM (LocalTransport.create_symlink posix self t (destOf xw.root k)) pw).1 = .ok ()) ∧
    ((runM ((extOf cfg).t_create_symlink o t (destOf xw.root k)) xw).1 = .ok () →
      Abs xw.root (runM (LocalTransport.create_symlink posix self t (destOf xw.root k)) pw).2
        (runM ((extOf cfg).t_create_symlink o t (destOf xw.root k)) xw).2.w.dst) := by
  simp only [SyModel.Lemmas.GenTransfer.extOf_t_create_symlink, runM_op, at_destOf xw _ rfl k hk]
  rw [create_symlink_run]
  have hs := mkParent_sim xw.root pw xw.w.dst k hk hr hn habs
  unfold writeSymlink
  cases hm : mkdirAll xw.w.dst (parentOf k) with
  | none =>
    rw [hm] at hs
    rcases hp : mkParent pw (destOf xw.root k) with ⟨w1, b⟩
    rw [hp] at hs
    simp only at hs
    subst hs
    simp [XWorld.outcome, fail]
  | some d1 =>
    rw [hm] at hs
    obtain ⟨pw1, e, a, g⟩ := hs
    have hpar := parent_destOf_eq xw.root k hk
    have hpok : pw1.parentOk (destOf xw.root k) = true := by
      have := parentOk_of_mkParent (w := pw) (d := destOf xw.root k) (by simp [hpar])
      rw [e] at this
      exact this rfl
    have hreal : ∀ par, Rs.parent (destOf xw.root k) = some par → par ≠ [] → ∀ x, pw1.lstat par ≠ some (.symlink x) := by
      intro par hp hne x hx
      have hx0 : pw.lstat par = some (.symlink x) := g.was hx (by simp)
      rw [hpar, Option.some.injEq] at hp
      subst hp
      -- the parent is the root (a directory itself) or the destination path of the parent key (no link on its chain)
      by_cases hpk : parentOf k = []
      · simp only [hpk, ↓reduceIte] at hx0 hne
        rw [hroot hne] at hx0
        cases hx0
      · simp only [hpk, ↓reduceIte] at hx0
        exact hn _ hpk (isPrefix_refl _) x hx0
    obtain ⟨hdir, hother⟩ := placeLink_sim xw.root pw1 d1 k t hk a hpok hreal
    rw [e]
    simp only
    by_cases hg : d1.get? k = some .dir
    · rw [hdir hg, hg]
      simp [XWorld.outcome]
    · obtain ⟨pw', e2, a2⟩ := hother hg
      rw [e2]
      split
      · exact absurd ‹_› hg
      · exact ⟨Iff.rfl, fun _ => a2⟩

/-- the abstraction FUNCTION `absDst root pw` (the names of `pw` below `root` as a destination map) represents `pw`:
    the three theorems above apply to `xw.w.dst = absDst xw.root pw` -/
theorem absDst_represents (root : Rs.Path) (pw : PWorld) : Abs root pw (absDst root pw) := abs_absDst root pw

/-! ### non-vacuity: one concrete world in which every hypothesis above is met

    /d (dir)   /d/f, /d/g (two names of inode 1, nlink 2)   /d/l -> /t   /d/dl -> nowhere (dangling)
    /t (dir)   /t/x (inode 2, nlink 1) -/

def pD : Rs.Path := ['/', 'd']
def pF : Rs.Path := ['/', 'd', '/', 'f']
def pG : Rs.Path := ['/', 'd', '/', 'g']
def pL : Rs.Path := ['/', 'd', '/', 'l']
def pDL : Rs.Path := ['/', 'd', '/', 'd', 'l']
def pT : Rs.Path := ['/', 't']
def pX : Rs.Path := ['/', 't', '/', 'x']
def pNew : Rs.Path := ['/', 'd', '/', 'n', '/', 'k']
def sampleW : PWorld :=
  { names := [(pD, .dir), (pF, .file 1), (pG, .file 1), (pL, .symlink pT), (pDL, .symlink ['n', 'o']),
              (pT, .dir), (pX, .file 2)],
    inodes := fun i => if i = 1 then ⟨7, 3, 100, [], 2⟩ else ⟨9, 1, 50, [], 1⟩,
    dirNlink := 2 }

example : sampleW.lstat pL = some (.symlink pT) ∧ linkDest pL pT ≠ pL := by decide
example : ∀ t, sampleW.lstat pF ≠ some (.symlink t) := by
  intro t h; have e : sampleW.lstat pF = some (.file 1) := by decide
  rw [e] at h; cases h
example : sampleW.lstat pD = some .dir := by decide
example : sampleW.lstat pF = some (.file 1) ∧ (sampleW.inodes 1).nlink > 1 := by decide
example : ∀ i, sampleW.lstat pX = some (.file i) → (sampleW.inodes i).nlink ≤ 1 := by
  intro i h; have : i = 2 := by (have : sampleW.lstat pX = some (.file 2) := by decide); rw [this] at h; cases h; rfl
  subst this; decide
example : under pD pF = true ∧ under pD pT = false := by decide
/-- the engine's flag on the link to a directory IS `true`: the case `delete_of_symlink_removes_only_the_link` is about -/
example : sampleW.isDir pL = true := by decide
/-- `create_symlink` over a regular file, over a link to a directory, over a dangling link, at a new name below a
    missing directory: the hypotheses of `create_symlink_succeeds` hold, so `create_symlink_ok_places` applies -/
example : Rs.parent pF = some pD ∧ (mkdirP sampleW pD).2 = false ∧ sampleW.lstat pF ≠ some .dir ∧
    (∀ x, sampleW.lstat pD ≠ some (.symlink x)) ∧ pD ≠ pF := by
  refine ⟨by decide, by decide, by decide, fun x h => ?_, by decide⟩
  have e : sampleW.lstat pD = some .dir := by decide
  rw [e] at h; cases h
example : (runM (LocalTransport.create_symlink posix {} pX pL) sampleW).1 = .ok () ∧
    (runM (LocalTransport.create_symlink posix {} pX pDL) sampleW).1 = .ok () ∧
    (runM (LocalTransport.create_symlink posix {} pX pNew) sampleW).1 = .ok () := by
  refine ⟨?_, ?_, ?_⟩ <;> rfl
example : sampleW.lstat pL = some (.symlink pT) ∧ linkDest pL pT ≠ pL ∧ sampleW.lstat (linkDest pL pT) = some .dir := by
  decide
example : (runM (LocalTransport.create_hardlink posix {} pX pNew) sampleW).1 = .ok () ∧
    sampleW.lstat pX = some (.file 2) := by
  exact ⟨rfl, by decide⟩
example : (runM (LocalTransport.create_dir_all posix {} pNew) sampleW).1 = .ok () := by
  rfl
example : pF ∈ prefixes (pF ++ ['/', 'z']) ∧ sampleW.lstat pF = some (.file 1) := by decide
/-- `exists`: the link to a directory exists, the dangling link does not, and a link to itself (ELOOP: `try_exists`
    fails) is answered `false` -/
example : (runM (LocalTransport.exists posix {} pL) sampleW).1 = .ok true ∧
    (runM (LocalTransport.exists posix {} pDL) sampleW).1 = .ok false ∧
    (runM (LocalTransport.exists posix {} pL) { sampleW with names := [(pL, .symlink pL)] }).1 = .ok false ∧
    (runM (posix.try_exists pL) { sampleW with names := [(pL, .symlink pL)] }).1 = .error .io := by
  refine ⟨?_, ?_, ?_, ?_⟩ <;> rfl

/-! non-vacuity of the tie's hypotheses: root `/d` of the sample world, key `f` (and its parent, the root) -/

def kF : Engine.Path := [String.ofList ['f']]
def sampleXW : XWorld :=
  { root := pD, w := { dst := absDst pD sampleW, linkMap := [], nextIno := 0, bytes := 0 },
    src := fun _ => .dangling, valId := fun _ => 0 }

theorem kF_clean : CleanPath kF := ⟨by simp [kF], by intro c hc; simp [kF] at hc; subst hc; simp⟩
theorem destOf_kF : destOf pD kF = pF := by simp [destOf, kF, SyModel.Lemmas.GenTransfer.textOf, Rs.join, pD, pF]

example : Abs sampleXW.root sampleW sampleXW.w.dst := absDst_represents pD sampleW
example : RootOk sampleXW.root sampleW := by
  have : prefixes pD = [pD] := by decide
  intro q hq
  rw [show sampleXW.root = pD from rfl, this] at hq
  simp only [List.mem_singleton] at hq
  subst hq; decide
example : sampleXW.root ≠ [] → sampleW.lstat sampleXW.root = some .dir := fun _ => by decide
example : NoLinksTo sampleXW.root sampleW kF := by
  intro q hq hp t
  have : q = kF := by
    cases q with
    | nil => exact absurd rfl hq
    | cons a r =>
      cases r with
      | nil => simpa [kF, isPrefix] using hp
      | cons b r' => simp [kF, isPrefix] at hp
  subst this
  rw [show sampleXW.root = pD from rfl, destOf_kF]
  intro h
  have e : sampleW.lstat pF = some (.file 1) := by decide
  rw [e] at h; cases h
example : NoLinksTo sampleXW.root sampleW (parentOf kF) := by
  intro q hq hp t
  have : parentOf kF = [] := by simp [parentOf, kF]
  rw [this] at hp
  exact absurd (isPrefix_nil_right hp) hq

end SyModel.Props.GenLocalFs
