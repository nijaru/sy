/-
  GenSingleFile — the TRANSLATED `SyncEngine::sync_single_file` (src/sync/mod.rs, regenerated into
  `SyModel/Generated/Code/SingleFile.lean` on every run, in the effect monad `Rs.M W = ExceptT Rs.Err (StateM W)` over
  the externs `Ext W`: clock, `path_metadata`, `t_exists`, `transferrer_create`, `transferrer_update`,
  `verify_transfer`, `should_exclude`).

  Everything in the section `anyInstance` holds for ALL engines, paths, worlds and for ANY instance `ext : Ext W` (the
  operations do whatever they do, may fail, may change the world).  `runM x w` = (result, world afterwards) (Lemmas/GenTransfer).
  "X is never called" is stated extensionally: replacing the operation by an ARBITRARY other function gives the same
  run (same result, same final world), the style of `verify_never_uses_none` in Props/GenVerify.

  The generated do-block is first shown to be the structured program `singleSpec` (Lemmas/GenSingleFile: probe →
  finish | exists → metadata → create/update → verify → finish); filtering (C16) and create-versus-update (cf. C03),
  bookkeeping and faults (C19, C10), dry run (C08) and the tie to the C16 model of single-file sources are read off
  that program; the last part runs the translated function on a world that logs every call.
-/
import SyModel.Lemmas.GenSingleFile
import SyModel.Props.GenTransfer
import SyModel.Props.GenFilter
namespace SyModel.Props.GenSingleFile
open SyModel SyModel.Generated SyModel.Generated.SingleFile SyModel.GenSingleFile
open SyModel.Lemmas.GenTransfer (runM runM_bind runM_bind_ok runM_bind_error)

section anyInstance
variable {W : Type} (ext : Ext W) (self : SyncEngine) (s d : Rs.Path)

/-- the generated function, as a computation, IS the structured program (any instance) -/
theorem sync_single_file_is_structured :
    SyncEngine.sync_single_file ext self s d = singleSpec ext self s d :=
  sync_single_file_eq_spec ext self s d

/-! ## filtering (C16), create versus update (cf. C03) -/

/-- "the run reaches the filter test": the clock answered `t`, the source has the file name `name`, `metadata()`
    answered `md`, `should_exclude(name, false)` answered `ex`, and the world is now `w3` -/
def ReachesFilter (w : W) (t : Rs.Opaque) (name : Rs.Str) (md : Rs.Metadata) (ex : Bool) (w3 : W) : Prop :=
  Rs.path_file_name s = some name ∧ ∃ w1 w2, runM (ext.std_time_Instant_now ()) w = (.ok t, w1) ∧
    runM (ext.path_metadata s) w1 = (.ok md, w2) ∧ runM (ext.should_exclude self name false) w2 = (.ok ex, w3)

theorem ReachesFilter.probe {ext : Ext W} {self : SyncEngine} {s : Rs.Path} {w w3 : W} {t name md ex}
    (h : ReachesFilter ext self s w t name md ex w3) :
    runM (probe ext self s) w = (.ok (t, ex || self.should_filter_by_size md.size), w3) := by
  obtain ⟨hn, w1, w2, hnow, hmd, hex⟩ := h
  exact probe_run ext self s hnow hn hmd hex

/-- **Filtered ⇒ only the clock is read again.**  When `should_exclude(name, false)` answers true OR the size bound
    rejects `metadata().len()`, the rest of the run is `start_time.elapsed()` and nothing else: the right-hand side
    mentions neither `transferrer_create` nor `transferrer_update` nor `verify_transfer` nor `t_exists`, and the
    statistics are the initial ones. -/
theorem filtered_run {w w3 : W} {t name md ex} (h : ReachesFilter ext self s w t name md ex w3)
    (hf : ex = true ∨ self.should_filter_by_size md.size = true) :
    runM (SyncEngine.sync_single_file ext self s d) w =
      match runM (ext.instant_elapsed t) w3 with
      | (.ok el, w4) => (.ok { stats0 with duration := el }, w4)
      | (.error e, w4) => (.error e, w4) := by
  have hflt : (ex || self.should_filter_by_size md.size) = true := by
    rcases hf with h | h <;> simp [h]
  rw [sync_single_file_eq_spec]
  unfold singleSpec
  rw [runM_bind_ok h.probe]
  simp only [hflt, if_true]
  exact finish_run ext t stats0 w3

/-- the same, extensionally: whatever `create`, `update`, `verify_transfer` are replaced with, the run is the same -/
theorem filtered_never_transfers {w w3 : W} {t name md ex} (h : ReachesFilter ext self s w t name md ex w3)
    (hf : ex = true ∨ self.should_filter_by_size md.size = true)
    (c u : Transferrer → FileEntry → Rs.Path → Rs.M W (Option TransferResult))
    (v : IntegrityVerifier → Rs.Path → Rs.Path → Rs.M W Bool) :
    runM (SyncEngine.sync_single_file
        { ext with transferrer_create := c, transferrer_update := u, verify_transfer := v } self s d) w =
      runM (SyncEngine.sync_single_file ext self s d) w := by
  rw [filtered_run ext self s d h hf,
    filtered_run { ext with transferrer_create := c, transferrer_update := u, verify_transfer := v } self s d
      (w := w) (w3 := w3) (t := t) (name := name) (md := md) (ex := ex) h hf]

/-- and what a filtered run reports: nothing created, updated, transferred or verified -/
theorem filtered_stats {w w3 wf : W} {t name md ex} (h : ReachesFilter ext self s w t name md ex w3)
    (hf : ex = true ∨ self.should_filter_by_size md.size = true) {st : SyncStats}
    (hok : runM (SyncEngine.sync_single_file ext self s d) w = (.ok st, wf)) :
    st.files_scanned = 1 ∧ st.files_created = 0 ∧ st.files_updated = 0 ∧ st.bytes_transferred = 0 ∧
      st.files_verified = 0 ∧ st.verification_failures = 0 ∧ st.errors = [] := by
  rw [filtered_run ext self s d h hf] at hok
  rcases hel : runM (ext.instant_elapsed t) w3 with ⟨_ | el, w4⟩ <;> rw [hel] at hok <;> cases hok
  exact ⟨rfl, rfl, rfl, rfl, rfl, rfl, rfl⟩

/-- the operation the transfer step calls: `update` when `exists(destination)` answered true, else `create` -/
def transferOp (de : Bool) : Transferrer → FileEntry → Rs.Path → Rs.M W (Option TransferResult) :=
  if de then ext.transferrer_update else ext.transferrer_create
/-- the statistics after it -/
def transferStats (de : Bool) (r : Option TransferResult) : SyncStats := if de then updateStats r else createStats r

/-- **Not filtered ⇒ exactly one of `create` / `update`, chosen by `exists(destination)`.**  After the filter test
    let both pass, `exists(destination)` answered `de` and the SECOND `metadata()` answered `md'`: the rest of the run
    is ONE call `transferOp de` with the executor `transferrerOf self` (the engine's own flags, empty hard-link map) and
    the entry `entryOf s name md'` (`path` = the source, `relative_path` = its file name, `size`/`modified` from that
    second `metadata()` — see `entryOf_fields`), then the verification phase, then the clock. -/
theorem unfiltered_run {w w3 w4 w5 : W} {t name md md'} {de : Bool}
    (h : ReachesFilter ext self s w t name md false w3)
    (hsz : self.should_filter_by_size md.size = false)
    (hde : runM (ext.t_exists self.transport d) w3 = (.ok de, w4))
    (hmd : runM (ext.path_metadata s) w4 = (.ok md', w5)) :
    runM (SyncEngine.sync_single_file ext self s d) w =
      runM (transferOp ext de (transferrerOf self) (entryOf s name md') d >>= fun r =>
            verifyPhase ext self s d (transferStats de r) >>= fun st => finish ext t st) w5 := by
  rw [sync_single_file_eq_spec]
  unfold singleSpec
  rw [runM_bind_ok h.probe]
  simp only [hsz, Bool.or_self, Bool.false_eq_true, if_false]
  unfold transferPhase
  rw [runM_bind, transferStep_run ext self s d hde hmd h.1]
  cases de <;> simp only [Bool.false_eq_true, if_false, if_true, transferOp, transferStats]
  · rw [runM_bind, runM_bind (ext.transferrer_create _ _ _)]
    rcases runM (ext.transferrer_create (transferrerOf self) (entryOf s name md') d) w5 with ⟨_ | _, _⟩ <;> rfl
  · rw [runM_bind, runM_bind (ext.transferrer_update _ _ _)]
    rcases runM (ext.transferrer_update (transferrerOf self) (entryOf s name md') d) w5 with ⟨_ | _, _⟩ <;> rfl

/-- what `create`/`update` are handed -/
theorem entryOf_fields (name : Rs.Str) (md : Rs.Metadata) :
    (entryOf s name md).path = s ∧ (entryOf s name md).relative_path = name ∧ (entryOf s name md).size = md.size ∧
      (entryOf s name md).modified = md.mtime ∧ (entryOf s name md).is_dir = false ∧
      (entryOf s name md).is_symlink = false ∧ (entryOf s name md).nlink = 1 ∧ (entryOf s name md).inode = none ∧
      (entryOf s name md).xattrs = none :=
  ⟨rfl, rfl, rfl, rfl, rfl, rfl, rfl, rfl, rfl⟩

theorem transferrerOf_fields :
    (transferrerOf self).transport = self.transport ∧ (transferrerOf self).dry_run = self.dry_run ∧
      (transferrerOf self).diff_mode = self.diff_mode ∧ (transferrerOf self).symlink_mode = self.symlink_mode ∧
      (transferrerOf self).preserve_hardlinks = self.preserve_hardlinks ∧ (transferrerOf self).hardlink_map = [] :=
  ⟨rfl, rfl, rfl, rfl, rfl, rfl⟩

/-- no destination ⇒ `update` is never called (whatever it is replaced with) -/
theorem no_dest_never_calls_update {w w3 w4 w5 : W} {t name md md'}
    (h : ReachesFilter ext self s w t name md false w3) (hsz : self.should_filter_by_size md.size = false)
    (hde : runM (ext.t_exists self.transport d) w3 = (.ok false, w4))
    (hmd : runM (ext.path_metadata s) w4 = (.ok md', w5))
    (u : Transferrer → FileEntry → Rs.Path → Rs.M W (Option TransferResult)) :
    runM (SyncEngine.sync_single_file { ext with transferrer_update := u } self s d) w =
      runM (SyncEngine.sync_single_file ext self s d) w := by
  rw [unfiltered_run ext self s d h hsz hde hmd,
    unfiltered_run { ext with transferrer_update := u } self s d (w := w) (w3 := w3) (w4 := w4) (w5 := w5) (t := t)
      (name := name) (md := md) (md' := md') (de := false) h hsz hde hmd]
  rfl

/-- the destination exists ⇒ `create` is never called -/
theorem dest_exists_never_calls_create {w w3 w4 w5 : W} {t name md md'}
    (h : ReachesFilter ext self s w t name md false w3) (hsz : self.should_filter_by_size md.size = false)
    (hde : runM (ext.t_exists self.transport d) w3 = (.ok true, w4))
    (hmd : runM (ext.path_metadata s) w4 = (.ok md', w5))
    (c : Transferrer → FileEntry → Rs.Path → Rs.M W (Option TransferResult)) :
    runM (SyncEngine.sync_single_file { ext with transferrer_create := c } self s d) w =
      runM (SyncEngine.sync_single_file ext self s d) w := by
  rw [unfiltered_run ext self s d h hsz hde hmd,
    unfiltered_run { ext with transferrer_create := c } self s d (w := w) (w3 := w3) (w4 := w4) (w5 := w5) (t := t)
      (name := name) (md := md) (md' := md') (de := true) h hsz hde hmd]
  rfl

/-- **Single-file mode always rewrites an existing destination.**  When `exists(destination)` answers true, `update` IS called — no hypothesis about the destination's content, size or
    modification time appears, and none could: `Ext` has no operation that reads them (the only question the function
    asks about the destination is `exists`).  A second run over an identical pair transfers again and reports
    `files_updated = 1`. -/
theorem dest_exists_always_updates {w w3 w4 w5 : W} {t name md md'}
    (h : ReachesFilter ext self s w t name md false w3) (hsz : self.should_filter_by_size md.size = false)
    (hde : runM (ext.t_exists self.transport d) w3 = (.ok true, w4))
    (hmd : runM (ext.path_metadata s) w4 = (.ok md', w5)) :
    runM (SyncEngine.sync_single_file ext self s d) w =
      runM (ext.transferrer_update (transferrerOf self) (entryOf s name md') d >>= fun r =>
            verifyPhase ext self s d (updateStats r) >>= fun st => finish ext t st) w5 :=
  -- `de := true` is written out: the elaborator would otherwise search for it by unfolding both runs
  unfiltered_run ext self s d (de := true) h hsz hde hmd

/-! ## bookkeeping (C19) and faults (C10) -/

/-- the transfer's statistics as ONE record: the fields a transfer sets (rewrite with it; as a `simp` lemma it loops) -/
theorem transferStats_eq (de : Bool) (r : Option TransferResult) : transferStats de r =
    { stats0 with files_created := if de then 0 else 1, files_updated := if de then 1 else 0,
                  bytes_transferred := (r.map (·.bytes_written)).getD 0,
                  files_delta_synced := (transferStats de r).files_delta_synced,
                  delta_bytes_saved := (transferStats de r).delta_bytes_saved,
                  files_compressed := (transferStats de r).files_compressed,
                  compression_bytes_saved := (transferStats de r).compression_bytes_saved } := by
  rcases r with _ | r
  · cases de <;> rfl
  · cases de <;> simp only [transferStats, createStats, updateStats, Bool.false_eq_true, if_false, if_true]
    · rw [compressionPart_frame]; rfl
    · rw [compressionPart_frame, deltaPart_frame]; rfl

/-- what a run that transferred reports, the clock apart: the transfer's statistics, and the two verification counters
    decided by the verifier's ONE answer `v` when verification is wanted -/
def report (self : SyncEngine) (de : Bool) (r : Option TransferResult) (v : Except Rs.Err Bool) : SyncStats :=
  { transferStats de r with
    files_verified := if wantsVerify self = true ∧ v = .ok true then 1 else 0
    verification_failures := if wantsVerify self = true ∧ v ≠ .ok true then 1 else 0 }

theorem report_of_verify (hw : wantsVerify self = true) (de : Bool) (r : Option TransferResult)
    (v : Except Rs.Err Bool) : verifyStats (transferStats de r) v = report self de r v := by
  unfold report
  rw [transferStats_eq]
  rcases v with e | (_ | _) <;> simp [verifyStats, hw, stats0]

theorem report_of_no_verify (hw : ¬ wantsVerify self = true) (de : Bool) (r : Option TransferResult)
    (v : Except Rs.Err Bool) : transferStats de r = report self de r v := by
  unfold report
  rw [transferStats_eq]
  simp [hw, stats0]

/-- the statistics of a successful run: the initial ones (filtered), or `report` of ONE transfer and of the answer of
    `verify_transfer` in SOME world `w'`.  (`w'` is not tied to the run here; `spec_ok_inv` has the world of the actual
    call.) -/
theorem ok_shape {w wf : W} {st : SyncStats}
    (hok : runM (SyncEngine.sync_single_file ext self s d) w = (.ok st, wf)) :
    (∃ el, st = { stats0 with duration := el }) ∨
    ∃ de r w' el,
      st = { report self de r (runM (ext.verify_transfer (verifierOf self) s d) w').1 with duration := el } := by
  rw [sync_single_file_eq_spec] at hok
  obtain ⟨t, flt, w1, _, h | h⟩ := spec_ok_inv ext self s d hok
  · obtain ⟨_, el, _, rfl⟩ := h
    exact .inl ⟨el, rfl⟩
  · obtain ⟨_, base, w2, el, hb, _, st', hv, rfl⟩ := h
    obtain ⟨de, _, _, _, _, _, _, _, hcase⟩ := transferStep_ok_inv ext self s d hb
    obtain ⟨r, rfl⟩ : ∃ r, base = transferStats de r := by
      rcases hcase with ⟨rfl, r, _, rfl⟩ | ⟨rfl, r, _, rfl⟩ <;> exact ⟨r, rfl⟩
    refine .inr ⟨de, r, w2, el, ?_⟩
    rw [verifyPhase_run] at hv
    split at hv <;> cases hv
    · rw [report_of_verify self ‹_›]
    · rw [← report_of_no_verify self ‹_›]

/-- the bookkeeping invariant of a report (`duration` is not mentioned) -/
def Book (self : SyncEngine) (st : SyncStats) : Prop :=
  st.files_scanned = 1 ∧ st.files_created + st.files_updated ≤ 1 ∧ st.files_skipped = 0 ∧ st.files_deleted = 0 ∧
    st.errors = [] ∧
    st.files_verified + st.verification_failures =
      (if st.files_created + st.files_updated = 1 ∧ self.verification_mode ≠ ChecksumType.None ∧
          self.dry_run = false then 1 else 0)

theorem wantsVerify_iff : wantsVerify self = true ↔ self.verification_mode ≠ ChecksumType.None ∧ self.dry_run = false := by
  unfold wantsVerify; cases self.dry_run <;> simp

theorem book_filtered : Book self stats0 := by
  refine ⟨rfl, by decide, rfl, rfl, rfl, ?_⟩
  rw [if_neg]
  · rfl
  · intro h; exact absurd h.1 (by decide)

/-- the invariant does not look at the clock -/
theorem Book.duration {self : SyncEngine} {st : SyncStats} (h : Book self st) (el : Rs.Duration) :
    Book self { st with duration := el } := h

theorem report_book (de : Bool) (r : Option TransferResult) (v : Except Rs.Err Bool) :
    Book self (report self de r v) := by
  have hc : (transferStats de r).files_created + (transferStats de r).files_updated = 1 := by
    rw [transferStats_eq]; cases de <;> rfl
  refine ⟨?_, Nat.le_of_eq hc, ?_, ?_, ?_, ?_⟩
  · show (transferStats de r).files_scanned = 1; rw [transferStats_eq]; rfl
  · show (transferStats de r).files_skipped = 0; rw [transferStats_eq]; rfl
  · show (transferStats de r).files_deleted = 0; rw [transferStats_eq]; rfl
  · show (transferStats de r).errors = []; rw [transferStats_eq]; rfl
  have hc' : (report self de r v).files_created + (report self de r v).files_updated = 1 := hc
  rw [hc']
  show (if _ then 1 else 0) + (if _ then 1 else 0) = _
  by_cases hw : wantsVerify self = true <;> by_cases hv : v = .ok true <;> simp [hw, hv, ← wantsVerify_iff]

/-- **C19/C10 bookkeeping of a successful run, any instance.**  One file was scanned; at most one was created or
    updated; nothing skipped or deleted; the error list is empty; and
    `files_verified + verification_failures = 1` EXACTLY when a transfer happened, the verification mode is not `None`
    and the run is not a dry run — otherwise both are 0. -/
theorem stats_bookkeeping {w wf : W} {st : SyncStats}
    (hok : runM (SyncEngine.sync_single_file ext self s d) w = (.ok st, wf)) :
    st.files_scanned = 1 ∧ st.files_created + st.files_updated ≤ 1 ∧ st.files_skipped = 0 ∧ st.files_deleted = 0 ∧
      st.errors = [] ∧
      st.files_verified + st.verification_failures =
        (if st.files_created + st.files_updated = 1 ∧ self.verification_mode ≠ ChecksumType.None ∧
            self.dry_run = false then 1 else 0) := by
  rcases ok_shape ext self s d hok with ⟨el, rfl⟩ | ⟨de, r, w', el, rfl⟩
  · exact (book_filtered self).duration el
  · exact (report_book self de r _).duration el

/-- **Truthful verification counters.**  After a transfer with verification wanted, the two counters are decided by
    ONE answer `v` of `verify_transfer(source, destination)` with the engine's verifier: `Ok(true)` ⇒ verified;
    `Ok(false)` AND `Err(_)` ⇒ a verification failure, never "verified".  The statement says `v` is the operation's
    answer in SOME world `w'`; that `w'` is the world the run reached is in `spec_ok_inv`, not here. -/
theorem verification_outcome {w wf : W} {st : SyncStats}
    (hok : runM (SyncEngine.sync_single_file ext self s d) w = (.ok st, wf))
    (hw : self.verification_mode ≠ ChecksumType.None ∧ self.dry_run = false)
    (ht : st.files_created + st.files_updated = 1) :
    ∃ w', ((runM (ext.verify_transfer (verifierOf self) s d) w').1 = .ok true →
              st.files_verified = 1 ∧ st.verification_failures = 0) ∧
          ((runM (ext.verify_transfer (verifierOf self) s d) w').1 ≠ .ok true →
              st.files_verified = 0 ∧ st.verification_failures = 1) := by
  rcases ok_shape ext self s d hok with ⟨el, rfl⟩ | ⟨de, r, w', el, rfl⟩
  · exact absurd ht (by show ¬ ((0 : Nat) + 0 = 1); decide)
  · have hwv := (wantsVerify_iff self).2 hw
    -- both counters of `report` are an `if` on the one answer
    exact ⟨w', fun hv => ⟨if_pos ⟨hwv, hv⟩, if_neg fun h => h.2 hv⟩, fun hv => ⟨if_neg fun h => hv h.2, if_pos ⟨hwv, hv⟩⟩⟩

/-- `files_verified = 1` is reported only when `verify_transfer` answers `Ok(true)` in some world (not tied to the run
    by this statement) -/
theorem verified_only_if_verify_ok {w wf : W} {st : SyncStats}
    (hok : runM (SyncEngine.sync_single_file ext self s d) w = (.ok st, wf)) (hv : st.files_verified ≠ 0) :
    ∃ w', (runM (ext.verify_transfer (verifierOf self) s d) w').1 = .ok true := by
  rcases ok_shape ext self s d hok with ⟨el, rfl⟩ | ⟨de, r, w', el, rfl⟩
  · exact absurd rfl hv
  · exact ⟨w', Classical.byContradiction fun hne => hv (if_neg fun h => hne h.2)⟩

/-- an `Err` of the first `metadata()` is the error of the whole function (`?`), before anything else happens -/
theorem metadata_error_propagates {w w1 w2 : W} {t name} {e : Rs.Err}
    (hnow : runM (ext.std_time_Instant_now ()) w = (.ok t, w1)) (hn : Rs.path_file_name s = some name)
    (hmd : runM (ext.path_metadata s) w1 = (.error e, w2)) :
    runM (SyncEngine.sync_single_file ext self s d) w = (.error e, w2) := by
  rw [sync_single_file_eq_spec]
  unfold singleSpec probe
  refine runM_bind_error ?_
  rw [runM_bind_ok hnow]
  simp only [hn]
  exact runM_bind_error hmd

/-- an `Err` of `exists(destination)` propagates -/
theorem exists_error_propagates {w w3 w4 : W} {t name md} {e : Rs.Err}
    (h : ReachesFilter ext self s w t name md false w3) (hsz : self.should_filter_by_size md.size = false)
    (hde : runM (ext.t_exists self.transport d) w3 = (.error e, w4)) :
    runM (SyncEngine.sync_single_file ext self s d) w = (.error e, w4) := by
  rw [sync_single_file_eq_spec]
  unfold singleSpec
  rw [runM_bind_ok h.probe]
  simp only [hsz, Bool.or_self, Bool.false_eq_true, if_false]
  unfold transferPhase transferStep
  exact runM_bind_error (runM_bind_error hde)

/-- **an `Err` from `create` is an error of the whole function — never swallowed** (and the world is the one `create`
    left) -/
theorem create_error_propagates {w w3 w4 w5 w6 : W} {t name md md'} {e : Rs.Err}
    (h : ReachesFilter ext self s w t name md false w3) (hsz : self.should_filter_by_size md.size = false)
    (hde : runM (ext.t_exists self.transport d) w3 = (.ok false, w4))
    (hmd : runM (ext.path_metadata s) w4 = (.ok md', w5))
    (hc : runM (ext.transferrer_create (transferrerOf self) (entryOf s name md') d) w5 = (.error e, w6)) :
    runM (SyncEngine.sync_single_file ext self s d) w = (.error e, w6) := by
  rw [unfiltered_run ext self s d h hsz hde hmd]
  exact runM_bind_error hc

/-- the same for `update` -/
theorem update_error_propagates {w w3 w4 w5 w6 : W} {t name md md'} {e : Rs.Err}
    (h : ReachesFilter ext self s w t name md false w3) (hsz : self.should_filter_by_size md.size = false)
    (hde : runM (ext.t_exists self.transport d) w3 = (.ok true, w4))
    (hmd : runM (ext.path_metadata s) w4 = (.ok md', w5))
    (hc : runM (ext.transferrer_update (transferrerOf self) (entryOf s name md') d) w5 = (.error e, w6)) :
    runM (SyncEngine.sync_single_file ext self s d) w = (.error e, w6) := by
  rw [unfiltered_run ext self s d h hsz hde hmd]
  exact runM_bind_error hc

/-- a source path without a file name (`""`, `..`): the filters are SKIPPED, `exists` and `metadata` are still
    called, and then the function fails with `Io("Invalid source path")` -/
theorem no_file_name_fails {w w1 w2 w3 : W} {t de md}
    (hnow : runM (ext.std_time_Instant_now ()) w = (.ok t, w1)) (hn : Rs.path_file_name s = none)
    (hde : runM (ext.t_exists self.transport d) w1 = (.ok de, w2))
    (hmd : runM (ext.path_metadata s) w2 = (.ok md, w3)) :
    runM (SyncEngine.sync_single_file ext self s d) w = (.error .io, w3) := by
  rw [sync_single_file_eq_spec]
  unfold singleSpec
  rw [runM_bind_ok (probe_run_noname ext self s hnow hn)]
  simp only [Bool.false_eq_true, if_false]
  unfold transferPhase transferStep
  refine runM_bind_error ?_
  rw [runM_bind_ok hde, runM_bind_ok hmd, hn]
  rfl

/-- **Where a failure of the function can come from** (the converse of the propagation theorems): the error and the
    final world are those of the clock, `metadata`, `should_exclude`, `exists`, `create` or `update` failing from SOME
    world (not tied to the run by this statement), or the file name is missing.  `verify_transfer` is NOT in the list: its `Err` is counted (`verification_outcome`),
    it never fails the function. -/
theorem failure_sources {w wf : W} {e : Rs.Err}
    (herr : runM (SyncEngine.sync_single_file ext self s d) w = (.error e, wf)) :
    (∃ w', runM (ext.std_time_Instant_now ()) w' = (.error e, wf)) ∨
    (∃ w', runM (ext.path_metadata s) w' = (.error e, wf)) ∨
    (∃ name w', runM (ext.should_exclude self name false) w' = (.error e, wf)) ∨
    (∃ w', runM (ext.t_exists self.transport d) w' = (.error e, wf)) ∨
    (Rs.path_file_name s = none ∧ e = .io) ∨
    (∃ en w', runM (ext.transferrer_create (transferrerOf self) en d) w' = (.error e, wf)) ∨
    (∃ en w', runM (ext.transferrer_update (transferrerOf self) en d) w' = (.error e, wf)) ∨
    (∃ t w', runM (ext.instant_elapsed t) w' = (.error e, wf)) := by
  rw [sync_single_file_eq_spec] at herr
  -- each operation fails only as its own disjunct; `>>=`, `if`, `capture` keep that
  revert herr
  revert wf
  revert e
  revert w
  show FailsOnly (singleSpec ext self s d) _
  refine .bind (.bind (fun w' _ _ h => .inl ⟨w', h⟩) fun t => ?_) fun p => .ite ?fin ?_
  case fin => exact .bind (fun w' _ _ h => .inr (.inr (.inr (.inr (.inr (.inr (.inr ⟨_, w', h⟩))))))) fun _ => .pure _
  · -- the probe
    cases Rs.path_file_name s with
    | none => exact .pure _
    | some name =>
      exact .bind (fun w' _ _ h => .inr (.inl ⟨w', h⟩)) fun _ =>
        .bind (fun w' _ _ h => .inr (.inr (.inl ⟨name, w', h⟩))) fun _ => .pure _
  · -- the transfer phase; the verification phase never fails
    refine .bind (.bind (fun w' _ _ h => .inr (.inr (.inr (.inl ⟨w', h⟩)))) fun de =>
        .bind (fun w' _ _ h => .inr (.inl ⟨w', h⟩)) fun md => ?_)
      fun st => .bind (.ite (.bind (.capture _) fun _ => .pure _) (.pure _)) fun _ =>
        .bind (fun w' _ _ h => .inr (.inr (.inr (.inr (.inr (.inr (.inr ⟨_, w', h⟩))))))) fun _ => .pure _
    refine .bind ?_ fun _ => .ite ?_ ?_
    · cases Rs.path_file_name s with
      | none => exact fun _ _ _ h => by cases h; exact .inr (.inr (.inr (.inr (.inl ⟨rfl, rfl⟩))))
      | some name => exact .pure _
    · exact .bind (fun w' _ _ h => .inr (.inr (.inr (.inr (.inr (.inr (.inl ⟨_, w', h⟩))))))) fun _ => .pure _
    · exact .bind (fun w' _ _ h => .inr (.inr (.inr (.inr (.inr (.inl ⟨_, w', h⟩)))))) fun _ => .pure _

/-! ## dry run (C08) -/

/-- **With `dry_run`, `verify_transfer` is never called** — as an equation between computations: whatever
    `verify_transfer` is replaced with, the function is the same. -/
theorem dry_run_never_verifies (hdry : self.dry_run = true)
    (v : IntegrityVerifier → Rs.Path → Rs.Path → Rs.M W Bool) :
    SyncEngine.sync_single_file { ext with verify_transfer := v } self s d =
      SyncEngine.sync_single_file ext self s d := by
  have hw : wantsVerify self = false := by unfold wantsVerify; rw [hdry]; simp
  rw [sync_single_file_eq_spec, sync_single_file_eq_spec]
  unfold singleSpec transferPhase verifyPhase
  simp only [hw, Bool.false_eq_true, if_false]
  rfl

/-- the same when the verification mode is `ChecksumType::None` (`--mode fast`) -/
theorem mode_none_never_verifies (hmode : self.verification_mode = ChecksumType.None)
    (v : IntegrityVerifier → Rs.Path → Rs.Path → Rs.M W Bool) :
    SyncEngine.sync_single_file { ext with verify_transfer := v } self s d =
      SyncEngine.sync_single_file ext self s d := by
  have hw : wantsVerify self = false := by unfold wantsVerify; rw [hmode]; rfl
  rw [sync_single_file_eq_spec, sync_single_file_eq_spec]
  unfold singleSpec transferPhase verifyPhase
  simp only [hw, Bool.false_eq_true, if_false]
  rfl

/-- **The executor handed to `create`/`update` carries the engine's `dry_run`**: replacing both operations by
    functions that agree with them on every `Transferrer` whose `dry_run` flag (and transport) is the engine's gives
    the same function.  So a dry run of the engine is a dry run of the executor. -/
theorem transferrer_carries_dry_run
    (c u : Transferrer → FileEntry → Rs.Path → Rs.M W (Option TransferResult))
    (hc : ∀ t e p, t.dry_run = self.dry_run → t.transport = self.transport → c t e p = ext.transferrer_create t e p)
    (hu : ∀ t e p, t.dry_run = self.dry_run → t.transport = self.transport → u t e p = ext.transferrer_update t e p) :
    SyncEngine.sync_single_file { ext with transferrer_create := c, transferrer_update := u } self s d =
      SyncEngine.sync_single_file ext self s d := by
  rw [sync_single_file_eq_spec, sync_single_file_eq_spec]
  unfold singleSpec transferPhase transferStep
  simp only [hc (transferrerOf self) _ _ rfl rfl, hu (transferrerOf self) _ _ rfl rfl]
  rfl

end anyInstance

/-! ### composition with the TRANSLATED `Transferrer::create` / `update` (unit Transfer)

  The two units are translated separately, each with its own copy of `FileEntry`, `Transferrer`, `TransferResult`
  (same fields; the Transfer unit's `Transferrer` view has the five fields its executors read).  `withTransfer base tx`
  is the `Ext` of this unit whose `transferrer_create` / `transferrer_update` ARE the translated executors over the
  transport operations `tx`, through the field-by-field conversions `toT`, `toE`, `ofR`. -/

def toMode : SymlinkMode → Generated.Transfer.SymlinkMode
  | .Preserve => .Preserve | .Follow => .Follow | .Skip => .Skip

def toT (t : Transferrer) : Generated.Transfer.Transferrer :=
  { transport := t.transport, dry_run := t.dry_run, diff_mode := t.diff_mode, symlink_mode := toMode t.symlink_mode,
    preserve_hardlinks := t.preserve_hardlinks }

def toE (e : FileEntry) : Generated.Transfer.FileEntry :=
  { path := e.path, relative_path := e.relative_path, size := e.size, modified := e.modified, is_dir := e.is_dir,
    is_symlink := e.is_symlink, symlink_target := e.symlink_target, is_sparse := e.is_sparse,
    allocated_size := e.allocated_size, xattrs := e.xattrs, inode := e.inode, nlink := e.nlink, acls := e.acls,
    bsd_flags := e.bsd_flags }

def ofR (r : Generated.Transfer.TransferResult) : TransferResult :=
  { bytes_written := r.bytes_written, delta_operations := r.delta_operations, literal_bytes := r.literal_bytes,
    transferred_bytes := r.transferred_bytes, compression_used := r.compression_used }

def withTransfer {W : Type} (base : Ext W) (tx : Generated.Transfer.Ext W) : Ext W :=
  { base with
    transferrer_create := fun t e p =>
      Generated.Transfer.Transferrer.create tx (toT t) (toE e) p >>= fun r => pure (r.map ofR)
    transferrer_update := fun t e p =>
      Generated.Transfer.Transferrer.update tx (toT t) (toE e) p >>= fun r => pure (r.map ofR) }

/-- the five probes of an `Ext` leave the world alone (what they are on a real file system: clock readings, `stat`s,
    and the pure rule matcher) -/
structure ProbesPure {W : Type} (ext : Ext W) : Prop where
  now : ∀ u, Quiet (ext.std_time_Instant_now u)
  elapsed : ∀ t, Quiet (ext.instant_elapsed t)
  metadata : ∀ p, Quiet (ext.path_metadata p)
  t_exists : ∀ t p, Quiet (ext.t_exists t p)
  exclude : ∀ e p b, Quiet (ext.should_exclude e p b)

/-- **C08 for single-file mode, composed across the two translated units.**  For ANY transport operations `tx`
    (they may do anything) and any `base` whose probes are read-only: with `self.dry_run = true` the world after
    `sync_single_file` — whose `create`/`update` are the translated executors — is the world before, whatever the
    function returns.  (`verify_transfer` of `base` is arbitrary: it is never called; `create`/`update` receive
    `dry_run = true` and by `GenTransfer.dry_run_changes_nothing` call nothing.) -/
theorem single_file_dry_run_changes_nothing {W : Type} (base : Ext W) (tx : Generated.Transfer.Ext W)
    (hro : ProbesPure base) (self : SyncEngine) (s d : Rs.Path) (hdry : self.dry_run = true) (w : W) :
    (runM (SyncEngine.sync_single_file (withTransfer base tx) self s d) w).2 = w := by
  have hw : wantsVerify self = false := by unfold wantsVerify; rw [hdry]; simp
  have hcreate : ∀ e p, Quiet ((withTransfer base tx).transferrer_create (transferrerOf self) e p) := by
    intro e p w
    show (runM (Generated.Transfer.Transferrer.create tx (toT (transferrerOf self)) (toE e) p >>= _) w).2 = w
    rw [runM_bind, (GenTransfer.dry_run_changes_nothing tx (toT (transferrerOf self)) (toE e) p w hdry false).1]
    rfl
  have hupdate : ∀ e p, Quiet ((withTransfer base tx).transferrer_update (transferrerOf self) e p) := by
    intro e p w
    show (runM (Generated.Transfer.Transferrer.update tx (toT (transferrerOf self)) (toE e) p >>= _) w).2 = w
    rw [runM_bind, (GenTransfer.dry_run_changes_nothing tx (toT (transferrerOf self)) (toE e) p w hdry false).2.1]
    rfl
  have hfinish : ∀ t st, Quiet (finish (withTransfer base tx) t st) :=
    fun t st => Rs.Pres.bind (hro.elapsed t) fun _ => Rs.Pres.pure _
  rw [sync_single_file_eq_spec]
  refine Rs.Pres.bind ?_ (fun p => Rs.Pres.ite (hfinish _ _) ?_) w
  · -- the probe
    refine Rs.Pres.bind (hro.now _) fun t => ?_
    cases Rs.path_file_name s with
    | none => exact Rs.Pres.pure _
    | some name =>
      exact Rs.Pres.bind (hro.metadata _) fun _ => Rs.Pres.bind (hro.exclude _ _ _) fun _ => Rs.Pres.pure _
  · -- the transfer phase
    refine Rs.Pres.bind ?_ fun st => Rs.Pres.bind ?_ fun st' => hfinish _ _
    · refine Rs.Pres.bind (hro.t_exists _ _) fun de => Rs.Pres.bind (hro.metadata _) fun md =>
        Rs.Pres.bind (Rs.Pres.liftE _) fun fname => Rs.Pres.ite ?_ ?_
      · exact Rs.Pres.bind (hupdate _ _) fun _ => Rs.Pres.pure _
      · exact Rs.Pres.bind (hcreate _ _) fun _ => Rs.Pres.pure _
    · unfold verifyPhase
      rw [hw]
      exact Rs.Pres.pure _

/-! ## the C16 model of single-file sources (`Filter.transferSet cfg (.singleFile e)`) -/

/-- the model configuration: the rule list is a parameter (this unit sees `should_exclude` as an extern), the size
    bounds are the engine's -/
def cfgOf (rules : List Filter.Rule) (self : SyncEngine) : Filter.FilterCfg :=
  { rules := rules, minSize := self.min_size, maxSize := self.max_size }

/-- the model entry of a single-file source: its `relative_path` is the file name (ONE component: `file_name()` never
    contains a separator), it is not a directory, its size is `metadata().len()` -/
def entryAbs (name : Rs.Str) (md : Rs.Metadata) : Filter.Entry := { rel := [name], isDir := false, size := md.size }

/-- `should_filter_by_size` of THIS unit is the model's `filterBySize` (all bounds, all sizes) — the twin of
    `GenFilter.should_filter_by_size_eq_model` / `GenVerify.should_filter_by_size_eq_model` -/
theorem should_filter_by_size_eq_model (rules : List Filter.Rule) (self : SyncEngine) (n : Nat) :
    self.should_filter_by_size n = Filter.filterBySize (cfgOf rules self) n :=
  Rs.size_filter_do self.min_size self.max_size n

/-- the model's transfer set of a single-file source, in the generated function's terms -/
theorem transferSet_single_eq (rules : List Filter.Rule) (self : SyncEngine) (name : Rs.Str) (md : Rs.Metadata) :
    Filter.transferSet (cfgOf rules self) (.singleFile (entryAbs name md)) =
      if (Filter.shouldInclude rules [name] false && !self.should_filter_by_size md.size) = true
      then [entryAbs name md] else [] := by
  unfold Filter.transferSet
  simp only [entryAbs, ← should_filter_by_size_eq_model]
  rfl

/-- nothing is handed on exactly when a rule excludes the name or the size bound rejects the file -/
theorem transferSet_single_eq_nil (rules : List Filter.Rule) (self : SyncEngine) (name : Rs.Str) (md : Rs.Metadata) :
    Filter.transferSet (cfgOf rules self) (.singleFile (entryAbs name md)) = [] ↔
      ((!Filter.shouldInclude rules [name] false) = true ∨ self.should_filter_by_size md.size = true) := by
  rw [transferSet_single_eq]
  cases Filter.shouldInclude rules [name] false <;> cases self.should_filter_by_size md.size <;> simp

/-- the abstraction of `should_exclude`: for a file name, the instance answers what the model's rule list says
    (`FilterEngine::should_exclude = !should_include`), without failing and without touching the world -/
def ExcludeIsModel {W : Type} (ext : Ext W) (rules : List Filter.Rule) : Prop :=
  ∀ (self : SyncEngine) (name : Rs.Str) (w : W),
    runM (ext.should_exclude self name false) w = (.ok (!Filter.shouldInclude rules [name] false), w)

section model
variable {W : Type} (ext : Ext W) (self : SyncEngine) (s d : Rs.Path) (rules : List Filter.Rule)

/-- **The decision of the generated function is the model's.**  Under the abstraction of `should_exclude`, once the
    clock and `metadata()` have answered: the function continues into the transfer phase exactly when
    `transferSet cfg (.singleFile e) ≠ []`, and otherwise only reads the clock again. -/
theorem single_file_decision_eq_model (hex : ExcludeIsModel ext rules) {w w1 w2 : W} {t name md}
    (hnow : runM (ext.std_time_Instant_now ()) w = (.ok t, w1)) (hn : Rs.path_file_name s = some name)
    (hmd : runM (ext.path_metadata s) w1 = (.ok md, w2)) :
    runM (SyncEngine.sync_single_file ext self s d) w =
      if Filter.transferSet (cfgOf rules self) (.singleFile (entryAbs name md)) = [] then
        runM (finish ext t stats0) w2
      else runM (transferPhase ext self s d t) w2 := by
  rw [sync_single_file_eq_spec]
  unfold singleSpec
  rw [runM_bind_ok (probe_run ext self s hnow hn hmd (hex self name w2))]
  rw [transferSet_single_eq]
  cases Filter.shouldInclude rules [name] false <;> cases self.should_filter_by_size md.size <;> simp

/-- the model hands nothing to the transfer step ⇒ `create`, `update`, `verify_transfer` are never called and the
    report says so -/
theorem model_empty_never_transfers (hex : ExcludeIsModel ext rules) {w w1 w2 : W} {t name md}
    (hnow : runM (ext.std_time_Instant_now ()) w = (.ok t, w1)) (hn : Rs.path_file_name s = some name)
    (hmd : runM (ext.path_metadata s) w1 = (.ok md, w2))
    (hempty : Filter.transferSet (cfgOf rules self) (.singleFile (entryAbs name md)) = [])
    (c u : Transferrer → FileEntry → Rs.Path → Rs.M W (Option TransferResult))
    (v : IntegrityVerifier → Rs.Path → Rs.Path → Rs.M W Bool) :
    runM (SyncEngine.sync_single_file
        { ext with transferrer_create := c, transferrer_update := u, verify_transfer := v } self s d) w =
      runM (SyncEngine.sync_single_file ext self s d) w ∧
    ∀ st wf, runM (SyncEngine.sync_single_file ext self s d) w = (.ok st, wf) →
      st.files_created = 0 ∧ st.files_updated = 0 ∧ st.bytes_transferred = 0 := by
  have hreach : ReachesFilter ext self s w t name md (!Filter.shouldInclude rules [name] false) w2 :=
    ⟨hn, w1, w2, hnow, hmd, hex self name w2⟩
  have hf := (transferSet_single_eq_nil rules self name md).1 hempty
  refine ⟨filtered_never_transfers ext self s d hreach hf c u v, fun st wf hok => ?_⟩
  obtain ⟨_, h1, h2, h3, _⟩ := filtered_stats ext self s d hreach hf hok
  exact ⟨h1, h2, h3⟩

/-- the model hands the file to the transfer step ⇒ exactly one `create`/`update` of the entry follows -/
theorem model_nonempty_transfers (hex : ExcludeIsModel ext rules) {w w1 w2 w3 w4 : W} {t name md md'} {de : Bool}
    (hnow : runM (ext.std_time_Instant_now ()) w = (.ok t, w1)) (hn : Rs.path_file_name s = some name)
    (hmd : runM (ext.path_metadata s) w1 = (.ok md, w2))
    (hne : Filter.transferSet (cfgOf rules self) (.singleFile (entryAbs name md)) ≠ [])
    (hde : runM (ext.t_exists self.transport d) w2 = (.ok de, w3))
    (hmd' : runM (ext.path_metadata s) w3 = (.ok md', w4)) :
    runM (SyncEngine.sync_single_file ext self s d) w =
      runM (transferOp ext de (transferrerOf self) (entryOf s name md') d >>= fun r =>
            verifyPhase ext self s d (transferStats de r) >>= fun st => finish ext t st) w4 := by
  have hinc : Filter.shouldInclude rules [name] false = true ∧ self.should_filter_by_size md.size = false := by
    simpa using mt (transferSet_single_eq_nil rules self name md).2 hne
  have hreach : ReachesFilter ext self s w t name md false w2 := by
    refine ⟨hn, w1, w2, hnow, hmd, ?_⟩
    have := hex self name w2
    rw [hinc.1] at this
    exact this
  exact unfiltered_run ext self s d hreach hinc.2 hde hmd'

end model

/-- the abstraction is met by the TRANSLATED filter (unit Filter): an `Ext` whose `should_exclude` evaluates the
    translated `SyncEngine::should_exclude` on the one-component path `[name]` answers what the model's rule list
    `(GenFilter.absCfg fe).rules` says -/
theorem excludeOfFilter_is_model {W : Type} (ext : Ext W) (fe : Generated.Filter.SyncEngine)
    (h : ∀ e name b, ext.should_exclude e name b = pure (fe.should_exclude [name] b)) :
    ExcludeIsModel ext (GenFilter.absCfg fe).rules := by
  intro self name w
  rw [h, GenFilter.engine_should_exclude_eq_model]
  rfl

/-! ## non-vacuity: a world that LOGS every call, and the translated function run on it by the kernel -/

/-- the world is the list of calls made so far -/
abbrev Log := List String

def logged {α : Type} (tag : String) (a : Except Rs.Err α) : Rs.M Log α := ExceptT.mk (fun w => (a, w ++ [tag]))

set_option linter.unusedVariables false in
/-- every operation appends its name to the log and answers a fixed value; `create`/`update` also log the executor's
    `dry_run` flag and the entry's size -/
def logExt (excluded destExists : Bool) (size : Nat) (transferred : Except Rs.Err (Option TransferResult))
    (verified : Except Rs.Err Bool) : Ext Log where
  std_time_Instant_now _ := logged "now" (.ok {})
  instant_elapsed _ := logged "elapsed" (.ok 7)
  path_metadata _ := logged "metadata" (.ok ⟨false, 5, size⟩)
  t_exists _ _ := logged "exists" (.ok destExists)
  transferrer_create t e _ := logged (if t.dry_run then "create(dry)" else "create") transferred
  transferrer_update t e _ := logged (if t.dry_run then "update(dry)" else "update") transferred
  verify_transfer _ _ _ := logged "verify" verified
  should_exclude _ _ _ := logged "exclude" (.ok excluded)

def exEngine : SyncEngine :=
  { transport := {}, dry_run := false, diff_mode := false, symlink_mode := .Preserve, preserve_xattrs := false,
    preserve_hardlinks := false, preserve_acls := false, preserve_flags := false, verification_mode := .Cryptographic,
    verify_on_write := false, min_size := none, max_size := some 10 }

def exSrc : Rs.Path := "/s/a.log".toList
def exDst : Rs.Path := "/d/a.log".toList
def exResult : TransferResult :=
  { bytes_written := 5, delta_operations := none, literal_bytes := none, transferred_bytes := none,
    compression_used := false }

example : Rs.path_file_name exSrc = some "a.log".toList := by decide

/-- excluded by a rule: clock, `metadata`, `should_exclude`, clock — and nothing else -/
theorem run_excluded : runM (SyncEngine.sync_single_file (logExt true false 5 (.ok (some exResult)) (.ok true)) exEngine exSrc exDst) [] =
    (.ok { stats0 with duration := 7 }, ["now", "metadata", "exclude", "elapsed"]) := by rfl

/-- rejected by `--max-size 10` (11 bytes): the same four calls -/
theorem run_size_filtered : runM (SyncEngine.sync_single_file (logExt false false 11 (.ok (some exResult)) (.ok true)) exEngine exSrc exDst) [] =
    (.ok { stats0 with duration := 7 }, ["now", "metadata", "exclude", "elapsed"]) := by rfl

/-- not filtered, no destination: ONE `create`, then `verify_transfer`; its `Err` is a verification failure -/
theorem run_create_verify_err : runM (SyncEngine.sync_single_file (logExt false false 5 (.ok (some exResult)) (.error .io)) exEngine exSrc exDst) [] =
    (.ok { stats0 with files_created := 1, bytes_transferred := 5, verification_failures := 1, duration := 7 },
      ["now", "metadata", "exclude", "exists", "metadata", "create", "verify", "elapsed"]) := by rfl

/-- the destination exists: ONE `update` (no comparison of any kind precedes it), verified -/
theorem run_update_verified : runM (SyncEngine.sync_single_file (logExt false true 5 (.ok (some exResult)) (.ok true)) exEngine exSrc exDst) [] =
    (.ok { stats0 with files_updated := 1, bytes_transferred := 5, files_verified := 1, duration := 7 },
      ["now", "metadata", "exclude", "exists", "metadata", "update", "verify", "elapsed"]) := by rfl

/-- `create` fails: the function fails with that error, nothing is verified, the clock is not read again -/
theorem run_create_error : runM (SyncEngine.sync_single_file (logExt false false 5 (.error .io) (.ok true)) exEngine exSrc exDst) [] =
    (.error .io, ["now", "metadata", "exclude", "exists", "metadata", "create"]) := by rfl

/-- dry run: the executor is handed `dry_run = true`; `verify_transfer` is not called; "created" is still reported -/
theorem run_dry_run : runM (SyncEngine.sync_single_file (logExt false false 5 (.ok none) (.ok true))
      { exEngine with dry_run := true } exSrc exDst) [] =
    (.ok { stats0 with files_created := 1, duration := 7 },
      ["now", "metadata", "exclude", "exists", "metadata", "create(dry)", "elapsed"]) := by rfl

/-- a source without a file name (`..`): no filter call, `exists` + `metadata`, then `Err(Io)` -/
theorem run_no_file_name : runM (SyncEngine.sync_single_file (logExt true false 5 (.ok none) (.ok true)) exEngine "/s/..".toList exDst) [] =
    (.error .io, ["now", "exists", "metadata"]) := by rfl

/-- the hypotheses of the filtering and bookkeeping theorems are satisfiable (both values of `ex`, both outcomes of `exists`) -/
example : ReachesFilter (logExt true false 5 (.ok none) (.ok true)) exEngine exSrc [] {} "a.log".toList ⟨false, 5, 5⟩ true
    ["now", "metadata", "exclude"] := ⟨by decide, _, _, rfl, rfl, rfl⟩
example : ReachesFilter (logExt false true 5 (.ok none) (.ok true)) exEngine exSrc [] {} "a.log".toList ⟨false, 5, 5⟩ false
    ["now", "metadata", "exclude"] := ⟨by decide, _, _, rfl, rfl, rfl⟩
example : exEngine.should_filter_by_size 5 = false ∧ exEngine.should_filter_by_size 11 = true := ⟨rfl, rfl⟩
example : runM ((logExt false true 5 (.ok none) (.ok true)).t_exists exEngine.transport exDst) ["now", "metadata", "exclude"] =
    (.ok true, ["now", "metadata", "exclude", "exists"]) := rfl
example : exEngine.verification_mode ≠ ChecksumType.None ∧ exEngine.dry_run = false := ⟨by decide, rfl⟩

/-- an `Ext` over a trivial world whose probes are pure functions and whose `should_exclude` asks the model's rule
    list: `ProbesPure` and `ExcludeIsModel` hold of it -/
def modelExt (rules : List Filter.Rule) (size : Nat) (destExists : Bool) : Ext Unit where
  std_time_Instant_now _ := pure {}
  instant_elapsed _ := pure 0
  path_metadata _ := pure ⟨false, 0, size⟩
  t_exists _ _ := pure destExists
  transferrer_create _ _ _ := pure none
  transferrer_update _ _ _ := pure none
  verify_transfer _ _ _ := pure true
  should_exclude _ name _ := pure (!Filter.shouldInclude rules [name] false)

example (rules : List Filter.Rule) (n : Nat) (b : Bool) : ProbesPure (modelExt rules n b) :=
  ⟨fun _ _ => rfl, fun _ _ => rfl, fun _ _ => rfl, fun _ _ _ => rfl, fun _ _ _ _ => rfl⟩
example (rules : List Filter.Rule) (n : Nat) (b : Bool) : ExcludeIsModel (modelExt rules n b) rules :=
  fun _ _ _ => rfl

/-- the hypothesis of `excludeOfFilter_is_model`: an `Ext` whose `should_exclude` is the translated one of unit Filter -/
example (fe : Generated.Filter.SyncEngine) :
    ∀ e name b, ({ modelExt [] 0 false with
        should_exclude := fun _ name b => pure (fe.should_exclude [name] b) } : Ext Unit).should_exclude e name b =
      pure (fe.should_exclude [name] b) := fun _ _ _ => rfl

/-- the regression witness of C16 (`transferSet_single_file_witness`: `--exclude '*.log'` on `a.log`) through the
    bridge: the model's transfer set is empty, so the translated function does not transfer -/
example : Filter.transferSet (cfgOf [⟨false, "*.log".toList, "*.log".toList,
      [.anySeq, .char '.', .char 'l', .char 'o', .char 'g'], false, false⟩] exEngine)
    (.singleFile (entryAbs "a.log".toList ⟨false, 0, 6⟩)) = [] := by decide

end SyModel.Props.GenSingleFile
