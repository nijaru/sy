/-
  GenPlanner — the translated `StrategyPlanner::{mtime_matches, needs_update}` (src/sync/strategy.rs, as
  regenerated into `SyModel/Generated/Code/Planner.lean` on every run) compute the handwritten
  `Engine.mtimeMatches` / `Engine.needsUpdate` the engine model and C01/C03/C09 are about.

  Abstraction map.
    * `StrategyPlanner ↦ Compare` (`modeOf`): the three booleans `--checksum`, `--ignore-times`,
      `--size-only` as `with_comparison_flags` stores them, read in the order `needs_update` tests them:
        checksum = true                                   ↦ .checksum      (4 combinations)
        checksum = false, ignore_times = true             ↦ .ignoreTimes   (2 combinations)
        checksum = false, ignore_times = false, size_only ↦ .sizeOnly      (1 combination)
        all three false                                   ↦ .default       (1 combination)
      `verifier` is ignored by the map (it is `Some` exactly when `checksum`; `needs_update` never reads it).
    * `FileEntry ↦ (size, modified)`, `FileInfo ↦ (size, modified)`: every other field is ignored.
    * `mtime_tolerance`: the model has the tolerance built in (1 s); `with_comparison_flags` — the only
      constructor `SyncEngine::sync` uses (src/sync/mod.rs:518) — stores the literal `1`, which the
      constant extractor re-reads on every run as `Generated.MTIME_TOLERANCE_SECS`.  Hypothesis `FromCli`.

  No module imports this one: the two functions are translated again inside the unit PlannerFx (with `plan_file_async`, which
  calls them), and Props/GenPlannerFx proves `mtime_matches_eq_model` / `needs_update_eq_model` about that copy.
-/
import SyModel.Generated.Code.Planner
import SyModel.Generated.Consts
import SyModel.Engine.Model
import SyModel.Lemmas.RsMap
namespace SyModel.Props.GenPlanner
open SyModel SyModel.Engine SyModel.Generated SyModel.Generated.Planner

/-- the comparison mode a planner value stands for; the order of the tests is the order of the `if`s of
    `needs_update`: checksum wins over ignore_times wins over size_only. -/
def modeOf (p : StrategyPlanner) : Compare :=
  if p.checksum then .checksum
  else if p.ignore_times then .ignoreTimes
  else if p.size_only then .sizeOnly
  else .default

theorem modeOf_table (tol : Nat) (v : Option Rs.Opaque) :
    modeOf ⟨tol, false, false, false, v⟩ = .default ∧
    modeOf ⟨tol, false, true,  false, v⟩ = .sizeOnly ∧
    modeOf ⟨tol, true,  false, false, v⟩ = .ignoreTimes ∧
    modeOf ⟨tol, true,  true,  false, v⟩ = .ignoreTimes ∧
    modeOf ⟨tol, false, false, true,  v⟩ = .checksum ∧
    modeOf ⟨tol, false, true,  true,  v⟩ = .checksum ∧
    modeOf ⟨tol, true,  false, true,  v⟩ = .checksum ∧
    modeOf ⟨tol, true,  true,  true,  v⟩ = .checksum := by
  simp [modeOf]

/-- every mode is reached (the map is onto: nothing of the model's `Compare` is unreachable from the CLI). -/
theorem modeOf_onto (c : Compare) : ∃ p : StrategyPlanner, p.mtime_tolerance = MTIME_TOLERANCE_SECS ∧ modeOf p = c := by
  cases c
  · exact ⟨⟨MTIME_TOLERANCE_SECS, false, false, false, none⟩, rfl, rfl⟩
  · exact ⟨⟨MTIME_TOLERANCE_SECS, false, false, true, none⟩, rfl, rfl⟩
  · exact ⟨⟨MTIME_TOLERANCE_SECS, true, false, false, none⟩, rfl, rfl⟩
  · exact ⟨⟨MTIME_TOLERANCE_SECS, false, true, false, none⟩, rfl, rfl⟩

/-- the planner was built by `with_comparison_flags` (tolerance = the literal of that constructor). -/
def FromCli (p : StrategyPlanner) : Prop := p.mtime_tolerance = MTIME_TOLERANCE_SECS

/-- the constant re-read from the source on this run is the model's built-in tolerance. -/
theorem consts_ok_tolerance : MTIME_TOLERANCE_SECS = 1 := by decide
/-- the literal extracted from `StrategyPlanner::new()` (the other constructor; used by tests and `Default`) is the
    same numeral as the one extracted from `with_comparison_flags` -/
theorem consts_ok_tolerance_new : MTIME_TOLERANCE_S = MTIME_TOLERANCE_SECS := by decide

example : FromCli ⟨1, false, false, false, none⟩ := rfl

/-- `Rs.duration_since` + `as_secs` on either arm is the whole seconds of the absolute difference. -/
theorem mtime_matches_eq_absDiff (p : StrategyPlanner) (a b : Nat) :
    p.mtime_matches a b = decide (absDiff a b / 1000000000 ≤ p.mtime_tolerance) :=
  Rs.secs_apart a b fun s => decide (s ≤ p.mtime_tolerance)

/-- BRIDGE: `mtime_matches` of a CLI-built planner is the model's `mtimeMatches`, for all time stamps. -/
theorem mtime_matches_eq_model (p : StrategyPlanner) (hp : FromCli p) (a b : Rs.SystemTime) :
    p.mtime_matches a b = mtimeMatches a b := by
  rw [mtime_matches_eq_absDiff, hp, consts_ok_tolerance]; rfl

/-- BRIDGE: `needs_update` of a CLI-built planner is the model's `needsUpdate` at the mode its flags stand
    for — all 8 flag combinations, all entries. -/
theorem needs_update_eq_model (p : StrategyPlanner) (hp : FromCli p) (src : FileEntry) (dst : FileInfo) :
    p.needs_update src dst = needsUpdate (modeOf p) src.size src.modified dst.size dst.modified := by
  have hm := mtime_matches_eq_model p hp src.modified dst.modified
  unfold StrategyPlanner.needs_update modeOf needsUpdate
  rw [← hm]
  generalize p.mtime_matches src.modified dst.modified = mm
  -- the flags in the order the code tests them; a flag that decides makes the later ones irrelevant on both sides
  cases p.checksum with
  | true => rfl
  | false =>
  cases p.ignore_times with
  | true => cases (src.size != dst.size) <;> rfl
  | false =>
  cases p.size_only with
  | true => rfl
  | false => cases (src.size != dst.size) <;> cases mm <;> rfl

/-- the same, one line per flag combination (what a reader of the CLI wants to see). -/
theorem needs_update_eq_model_per_flags (v : Option Rs.Opaque) (src : FileEntry) (dst : FileInfo) :
    let P := fun it so ck => StrategyPlanner.needs_update ⟨MTIME_TOLERANCE_SECS, it, so, ck, v⟩ src dst
    let M := fun c => needsUpdate c src.size src.modified dst.size dst.modified
    P false false false = M .default ∧ P false true false = M .sizeOnly ∧
    P true false false = M .ignoreTimes ∧ P true true false = M .ignoreTimes ∧
    P false false true = M .checksum ∧ P false true true = M .checksum ∧
    P true false true = M .checksum ∧ P true true true = M .checksum := by
  intro P M
  refine ⟨?_, ?_, ?_, ?_, ?_, ?_, ?_, ?_⟩ <;> exact needs_update_eq_model ⟨_, _, _, _, _⟩ rfl src dst

end SyModel.Props.GenPlanner
