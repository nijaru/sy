/-
  C17 — Symlinks and extended attributes are reproduced per the selected mode (engine level).
  Property theorems only.  `tgt` (what the source link resolves to) is arbitrary in the preserve
  theorems: dangling, relative, absolute, directory-targeting and chained links are all just a
  link text here, exactly as `read_link` captured it.
-/
import SyModel.Lemmas.EngineClosed
namespace SyModel.Props.C17
open SyModel SyModel.Engine

/-- **preserve**: after a run that exits 0 the destination has a symlink with exactly the source
    link's text — whatever was at that path before (nothing, a file, another link). -/
theorem preserve_text (cfg : Cfg) (hnd : cfg.dryRun = false) (hl : cfg.links = .preserve) (flt : Faults)
    (scan : List SEntry) (dst : Map DNode) (n : Nat) (hu : UniqueRels scan)
    (hdel : cfg.delete = true → ParentClosed scan ∧ dst.get? [] = none)
    (hino : cfg.hardlinks = true → InoConsistent scan)
    (hok : (runF cfg flt scan dst n).exit = 0)
    (e : SEntry) (he : e ∈ scanFilter cfg scan) (text : String) (tgt : LinkTarget)
    (hk : e.kind = .symlink text tgt) :
    (runF cfg flt scan dst n).dst.get? e.rel = some (.symlink text) :=
  (entryPost_of_exit_zero hnd flt scan dst n hu hdel hino he hok).link_preserve text tgt hk hl

/-- … also in a run that failed elsewhere, for every link whose action was reported as done. -/
theorem preserve_text_reported (cfg : Cfg) (hnd : cfg.dryRun = false) (hl : cfg.links = .preserve) (flt : Faults)
    (scan : List SEntry) (dst : Map DNode) (n : Nat) (hu : UniqueRels scan)
    (hdel : cfg.delete = true → ParentClosed scan ∧ dst.get? [] = none)
    (hino : cfg.hardlinks = true → InoConsistent scan)
    (e : SEntry) (he : e ∈ scanFilter cfg scan) (text : String) (tgt : LinkTarget)
    (hk : e.kind = .symlink text tgt)
    (hev : ((planEntry cfg dst e).act, e.rel) ∈ (runF cfg flt scan dst n).events) :
    (runF cfg flt scan dst n).dst.get? e.rel = some (.symlink text) :=
  (entryPost_of_event hnd flt scan dst n hu hdel hino he hev).link_preserve text tgt hk hl

/-- **preserve, stable**: after any number `k` of re-syncs it is still that symlink with that
    text (every comparison mode; the prior destination a real tree). -/
theorem preserve_stable (cfg : Cfg) (hnd : cfg.dryRun = false) (hl : cfg.links = .preserve)
    (scan : List SEntry) (dst : Map DNode) (ns : Nat → Nat) (hu : UniqueRels scan) (hnr : NoRoot scan)
    (hdel : cfg.delete = true → ParentClosed scan ∧ dst.get? [] = none)
    (hino : cfg.hardlinks = true → InoConsistent scan) (hc : DstParentClosed dst)
    (hok : (iterRun cfg scan dst ns 0).exit = 0)
    (e : SEntry) (he : e ∈ scanFilter cfg scan) (text : String) (tgt : LinkTarget)
    (hk : e.kind = .symlink text tgt) (k : Nat) :
    (iterRun cfg scan dst ns k).dst.get? e.rel = some (.symlink text) ∧ (iterRun cfg scan dst ns k).exit = 0 := by
  obtain ⟨a, b, _⟩ := iterRun_stable hnd ns hu hnr hdel hino ((gclosed_iff dst).2 hc) hok k
  refine ⟨?_, a⟩
  rw [b]
  exact preserve_text cfg hnd hl noFaults scan dst (ns 0) hu hdel hino hok e he text tgt hk

/-- **preserve, retargeted**: when the source link is retargeted (`scan'` lists it with the new
    text) the next clean sync over a destination still holding the old link leaves the new text.  (What the
    destination holds there does not matter: this is `preserve_text` for the fault-free run; `_hold` is not used.) -/
theorem preserve_retarget (cfg : Cfg) (hnd : cfg.dryRun = false) (hl : cfg.links = .preserve)
    (scan' : List SEntry) (dst1 : Map DNode) (n : Nat) (hu : UniqueRels scan')
    (hdel : cfg.delete = true → ParentClosed scan' ∧ dst1.get? [] = none)
    (hino : cfg.hardlinks = true → InoConsistent scan')
    (hok : (run cfg scan' dst1 n).exit = 0)
    (e' : SEntry) (he : e' ∈ scanFilter cfg scan') (old new : String) (tgt : LinkTarget)
    (hk : e'.kind = .symlink new tgt) (_hold : dst1.get? e'.rel = some (.symlink old)) :
    (run cfg scan' dst1 n).dst.get? e'.rel = some (.symlink new) :=
  preserve_text cfg hnd hl noFaults scan' dst1 n hu hdel hino hok e' he new tgt hk

/-- **follow**: a link whose target is a regular file becomes a regular file; when it was absent
    or differed under the comparison rule it carries the target's content, size and mtime. -/
theorem follow_copies (cfg : Cfg) (hnd : cfg.dryRun = false) (hl : cfg.links = .follow) (flt : Faults)
    (scan : List SEntry) (dst : Map DNode) (n : Nat) (hu : UniqueRels scan)
    (hdel : cfg.delete = true → ParentClosed scan ∧ dst.get? [] = none)
    (hino : cfg.hardlinks = true → InoConsistent scan)
    (hok : (runF cfg flt scan dst n).exit = 0)
    (e : SEntry) (he : e ∈ scanFilter cfg scan) (text : String) (m : FileMeta)
    (hk : e.kind = .symlink text (.file m)) :
    ∃ d, (runF cfg flt scan dst n).dst.get? e.rel = some (.file d) ∧
      (planFileAct cfg m (dst.get? e.rel) ≠ .skip →
        d.content = m.content ∧ d.size = m.size ∧ d.mtime = m.mtime) := by
  obtain ⟨d, h1, _, h3, _⟩ := (entryPost_of_exit_zero hnd flt scan dst n hu hdel hino he hok).link_follow text m hk hl
  exact ⟨d, h1, fun h => ⟨(h3 h).1, (h3 h).2.1, (h3 h).2.2.1⟩⟩

/-- **follow**, directory or dangling target: nothing is planned for the link. -/
theorem follow_skips_unfollowable (cfg : Cfg) (hl : cfg.links = .follow) (dst : Map DNode) (e : SEntry)
    (text : String) (tgt : LinkTarget) (hk : e.kind = .symlink text tgt) (hnf : ∀ m, tgt ≠ .file m) :
    planEntry cfg dst e = ⟨.skip, e.rel, .nothing⟩ :=
  planEntry_link_nothing hk (Or.inr ⟨hl, hnf⟩)

/-- **skip**: the planned task for a link is a skip with nothing to transfer, so the report
    never shows a create/update for it … -/
theorem skip_plans_nothing (cfg : Cfg) (hl : cfg.links = .skip) (dst : Map DNode) (e : SEntry)
    (text : String) (tgt : LinkTarget) (hk : e.kind = .symlink text tgt) :
    planEntry cfg dst e = ⟨.skip, e.rel, .nothing⟩ :=
  planEntry_link_nothing hk (Or.inl hl)

/-- … **and nothing is created**: the node at the link's path is what it was before the run
    (in particular an absent path stays absent), under every fault plan hitting other tasks. -/
theorem skip_creates_nothing (cfg : Cfg) (hnd : cfg.dryRun = false) (hl : cfg.links = .skip) (flt : Faults)
    (scan : List SEntry) (dst : Map DNode) (n : Nat) (hu : UniqueRels scan) (hc : ParentClosed scan)
    (hroot : cfg.delete = true → dst.get? [] = none)
    (hino : cfg.hardlinks = true → InoConsistent scan)
    (e : SEntry) (he : e ∈ scanFilter cfg scan) (text : String) (tgt : LinkTarget)
    (hk : e.kind = .symlink text tgt)
    (hev : (Act.skip, e.rel) ∈ (runF cfg flt scan dst n).events) :
    (runF cfg flt scan dst n).dst.get? e.rel = dst.get? e.rel := by
  have hpe := skip_plans_nothing cfg hl dst e text tgt hk
  have ep := entryPost_of_event hnd flt scan dst n hu (fun h => ⟨hc, hroot h⟩) hino he (by rw [hpe]; exact hev)
  exact (ep.link_skip text tgt hk hl).eq hu hc (mem_of_mem_scanFilter he) (by rw [hk]; simp)

/-- **xattrs with `-X`**: every regular file transferred by the run carries exactly the source's
    user extended attributes … -/
theorem xattrs_with_X (cfg : Cfg) (hnd : cfg.dryRun = false) (hx : cfg.xattrs = true) (flt : Faults)
    (scan : List SEntry) (dst : Map DNode) (n : Nat) (hu : UniqueRels scan)
    (hdel : cfg.delete = true → ParentClosed scan ∧ dst.get? [] = none)
    (hino : cfg.hardlinks = true → InoConsistent scan)
    (hok : (runF cfg flt scan dst n).exit = 0)
    (e : SEntry) (he : e ∈ scanFilter cfg scan) (m : FileMeta) (k : Nat) (hk : e.kind = .file m k)
    (htr : planFileAct cfg m (dst.get? e.rel) ≠ .skip) :
    ∃ d, (runF cfg flt scan dst n).dst.get? e.rel = some (.file d) ∧ d.xattrs = m.xattrs := by
  obtain ⟨d, h1, _, h3, _⟩ := (entryPost_of_exit_zero hnd flt scan dst n hu hdel hino he hok).file m k hk
  exact ⟨d, h1, by rw [(h3 htr).2.2.2, hx]; rfl⟩

/-- … **and without `-X` none**. -/
theorem xattrs_without_X (cfg : Cfg) (hnd : cfg.dryRun = false) (hx : cfg.xattrs = false) (flt : Faults)
    (scan : List SEntry) (dst : Map DNode) (n : Nat) (hu : UniqueRels scan)
    (hdel : cfg.delete = true → ParentClosed scan ∧ dst.get? [] = none)
    (hino : cfg.hardlinks = true → InoConsistent scan)
    (hok : (runF cfg flt scan dst n).exit = 0)
    (e : SEntry) (he : e ∈ scanFilter cfg scan) (m : FileMeta) (k : Nat) (hk : e.kind = .file m k)
    (htr : planFileAct cfg m (dst.get? e.rel) ≠ .skip) :
    ∃ d, (runF cfg flt scan dst n).dst.get? e.rel = some (.file d) ∧ d.xattrs = [] := by
  obtain ⟨d, h1, _, h3, _⟩ := (entryPost_of_exit_zero hnd flt scan dst n hu hdel hino he hok).file m k hk
  exact ⟨d, h1, by rw [(h3 htr).2.2.2, hx]; rfl⟩

def exCfg : Cfg where
  delete := false
  force := false
  dryRun := false
  xattrs := true
  hardlinks := false
  threshold := 50
  links := .preserve
  compare := .default
  minSize := none
  maxSize := none
  maxErrors := 100
  tie := false

/-- a dangling link `dl -> nowhere` next to the example tree -/
def scanL : List SEntry := ⟨["dl"], .symlink "nowhere" .dangling, 7, false⟩ :: exScan
/-- the same tree after retargeting `dl` -/
def scanL' : List SEntry := ⟨["dl"], .symlink "elsewhere" .dir, 9, false⟩ :: exScan

/-- the sync of the dangling link exits 0 and places it; so does the sync after it is retargeted (evaluated once) -/
theorem exRunL_report : (run exCfg scanL exDst 1000).exit = 0 ∧
    (run exCfg scanL exDst 1000).dst.get? ["dl"] = some (.symlink "nowhere") ∧
    (run exCfg scanL' (run exCfg scanL exDst 1000).dst 2000).exit = 0 := by decide

example : ∀ k, (iterRun exCfg scanL exDst (fun i => 1000 * (i + 1)) k).dst.get? ["dl"] = some (.symlink "nowhere") :=
  fun k => (preserve_stable exCfg rfl rfl scanL exDst (fun i => 1000 * (i + 1)) (by decide) (by decide) (fun h => by cases h)
    (fun h => by cases h) exDst_parentClosed exRunL_report.1 ⟨["dl"], .symlink "nowhere" .dangling, 7, false⟩ (by decide)
    "nowhere" .dangling rfl k).1

example : (run exCfg scanL' (run exCfg scanL exDst 1000).dst 2000).dst.get? ["dl"] = some (.symlink "elsewhere") :=
  preserve_retarget exCfg rfl rfl scanL' _ 2000 (by decide) (fun h => by cases h) (fun h => by cases h) exRunL_report.2.2
    ⟨["dl"], .symlink "elsewhere" .dir, 9, false⟩ (by decide) "nowhere" "elsewhere" .dir rfl exRunL_report.2.1

example : ∃ d, (run { exCfg with links := .follow } exScan exDst 1000).dst.get? ["l"] = some (.file d) ∧
    d.content = 1 := by
  obtain ⟨d, h1, h2⟩ := follow_copies { exCfg with links := .follow } rfl rfl noFaults exScan exDst 1000 exScan_uniqueRels
    (fun h => by cases h) (fun h => by cases h) (by decide)
    ⟨["l"], .symlink "d/f" (.file (exMeta 1 10 5000000000 3)), 3, false⟩ (by decide) "d/f" _ rfl
  exact ⟨d, h1, (h2 (by decide)).1⟩

example : (run { exCfg with links := .skip } exScan exDst 1000).dst.get? ["l"] = none :=
  skip_creates_nothing { exCfg with links := .skip } rfl rfl noFaults exScan exDst 1000 exScan_uniqueRels exScan_parentClosed
    (fun h => by cases h) (fun h => by cases h)
    ⟨["l"], .symlink "d/f" (.file (exMeta 1 10 5000000000 3)), 3, false⟩ (by decide) "d/f" _ rfl (by decide)

example : ∃ d, (run exCfg exScan exDst 1000).dst.get? ["d", "f"] = some (.file d) ∧ d.xattrs = [("user.k", 1)] :=
  xattrs_with_X exCfg rfl rfl noFaults exScan exDst 1000 exScan_uniqueRels (fun h => by cases h) (fun h => by cases h)
    (by decide) ⟨["d", "f"], .file (exMeta 1 10 5000000000 3) 1, 10, false⟩ (by decide) _ 1 rfl (by decide)

example : ∃ d, (run { exCfg with xattrs := false } exScan exDst 1000).dst.get? ["d", "f"] = some (.file d) ∧
    d.xattrs = [] :=
  xattrs_without_X { exCfg with xattrs := false } rfl rfl noFaults exScan exDst 1000 exScan_uniqueRels
    (fun h => by cases h) (fun h => by cases h)
    (by decide) ⟨["d", "f"], .file (exMeta 1 10 5000000000 3) 1, 10, false⟩ (by decide) _ 1 rfl (by decide)

end SyModel.Props.C17
