/-
  C13 — Hard-link structure is preserved and link coordination always terminates.
  Property theorems only; the model is `SyModel/Hardlink/{Protocol,Update}.lean`, helper lemmas live in
  `SyModel/Lemmas/Hardlink*.lean`; the statement vocabulary `Cfg.DstOk`, `WorkerCfg.clean`, `Pc.holdsClaim`,
  `Pc.waitsOn` is defined at the top of `Lemmas/Hardlink.lean`.

  All theorems are for an arbitrary number of paths `cfg.n` — each created, updated or skipped —,
  arbitrary partitions into link groups (`(cfg.worker w).inode`), arbitrary pre-run destinations,
  arbitrary scripted await points, arbitrary fault plans and arbitrary *micro-step* schedules
  (thread-level interleavings at mutex granularity; the `poll`-level schedules of a single-threaded
  executor are a special case, `poll_is_execution`).

  Status on the current tree (a68466f, 8b4f96e): `Variant.repaired` is the code as it is — the hand-off
  `transfer_link_member` is shared by `create` and `update`. `Variant.pinned` keeps the protocol as
  originally shipped, with its machine-checked hang witnesses (`no_stuck_counterexample_pinned`,
  `lost_wakeup_counterexample_pinned`). `single_owner`, `link_structure` and `terminates` hold for
  both variants. Still false on the current code, each with a witness here and a replay on the real
  binary: `new_link_not_joined_counterexample`, `skipped_members_keep_stale_structure_counterexample`.
  tokio's `Notify` is modelled, not verified.
-/
import SyModel.Lemmas.HardlinkProps
namespace SyModel.Props.C13
open SyModel SyModel.Hardlink

/-! ### single owner -/

/-- In every reachable state at most one worker per source inode is between a successful claim and
    the release of its claim: two claim holders of the same inode are the same worker.
    (Both variants.) -/
theorem single_owner (cfg : Cfg) (s : State) (hr : Reachable cfg s) (w₁ w₂ : Nat)
    (hl₁ : (cfg.worker w₁).linked = true) (hl₂ : (cfg.worker w₂).linked = true)
    (hsame : (cfg.worker w₁).inode = (cfg.worker w₂).inode)
    (h₁ : (s.pc w₁).holdsClaim = true) (h₂ : (s.pc w₂).holdsClaim = true) : w₁ = w₂ := by
  have hi := inv_reachable hr
  have e₁ := hi.claimMap w₁ hl₁ h₁
  have e₂ := hi.claimMap w₂ hl₂ h₂
  rw [hsame, e₂] at e₁
  cases e₁
  rfl

/-- … and the map entry always names that worker: an `InProgress` entry is held by exactly the
    worker it names (repaired protocol: a failed owner never leaves its entry behind). -/
theorem in_progress_is_held (cfg : Cfg) (hv : cfg.variant = .repaired) (s : State)
    (hr : Reachable cfg s) (i g : Nat) (h : s.map i = some (.inProgress g)) :
    g < cfg.n ∧ (cfg.worker g).inode = i ∧ (s.pc g).holdsClaim = true := by
  obtain ⟨hg, _, hino, _⟩ := (inv_reachable hr).mapClaim i g h
  exact ⟨hg, hino, (inv_reachable hr).claimed hv h⟩

/-! ### link structure — after creation *and* after updates -/

/-- Files that share a source inode are all hard-link candidates (`nlink > 1`); a file outside the
    hard-link branch has an inode of its own. -/
def WF (cfg : Cfg) : Prop :=
  ∀ w₁ w₂, w₁ < cfg.n → w₂ < cfg.n → w₁ ≠ w₂ →
    (cfg.worker w₁).inode = (cfg.worker w₂).inode →
      (cfg.worker w₁).linked = true ∧ (cfg.worker w₂).linked = true

/-- The path is transferred (created or updated) in this run, not skipped. -/
def Active (cfg : Cfg) (w : Nat) : Prop := (cfg.worker w).action ≠ .skip

/-- For every path **created or updated** in the run — any mix of both, files below or at/above the
    delta gate, both variants, any fault plan, any schedule, any reachable state (in particular the
    final one) — and any pre-run destination, *whatever* names share an inode there (links left from
    a source that has been regrouped since included): two destination files whose transfer
    returned `Ok` share an inode **iff** their sources do, and each has its source's content.
    (Before a68466f this held for created paths only.) -/
theorem link_structure (cfg : Cfg) (hwf : WF cfg) (hdst : cfg.DstOk) (s : State)
    (hr : Reachable cfg s) (w₁ w₂ : Nat) (hw₁ : w₁ < cfg.n) (hw₂ : w₂ < cfg.n)
    (ha₁ : Active cfg w₁) (ha₂ : Active cfg w₂)
    (hok₁ : s.pc w₁ = .done .ok) (hok₂ : s.pc w₂ = .done .ok) :
    ∃ f₁ f₂, s.dst w₁ = some f₁ ∧ s.dst w₂ = some f₂ ∧
      (f₁.ino = f₂.ino ↔ (cfg.worker w₁).inode = (cfg.worker w₂).inode) ∧
      f₁.content = cfg.content (cfg.worker w₁).inode ∧
      f₂.content = cfg.content (cfg.worker w₂).inode := by
  have hi := inv_reachable hr
  have hd := invD_reachable hdst hr
  have c₁ := hd.ok_content ha₁ hok₁
  have c₂ := hd.ok_content ha₂ hok₂
  cases h₁ : s.dst w₁ with
  | none => rw [h₁] at c₁; cases c₁
  | some f₁ =>
    cases h₂ : s.dst w₂ with
    | none => rw [h₂] at c₂; cases c₂
    | some f₂ =>
      rw [h₁] at c₁; rw [h₂] at c₂
      simp only [Option.map_some, Option.some.injEq] at c₁ c₂
      refine ⟨f₁, f₂, rfl, rfl, ⟨?_, ?_⟩, c₁, c₂⟩
      · exact fun he => hd.ok_refines hi ha₁ hok₁ (by rw [h₁]; rfl) (by rw [h₂, he]; rfl)
      · -- members of one source group share the inode of the recorded first path
        intro he
        by_cases hne : w₁ = w₂
        · subst hne; rw [h₁] at h₂; cases h₂; rfl
        · obtain ⟨hl₁, hl₂⟩ := hwf w₁ w₂ hw₁ hw₂ hne he
          obtain ⟨p₁, hm₁⟩ := hd.okLinkedMap w₁ hl₁ ha₁ hok₁
          obtain ⟨p₂, hm₂⟩ := hd.okLinkedMap w₂ hl₂ ha₂ hok₂
          have e₁ := (hd.okLinkedDst w₁ p₁ hl₁ ha₁ hok₁ hm₁).1
          have e₂ := (hd.okLinkedDst w₂ p₂ hl₂ ha₂ hok₂ hm₂).1
          rw [he, hm₂] at hm₁
          cases hm₁
          rw [h₁] at e₁; rw [h₂, ← e₁] at e₂
          simp only [Option.map_some, Option.some.injEq] at e₂
          exact e₂.symm

/-- A run in which no operation fails. -/
def Clean (cfg : Cfg) : Prop := ∀ w, w < cfg.n → (cfg.worker w).clean = true

/-- In a clean run every path that returns, returns `Ok` … -/
theorem clean_all_ok (cfg : Cfg) (hc : Clean cfg) (hdst : cfg.DstOk) (s : State)
    (hr : Reachable cfg s) (w : Nat) (r : Res) (h : s.pc w = .done r) : r = .ok := by
  have := clean_reachable hc hdst hr w
  rw [h] at this
  cases r with
  | ok => rfl
  | err op => simp [Pc.errish] at this

/-- … hence in the final state of a clean run *all* transferred paths exist, have their source's
    content, and share an inode exactly when their sources do. In particular: when every member of
    a link group is updated in one run — the owner's rewrite lands in a fresh inode (the old one is
    shared with the other members, so it is not written through), each other member is removed and
    re-linked to the owner's path — the group is still one inode afterwards. -/
theorem link_structure_clean (cfg : Cfg) (hwf : WF cfg) (hc : Clean cfg) (hdst : cfg.DstOk)
    (s : State) (hr : Reachable cfg s) (hfin : allDone cfg s) (w₁ w₂ : Nat)
    (hw₁ : w₁ < cfg.n) (hw₂ : w₂ < cfg.n) (ha₁ : Active cfg w₁) (ha₂ : Active cfg w₂) :
    ∃ f₁ f₂, s.dst w₁ = some f₁ ∧ s.dst w₂ = some f₂ ∧
      (f₁.ino = f₂.ino ↔ (cfg.worker w₁).inode = (cfg.worker w₂).inode) ∧
      f₁.content = cfg.content (cfg.worker w₁).inode ∧
      f₂.content = cfg.content (cfg.worker w₂).inode := by
  have ok : ∀ w, w < cfg.n → s.pc w = .done .ok := by
    intro w hw
    obtain ⟨r, hp⟩ := Pc.eq_done_of_isDone (hfin w hw)
    rw [hp, clean_all_ok cfg hc hdst s hr w r hp]
  exact link_structure cfg hwf hdst s hr w₁ w₂ hw₁ hw₂ ha₁ ha₂ (ok w₁ hw₁) (ok w₂ hw₂)

/-- Every name of the inode of a path transferred `Ok` — a path of this run that was transferred
    too, is still being transferred, failed, or was **skipped** as up to date — belongs to the same
    source inode and shows the same content: no destination inode is shared across source groups
    with a transferred path, whatever links the pre-run destination had (8b4f96e). -/
theorem no_cross_group_sharing (cfg : Cfg) (hdst : cfg.DstOk) (s : State) (hr : Reachable cfg s)
    (w r : Nat) (ha : Active cfg w) (hok : s.pc w = .done .ok)
    (fw fr : File) (hq : s.dst w = some fw) (hr' : s.dst r = some fr)
    (he : fw.ino = fr.ino) : (cfg.worker w).inode = (cfg.worker r).inode ∧ fw.content = fr.content := by
  have hi := inv_reachable hr
  have hd := invD_reachable hdst hr
  refine ⟨hd.ok_refines hi ha hok (by rw [hq]; rfl) (by rw [hr', he]; rfl), ?_⟩
  · have := hd.inoContent w r fw.ino (by rw [hq]; rfl) (by rw [hr', he]; rfl)
    rw [hq, hr'] at this
    simpa using this

/-- Once a worker has returned — in particular a **skipped**, up-to-date name, which has returned
    before the run starts — nobody changes its destination path any more: not its inode, not its
    content. (Before 8b4f96e an update could write through an inode it shared with such a name.)
    Locality of the steps takes no invariant: `hdst` is not used, here or in `skipped_names_untouched`. -/
theorem returned_path_untouched (cfg : Cfg) (hdst : cfg.DstOk) (s s' : State) (sched : List Nat)
    (hr : Reachable cfg s) (hex : Exec cfg s sched s') (q : Nat) (hdone : (s.pc q).isDone = true) :
    s'.dst q = s.dst q :=
  exec_done_untouched (outside_reachable hr) hex q hdone

theorem skipped_names_untouched (cfg : Cfg) (hdst : cfg.DstOk) (s : State) (hr : Reachable cfg s)
    (q : Nat) (hq : q < cfg.n) (hskip : (cfg.worker q).action = .skip) :
    s.dst q = (cfg.worker q).dst0 := by
  obtain ⟨sched, hex⟩ := hr
  have h0 : ((init cfg).pc q).isDone = true := by simp [init, hskip, Pc.isDone]
  have := exec_done_untouched (outside_init cfg) hex q h0
  rw [this]; simp [init, hq]

/-! ### no reachable state is stuck (repaired protocol) -/

/-- Every reachable state that is not final has an enabled micro-step — whatever failed before,
    whatever the schedule was. -/
theorem no_stuck (cfg : Cfg) (hv : cfg.variant = .repaired) (s : State) (hr : Reachable cfg s)
    (hnf : ¬ allDone cfg s) : ∃ w, w < cfg.n ∧ enabled cfg s w = true := by
  apply Classical.byContradiction
  intro hne
  refine hnf (allDone_of_maximal (invR_reachable hv hr) fun w hw => ?_)
  cases h : enabled cfg s w
  · rfl
  · exact absurd ⟨w, hw, h⟩ hne

/-- A blocked waiter always waits on a worker that can move: nobody waits for a worker that has
    returned or that waits itself. -/
theorem waiter_has_live_owner (cfg : Cfg) (hv : cfg.variant = .repaired) (s : State)
    (hr : Reachable cfg s) (w : Nat) (hw : w < cfg.n) (hd : (s.pc w).isDone = false)
    (hblocked : enabled cfg s w = false) :
    ∃ g, g < cfg.n ∧ (s.pc w).waitsOn = some g ∧ enabled cfg s g = true := by
  cases enabled_or_owner_enabled (invR_reachable hv hr) hw hd with
  | inl h => unfold enabled at hblocked; rw [h] at hblocked; cases hblocked
  | inr h => exact h

/-! ### termination -/

/-- The variant `measure` strictly decreases on **every** micro-step of **every** worker, in every
    state, for both variants: no livelock, no unbounded re-arming of a wait. -/
theorem terminates (cfg : Cfg) (s s' : State) (w : Nat) (l : Label)
    (h : step cfg s w = some (l, s')) : measure cfg s' < measure cfg s :=
  step_measure_lt h

/-- Hence every execution from `s` — any schedule, any worker count — has at most `measure cfg s`
    micro-steps. -/
theorem execution_bounded (cfg : Cfg) (s s' : State) (sched : List Nat) (h : Exec cfg s sched s') :
    sched.length ≤ measure cfg s := by
  have := exec_measure h
  omega

/-- There is no infinite execution: no infinite sequence of states linked by micro-steps, for any
    infinite schedule `σ`. -/
theorem no_infinite_execution (cfg : Cfg) (σ : Nat → Nat) (st : Nat → State) :
    ¬ ∀ i, ∃ l, step cfg (st i) (σ i) = some (l, st (i + 1)) := by
  intro h
  have := exec_measure (exec_of_stream h (measure cfg (st 0) + 1))
  rw [List.length_map, List.length_range] at this
  omega

/-- Repaired protocol: every maximal execution (one that stops only when no worker is enabled)
    ends with every worker returned, within `measure cfg init` micro-steps. -/
theorem every_run_completes (cfg : Cfg) (hv : cfg.variant = .repaired) (sched : List Nat) (s : State)
    (h : Exec cfg (init cfg) sched s) (hmax : ∀ w, w < cfg.n → enabled cfg s w = false) :
    allDone cfg s ∧ sched.length ≤ measure cfg (init cfg) := by
  exact ⟨allDone_of_maximal (invR_reachable hv ⟨sched, h⟩) hmax, execution_bounded cfg (init cfg) s sched h⟩

/-! ### a failing owner -/

/-- Repaired protocol. Let an operation `op` of hard-link candidate `g` fail in a reachable state
    (`g` is the owner of its group if `op` is a copy-side operation). Then in every maximal
    continuation: every worker has returned (nobody is left waiting), `g` returned exactly that
    error, no `InProgress` entry is left behind, and the continuation is bounded by the variant.
    (`hl` is not used: the conclusion holds for the worker of an ordinary file too.) -/
theorem owner_failure_surfaces (cfg : Cfg) (hv : cfg.variant = .repaired) (s s₁ s₂ : State)
    (hr : Reachable cfg s) (g : Nat) (op : Op) (hl : (cfg.worker g).linked = true)
    (hfail : step cfg s g = some (.opErr op, s₁))
    (sched : List Nat) (hex : Exec cfg s₁ sched s₂)
    (hmax : ∀ w, w < cfg.n → enabled cfg s₂ w = false) :
    allDone cfg s₂ ∧ s₂.pc g = .done (.err op) ∧
      (∀ i g', s₂.map i ≠ some (.inProgress g')) ∧ sched.length ≤ measure cfg s₁ := by
  have hr₂ := reachable_exec (reachable_step hr hfail) hex
  have hdone := allDone_of_maximal (invR_reachable hv hr₂) hmax
  exact ⟨hdone, opErr_returned hfail hex (hdone g (step_eq_some hfail).1),
    allDone_no_claim hv (inv_reachable hr₂) hdone, execution_bounded cfg _ s₂ sched hex⟩

/-! ### the `poll` macro-step of a single-threaded executor -/

/-- One `poll` of worker `w` is an execution of micro-steps of `w` alone, so every theorem above
    covers all poll-level schedules. -/
theorem poll_is_execution (cfg : Cfg) (s : State) (w : Nat) :
    ∃ k, Exec cfg s (List.replicate k w) (poll cfg s w).1 :=
  poll_exec cfg s w

/-- The fuel `poll` gives itself is always enough. -/
theorem poll_never_out_of_fuel (cfg : Cfg) (s : State) (w : Nat) :
    (poll cfg s w).2.2 ≠ .outOfFuel :=
  (pollN_spec cfg w _ s []).2 (Nat.lt_succ_self _)

/-! ### the pinned protocol violates `no_stuck` -/

/-- A11: three links of one inode, the parent directory of the destination cannot be created. -/
def a11 : Cfg where
  variant := .pinned
  n := 3
  worker := fun _ => { inode := 7, linked := true, yMkdir := 0, yCopy := 0, yLink := 0,
                       failMkdir := true, failCopy := false, failMeta := false, failLink := false }
  content := fun _ => 1

/-- worker 0 claims; workers 1 and 2 see `InProgress` and wait; worker 0's `create_dir_all` fails
    and it returns through `?`. -/
def a11Sched : List Nat := [0, 0, 1, 1, 2, 2, 0]

def a11Stuck : State := (runMicro a11 (init a11) a11Sched).1

/-- **`no_stuck` is false for the code as shipped** (`C13/owner-failure-leaves-waiters`): the state
    reached by `a11Sched` is reachable, not final (workers 1 and 2 are still waiting), the owner has
    returned its error, the entry is still `InProgress`, and no worker is enabled — the run hangs. -/
theorem no_stuck_counterexample_pinned :
    a11.variant = .pinned ∧ Reachable a11 a11Stuck ∧ ¬ allDone a11 a11Stuck ∧
      a11Stuck.pc 0 = .done (.err .mkdir) ∧ a11Stuck.map 7 = some (.inProgress 0) ∧
      a11Stuck.pc 1 = .waiting 0 0 ∧ a11Stuck.pc 2 = .waiting 0 0 ∧
      ∀ w, enabled a11 a11Stuck w = false := by
  refine ⟨rfl, ⟨a11Sched, exec_of_runMicro a11Sched (init a11) rfl⟩, ?_, rfl, rfl, rfl, rfl, ?_⟩
  · intro h
    have := h 1 (by decide)
    exact absurd this (by decide)
  · exact enabledSet_eq_nil.1 rfl

/-- The same configuration under the repaired protocol does not get stuck there: after the same
    schedule the failing owner is still enabled (it is about to remove its entry). -/
theorem a11_repaired_not_stuck :
    enabled { a11 with variant := .repaired } (runMicro { a11 with variant := .repaired } (init a11) a11Sched).1 0
      = true := rfl

/-- Two links, nothing fails. -/
def lw : Cfg where
  variant := .pinned
  n := 2
  worker := fun _ => { inode := 7, linked := true, yMkdir := 0, yCopy := 0, yLink := 0,
                       failMkdir := false, failCopy := false, failMeta := false, failLink := false }
  content := fun _ => 1

/-- worker 0 claims; worker 1 reads `InProgress` and drops the lock; worker 0 copies, inserts
    `Completed` and calls `notify_waiters()` (nobody is registered); only now worker 1 creates its
    `notified()` future. -/
def lwSched : List Nat := [0, 0, 1, 0, 0, 0, 0, 0, 1]

def lwStuck : State := (runMicro lw (init lw) lwSched).1

/-- **Lost wake-up in the code as shipped** (`C13/lost-wakeup`, thread-level schedule, no failure
    involved): worker 1 ends up awaiting a `Notified` future created *after* the only
    `notify_waiters()` call; the owner has returned `Ok`, the entry is `Completed`, and nothing is
    enabled. -/
theorem lost_wakeup_counterexample_pinned :
    lw.variant = .pinned ∧ Clean lw ∧ Reachable lw lwStuck ∧ ¬ allDone lw lwStuck ∧
      lwStuck.pc 0 = .done .ok ∧ lwStuck.map 7 = some (.completed 0) ∧
      lwStuck.pc 1 = .waiting 0 1 ∧ lwStuck.calls 0 = 1 ∧
      ∀ w, enabled lw lwStuck w = false := by
  refine ⟨rfl, fun _ _ => rfl, ⟨lwSched, exec_of_runMicro lwSched (init lw) rfl⟩, ?_, rfl, rfl, rfl, rfl, ?_⟩
  · intro h
    have := h 1 (by decide)
    exact absurd this (by decide)
  · exact enabledSet_eq_nil.1 rfl

/-- Under the repaired protocol the same schedule lets worker 1 see that the entry changed and go
    round the loop again (it will find `Completed` and link). -/
theorem lost_wakeup_repaired_proceeds :
    ((runMicro { lw with variant := .repaired } (init lw) (lwSched ++ [1, 1])).1).pc 1 = .linkOp 0 0 := rfl

/-! ### what is still false on the current code

  Replayed on the real binary (a68466f) before being stated here; each is a recorded finding.
  * `C13/update-new-link-not-joined` — a new link added to an already synced group (whose other
    names are up to date and therefore skipped) is created as an independent copy;
  * `C13/skipped-members-keep-stale-structure` — a group broken up, or formed, in the source with
    equal size and mtime is skipped altogether: the destination keeps the old structure;
  `C13/update-writes-through-foreign-link` (a destination inode shared by names of *different*
  source inodes was rewritten in place by the update of one of them when that source still had
  `nlink > 1`) is fixed by 8b4f96e — `foreign_link_not_written_through` below, and in general
  `link_structure` / `skipped_names_untouched`, which assume nothing about which destination names
  share an inode.
  `C13/update-splits-link-group` (≥ 10 MiB members each replaced by its own temp file) is fixed
  by a68466f; `uncoordinated_update_splits_link_group` keeps the old behaviour's witness. -/

/-- names `0`, `1` of source inode 7 are in the destination as one inode 100 and up to date
    (skipped); name `2` is a new link to the same source inode. -/
def joinCfg : Cfg where
  variant := .repaired
  n := 3
  worker := fun w =>
    { inode := 7, linked := true, action := if w = 2 then .create else .skip,
      dst0 := if w = 2 then none else some ⟨100, 7⟩,
      yMkdir := 0, yCopy := 0, yLink := 0,
      failMkdir := false, failCopy := false, failMeta := false, failLink := false }
  content := fun i => i

def joinFinal : State := (runMicro joinCfg (init joinCfg) [2, 2, 2, 2, 2, 2, 2]).1

/-- **`C13/update-new-link-not-joined`**: a well-formed destination, a clean run, everything
    returned `Ok` — and the new name is a file of its own although its source shares the inode of
    names `0` and `1`. Nothing ever records the skipped names in the inode map. -/
theorem new_link_not_joined_counterexample :
    joinCfg.DstOk ∧ Clean joinCfg ∧ Reachable joinCfg joinFinal ∧ allDoneB joinCfg joinFinal = true ∧
      joinFinal.pc 2 = .done .ok ∧
      (joinCfg.worker 0).inode = (joinCfg.worker 2).inode ∧
      joinFinal.dst 0 = some ⟨100, 7⟩ ∧ joinFinal.dst 2 = some ⟨2, 7⟩ := by
  refine ⟨⟨?_, ?_, ?_⟩, fun _ _ => rfl,
    ⟨_, exec_of_runMicro _ _ rfl⟩, rfl, rfl, rfl, rfl, rfl⟩
  · intro q f _ h
    simp only [joinCfg] at h ⊢
    split at h <;> cases h
    decide
  · intro q r fq fr _ _ hq hr _
    simp only [joinCfg] at hq hr
    split at hq <;> split at hr <;> cases hq <;> cases hr
    rfl
  · intro q _ h
    simp only [joinCfg] at h
    split at h <;> cases h

/-- two up-to-date names (skipped): in `staleLink` their sources are different files but the
    destination still has them as one inode; in `missingLink` their sources are one inode but the
    destination has two files. -/
def staleLink : Cfg where
  variant := .repaired
  n := 2
  worker := fun w =>
    { inode := 7 + w, linked := false, action := .skip, dst0 := some ⟨100, 7⟩,
      yMkdir := 0, yCopy := 0, yLink := 0,
      failMkdir := false, failCopy := false, failMeta := false, failLink := false }
  content := fun _ => 7

def missingLink : Cfg where
  variant := .repaired
  n := 2
  worker := fun w =>
    { inode := 7, linked := true, action := .skip, dst0 := some ⟨100 + w, 7⟩,
      yMkdir := 0, yCopy := 0, yLink := 0,
      failMkdir := false, failCopy := false, failMeta := false, failLink := false }
  content := fun _ => 7

/-- **`C13/skipped-members-keep-stale-structure`**: when every name of a regrouped file is skipped
    (equal size and mtime) the run is over before it starts, and the destination keeps a link the
    source no longer has / lacks a link the source has. -/
theorem skipped_members_keep_stale_structure_counterexample :
    (allDone staleLink (init staleLink) ∧
      (staleLink.worker 0).inode ≠ (staleLink.worker 1).inode ∧
      (init staleLink).dst 0 = some ⟨100, 7⟩ ∧ (init staleLink).dst 1 = some ⟨100, 7⟩) ∧
    (allDone missingLink (init missingLink) ∧
      (missingLink.worker 0).inode = (missingLink.worker 1).inode ∧
      (init missingLink).dst 0 = some ⟨100, 7⟩ ∧ (init missingLink).dst 1 = some ⟨101, 7⟩) :=
  ⟨⟨fun _ _ => rfl, by decide, rfl, rfl⟩, ⟨fun _ _ => rfl, rfl, rfl, rfl⟩⟩

/-- names `0` (source inode 1, up to date, skipped), `1` and `2` (source inode 2, to be updated) are
    one destination inode 100 — they were one group at the last sync; `1` and `2` are now the two
    names of a new file. -/
def foreignCfg : Cfg where
  variant := .repaired
  n := 3
  worker := fun w =>
    { inode := if w = 0 then 1 else 2, linked := w ≠ 0,
      action := if w = 0 then .skip else .update,
      dst0 := some ⟨100, 1⟩,
      yMkdir := 0, yCopy := 0, yLink := 0,
      failMkdir := false, failCopy := false, failMeta := false, failLink := false }
  content := fun i => i

def foreignFinal : State :=
  (runMicro foreignCfg (init foreignCfg) [1, 1, 1, 1, 1, 1, 2, 2, 2, 2]).1

/-- **`C13/update-writes-through-foreign-link`** (*fixed* by 8b4f96e: `break_unshared_hard_link`
    now replaces every multiply-linked destination name before it is rewritten): the update of name
    `1` gets a fresh inode, name `2` is removed and re-linked to it, and the skipped name `0` keeps
    its inode and its content. Every transfer returned `Ok`. -/
theorem foreign_link_not_written_through :
    Clean foreignCfg ∧ Reachable foreignCfg foreignFinal ∧ allDoneB foreignCfg foreignFinal = true ∧
      foreignFinal.pc 1 = .done .ok ∧ foreignFinal.pc 2 = .done .ok ∧
      (foreignCfg.worker 0).inode ≠ (foreignCfg.worker 1).inode ∧
      foreignCfg.content (foreignCfg.worker 0).inode = 1 ∧
      foreignFinal.dst 0 = some ⟨100, 1⟩ ∧ foreignFinal.dst 1 = some ⟨1, 2⟩ ∧
      foreignFinal.dst 2 = some ⟨1, 2⟩ :=
  ⟨fun _ _ => rfl, ⟨_, exec_of_runMicro _ _ rfl⟩,
    rfl, rfl, rfl, by decide, rfl, rfl, rfl, rfl⟩

/-- the hypotheses of `link_structure` are met by a destination *with* foreign links -/
theorem foreignCfg_dstOk : foreignCfg.DstOk :=
  ⟨fun _ f _ h => by cases h; decide, fun _ _ _ _ _ _ hq hr _ => by cases hq; cases hr; rfl,
   fun _ _ _ => rfl⟩

example : foreignFinal.dst 0 = (foreignCfg.worker 0).dst0 :=
  skipped_names_untouched foreignCfg foreignCfg_dstOk foreignFinal
    ⟨_, exec_of_runMicro _ _ rfl⟩ 0 (by decide) rfl

/-- … and the witness of the old behaviour, kept so that the violation stays visible: an in-place
    rewrite (`writeThrough`) of name `1` while name `0` still shares its inode hands name `0` the
    other file's content. -/
theorem write_through_shared_inode_damages_other_name :
    writeThrough (init foreignCfg).dst 1 2 0 = some ⟨100, 2⟩ ∧ (init foreignCfg).dst 0 = some ⟨100, 1⟩ :=
  ⟨rfl, rfl⟩

/-! ### a single `sync_file_with_delta` in isolation (the pre-a68466f update of a group member) -/

/-- A write-through update never changes which paths share an inode, and every name of the updated
    inode shows the new content. -/
theorem update_small_preserves_structure (d : Dst) (p c : Nat) :
    (∀ q r, sameIno (updateSmall d p c) q r ↔ sameIno d q r) ∧
    (∀ q, sameIno d p q → ∃ f, updateSmall d p c q = some f ∧ f.content = c) :=
  ⟨fun q r => updateSmall_sameIno d p c q r, fun q h => updateSmall_content d p c q h⟩

theorem updates_small_preserve_structure (ups : List (Nat × Nat)) (d : Dst) (q r : Nat) :
    sameIno (ups.foldl (fun d u => updateSmall d u.1 u.2) d) q r ↔ sameIno d q r := by
  induction ups generalizing d with
  | nil => exact Iff.rfl
  | cons u us ih => rw [List.foldl_cons, ih, updateSmall_sameIno]

/-- two names `0`, `1` of one destination inode `5` (content `1`). -/
def linkedPair : Dst := fun q => if q = 0 ∨ q = 1 then some ⟨5, 1⟩ else none

/-- `C13/update-splits-link-group` (**fixed** by a68466f, kept as the witness of the old
    behaviour): updating both names *independently* through temp+rename leaves two inodes. -/
theorem uncoordinated_update_splits_link_group :
    sameIno linkedPair 0 1 ∧
    ¬ sameIno (updateLarge (updateLarge linkedPair 0 10 2) 1 11 2) 0 1 := by
  refine ⟨⟨⟨5, 1⟩, ⟨5, 1⟩, rfl, rfl, rfl⟩, ?_⟩
  rintro ⟨f, g, hf, hg, h⟩
  have hf' : f = ⟨10, 2⟩ := by
    have : (updateLarge (updateLarge linkedPair 0 10 2) 1 11 2) 0 = some ⟨10, 2⟩ := rfl
    rw [this] at hf; cases hf; rfl
  have hg' : g = ⟨11, 2⟩ := by
    have : (updateLarge (updateLarge linkedPair 0 10 2) 1 11 2) 1 = some ⟨11, 2⟩ := rfl
    rw [this] at hg; cases hg; rfl
  rw [hf', hg'] at h
  cases h

/-! ### non-vacuity -/

/-- two links of inode 7 and one ordinary file, all to be created; the first link's copy fails. -/
def ex : Cfg where
  variant := .repaired
  n := 3
  worker := fun w =>
    if w = 2 then { inode := 9, linked := false, yMkdir := 1, yCopy := 0, yLink := 0,
                    failMkdir := false, failCopy := false, failMeta := false, failLink := false }
    else { inode := 7, linked := true, yMkdir := 0, yCopy := 1, yLink := 1,
           failMkdir := false, failCopy := w = 0, failMeta := false, failLink := false }
  content := fun i => i + 100

/-- `WF` is satisfiable with a shared inode and an ordinary file. -/
example : WF ex := by
  intro w₁ w₂ h₁ h₂ hne hi
  have h₁' : w₁ = 0 ∨ w₁ = 1 ∨ w₁ = 2 := by simp only [ex] at h₁; omega
  have h₂' : w₂ = 0 ∨ w₂ = 1 ∨ w₂ = 2 := by simp only [ex] at h₂; omega
  rcases h₁' with rfl | rfl | rfl <;> rcases h₂' with rfl | rfl | rfl <;>
    first | exact absurd rfl hne | exact ⟨rfl, rfl⟩ | (simp [ex] at hi)

/-- a complete run of `ex`: worker 0 claims and fails, worker 1 takes over and copies, worker 2
    copies its ordinary file. -/
def exSched : List Nat :=
  [0, 0, 1, 1, 1, 0, 0, 0, 0, 0, 1, 1, 1, 1, 1, 1, 1, 1, 1, 2, 2, 2, 2, 2]

def exFinal : State := (runMicro ex (init ex) exSched).1

example : Reachable ex exFinal := ⟨exSched, exec_of_runMicro exSched (init ex) rfl⟩
/-- the hypotheses of `owner_failure_surfaces` / `every_run_completes` are met by a real run: the
    failing owner returned its error, the waiter took over and finished. -/
example : exFinal.pc 0 = .done (.err .copy) ∧ exFinal.pc 1 = .done .ok ∧ exFinal.pc 2 = .done .ok ∧
    exFinal.map 7 = some (.completed 1) ∧ allDoneB ex exFinal = true := ⟨rfl, rfl, rfl, rfl, rfl⟩
/-- `link_structure`'s hypotheses (two `Ok` results) are met, with different inodes. -/
example : exFinal.dst 1 = some ⟨1, 107⟩ ∧ exFinal.dst 2 = some ⟨2, 109⟩ := ⟨rfl, rfl⟩
/-- a state with a claim holder exists (`single_owner` is not about an empty set of states). -/
example : ((runMicro ex (init ex) [0, 0]).1.pc 0).holdsClaim = true := rfl
/-- a clean configuration and a final state of it in which a link was made. -/
def exClean : Cfg := { lw with variant := .repaired }
example : Clean exClean := fun _ _ => rfl
example : (runMicro exClean (init exClean) [0, 0, 1, 1, 1, 0, 0, 0, 0, 0, 1, 1, 1]).1.dst 1 = some ⟨0, 1⟩ := rfl
/-- a blocked waiter exists in the repaired protocol (hypothesis of `waiter_has_live_owner`). -/
example : enabled exClean (runMicro exClean (init exClean) [0, 0, 1, 1, 1]).1 1 = false := rfl

/-- three names of source inode 7, all to be **updated**; the destination has them as one inode 100
    with stale content 1; `large` selects temp file + rename for the owner. -/
def upd (large : Bool) : Cfg where
  variant := .repaired
  n := 3
  worker := fun _ =>
    { inode := 7, linked := true, action := .update, large := large, dst0 := some ⟨100, 1⟩,
      yMkdir := 0, yCopy := 1, yLink := 0,
      failMkdir := false, failCopy := false, failMeta := false, failLink := false }
  content := fun i => i

/-- `Cfg.DstOk` is satisfiable by a destination that really has a link group. -/
example (large : Bool) : (upd large).DstOk :=
  ⟨fun _ f _ h => by cases h; simp [upd], fun _ _ _ _ _ _ hq hr _ => by cases hq; cases hr; rfl,
   fun _ _ _ => rfl⟩

def updSched : List Nat := [0, 0, 1, 1, 1, 0, 0, 0, 0, 0, 1, 1, 1, 2, 2]

/-- at or above the gate: the owner's path gets the fresh inode 0; name 1 (which waited) and name 2
    (which came later) are removed and re-linked — one inode, new content. -/
example : (runMicro (upd true) (init (upd true)) (updSched ++ [1, 1, 2, 2])).1.dst 0 = some ⟨0, 7⟩ ∧
    (runMicro (upd true) (init (upd true)) (updSched ++ [1, 1, 2, 2])).1.dst 1 = some ⟨0, 7⟩ ∧
    (runMicro (upd true) (init (upd true)) (updSched ++ [1, 1, 2, 2])).1.dst 2 = some ⟨0, 7⟩ ∧
    allDoneB (upd true) (runMicro (upd true) (init (upd true)) (updSched ++ [1, 1, 2, 2])).1 = true :=
  ⟨rfl, rfl, rfl, rfl⟩
/-- below the gate the same happens since 8b4f96e: the destination name is multiply linked, so it
    is replaced (fresh inode 0) rather than written through, and the other names are re-linked. -/
example : (runMicro (upd false) (init (upd false)) (updSched ++ [1, 1, 2, 2])).1.dst 0 = some ⟨0, 7⟩ ∧
    (runMicro (upd false) (init (upd false)) (updSched ++ [1, 1, 2, 2])).1.dst 1 = some ⟨0, 7⟩ ∧
    (runMicro (upd false) (init (upd false)) (updSched ++ [1, 1, 2, 2])).1.dst 2 = some ⟨0, 7⟩ ∧
    allDoneB (upd false) (runMicro (upd false) (init (upd false)) (updSched ++ [1, 1, 2, 2])).1 = true :=
  ⟨rfl, rfl, rfl, rfl⟩
/-- `updateSmall` on a linked pair: both names show the new content, still one inode. -/
example : updateSmall linkedPair 0 9 1 = some ⟨5, 9⟩ := rfl
/-- `poll` really runs several micro-steps: worker 0 of `ex` runs to the await point inside its copy. -/
example : (poll ex (init ex) 0).2.1 = [.readNone, .claimOk, .opOk .mkdir, .yield .copy] ∧
    (poll ex (init ex) 0).2.2 = .pending := ⟨rfl, rfl⟩

end SyModel.Props.C13
