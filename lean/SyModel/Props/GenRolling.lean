/-
  GenRolling — bridge between the TRANSLATED `src/delta/rolling.rs`
  (`SyModel.Generated.Rolling`: `UInt32`/`UInt8`/`UInt64`,
  wrapping arithmetic as in a release build) and the HANDWRITTEN Adler-32 model `SyModel.Delta.Adler`
  (over `Nat`, explicit `wrap32`) that the C04 property theorems are about.

  Abstraction map: `absS s = ⟨s.a.toNat, s.b.toNat⟩`; the field `block_size` (which the model passes as the
  explicit parameter `n` of `Adler.roll`/`rollN`) is mapped by `UInt64.toNat`.
  State invariant: `Inv s := s.a.toNat < 65521 ∧ s.b.toNat < 65521`.

  The generated definitions are only referred to by name; every proof unfolds them, so any semantic change of
  the Rust functions breaks the corresponding theorem.
-/
import SyModel.Generated.Code.Rolling
import SyModel.Props.C04

namespace SyModel.Props.GenRolling
open SyModel SyModel.Delta
open SyModel.Generated SyModel.Generated.Rolling

/-- generated hasher state ↦ model state (`block_size` is not part of the model state). -/
def absS (s : Adler32) : Adler := ⟨s.a.toNat, s.b.toNat⟩

/-- both running sums are reduced modulo `MOD_ADLER`. -/
def Inv (s : Adler32) : Prop := s.a.toNat < MOD ∧ s.b.toNat < MOD

theorem mod_adler_eq_model : Rolling.MOD_ADLER.toNat = 65521 := by decide

/-! ### a generic simulation lemma for `for byte in data do …` loops in `Id`

  It does not mention the loop body: the body `f` is whatever the generated code contains, and the proof
  obligation `hf` (one iteration simulates `Adler.push` and keeps the invariant) is discharged at each use
  by unfolding the generated definition. -/

theorem forIn_sim {σ : Type} (abs : σ → Adler) (inv : σ → Prop)
    (f : UInt8 → σ → Id (ForInStep σ))
    (hf : ∀ x s, inv s → ∃ s', f x s = pure (ForInStep.yield s') ∧ inv s' ∧ abs s' = (abs s).push x)
    (data : List UInt8) (s : σ) (hs : inv s) (P : σ → Prop)
    (hP : ∀ r, inv r → abs r = data.foldl Adler.push (abs s) → P r) :
    P (Id.run (forIn data s f)) := by
  induction data generalizing s with
  | nil => exact hP s hs rfl
  | cons x d ih =>
    obtain ⟨s', h1, h2, h3⟩ := hf x s hs
    simp only [List.forIn_cons, h1, pure_bind]
    exact ih s' h2 (fun r hr hr' => hP r hr (by simpa [List.foldl_cons, ← h3] using hr'))

/-- model states reachable by `push` are below 2^16, so `(b << 16) | a` does not lose bits in `u32`. -/
theorem digest_toNat (a b : UInt32) (hb : b.toNat < 65536) :
    ((b <<< 16) ||| a).toNat = (b.toNat <<< 16) ||| a.toNat := by
  rw [UInt32.toNat_or, UInt32.toNat_shiftLeft]
  have h16 : (16 : UInt32).toNat % 32 = 16 := by decide
  rw [h16, Nat.shiftLeft_eq, Nat.mod_eq_of_lt]
  omega

/-- `u32` wrapping subtraction `A - o` (as `toNat`) when it does not underflow. -/
theorem sub_mod_wrap (o A : Nat) (h1 : o ≤ A) (h2 : A < 4294967296) :
    (4294967296 - o + A) % 4294967296 = A - o := by omega

/-- one iteration of the `for &byte in …` loop of `hash` / `update_block` in `u32` is the model's `push`, and keeps both
    sums below `MOD_ADLER` (so no addition wraps) -/
theorem push_u32 (a b : UInt32) (x : UInt8) (ha : a.toNat < MOD) (hb : b.toNat < MOD) :
    (⟨((a + (Rs.cast x : UInt32)) % Rolling.MOD_ADLER).toNat, ((b + (a + (Rs.cast x : UInt32)) % Rolling.MOD_ADLER) % Rolling.MOD_ADLER).toNat⟩ : Adler) =
      Adler.push ⟨a.toNat, b.toNat⟩ x ∧
    ((a + (Rs.cast x : UInt32)) % Rolling.MOD_ADLER).toNat < MOD ∧
    ((b + (a + (Rs.cast x : UInt32)) % Rolling.MOD_ADLER) % Rolling.MOD_ADLER).toNat < MOD := by
  have hx := x.toNat_lt
  simp only [MOD] at ha hb
  simp only [Rs.cast, mod_adler_eq_model, MOD, Nat.reducePow, Adler.push, UInt32.toNat_mod, UInt32.toNat_add,
    UInt8.toNat_toUInt32, Adler.mk.injEq]
  omega


/-- `Adler32::new(n)` is the model's `init` (and stores `n`). -/
theorem new_eq_model (n : UInt64) :
    absS (Adler32.new n) = Adler.init ∧ (Adler32.new n).block_size = n ∧ Inv (Adler32.new n) := by
  refine ⟨rfl, rfl, ?_, ?_⟩ <;> simp [Adler32.new, MOD]

/-- `Adler32::hash(data)` is the model's `hashBytes data`, for every `data` (no length bound: the running
    sums stay below `MOD_ADLER`, so no `u32` addition ever wraps and the final shift loses nothing). -/
theorem hash_eq_model (data : List UInt8) : (Adler32.hash data).toNat = hashBytes data := by
  unfold Adler32.hash
  simp only [bind, pure]
  refine forIn_sim (σ := UInt32 × UInt32) (fun p => ⟨p.1.toNat, p.2.toNat⟩)
    (fun p => p.1.toNat < MOD ∧ p.2.toNat < MOD) _ ?_ data _ ?_
    (fun r => ((r.2 <<< 16) ||| r.1).toNat = hashBytes data) ?_
  · intro x s hs
    obtain ⟨h1, h2⟩ := push_u32 s.1 s.2 x hs.1 hs.2
    exact ⟨_, rfl, h2, h1⟩
  · decide
  · intro r hr habs
    simp only [MOD] at hr
    rw [digest_toNat _ _ (by omega)]
    simp only [hashBytes, Adler.ofBlock, Adler.digest, Adler.init]
    have h1 : (1 : UInt32).toNat = 1 := by decide
    have h0 : (0 : UInt32).toNat = 0 := by decide
    simp only [h1, h0] at habs
    rw [← habs]

/-- `update_block(block)` from ANY starting state gives the model's `ofBlock block`; `block_size` is
    unchanged; the result satisfies the invariant. -/
theorem update_block_eq_model (s : Adler32) (block : List UInt8) :
    absS (s.update_block block) = Adler.ofBlock block ∧
    (s.update_block block).block_size = s.block_size ∧
    Inv (s.update_block block) := by
  unfold Adler32.update_block
  simp only [bind, pure]
  refine forIn_sim (σ := Adler32) absS (fun r => Inv r ∧ r.block_size = s.block_size) _ ?_ block _ ?_
    (fun r => absS r = Adler.ofBlock block ∧ r.block_size = s.block_size ∧ Inv r) ?_
  · intro x r hr
    obtain ⟨h1, h2⟩ := push_u32 r.a r.b x hr.1.1 hr.1.2
    exact ⟨_, rfl, ⟨h2, hr.2⟩, h1⟩
  · exact ⟨by constructor <;> simp [MOD], rfl⟩
  · intro r hr habs
    refine ⟨?_, hr.2, hr.1⟩
    rw [habs]; rfl

/-- `roll(old, new)` on a state satisfying the invariant is the model's `Adler.roll n` with
    `n = block_size` (the model's inner `wrap32 n` is the truncating cast `block_size as u32`, its outer
    `wrap32 (… * old)` is the wrapping `u32` product `n * old`); `block_size` is unchanged and the result
    satisfies the invariant again.  Since the model's other operations are the unbounded `Nat` ones (with
    truncated subtraction), this equality also says that under the invariant none of the intermediate `u32`
    values `self.a + MOD_ADLER*2 - old + new` and `self.b + MOD_ADLER*3 - n_old + self.a - 1` wraps in either
    direction (see `roll_no_wrap` for the explicit statement). -/
theorem roll_eq_model (s : Adler32) (old new : UInt8) (h : Inv s) :
    absS (s.roll old new) = Adler.roll s.block_size.toNat (absS s) old new ∧
    (s.roll old new).block_size = s.block_size ∧
    Inv (s.roll old new) := by
  -- (destructuring `s` first keeps the kernel from comparing `s.roll old new` with `s` field by field
  --  when it checks the `block_size` conjunct)
  obtain ⟨a, b, n⟩ := s
  obtain ⟨ha, hb⟩ := h
  have hx := old.toNat_lt
  have hy := new.toNat_lt
  unfold Adler32.roll
  simp only [Id.run, pure, MOD, Nat.reducePow] at ha hb hx hy ⊢
  -- everything as `Nat` arithmetic with explicit `% 2^32`
  simp only [Inv, absS, Rs.cast, mod_adler_eq_model, MOD, Nat.reducePow, Nat.reduceMod, Nat.reduceMul,
    Adler.roll, wrap32, UInt32.toNat_mod, UInt32.toNat_add, UInt32.toNat_sub, UInt32.toNat_mul,
    UInt8.toNat_toUInt32, UInt64.toNat_toUInt32, UInt32.toNat_ofNat, Adler.mk.injEq, true_and]
  -- the only product: `(block_size as u32) * old`, wrapping, then `% MOD_ADLER` — literally the model's term
  have ht : n.toNat % 4294967296 * old.toNat % 4294967296 % 65521 < 65521 := Nat.mod_lt _ (by omega)
  generalize n.toNat % 4294967296 * old.toNat % 4294967296 % 65521 = t at ht ⊢
  -- every remaining `% 2^32` is the identity (no wrap), every `u32` subtraction is exact (no underflow)
  simp (disch := omega) only [sub_mod_wrap, Nat.mod_eq_of_lt, and_self, true_and]
  omega

/-- Explicit no-wrap statement for `roll`: with the exact (unbounded, non-truncated) integer values of the two
    expressions of the Rust source, every subtraction has a non-negative result and every intermediate value
    is below 2^32, where `a'` is the freshly updated `self.a` actually computed by the generated code and
    `n_old` the (deliberately wrapping) `(n * old) % MOD_ADLER`. -/
theorem roll_no_wrap (s : Adler32) (old new : UInt8) (h : Inv s) :
    let n_old := wrap32 (wrap32 s.block_size.toNat * old.toNat) % MOD
    let a' := (s.roll old new).a.toNat
    old.toNat ≤ s.a.toNat + MOD * 2 ∧
    s.a.toNat + MOD * 2 - old.toNat + new.toNat < 4294967296 ∧
    n_old ≤ s.b.toNat + MOD * 3 ∧
    1 ≤ s.b.toNat + MOD * 3 - n_old + a' ∧
    s.b.toNat + MOD * 3 - n_old + a' - 1 < 4294967296 := by
  intro n_old a'
  have hx := old.toNat_lt
  have hy := new.toNat_lt
  have hn : n_old < 65521 := Nat.mod_lt _ (by decide)
  have ha' : a' < 65521 := (roll_eq_model s old new h).2.2.1
  obtain ⟨h1, h2⟩ := h
  clear_value n_old a'
  simp only [MOD, Nat.reducePow] at h1 h2 hx hy ⊢
  omega

/-- `digest()` is the model's `digest` whenever `b` fits 16 bits (in particular under the invariant);
    otherwise the `u32` shift drops the high bits of `b`, see `digest_eq_model_wrap`. -/
theorem digest_eq_model (s : Adler32) (hb : s.b.toNat < 65536) :
    s.digest.toNat = (absS s).digest := by
  unfold Adler32.digest
  exact digest_toNat _ _ hb

theorem digest_eq_model_of_inv (s : Adler32) (h : Inv s) : s.digest.toNat = (absS s).digest :=
  digest_eq_model s (by have := h.2; simp only [MOD] at this; omega)

/-- unconditional form: the generated `digest` is the model's `digest` truncated to 32 bits. -/
theorem digest_eq_model_wrap (s : Adler32) : s.digest.toNat = wrap32 (absS s).digest := by
  unfold Adler32.digest
  rw [UInt32.toNat_or, UInt32.toNat_shiftLeft]
  have h16 : (16 : UInt32).toNat % 32 = 16 := by decide
  have ha : s.a.toNat % 2 ^ 32 = s.a.toNat := Nat.mod_eq_of_lt s.a.toNat_lt
  simp only [h16, wrap32, Adler.digest, absS]
  rw [show (4294967296 : Nat) = 2 ^ 32 by decide, Nat.or_mod_two_pow, ha]

/-- `hash` is `new` + `update_block` + `digest` (all on the generated side). -/
theorem hash_eq_update_block_digest (n : UInt64) (data : List UInt8) :
    Adler32.hash data = ((Adler32.new n).update_block data).digest := by
  apply UInt32.toNat.inj
  obtain ⟨h1, _, h3⟩ := update_block_eq_model (Adler32.new n) data
  rw [hash_eq_model, digest_eq_model_of_inv _ h3, h1]; rfl

/-! ### k roll steps

  The driver loop (`generator.rs`) is not part of the translated unit, so the iteration is written here, over
  the GENERATED `roll`, in the same shape as the model's `rollN`: step `i` removes `d[i]` and adds
  `d[i + block_size]`. -/

def genRollN (s : Adler32) : List UInt8 → Nat → Adler32
  | _, 0 => s
  | [], _ + 1 => s
  | x :: t, k + 1 =>
    match (x :: t).drop s.block_size.toNat with
    | y :: _ => genRollN (s.roll x y) t k
    | [] => s

/-- `k` generated roll steps are the model's `rollN` (with `n = block_size`), and keep the invariant. -/
theorem rollN_eq_model (s : Adler32) (h : Inv s) (d : List UInt8) (k : Nat) :
    absS (genRollN s d k) = rollN s.block_size.toNat (absS s) d k ∧
    (genRollN s d k).block_size = s.block_size ∧
    Inv (genRollN s d k) := by
  induction k generalizing s d with
  | zero => cases d <;> exact ⟨rfl, rfl, h⟩
  | succ k ih =>
    cases d with
    | nil => exact ⟨rfl, rfl, h⟩
    | cons x t =>
      simp only [genRollN, rollN]
      cases hd : (x :: t).drop s.block_size.toNat with
      | nil => exact ⟨rfl, rfl, h⟩
      | cons y rest =>
        obtain ⟨e1, e2, e3⟩ := roll_eq_model s x y h
        obtain ⟨i1, i2, i3⟩ := ih (s.roll x y) e3 t
        simp only
        rw [e2] at i1 i2
        exact ⟨by rw [i1, e1], i2, i3⟩

/-- End to end, entirely on the generated side: starting from `new(n)` + `update_block(d[0..n))` and rolling
    `k` times over `d` gives a hasher whose `digest()` is `hash(d[k..k+n))` — for every block size whose
    product with a byte cannot wrap `u32` (C04's `consts_ok_adler`: true for every size sy can choose). -/
theorem roll_window_eq_hash (n : UInt64) (d : List UInt8) (k : Nat) (hn : 0 < n.toNat)
    (hov : n.toNat * 255 < 4294967296) (hk : k + n.toNat ≤ d.length) :
    (genRollN ((Adler32.new n).update_block (d.take n.toNat)) d k).digest
      = Adler32.hash ((d.drop k).take n.toNat) := by
  apply UInt32.toNat.inj
  obtain ⟨u1, u2, u3⟩ := update_block_eq_model (Adler32.new n) (d.take n.toNat)
  obtain ⟨r1, _, r3⟩ := rollN_eq_model _ u3 d k
  rw [u2, u1, (new_eq_model n).2.1] at r1
  rw [digest_eq_model_of_inv _ r3, r1, hash_eq_model]
  exact C04.adler_roll_window d n.toNat k hn hov hk

/-! ### non-vacuity, and necessity of the invariant -/

/-- the invariant holds for non-trivial reachable states … -/
example : Inv ((Adler32.new 4).update_block [0x61, 0x62, 0x63, 0x64]) :=
  (update_block_eq_model _ _).2.2

example : Inv (((Adler32.new 4).update_block [0xff, 0xff, 0xff, 0xff]).roll 0xff 0x01) :=
  (roll_eq_model _ _ _ (update_block_eq_model _ _).2.2).2.2

/-- … `roll_window_eq_hash` on concrete data … -/
example : (genRollN ((Adler32.new 4).update_block [1, 2, 3, 4]) [1, 2, 3, 4, 5, 6, 7] 3).digest
    = Adler32.hash [4, 5, 6, 7] :=
  roll_window_eq_hash 4 [1, 2, 3, 4, 5, 6, 7] 3 (by decide) (by decide) (by decide)

/-- … and it cannot be dropped: outside the invariant `self.a + MOD_ADLER * 2` wraps in `u32` and the generated
    `roll` differs from the `Nat` model.  (Harmless: the fields are private in rolling.rs and every
    constructor/mutator — `new`, `update_block`, `roll`, `reset` — establishes or preserves the invariant.) -/
example : absS (Adler32.roll ⟨4294967295, 0, 1⟩ 0 0) ≠ Adler.roll 1 (absS ⟨4294967295, 0, 1⟩) 0 0 := by
  decide

end SyModel.Props.GenRolling
