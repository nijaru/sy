/-
  GenEngineOrderTemp — the two translated pieces together: the ORDER fragments of `SyncEngine::sync` (unit EngineOrder) instantiated with
  the TRANSLATED naming function `working_file_path` (unit TempFile).  No parameter is left: for the code as it is,

    * `stale_working_file_deleted_before_barrier` — a planned deletion of `<dest>.sy.tmp` (the text of a planned create / update's
      destination with the suffix appended) is handed to the workers before the barrier, hence completed before that transfer starts;
    * `working_files_distinct` — two planned transfers with different (proper) destinations never have the same working file, so no
      deletion is moved before the barrier on behalf of the wrong transfer, and no two transfers share a working file (C05);
    * `at_working_file_iff` — a deletion is moved before the barrier on working-file grounds exactly when its path is `<dest>.sy.tmp`
      of a planned create / update; `ordinary_deletion_after_barrier` — every other deletion is handed out after the barrier.
-/
import SyModel.Props.GenEngineOrder
import SyModel.Props.GenTempFile
namespace SyModel.Props.GenEngineOrderTemp
open SyModel.Generated SyModel.Generated.EngineOrder

/-- the instance of the order unit's only parameter: the translated naming function -/
def realExt (W : Type) : Ext W := { temp_file_working_file_path := SyModel.Generated.TempFile.working_file_path }

theorem stale_working_file_deleted_before_barrier {W : Type} (tasks deletions : List SyncTask) (replaced : List Rs.Path) (w : W)
    (hone : (tasks.filter (GenEngineOrder.isRepl replaced)).length = replaced.length)
    (d t : SyncTask) (hd : d ∈ deletions) (ht : t ∈ tasks) (hx : GenEngineOrder.isTransfer t = true)
    (hproper : GenTempFile.ProperName t.dest_path) (hp : d.dest_path = t.dest_path ++ GenTempFile.sfx) :
    ∃ ts m, GenEngineOrder.runM (GenEngineOrder.finalOrder (realExt W) tasks deletions replaced) w = (.ok (ts, m), w) ∧ d ∈ ts.take m := by
  apply GenEngineOrder.working_file_deletions_before_barrier (realExt W) tasks deletions replaced w hone d t hd ht hx
  show d.dest_path = SyModel.Generated.TempFile.working_file_path t.dest_path
  rw [GenTempFile.working_file_path_eq _ hproper]
  exact hp

theorem working_files_distinct (t u : SyncTask) (ht : GenTempFile.ProperName t.dest_path) (hu : GenTempFile.ProperName u.dest_path)
    (hne : t.dest_path ≠ u.dest_path) :
    SyModel.Generated.TempFile.working_file_path t.dest_path ≠ SyModel.Generated.TempFile.working_file_path u.dest_path :=
  fun h => hne (GenTempFile.working_file_path_injective _ _ ht hu h)

theorem at_working_file_iff (tasks : List SyncTask)
    (hproper : ∀ t ∈ tasks, GenEngineOrder.isTransfer t = true → GenTempFile.ProperName t.dest_path) (d : SyncTask) :
    GenEngineOrder.atWorkingFile SyModel.Generated.TempFile.working_file_path tasks d = true ↔
      ∃ t ∈ tasks, GenEngineOrder.isTransfer t = true ∧ d.dest_path = t.dest_path ++ GenTempFile.sfx := by
  unfold GenEngineOrder.atWorkingFile GenEngineOrder.workingFiles
  rw [List.contains_iff_mem, List.mem_map]
  constructor
  · rintro ⟨t, ht, he⟩
    obtain ⟨ht1, ht2⟩ := List.mem_filter.mp ht
    rw [GenTempFile.working_file_path_eq _ (hproper t ht1 ht2)] at he
    exact ⟨t, ht1, ht2, he.symm⟩
  · rintro ⟨t, ht1, ht2, he⟩
    refine ⟨t, List.mem_filter.mpr ⟨ht1, ht2⟩, ?_⟩
    rw [GenTempFile.working_file_path_eq _ (hproper t ht1 ht2)]
    exact he.symm

/-- the converse — **nothing else is moved**: a planned deletion whose path is not `<dest>.sy.tmp` of any planned create / update is
    handed out AFTER the barrier, beside the transfers (so the barrier costs an ordinary `--delete` run no parallelism, and the
    children of a stale directory are removed beside the updates: the schedule in which repair d5ee1fe's ENOTDIR arises) -/
theorem ordinary_deletion_after_barrier {W : Type} (tasks deletions : List SyncTask) (replaced : List Rs.Path) (w : W)
    (hone : (tasks.filter (GenEngineOrder.isRepl replaced)).length = replaced.length)
    (hproper : ∀ t ∈ tasks, GenEngineOrder.isTransfer t = true → GenTempFile.ProperName t.dest_path)
    (d : SyncTask) (hd : d ∈ deletions)
    (hno : ∀ t ∈ tasks, GenEngineOrder.isTransfer t = true → d.dest_path ≠ t.dest_path ++ GenTempFile.sfx) :
    ∃ ts m, GenEngineOrder.runM (GenEngineOrder.finalOrder (realExt W) tasks deletions replaced) w = (.ok (ts, m), w) ∧ d ∈ ts.drop m := by
  obtain ⟨ts, m, h, _, hdrop⟩ := GenEngineOrder.barrier_prefix (realExt W) tasks deletions replaced w hone
  refine ⟨ts, m, h, ?_⟩
  rw [hdrop]
  apply List.mem_append_right
  rw [List.mem_filter]
  refine ⟨hd, ?_⟩
  have : GenEngineOrder.atWorkingFile (realExt W).temp_file_working_file_path tasks d = false := by
    rw [Bool.eq_false_iff]
    exact fun hc => let ⟨t, h1, h2, he⟩ := (at_working_file_iff tasks hproper d).mp hc; hno t h1 h2 he
  simp [this]

/-- non-vacuity: the example plan of `GenEngineOrder` (`big` updated, `big.sy.tmp` / `o` / `z` deleted) meets the hypotheses for `o` -/
example : ∀ t ∈ GenEngineOrder.Example.tasks, GenEngineOrder.isTransfer t = true →
    (GenEngineOrder.Example.mk ['o'] .Delete).dest_path ≠ t.dest_path ++ GenTempFile.sfx := by decide

end SyModel.Props.GenEngineOrderTemp
