/-
  GenEngineLinkGuard — the guard of the worker loop of `SyncEngine::sync` added by repo fix 0e87354 (src/sync/mod.rs), TRANSLATED on
  every run into `SyModel/Generated/Code/EngineLinkGuard.lean`:

      let unreplaced = replaced_links.iter().find(|link| {
          task.dest_path != **link && task.dest_path.starts_with(link)
              && std::fs::symlink_metadata(link).map(|m| m.file_type().is_symlink()).unwrap_or(false) });

  A task for which this answers `Some(link)` is failed, not executed (glue: the error record, the `continue`).  C02: nothing is
  written below a destination link whose replacement by a directory failed — the path would lead through the link, possibly into the
  source tree (the defect: source files truncated to 0 bytes).  Proved about the translation, for every instance whose `lstat` does
  not change the world:

    * `unreplaced_link_eq`      — the answer is the FIRST replaced link that is strictly above the task's path and is still a symlink
                                   (`List.find?`), the world is untouched;
    * `detected`                — whenever such a link exists the answer is `some` (the task is not executed);
    * `no_false_positive`       — an answer `some l` means `l` is a replaced link, strictly above the path, still a symlink: tasks
                                   elsewhere, the replacement task itself, and tasks below a link that WAS replaced are executed;
    * `none_of_all_replaced`    — when every replacement succeeded (no replaced link is a symlink any more) nothing is held back.
-/
import SyModel.Generated.Code.EngineLinkGuard
import SyModel.Lemmas.RsLogic
namespace SyModel.Props.GenEngineLinkGuard
open SyModel.Generated SyModel.Generated.EngineLinkGuard

def runM {W α : Type} (x : Rs.M W α) (w : W) : Except Rs.Err α × W := x.run.run w

/-- `lstat` is a read: it answers, the world stays -/
def ReadOnly {W : Type} (ext : Ext W) : Prop := ∀ p w, (runM (ext.std_fs_symlink_metadata p) w).2 = w

/-- is the entry at `p` a symbolic link in world `w` (an `lstat` error counts as "no") -/
def isLink {W : Type} (ext : Ext W) (w : W) (p : Rs.Path) : Bool :=
  match (runM (ext.std_fs_symlink_metadata p) w).1 with
  | .ok m => m.kind == .symlink
  | .error _ => false

/-- the predicate of the `find` -/
def holds {W : Type} (ext : Ext W) (w : W) (task : SyncTask) (l : Rs.Path) : Bool :=
  (task.dest_path != l && Rs.path_starts_with task.dest_path l) && isLink ext w l

theorem fold_find {α : Type} (P : α → Bool) (l : List α) (s : Option α) :
    l.foldl (fun s x => if s.isNone then (if P x then some x else s) else s) s = (match s with | some v => some v | none => l.find? P) := by
  induction l generalizing s with
  | nil => cases s <;> rfl
  | cons x xs ih =>
    rw [List.foldl_cons, ih]
    cases s with
    | some v => rfl
    | none =>
      by_cases hp : P x = true
      · simp [hp]
      · have : P x = false := by simpa using hp
        simp [this]

theorem unreplaced_link_eq {W : Type} (ext : Ext W) (hro : ReadOnly ext) (task : SyncTask) (links : List Rs.Path) (w : W) :
    runM (unreplaced_link ext task links) w = (.ok (links.find? (holds ext w task)), w) := by
  unfold unreplaced_link
  refine Rs.run_bind_eq (Rs.run_forIn_yield links _
    (fun l s => if s.isNone then (if holds ext w task l then some l else s) else s) w (fun l _ s => ?_) none) ?_
  · cases s with
    | some v => rfl
    | none =>
      simp only [Option.isNone_none, if_true, holds, isLink, runM, ExceptT.run, StateT.run]
      by_cases hc : (task.dest_path != l && Rs.path_starts_with task.dest_path l) = true
      · simp only [hc, if_true, Bool.true_and]
        have hs : (ext.std_fs_symlink_metadata l w).2 = w := hro l w
        refine Rs.run_bind_eq (Rs.run_bind_eq (Rs.run_capture _ w) rfl) ?_
        rw [hs]
        rcases (ext.std_fs_symlink_metadata l w).1 with e | ⟨k, n⟩
        · rfl
        · cases k <;> rfl
      · have hf : (task.dest_path != l && Rs.path_starts_with task.dest_path l) = false := by simpa using hc
        simp only [hf, Bool.false_and, Bool.false_eq_true, if_false]
        rfl
  · simp only [fold_find]; rfl

/-- **C02**: a task strictly below a replaced link that is still a symlink is held back -/
theorem detected {W : Type} (ext : Ext W) (hro : ReadOnly ext) (task : SyncTask) (links : List Rs.Path) (w : W)
    (l : Rs.Path) (hl : l ∈ links) (hne : task.dest_path ≠ l) (hbelow : Rs.path_starts_with task.dest_path l = true)
    (hlink : isLink ext w l = true) :
    ∃ l', runM (unreplaced_link ext task links) w = (.ok (some l'), w) ∧ holds ext w task l' = true := by
  rw [unreplaced_link_eq ext hro]
  have hh : holds ext w task l = true := by simp [holds, hne, hbelow, hlink]
  cases hf : links.find? (holds ext w task) with
  | none => exact absurd hh (by simpa using List.find?_eq_none.mp hf l hl)
  | some l' => exact ⟨l', rfl, List.find?_some hf⟩

/-- an answer `some l` names a replaced link, strictly above the task's path, that is still a symlink -/
theorem no_false_positive {W : Type} (ext : Ext W) (hro : ReadOnly ext) (task : SyncTask) (links : List Rs.Path) (w w' : W)
    (l : Rs.Path) (h : runM (unreplaced_link ext task links) w = (.ok (some l), w')) :
    l ∈ links ∧ task.dest_path ≠ l ∧ Rs.path_starts_with task.dest_path l = true ∧ isLink ext w l = true := by
  rw [unreplaced_link_eq ext hro] at h
  have hf : links.find? (holds ext w task) = some l := by
    have := congrArg Prod.fst h; simpa using this
  have hm := List.mem_of_find?_eq_some hf
  have hp := List.find?_some hf
  simp only [holds, Bool.and_eq_true, bne_iff_ne, ne_eq] at hp
  exact ⟨hm, hp.1.1, hp.1.2, hp.2⟩

/-- when every replacement succeeded nothing is held back; in particular without replaced links -/
theorem none_of_all_replaced {W : Type} (ext : Ext W) (hro : ReadOnly ext) (task : SyncTask) (links : List Rs.Path) (w : W)
    (h : ∀ l ∈ links, isLink ext w l = false) :
    runM (unreplaced_link ext task links) w = (.ok none, w) := by
  rw [unreplaced_link_eq ext hro]
  have : links.find? (holds ext w task) = none := List.find?_eq_none.mpr (fun l hl => by simp [holds, h l hl])
  rw [this]

/-- the replacement task itself (its path IS the link) is never held back by its own link -/
theorem replacement_task_not_held_by_itself {W : Type} (ext : Ext W) (w : W) (task : SyncTask) :
    holds ext w task task.dest_path = false := by
  simp [holds]

namespace Example
/-- a world that lists which paths are symlinks -/
def world : Ext (List Rs.Path) where
  std_fs_symlink_metadata p := fun w => pure (.ok ⟨if w.contains p then .symlink else .dir, 1⟩, w)
def mk (p : List Char) : SyncTask := { source := none, dest_path := p, action := .Create, source_checksum := none, dest_checksum := none }
theorem world_readonly : ReadOnly world := fun _ _ => rfl
/-- `d` is still a link: the task `d/a` is held back, the task `e/a` below the replaced `e` is not, nor is the task at `d` itself,
    nor `dx/a` whose name merely starts with `d` -/
example : (match (runM (unreplaced_link world (mk ['d', '/', 'a']) [['e'], ['d']]) [['d']]).1 with | .ok r => r == some ['d'] | .error _ => false) = true := by
  rw [unreplaced_link_eq world world_readonly]; decide
example : (match (runM (unreplaced_link world (mk ['e', '/', 'a']) [['e'], ['d']]) [['d']]).1 with | .ok r => r == none | .error _ => false) = true := by
  rw [unreplaced_link_eq world world_readonly]; decide
example : (match (runM (unreplaced_link world (mk ['d']) [['e'], ['d']]) [['d']]).1 with | .ok r => r == none | .error _ => false) = true := by
  rw [unreplaced_link_eq world world_readonly]; decide
example : (match (runM (unreplaced_link world (mk ['d', 'x', '/', 'a']) [['e'], ['d']]) [['d']]).1 with | .ok r => r == none | .error _ => false) = true := by
  rw [unreplaced_link_eq world world_readonly]; decide
end Example

end SyModel.Props.GenEngineLinkGuard
