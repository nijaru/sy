/-
  C15 — Verify-only reports exactly the differences and is read-only.
-/
import SyModel.Lemmas.Verify
import SyModel.Lemmas.VerifyExit
import SyModel.Generated.Consts
namespace SyModel.Props.C15
open SyModel SyModel.Engine

/-- verification always uses a real checksum: mode `fast` (no checksum) is replaced by xxh3
    (regenerated from src/sync/mod.rs each run) -/
theorem consts_ok_verify_never_none : Generated.VERIFY_REPLACES_NONE_CHECKSUM = true := by decide

/-- the body of `SyncEngine::verify` calls no mutating transport operation (regenerated) -/
theorem consts_ok_verify_body_read_only : Generated.VERIFY_BODY_MUTATING_CALLS = 0 := by decide

/-- The lists are exactly the true sets (no size bounds): a path is reported as mismatched iff
    it is a file on both sides, both readable, with different content … -/
theorem mismatched_exact (src dst : List VEntry) (hd : UniqueRels dst) (p : Path) :
    p ∈ (verify noBounds src dst).mismatched ↔
      ∃ s ∈ src, ∃ d ∈ dst, s.rel = p ∧ d.rel = p ∧ s.isDir = false ∧ d.isDir = false ∧
        ∃ a b, s.content = some a ∧ d.content = some b ∧ a ≠ b := by
  refine (mem_verdict noBounds src dst .mismatched p).trans ⟨?_, ?_⟩
  · rintro ⟨s, hs, rfl, hv⟩
    have h := classify_spec dst hd s
    rw [hv] at h
    obtain ⟨hsd, d, hdm, hdr, hdd, h⟩ := h
    exact ⟨s, hs, d, hdm, rfl, hdr, hsd, hdd, h⟩
  · rintro ⟨s, hs, d, hdm, rfl, hdr, hsd, hdd, a, b, ha, hb, hne⟩
    refine ⟨s, hs, rfl, ?_⟩
    rw [classify_file_some dst hd s d hsd hdm hdd hdr, ha, hb]
    exact if_neg hne

/-- … as only-in-source iff it is a source file with no destination *file* at that path … -/
theorem onlySrc_exact (src dst : List VEntry) (hd : UniqueRels dst) (p : Path) :
    p ∈ (verify noBounds src dst).onlySrc ↔
      ∃ s ∈ src, s.rel = p ∧ s.isDir = false ∧ ∀ d ∈ dst, d.rel = p → d.isDir = true := by
  refine (mem_verdict noBounds src dst .onlySrc p).trans ⟨?_, ?_⟩
  · rintro ⟨s, hs, rfl, hv⟩
    have h := classify_spec dst hd s
    rw [hv] at h
    exact ⟨s, hs, rfl, h⟩
  · rintro ⟨s, hs, rfl, hsd, hall⟩
    refine ⟨s, hs, rfl, ?_⟩
    rw [classify_file dst s hsd, (destFile_none_iff dst s.rel).mpr hall]

/-- … as an error iff it is a file on both sides and one of the two cannot be read … -/
theorem errors_exact (src dst : List VEntry) (hd : UniqueRels dst) (p : Path) :
    p ∈ (verify noBounds src dst).errors ↔
      ∃ s ∈ src, ∃ d ∈ dst, s.rel = p ∧ d.rel = p ∧ s.isDir = false ∧ d.isDir = false ∧
        (s.content = none ∨ d.content = none) := by
  refine (mem_verdict noBounds src dst .error p).trans ⟨?_, ?_⟩
  · rintro ⟨s, hs, rfl, hv⟩
    have h := classify_spec dst hd s
    rw [hv] at h
    obtain ⟨hsd, d, hdm, hdr, hdd, h⟩ := h
    exact ⟨s, hs, d, hdm, rfl, hdr, hsd, hdd, h⟩
  · rintro ⟨s, hs, d, hdm, rfl, hdr, hsd, hdd, hc⟩
    refine ⟨s, hs, rfl, ?_⟩
    rw [classify_file_some dst hd s d hsd hdm hdd hdr]
    rcases hc with hc | hc
    · rw [hc]
    · rw [hc]
      cases s.content <;> rfl

/-- … and as only-in-destination iff it is a destination file with no source *file* at that path
    (a source directory of the same name does not count as a counterpart). -/
theorem onlyDst_exact (c : VCfg) (src dst : List VEntry) (p : Path) :
    p ∈ (verify c src dst).onlyDst ↔
      ∃ d ∈ dst, d.rel = p ∧ d.isDir = false ∧ ∀ s ∈ src, s.rel = p → s.isDir = true := by
  simp only [verify, List.mem_map, List.mem_filter, List.contains_eq_mem,
    decide_eq_false_iff_not, not_exists, not_and, Bool.not_eq_eq_eq_not, Bool.not_true]
  constructor
  · rintro ⟨d, ⟨⟨hdm, hdd⟩, hn⟩, rfl⟩
    refine ⟨d, hdm, rfl, hdd, ?_⟩
    intro s hs hr
    cases hsd : s.isDir with
    | true => rfl
    | false => exact absurd hr (hn s ⟨hs, hsd⟩)
  · rintro ⟨d, hdm, rfl, hdd, hall⟩
    refine ⟨d, ⟨⟨hdm, hdd⟩, ?_⟩, rfl⟩
    intro s ⟨hs, hsd⟩ hr
    have := hall s hs hr
    rw [hsd] at this; cases this

/-- Exit status 2 exactly when some compared file could not be read. -/
theorem exit_two_iff (c : VCfg) (src dst : List VEntry) :
    exitCode (verify c src dst) = 2 ↔ (verify c src dst).errors ≠ [] := by
  unfold exitCode
  rw [exitTable_two, ← Bool.not_eq_true, List.isEmpty_iff]

/-- the exit status of any result record: 0 iff all four lists are empty -/
theorem exitCode_zero_iff (r : VResult) :
    exitCode r = 0 ↔ r.errors = [] ∧ r.mismatched = [] ∧ r.onlySrc = [] ∧ r.onlyDst = [] := by
  unfold exitCode
  rw [exitTable_zero]
  simp only [List.isEmpty_iff]

/-- Exit status 0 iff nothing was mismatched, missing on either side or unreadable; otherwise 1
    (or 2 on read errors). -/
theorem exit_zero_iff_lists_empty (c : VCfg) (src dst : List VEntry) :
    exitCode (verify c src dst) = 0 ↔
      (verify c src dst).errors = [] ∧ (verify c src dst).mismatched = [] ∧
      (verify c src dst).onlySrc = [] ∧ (verify c src dst).onlyDst = [] :=
  exitCode_zero_iff _

theorem exit_le_two (c : VCfg) (src dst : List VEntry) : exitCode (verify c src dst) ≤ 2 :=
  exitTable_le _ _ _ _

/-- Exit status 0, for any size bounds: every source entry is matched or ignored, and no destination file is left over. -/
theorem exit_zero_iff_verdicts (c : VCfg) (src dst : List VEntry) :
    exitCode (verify c src dst) = 0 ↔
      (∀ s ∈ src, classify c dst s = .matched ∨ classify c dst s = .ignored) ∧ (verify c src dst).onlyDst = [] := by
  rw [exitCode_zero_iff]
  simp only [verify, verdict_list_nil, ← and_assoc]
  refine and_congr_left fun _ => ⟨fun ⟨⟨he, hm⟩, ho⟩ s hs => ?_, fun h => ⟨⟨?_, ?_⟩, ?_⟩⟩
  · cases hv : classify c dst s
    · exact .inl rfl
    · exact absurd hv (hm s hs)
    · exact absurd hv (ho s hs)
    · exact absurd hv (he s hs)
    · exact .inr rfl
  all_goals exact fun s hs hv => (h s hs).elim (fun e => nomatch e.symm.trans hv) fun e => nomatch e.symm.trans hv

/-- `--verify-only` exits 0 if and only if source and destination contain the same files with
    identical contents (all files readable). -/
theorem verify_exit_zero_iff (src dst : List VEntry) (hd : UniqueRels dst)
    (hread : ∀ e ∈ src ++ dst, e.isDir = false → e.content ≠ none) :
    exitCode (verify noBounds src dst) = 0 ↔
      (∀ s ∈ src, s.isDir = false → ∃ d ∈ dst, d.rel = s.rel ∧ d.isDir = false ∧ d.content = s.content) ∧
      (∀ d ∈ dst, d.isDir = false → ∃ s ∈ src, s.rel = d.rel ∧ s.isDir = false) := by
  rw [exit_zero_iff_verdicts]
  refine and_congr (forall_congr' fun s => forall_congr' fun hsm => ?_) ?_
  · -- matched or ignored: a directory, or a file with its readable twin
    have h := classify_spec dst hd s
    constructor
    · rintro (e | e) hsd <;> rw [e] at h
      · obtain ⟨_, d, hdm, hdr, hdd, hc, _⟩ := h
        exact ⟨d, hdm, hdr, hdd, hc⟩
      · exact absurd (hsd.symm.trans h) Bool.false_ne_true
    · intro h1
      cases hsd : s.isDir
      · obtain ⟨d, hdm, hdr, hdd, hc⟩ := h1 hsd
        rw [classify_file_some dst hd s d hsd hdm hdd hdr, hc]
        cases ha : s.content with
        | none => exact absurd ha (hread s (List.mem_append_left _ hsm) hsd)
        | some a => exact .inl (if_pos rfl)
      · exact .inr (classify_dir _ _ _ hsd)
  · -- nothing only in the destination: every destination file has a source file at its path
    rw [List.eq_nil_iff_forall_not_mem]
    constructor
    · intro hod d hdm hdd
      refine Classical.byContradiction fun hno => hod d.rel ((onlyDst_exact ..).mpr ⟨d, hdm, rfl, hdd, fun s hsm hsr => ?_⟩)
      cases hsd : s.isDir with
      | true => rfl
      | false => exact absurd ⟨s, hsm, hsr, hsd⟩ hno
    · intro h2 p hp
      obtain ⟨d, hdm, rfl, hdd, hall⟩ := (onlyDst_exact noBounds src dst p).mp hp
      obtain ⟨s, hsm, hsr, hsd⟩ := h2 d hdm hdd
      exact absurd ((hall s hsm hsr).symm.trans hsd) nofun

/-! ### non-vacuity -/

def exSrc : List VEntry := [⟨["a"], false, some 1, 3⟩, ⟨["x"], true, none, 0⟩, ⟨["x", "b"], false, some 2, 5⟩]
def exDst : List VEntry := [⟨["a"], false, some 9, 3⟩, ⟨["x"], false, some 4, 1⟩, ⟨["z"], false, some 5, 1⟩]

example : verify noBounds exSrc exDst =
    { matched := 0, mismatched := [["a"]], onlySrc := [["x", "b"]], onlyDst := [["x"], ["z"]], errors := [] } := by decide
example : exitCode (verify noBounds exSrc exDst) = 1 := by decide
example : exitCode (verify noBounds exSrc exSrc) = 0 := by decide
example : UniqueRels exDst := by unfold UniqueRels; decide

end SyModel.Props.C15
