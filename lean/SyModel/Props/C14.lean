/-
  C14 — Compression and remote-helper wire formats are byte-transparent.
  Property theorems only; helper lemmas live in `SyModel/Lemmas/{Codec,Sparse,Json}`.

  What is proved is everything sy adds around the codecs: the decision, the dispatch, the
  sender's routing, the helper's magic sniffing, the mtime argument, the sparse region
  protocol (gather / regions JSON / set_len + seek + write) and the local sparse copiers.
  `decompress (compress x) = x` for zstd and lz4 themselves is the hypothesis
  `Codec.Lossless` / `Codec.Sound` (validated by the correspondence stream on every payload);
  the kernel's hole reporting is the hypothesis `Covers`.
-/
import SyModel.Lemmas.Codec
import SyModel.Lemmas.Sparse
import SyModel.Generated.Consts
namespace SyModel.Props.C14
open SyModel SyModel.Compress

/-! ### side conditions on the constants extracted from the Rust source on this run -/

theorem consts_ok_size_gate_smart : Generated.COMPRESS_SIZE_GATE_SMART = SIZE_GATE := by decide
theorem consts_ok_size_gate_adaptive : Generated.COMPRESS_SIZE_GATE_ADAPTIVE = SIZE_GATE := by decide
theorem consts_ok_ratio :
    Generated.COMPRESS_RATIO_NUM = RATIO_NUM ∧ Generated.COMPRESS_RATIO_DEN = RATIO_DEN := by decide
theorem consts_ok_sample_size : Generated.COMPRESS_SAMPLE_SIZE = SAMPLE_SIZE := by decide

/-- the exact-rational reading of `ratio < 0.9` agrees with the `f64` comparison: for a sample of at
    most `SAMPLE_SIZE` bytes a quotient below 9/10 stays at least `1/(10·s)` below it, which is more
    than `2^-50` — far above the rounding error of one division near 1 (`2^-53`). -/
theorem consts_ok_sample_f64_margin :
    Generated.COMPRESS_RATIO_DEN * Generated.COMPRESS_SAMPLE_SIZE < 2 ^ 50 := by decide

theorem consts_ok_extensions : Generated.COMPRESSED_EXTENSIONS = compressedExtensions := rfl

/-- the bytes `sy-remote receive-file` compares are the model's magic, in positions 0‥3. -/
theorem consts_ok_magic_receive_file :
    Generated.ZSTD_MAGIC_RECEIVE_FILE = zstdMagic.map UInt8.toNat := by decide
theorem consts_ok_sniff_len_receive_file :
    Generated.SNIFF_MIN_LEN_RECEIVE_FILE = zstdMagic.length := by decide
/-- `hasZstdMagic` is "starts with `zstdMagic`". -/
theorem sniff_test_is_prefix (l : Bytes) : hasZstdMagic l = true ↔ ∃ r, l = zstdMagic ++ r :=
  hasZstdMagic_iff l

theorem consts_ok_sparse_threshold : Generated.SPARSE_THRESHOLD_LOCAL = SPARSE_THRESHOLD := by decide
theorem consts_ok_sparse_block : Generated.SPARSE_BLOCK_SIZE_LOCAL = LOCAL_BLOCK ∧ 0 < LOCAL_BLOCK := by decide

/-- the sender's routing as the anchors see it: the compressed arm runs `receive-file`, the
    `Compression::None` arm opens an SFTP file (anchor fails to match otherwise); the sparse path
    runs `receive-sparse-file`. -/
theorem consts_ok_sender_commands :
    Generated.SENDER_COMPRESSED_COMMAND = "receive-file" ∧
    Generated.SENDER_SPARSE_COMMAND = "receive-sparse-file" := by decide

/-! ### the decision -/

/-- `should_compress_smart` never answers `Lz4`: only raw or zstd payloads exist on the wire. -/
theorem decision_range (i : Inputs) :
    shouldCompressSmart i = .none ∨ shouldCompressSmart i = .zstd := by
  unfold shouldCompressSmart
  -- no arm of the definition answers `.lz4`: split into the arms and read the answer off
  repeat' split
  all_goals first | exact Or.inl rfl | exact Or.inr rfl

/-- the same for the adaptive twin (the legacy wrapper `shouldCompress` is its instance `isLocal = false`). -/
theorem decision_range_adaptive (name : List Char) (size : Nat) (isLocal : Bool) :
    shouldCompressAdaptive name size isLocal = .none ∨ shouldCompressAdaptive name size isLocal = .zstd := by
  unfold shouldCompressAdaptive
  repeat' split
  all_goals first | exact Or.inl rfl | exact Or.inr rfl

/-- below the size gate, for local transfers and for listed extensions nothing is compressed
    unless the mode is `always`; `never` never compresses. -/
theorem decision_gates (i : Inputs) (hm : i.mode ≠ .always)
    (h : i.isLocal = true ∨ i.mode = .never ∨ i.size < SIZE_GATE ∨ isCompressedExtension i.name = true) :
    shouldCompressSmart i = .none := by
  obtain ⟨name, size, isLocal, mode, sample⟩ := i
  simp only at hm h
  unfold shouldCompressSmart
  cases isLocal
  · cases mode
    -- in the modes `auto` and `extension` each alternative of `h` settles one of the tests that come before the sample
    · rcases h with h | h | h | h <;> simp_all
    · rcases h with h | h | h | h <;> simp_all
    · exact absurd rfl hm
    · simp
  · simp

/-- `decompress(compress(x, a), a) = x` for every algorithm, given that the two third-party codecs
    are lossless. -/
theorem dispatch_roundtrip (L Z : Codec) (hL : L.Lossless) (hZ : Z.Lossless) (a : Compression) (x : Bytes) :
    decompress L Z a (compress L Z a x) = some x := by
  cases a
  · rfl
  · exact hL x
  · exact hZ x

/-! ### the regular path: sender's branch + `receive-file` -/

/-- the helper on a zstd frame writes the original bytes and the given mtime. -/
theorem receive_file_on_frame (Z : Codec) (hZ : Z.Sound) (x : Bytes) (m : Option Nat) :
    receiveFile Z (Z.compress x) m = some { content := x, mtimeSec := m } := by
  unfold receiveFile
  rw [sniff_compress Z hZ]; rfl

/-- the helper on a raw payload without the magic writes it unchanged. -/
theorem receive_file_on_raw (Z : Codec) (x : Bytes) (m : Option Nat) (h : hasZstdMagic x = false) :
    receiveFile Z x m = some { content := x, mtimeSec := m } := by
  unfold receiveFile
  rw [sniff_raw Z x h]; rfl

/-- Byte transparency of the regular path: whatever the compression decision (size, extension,
    content sample or override) and whatever the payload — empty, incompressible, or itself
    beginning with a compression magic number — the remote file holds exactly the original bytes
    and the source mtime in whole seconds.
    It holds *because* of `decision_range` and the sender's branch: the helper only ever receives
    zstd frames, and `Compression::None` bypasses the helper (SFTP). -/
theorem receive_file_transparent (L Z : Codec) (hZ : Z.Sound) (x : Bytes) (i : Inputs) (srcMtimeNs : Option Nat) :
    remoteAfter Z (sendFile L Z (shouldCompressSmart i) x srcMtimeNs) =
      some { content := x, mtimeSec := mtimeSecs srcMtimeNs } := by
  rcases decision_range i with h | h <;> rw [h]
  · rfl
  · exact receive_file_on_frame Z hZ x _

/-- the helper sets exactly the `--mtime` argument (which the sender computes as the source mtime in whole
    seconds: `mtime_whole_seconds`). -/
theorem receive_file_mtime (Z : Codec) (stdin : Bytes) (m : Option Nat) (f : RemoteFile)
    (h : receiveFile Z stdin m = some f) : f.mtimeSec = m := by
  unfold receiveFile at h
  cases hs : sniff Z stdin with
  | none => simp [hs] at h
  | some d => simp [hs] at h; rw [← h]

theorem mtime_whole_seconds (ns : Nat) :
    ∃ s, mtimeSecs (some ns) = some s ∧ s * 1000000000 ≤ ns ∧ ns < (s + 1) * 1000000000 := by
  refine ⟨ns / 1000000000, rfl, ?_, ?_⟩ <;> omega

/-! #### why the theorem depends on the decision and on the sender's branch

  The helper *taken alone* is not transparent: these two theorems are the reason the statement
  above needs `decision_range`. Neither situation is reachable from `ssh.rs` as it stands. -/

/-- a raw payload that begins with `28 B5 2F FD` is not written as it is. -/
theorem helper_alone_counterexample_raw_magic :
    ∃ (Z : Codec) (_ : Z.Sound) (x : Bytes),
      receiveFile Z x none ≠ some { content := x, mtimeSec := none } :=
  ⟨toyZ, toyZ_sound, [0x28, 0xB5, 0x2F, 0xFD, 1, 2, 3], by decide⟩

/-- in general: on a magic-prefixed input the helper writes `decompress input` or fails. -/
theorem helper_on_magic (Z : Codec) (x : Bytes) (m : Option Nat) (h : hasZstdMagic x = true) :
    receiveFile Z x m = (Z.decompress x).map fun d => { content := d, mtimeSec := m } := by
  unfold receiveFile sniff
  rw [h]; rfl

/-- if the decision were `Lz4` the sender would pipe an lz4 block to a helper that only knows the
    zstd magic: the remote file would hold the *compressed* bytes. -/
theorem lz4_route_counterexample :
    ∃ (L Z : Codec) (_ : L.Lossless) (_ : Z.Sound) (x : Bytes),
      remoteAfter Z (sendFile L Z .lz4 x none) ≠ some { content := x, mtimeSec := none } :=
  ⟨toyL, toyZ, toyL_lossless, toyZ_sound, [1, 2, 3], by decide⟩

/-! ### sparse transfers -/

/-- regions JSON: the helper's `serde_json::from_str` inverts the sender's `to_string`. -/
theorem regions_json_roundtrip (rs : List Region) : decodeRegions (encodeRegions rs) = some rs :=
  decodeRegions_encode rs

/-- the region protocol: what the sender concatenates, fed to the helper's
    `set_len` + `seek` + `read_exact` + `write_all` loop, rebuilds the source content — for every
    layout the kernel can report (`Covers`): all data, leading / trailing holes, many small
    regions, unaligned boundaries, overlapping or unsorted regions. -/
theorem sparse_reconstruct (content : Bytes) (rs : List Region) (h : Covers content rs) :
    ∃ buf, gather content rs = some buf ∧ receiveSparse content.length rs buf = some content :=
  ⟨rs.flatMap (slice content), gather_eq content rs h.inRange, receiveSparse_gather content rs h⟩

/-- sender + helper with the real arguments (regions as JSON on the command line, `--total-size`,
    `--mtime`). -/
theorem sparse_helper_transparent (content : Bytes) (r : Region) (rs : List Region)
    (h : Covers content (r :: rs)) (srcMtimeNs : Option Nat) :
    ∃ total regs stdin m,
      sendSparse content (some (r :: rs)) srcMtimeNs = .helper total regs stdin m ∧
      receiveSparseFile total regs stdin m =
        some { content := content, mtimeSec := mtimeSecs srcMtimeNs } := by
  obtain ⟨buf, hg, hr⟩ := sparse_reconstruct content (r :: rs) h
  refine ⟨content.length, encodeRegions (r :: rs), buf, mtimeSecs srcMtimeNs, ?_, ?_⟩
  · simp only [sendSparse, hg]
  · simp only [receiveSparseFile, decodeRegions_encode, hr]

/-- a file that is all hole (no region reported), or whose detection fails, is not sent through the
    sparse helper. -/
theorem all_hole_falls_back (content : Bytes) (srcMtimeNs : Option Nat) :
    sendSparse content (some []) srcMtimeNs = .fallback ∧ sendSparse content none srcMtimeNs = .fallback :=
  ⟨rfl, rfl⟩

/-- `SshTransport::copy_file` as a whole — sparse or not, whatever the detection answers within its
    contract, whatever the compression decision: the remote file has the source content and the
    source mtime in whole seconds. -/
theorem copy_file_remote_transparent (L Z : Codec) (hZ : Z.Sound) (ci : CopyInputs)
    (hcov : ∀ rs, ci.detected = some rs → Covers ci.content rs) :
    copyFileRemote L Z ci = some { content := ci.content, mtimeSec := mtimeSecs ci.srcMtimeNs } := by
  have hreg := receive_file_transparent L Z hZ ci.content ci.decision ci.srcMtimeNs
  unfold copyFileRemote
  simp only [hreg]
  split
  · cases hd : ci.detected with
    | none => simp [sendSparse]
    | some rs =>
      cases rs with
      | nil => simp [sendSparse]
      | cons r rs =>
        obtain ⟨total, regs, stdin, m, h1, h2⟩ :=
          sparse_helper_transparent ci.content r rs (hcov _ hd) ci.srcMtimeNs
        rw [h1]
        simp only [h2]
  · rfl

/-- local `copy_sparse_file_seek`. -/
theorem sparse_local_seek (content : Bytes) (rs : List Region) (h : Covers content rs) :
    localSeek content rs = content :=
  localSeek_eq content rs h

/-- local `copy_sparse_file_blocks` (needs no assumption about the kernel at all). -/
theorem sparse_local_blocks (content : Bytes) : localBlocks content = content :=
  localBlocks_eq content

/-! ### whatever the destination path held before

  The helpers and the local sparse copiers are also used over an *existing* destination (a re-sent
  image, an update). `File::create` truncates it first; the constants regenerated from the source
  say whether the code still does. -/

theorem consts_ok_writers_truncate :
    Generated.HELPER_RECEIVE_FILE_TRUNCATES = true ∧ Generated.HELPER_SPARSE_TRUNCATES = true ∧
    Generated.LOCAL_SPARSE_SEEK_CREATES = 1 ∧ Generated.LOCAL_SPARSE_BLOCKS_CREATES = 1 := by decide

/-- the open mode of `receive-file` / `receive-sparse-file` as the source has it on this run. -/
def receiveFileMode : OpenMode := OpenMode.ofTruncates Generated.HELPER_RECEIVE_FILE_TRUNCATES
def receiveSparseMode : OpenMode := OpenMode.ofTruncates Generated.HELPER_SPARSE_TRUNCATES

/-- `receive-file` over any existing destination content writes exactly what it writes to a fresh
    path. -/
theorem receive_file_ignores_prior (Z : Codec) (prior : Option Bytes) (stdin : Bytes) (m : Option Nat) :
    receiveFileOver receiveFileMode Z prior stdin m = receiveFile Z stdin m := by
  have h : receiveFileMode = .create := rfl
  simp [receiveFileOver, receiveFile, h, openOutput, writeAll]

/-- `receive-sparse-file` over any existing destination content (same size, longer, shorter, any
    bytes in what are now holes) rebuilds exactly the source content. -/
theorem sparse_helper_transparent_over_prior (prior : Option Bytes) (content : Bytes) (r : Region)
    (rs : List Region) (h : Covers content (r :: rs)) (srcMtimeNs : Option Nat) :
    ∃ total regs stdin m,
      sendSparse content (some (r :: rs)) srcMtimeNs = .helper total regs stdin m ∧
      receiveSparseFileOver receiveSparseMode prior total regs stdin m =
        some { content := content, mtimeSec := mtimeSecs srcMtimeNs } := by
  obtain ⟨total, regs, stdin, m, hs, hr⟩ := sparse_helper_transparent content r rs h srcMtimeNs
  refine ⟨total, regs, stdin, m, hs, ?_⟩
  have hm : receiveSparseMode = .create := rfl
  rw [← hr]
  simp [receiveSparseFileOver, receiveSparseFile, receiveSparseOver, receiveSparse, hm, openOutput]

/-- both local sparse copiers over a destination opened with `File::create`: `.create` discards `prior` by
    definition, so these are the two fresh-path theorems. (Unlike `receiveFileMode`, the mode is written out here
    and not derived from `Generated.LOCAL_SPARSE_*_CREATES`.) -/
theorem sparse_local_over_prior (prior : Option Bytes) (content : Bytes) (rs : List Region)
    (h : Covers content rs) :
    localSeekOver .create prior content rs = content ∧ localBlocksOver .create prior content = content :=
  ⟨sparse_local_seek content rs h, sparse_local_blocks content⟩

/-- Why the open mode matters (the witness a change from `File::create` to a non-truncating open
    would reproduce): stale bytes survive in what is a hole of the new layout, and beyond the end of
    a shorter `receive-file` payload. -/
theorem keep_mode_counterexample :
    receiveSparseOver .keep (some [9, 9, 9, 9]) 4 [{ offset := 1, length := 2 }] [7, 8] = some [9, 7, 8, 9] ∧
    receiveSparseOver .create (some [9, 9, 9, 9]) 4 [{ offset := 1, length := 2 }] [7, 8] = some [0, 7, 8, 0] ∧
    (receiveFileOver .keep toyZ (some [9, 9, 9]) [1] none).map (·.content) = some [1, 9, 9] := by
  refine ⟨by decide, by decide, ?_⟩
  simp [receiveFileOver, sniff, hasZstdMagic, openOutput, writeAll]

/-! ### non-vacuity -/

example : toyZ.Sound := toyZ_sound
example : toyL.Lossless := toyL_lossless

/-- a layout with a leading hole, an unaligned data region and a trailing hole satisfies `Covers`. -/
theorem covers_example : Covers [0, 0, 7, 8, 9, 0, 0] [{ offset := 1, length := 4 }] where
  inRange := by decide
  holesZero := by decide

/-- the all-hole layout satisfies `Covers` with no region at all. -/
theorem covers_all_hole (n : Nat) : Covers (zeros n) [] where
  inRange := by simp
  holesZero := by intro i _ hne; exact absurd (at0_zeros n i) hne

/-- every decision outcome is reachable (the transparency theorem is not about one branch only). -/
example : shouldCompressSmart { name := "a.txt".toList, size := 2000000, isLocal := false, mode := .auto, sample := .ratio 100 65536 } = .zstd := by
  rw [shouldCompressSmart, isCompressedExtension_eq, show "a.txt".toList = ['a', '.', 't', 'x', 't'] from String.toList_ofList]
  decide
example : shouldCompressSmart { name := "a.txt".toList, size := 2000000, isLocal := false, mode := .auto, sample := .ratio 65000 65536 } = .none := by
  rw [shouldCompressSmart, isCompressedExtension_eq, show "a.txt".toList = ['a', '.', 't', 'x', 't'] from String.toList_ofList]
  decide
example : shouldCompressSmart { name := "A.JPG".toList, size := 2000000, isLocal := false, mode := .extension, sample := .noPath } = .none := by
  rw [shouldCompressSmart, isCompressedExtension_eq, show "A.JPG".toList = ['A', '.', 'J', 'P', 'G'] from String.toList_ofList]
  decide
example : shouldCompressSmart { name := "a.txt".toList, size := 5, isLocal := false, mode := .always, sample := .noPath } = .zstd := by decide

/-- the transparency theorem on a payload that itself begins with the zstd magic, compressed route. -/
example : remoteAfter toyZ (sendFile toyL toyZ
    (shouldCompressSmart { name := "x".toList, size := 7, isLocal := false, mode := .always, sample := .noPath })
    [0x28, 0xB5, 0x2F, 0xFD, 1, 2, 3] (some 1700000000999999999)) =
    some { content := [0x28, 0xB5, 0x2F, 0xFD, 1, 2, 3], mtimeSec := some 1700000000 } :=
  receive_file_transparent toyL toyZ toyZ_sound _ _ _

end SyModel.Props.C14
