/-
  GenEngineTask — the translated per-task body of `SyncEngine::sync` (`SyModel/Generated/Code/EngineTask.lean`:
  `run_task`, regenerated on every run from src/sync/mod.rs, the `let result = match task.action` of `sync` — executor call, the counters of `SyncStats`,
  post-transfer verification accounting, the JSON event, the error record pushed on `stats.errors`, the rate limiter,
  the rule "a deletion whose entry is already gone is a success") does the bookkeeping that C19 ("the machine-readable
  report is truthful"), C10 ("faults are reported") and C06 (deletions) need, and is the `execTask` of the handwritten
  model (`Engine/Model.lean`) those properties are proved about.

  `run_task ext task transferrer verifier stats dry_run json verification_mode rate_limiter perf_monitor` answers
  `(result, stats')` in the monad `Rs.M W`; `runM x w` = (outcome, world afterwards).

  `run_task_eq_spec` (for ANY `Ext`): `run_task` is `taskSpec`, the structured program of Lemmas/GenEngineTask;
  `run_task_iff_ran`: the same as a big-step relation.  Every any-instance and bridge theorem goes through these two and
  never looks at the generated body again (the `run_*` theorems of the last part evaluate the generated body itself):
  the bookkeeping of counters, error records, events (under the logging discipline `Logs ext log`)
  and verification for ANY instance; the "already gone" rule of deletions (`delete_ok_iff`: exactly `Io ∧ goneKind`,
  kind `NotFound` or `NotADirectory`); the bridge to `Engine.execTask` on the instance `engineExt cfg`, which composes
  this unit with the translated executors of unit Transfer (that instance answers kind `NotFound` for every error, so
  the bridge reaches the `NotFound` arm of the rule only; the `NotADirectory` arm is covered by the any-instance theorems
  `delete_ok_iff`, `delete_not_found_counts` (through `goneKind`), another kind and a non-Io error also by the runs
  `run_delete_eio`, `run_delete_non_io`); last, the call-logging world `logExt` with kernel-evaluated runs and satisfiability
  examples for every hypothesis.

  What the outer `.ok` in `runM (run_task …) w = (.ok (res, st'), w')` means: `emit`, `limiter.consume`, `sleep`,
  `Path::is_dir` are typed `Rs.M W _` like every operation of `Ext`, so an instance could make them throw; in Rust they
  cannot fail.  The any-instance theorems speak about the runs in which they did not (all runs, for `engineExt` and
  `logExt`).
-/
import SyModel.Lemmas.GenEngineTask
import SyModel.Props.GenTransfer
namespace SyModel.Props.GenEngineTask
open SyModel SyModel.Generated SyModel.Generated.EngineTask SyModel.GenEngineTask
open SyModel.Lemmas.GenTransfer (runM runM_bind)

section anyInstance
variable {W : Type} (ext : Ext W) (task : SyncTask) (transferrer verifier : Rs.Opaque) (stats : SyncStats)
  (dry json : Bool) (mode : ChecksumType) (limiter pm : Option Rs.Opaque)

/-- NORMAL FORM. For ANY `Ext`, the generated `run_task` IS the structured program: per action,
    `executor call → on Ok: bookOk (counters, optional verification, optional event) → Ok(()) | on Err e: push the error
    record → Err e`.  (`perf_monitor` occurs on the left only: the translation keeps its `if let Some(monitor)` shells
    with empty bodies.)  Proved in Lemmas/GenEngineTask (`run_task_eq_taskSpec`), the only proof that depends on the shape
    of the generated code (the `run_*` theorems evaluate it). -/
theorem run_task_eq_spec :
    run_task ext task transferrer verifier stats dry json mode limiter pm =
      taskSpec ext task transferrer verifier stats dry json mode limiter :=
  run_task_eq_taskSpec ext task transferrer verifier stats dry json mode limiter pm

/-- … and the structured program, run from a world `w`, answers `(res, st')` in the world `w'` exactly in the six ways
    listed by the relation `Ran` (Lemmas/GenEngineTask): no source entry | executor failed | executor succeeded |
    skip | deletion succeeded or "already gone" | deletion failed. -/
theorem run_task_iff_ran (w w' : W) (res : Except Rs.Err Unit) (st' : SyncStats) :
    runM (run_task ext task transferrer verifier stats dry json mode limiter pm) w = (.ok (res, st'), w') ↔
      Ran ext task transferrer verifier stats dry json mode limiter w res st' w' :=
  run_task_ran ext task transferrer verifier stats dry json mode limiter pm w w' res st'

/-! ## bookkeeping, for ANY instance

  `h` reads: the task body, run from the world `w`, answered `(res, st')` and left the world `w'`.  (The outer `.ok`:
  the operations that cannot fail in Rust — `emit`, `limiter.consume`, `sleep`, `Path::is_dir` — did not throw; an
  instance in which they do is outside what the Rust code can do, and nothing is claimed about it.) -/

variable {w w' : W} {res : Except Rs.Err Unit} {st' : SyncStats}

/-- the four task counters -/
def counters (st : SyncStats) : Nat × Nat × Nat × Nat :=
  (st.files_created, st.files_updated, st.files_skipped, st.files_deleted)

/-- the task's own counter, incremented by one -/
def bump : SyncAction → Nat × Nat × Nat × Nat → Nat × Nat × Nat × Nat
  | .Create, (c, u, s, d) => (c + 1, u, s, d)
  | .Update, (c, u, s, d) => (c, u + 1, s, d)
  | .Skip, (c, u, s, d) => (c, u, s + 1, d)
  | .Delete, (c, u, s, d) => (c, u, s, d + 1)

/-- the task has something to do: a Create/Update task without a source entry does nothing and counts nothing -/
def hasWork (task : SyncTask) : Bool :=
  match task.action with
  | .Create | .Update => task.source.isSome
  | _ => true

def isOk (res : Except Rs.Err Unit) : Bool := match res with | .ok _ => true | .error _ => false

/-- the error record of a failed task -/
def errorRecord (task : SyncTask) (e : Rs.Err) : SyncError :=
  { path := task.dest_path, error := Rs.to_string e, action := actionName task.action }

/-- the stats fields a task of each kind can NOT change (besides the three foreign task counters of
    `own_counter_iff_ok` and the two fields of `scan_fields_untouched`) -/
def ForeignUntouched (a : SyncAction) (st st' : SyncStats) : Prop :=
  match a with
  | .Create => st'.files_delta_synced = st.files_delta_synced ∧ st'.delta_bytes_saved = st.delta_bytes_saved ∧
      st'.bytes_would_change = st.bytes_would_change ∧ st'.bytes_would_delete = st.bytes_would_delete
  | .Update => st'.bytes_would_add = st.bytes_would_add ∧ st'.bytes_would_delete = st.bytes_would_delete
  | .Skip => st' = { st with files_skipped := st.files_skipped + 1 }
  | .Delete => st'.bytes_transferred = st.bytes_transferred ∧ st'.files_delta_synced = st.files_delta_synced ∧
      st'.delta_bytes_saved = st.delta_bytes_saved ∧ st'.files_compressed = st.files_compressed ∧
      st'.compression_bytes_saved = st.compression_bytes_saved ∧ st'.files_verified = st.files_verified ∧
      st'.verification_failures = st.verification_failures ∧ st'.bytes_would_add = st.bytes_would_add ∧
      st'.bytes_would_change = st.bytes_would_change

/-- what one task does to the statistics, read off the six ways `run_task` answers (`Ran`) ONCE: the four task
    counters, the error list, the two scan fields, and the fields foreign to the task's kind -/
theorem stats_after
    (h : runM (run_task ext task transferrer verifier stats dry json mode limiter pm) w = (.ok (res, st'), w')) :
    counters st' = (if isOk res && hasWork task then bump task.action (counters stats) else counters stats) ∧
    st'.errors = (match res with
      | .ok _ => stats.errors
      | .error e => stats.errors ++ [errorRecord task e]) ∧
    (st'.files_scanned = stats.files_scanned ∧ st'.duration = stats.duration) ∧
    ForeignUntouched task.action stats st' ∧ (isOk res = false → hasWork task = true) := by
  rw [run_task_iff_ran] at h
  cases h with
  | noSource ha hs => rcases ha with ha | ha <;> simp [hasWork, isOk, ForeignUntouched, ha, hs]
  | xferErr ha source hs e w1 hx =>
    rcases ha with ha | ha <;> simp [isOk, hasWork, counters, errorRecord, ForeignUntouched, ha, hs]
  | xferOk ha source hs r w1 w2 w' hx ht he =>
    rcases ha with ha | ha <;> split <;> simp [isOk, hasWork, ha, hs, counters, bump, countOf, ForeignUntouched]
  | skip ha w' he => simp [isOk, hasWork, ha, counters, bump, ForeignUntouched]
  | delOk ha isDir st1 w1 w2 w' dres hp hd hg he =>
    obtain ⟨n, rfl⟩ := deletePre_stats ext task dry stats hp
    simp [isOk, hasWork, ha, counters, bump, ForeignUntouched]
  | delErr ha isDir st1 w1 w2 dres e hp hd hg =>
    obtain ⟨n, rfl⟩ := deletePre_stats ext task dry stats hp
    simp [isOk, hasWork, counters, errorRecord, ForeignUntouched, ha]

/-- C19 (counters): exactly the task's OWN counter goes up, by exactly one, exactly when the result is `Ok` (and the
    task has a source entry when it is a Create/Update); no counter moves otherwise. -/
theorem own_counter_iff_ok
    (h : runM (run_task ext task transferrer verifier stats dry json mode limiter pm) w = (.ok (res, st'), w')) :
    counters st' = if isOk res && hasWork task then bump task.action (counters stats) else counters stats :=
  (stats_after ext task transferrer verifier stats dry json mode limiter pm h).1

/-- … read as a count: the sum of the four counters grows by one exactly for an `Ok` task that had something to do. -/
theorem counter_sum_iff_ok
    (h : runM (run_task ext task transferrer verifier stats dry json mode limiter pm) w = (.ok (res, st'), w')) :
    st'.files_created + st'.files_updated + st'.files_skipped + st'.files_deleted =
      stats.files_created + stats.files_updated + stats.files_skipped + stats.files_deleted +
        (if isOk res && hasWork task then 1 else 0) := by
  have := own_counter_iff_ok ext task transferrer verifier stats dry json mode limiter pm h
  simp only [counters] at this
  cases hc : (isOk res && hasWork task) <;> rw [hc] at this
  · simp only [Bool.false_eq_true, if_false, Prod.mk.injEq] at this ⊢; omega
  · simp only [if_true] at this ⊢
    cases ha : task.action <;> rw [ha] at this <;> simp only [bump, Prod.mk.injEq] at this <;> omega

/-- C10: a failed task increments NO counter. -/
theorem failed_counts_nothing (e : Rs.Err)
    (h : runM (run_task ext task transferrer verifier stats dry json mode limiter pm) w = (.ok (.error e, st'), w')) :
    counters st' = counters stats := by
  have := own_counter_iff_ok ext task transferrer verifier stats dry json mode limiter pm h
  simpa [isOk] using this

/-- C10 (failures represented): `stats.errors` grows by exactly ONE record — path = the task's destination path,
    action = the task's own action name — exactly when the result is `Err`, and is unchanged otherwise. -/
theorem errors_iff_err
    (h : runM (run_task ext task transferrer verifier stats dry json mode limiter pm) w = (.ok (res, st'), w')) :
    st'.errors = match res with
      | .ok _ => stats.errors
      | .error e => stats.errors ++ [errorRecord task e] :=
  (stats_after ext task transferrer verifier stats dry json mode limiter pm h).2.1

/-- the action names are the four the report uses, one per action -/
theorem actionName_injective : ∀ a b, actionName a = actionName b → a = b := by
  intro a b h
  -- `actOfName` reads the action back from its name
  have h' := congrArg actOfName h
  rw [actOfName_actionName, actOfName_actionName] at h'
  cases a <;> cases b <;> first | rfl | cases h'

/-- C10/C19: every task that had something to do is represented exactly once — in its own counter or in the error
    list, never in both, never in neither. -/
theorem counted_or_recorded
    (h : runM (run_task ext task transferrer verifier stats dry json mode limiter pm) w = (.ok (res, st'), w')) :
    (st'.files_created + st'.files_updated + st'.files_skipped + st'.files_deleted) + st'.errors.length =
      (stats.files_created + stats.files_updated + stats.files_skipped + stats.files_deleted) + stats.errors.length +
        (if hasWork task then 1 else 0) := by
  have h1 := counter_sum_iff_ok ext task transferrer verifier stats dry json mode limiter pm h
  have h2 := errors_iff_err ext task transferrer verifier stats dry json mode limiter pm h
  have h3 := (stats_after ext task transferrer verifier stats dry json mode limiter pm h).2.2.2.2
  rcases res with e | u
  · simp only [isOk, Bool.false_and, Bool.false_eq_true, if_false] at h1
    simp only [] at h2
    rw [h1, h2, h3 rfl]; simp; omega
  · simp only [isOk, Bool.true_and] at h1
    simp only [] at h2
    rw [h1, h2]; omega

/-! ### events — stated for any instance whose world carries a log that `emit` appends to and nothing else touches -/

/-- the logging discipline: `log` projects the event log out of the world; `emit ev` appends `ev`; every other
    operation leaves the log alone -/
structure Logs (ext : Ext W) (log : W → List SyncEvent) : Prop where
  emit : ∀ ev w, log (runM (ext.emit ev) w).2 = log w ++ [ev]
  create : ∀ t e p w, log (runM (ext.transferrer_create t e p) w).2 = log w
  update : ∀ t e p w, log (runM (ext.transferrer_update t e p) w).2 = log w
  delete : ∀ t p b w, log (runM (ext.transferrer_delete t p b) w).2 = log w
  verify : ∀ v s d w, log (runM (ext.verify_transfer v s d) w).2 = log w
  consume : ∀ l n w, log (runM (ext.limiter_consume l n) w).2 = log w
  sleep : ∀ d w, log (runM (ext.tokio_time_sleep d) w).2 = log w
  metadata : ∀ p w, log (runM (ext.std_fs_metadata p) w).2 = log w
  is_dir : ∀ p w, log (runM (ext.path_is_dir p) w).2 = log w

/-- the events `run_task` may emit for a task: its own kind, its own path -/
def OwnEvent (task : SyncTask) : SyncEvent → Prop
  | .Create p sz _ => task.action = .Create ∧ p = task.dest_path ∧ ∃ s, task.source = some s ∧ sz = s.size
  | .Update p sz _ _ => task.action = .Update ∧ p = task.dest_path ∧ ∃ s, task.source = some s ∧ sz = s.size
  | .Skip p reason => task.action = .Skip ∧ p = task.dest_path ∧ reason = "up_to_date".toList
  | .Delete p => task.action = .Delete ∧ p = task.dest_path
  | _ => False

variable {log : W → List SyncEvent}

theorem throttle_log (hl : Logs ext log) (n : Nat) (w : W) : log (runM (throttle ext limiter n) w).2 = log w := by
  unfold throttle
  cases limiter with
  | none => rfl
  | some l =>
    simp only []
    split
    · rw [runM_bind]
      have h1 := hl.consume l n w
      rcases hc : runM (ext.limiter_consume l n) w with ⟨e | d, w1⟩ <;> rw [hc] at h1 <;> simp only [] at h1 ⊢
      · exact h1
      · split
        · rw [hl.sleep]; exact h1
        · exact h1
    · rfl

theorem verifyPhase_log (hl : Logs ext log) (source : FileEntry) (dest : Rs.Path) (r : Option TransferResult)
    (st : SyncStats) (w : W) : log (runM (verifyPhase ext verifier mode dry source dest r st) w).2 = log w := by
  rw [verifyPhase_run]
  split
  · exact hl.verify _ _ _ _
  · rfl

theorem emitIf_log (hl : Logs ext log) (ev : SyncEvent) (w : W) :
    log (runM (emitIf ext json ev) w).2 = log w ++ (if json then [ev] else []) := by
  rw [emitIf_run]
  cases json
  · simp
  · simp [hl.emit]

theorem deletePre_log (hl : Logs ext log) {w w1 : W} {isDir : Bool} {st1 : SyncStats}
    (h : runM (deletePre ext task dry stats) w = (.ok (isDir, st1), w1)) : log w1 = log w := by
  obtain ⟨w0, h0, h | h⟩ := deletePre_inv ext task dry stats h
  · rw [h.2.1]; have := hl.is_dir task.dest_path w; rw [h0] at this; exact this
  · rw [h.2.1, hl.metadata]; have := hl.is_dir task.dest_path w; rw [h0] at this; exact this

theorem xferCall_log (hl : Logs ext log) (source : FileEntry) {r : Except Rs.Err (Option TransferResult)} {w w1 : W}
    (hx : runM (xferCall ext task transferrer source) w = (r, w1)) : log w1 = log w := by
  have h1 := hl.create transferrer source task.dest_path w
  have h2 := hl.update transferrer source task.dest_path w
  unfold xferCall at hx
  split at hx
  · rw [hx] at h2
    exact h2
  · rw [hx] at h1
    exact h1

/-- C19 (events), the whole statement: the log after the task is the log before it, plus — exactly when `json` is on,
    the result is `Ok` and the task had something to do — ONE event, of the task's own kind, for the task's own path. -/
theorem events_logged (hl : Logs ext log)
    (h : runM (run_task ext task transferrer verifier stats dry json mode limiter pm) w = (.ok (res, st'), w')) :
    if (json && isOk res && hasWork task) = true then ∃ ev, log w' = log w ++ [ev] ∧ OwnEvent task ev
    else log w' = log w := by
  rw [run_task_iff_ran] at h
  cases h with
  | noSource ha hs => rcases ha with ha | ha <;> simp [hasWork, ha, hs]
  | xferErr ha source hs e w1 hx =>
    simp only [isOk, Bool.and_false, Bool.false_and, Bool.false_eq_true, if_false]
    exact xferCall_log ext task transferrer hl source hx
  | xferOk ha source hs r w1 w2 w' hx ht he =>
    have h1 := xferCall_log ext task transferrer hl source hx
    have h2 : log w2 = log w1 := by
      have := throttle_log ext limiter hl (bytesOf r) w1; rw [ht] at this; exact this
    have h3 := emitIf_log ext json hl (ownEvent task source r)
      (runM (verifyPhase ext verifier mode dry source task.dest_path r (countOf task.action dry source r stats)) w2).2
    rw [he, verifyPhase_log ext verifier dry mode hl, h2, h1] at h3
    have hw : hasWork task = true := by rcases ha with ha | ha <;> simp [hasWork, ha, hs]
    cases json
    · simpa using h3
    · simp only [isOk, hw, Bool.and_self, if_true]
      refine ⟨_, h3, ?_⟩
      rcases ha with ha | ha <;> simp [ownEvent, ha, createEvent, updateEvent, OwnEvent, hs]
  | skip ha w' he =>
    have h3 := emitIf_log ext json hl (skipEvent task) w
    rw [he] at h3
    cases json
    · simpa using h3
    · simp only [isOk, hasWork, ha, Bool.and_self, if_true]
      exact ⟨_, h3, by simp [skipEvent, OwnEvent, ha]⟩
  | delOk ha isDir st1 w1 w2 w' dres hp hd hg he =>
    have h1 := deletePre_log ext task stats dry hl hp
    have h2 : log w2 = log w1 := by
      have := hl.delete transferrer task.dest_path isDir w1; rw [hd] at this; exact this
    have h3 := emitIf_log ext json hl (deleteEvent task) w2
    rw [he, h2, h1] at h3
    cases json
    · simpa using h3
    · simp only [isOk, hasWork, ha, Bool.and_self, if_true]
      exact ⟨_, h3, by simp [deleteEvent, OwnEvent, ha]⟩
  | delErr ha isDir st1 w1 w2 dres e hp hd hg =>
    simp only [isOk, Bool.and_false, Bool.false_and, Bool.false_eq_true, if_false]
    have h1 := deletePre_log ext task stats dry hl hp
    have := hl.delete transferrer task.dest_path isDir w1; rw [hd] at this
    rw [this, h1]

/-- C10/C19: a FAILED task emits no event. -/
theorem failed_emits_nothing (hl : Logs ext log) (e : Rs.Err)
    (h : runM (run_task ext task transferrer verifier stats dry json mode limiter pm) w = (.ok (.error e, st'), w')) :
    log w' = log w := by
  have := events_logged ext task transferrer verifier stats dry json mode limiter pm hl h
  simpa [isOk] using this

/-- without `--json` nothing is emitted. -/
theorem no_json_emits_nothing (hl : Logs ext log)
    (h : runM (run_task ext task transferrer verifier stats dry false mode limiter pm) w = (.ok (res, st'), w')) :
    log w' = log w := by
  have := events_logged ext task transferrer verifier stats dry false mode limiter pm hl h
  simpa using this

/-- C19 (counters equal events): with `--json` the number of events the task added equals the amount its counters grew
    by — event and counter can never come apart. -/
theorem counters_eq_events_step (hl : Logs ext log)
    (h : runM (run_task ext task transferrer verifier stats dry true mode limiter pm) w = (.ok (res, st'), w')) :
    (log w').length + (stats.files_created + stats.files_updated + stats.files_skipped + stats.files_deleted) =
      (log w).length + (st'.files_created + st'.files_updated + st'.files_skipped + st'.files_deleted) := by
  have h1 := events_logged ext task transferrer verifier stats dry true mode limiter pm hl h
  have h2 := counter_sum_iff_ok ext task transferrer verifier stats dry true mode limiter pm h
  simp only [Bool.true_and] at h1
  split at h1
  · rename_i hc
    obtain ⟨ev, hev, _⟩ := h1
    rw [hc] at h2
    rw [hev, h2]; simp; omega
  · rename_i hc
    have hc' : (isOk res && hasWork task) = false := by simpa using hc
    rw [hc'] at h2
    rw [h1, h2]; simp

theorem wantsVerify_iff (source : FileEntry) (r : Option TransferResult) :
    wantsVerify mode dry source r = true ↔
      mode ≠ ChecksumType.None ∧ dry = false ∧ source.is_dir = false ∧ r.isSome = true := by
  unfold wantsVerify
  simp only [Bool.and_eq_true, bne_iff_ne, ne_eq, Bool.not_eq_true', and_assoc]

/-- the executor of a Create/Update answered `Ok`: then the TASK answers `Ok(())` — nothing that follows (rate limiter,
    verification, event) can turn it into `Err` — and the verification fields are exactly:
    `files_verified` + 1 iff verification was due and `verify_transfer` answered `Ok(true)`;
    `verification_failures` + 1 iff it was due and the answer was ANYTHING else — `Ok(false)` or `Err(_)`. -/
theorem verification_outcome (source : FileEntry) (r : Option TransferResult) {w1 w2 : W}
    (ha : task.action = .Create ∨ task.action = .Update) (hs : task.source = some source)
    (hx : runM (xferCall ext task transferrer source) w = (.ok r, w1))
    (ht : runM (throttle ext limiter (bytesOf r)) w1 = (.ok (), w2))
    (h : runM (run_task ext task transferrer verifier stats dry json mode limiter pm) w = (.ok (res, st'), w')) :
    res = .ok () ∧
    st'.files_verified = stats.files_verified +
      (if (wantsVerify mode dry source r &&
          verdictOk (runM (ext.verify_transfer verifier source.path task.dest_path) w2).1) = true then 1 else 0) ∧
    st'.verification_failures = stats.verification_failures +
      (if (wantsVerify mode dry source r &&
          !verdictOk (runM (ext.verify_transfer verifier source.path task.dest_path) w2).1) = true then 1 else 0) := by
  rw [run_task_iff_ran] at h
  cases h with
  | noSource ha' hs' => rw [hs] at hs'; cases hs'
  | xferErr ha' source' hs' e w1' hx' =>
    rw [hs] at hs'; cases hs'; rw [hx] at hx'; cases hx'
  | xferOk ha' source' hs' r' w1' w2' w'' hx' ht' he' =>
    rw [hs] at hs'; cases hs'; rw [hx] at hx'; cases hx'; rw [ht] at ht'; cases ht'
    -- the counters of the transfer leave both verification fields alone
    have hc : (countOf task.action dry source r stats).files_verified = stats.files_verified ∧
        (countOf task.action dry source r stats).verification_failures = stats.verification_failures := by
      rcases ha with ha | ha <;> simp [countOf, ha]
    refine ⟨rfl, ?_, ?_⟩
    · cases hwv : wantsVerify mode dry source r <;> simp [hc.1]
    · cases hwv : wantsVerify mode dry source r <;> simp [hc.2]
      cases verdictOk (runM (ext.verify_transfer verifier source.path task.dest_path) w2).1 <;> rfl
  | skip ha' | delOk ha' | delErr ha' => rcases ha with ha | ha <;> simp [ha] at ha'

/-- verification is DUE for this task: a Create/Update with a source entry whose executor answered `Ok(Some(result))`,
    `verification_mode ≠ None`, not a dry run, the source is not a directory -/
def VerifyDue (w : W) : Prop :=
  ∃ source r w1, (task.action = .Create ∨ task.action = .Update) ∧ task.source = some source ∧
    runM (xferCall ext task transferrer source) w = (.ok (some r), w1) ∧
    mode ≠ ChecksumType.None ∧ dry = false ∧ source.is_dir = false

/-- C19 (verification): `files_verified + verification_failures` grows by exactly one when verification is due, and
    not at all otherwise (failed tasks, Skip, Delete, `Ok(None)` from the executor — dry run, skipped or preserved
    symlink, directory —, mode `None`). -/
theorem verification_iff_due
    (h : runM (run_task ext task transferrer verifier stats dry json mode limiter pm) w = (.ok (res, st'), w')) :
    (VerifyDue ext task transferrer dry mode w →
      st'.files_verified + st'.verification_failures = stats.files_verified + stats.verification_failures + 1) ∧
    (¬ VerifyDue ext task transferrer dry mode w →
      st'.files_verified = stats.files_verified ∧ st'.verification_failures = stats.verification_failures) := by
  have h0 := h
  rw [run_task_iff_ran] at h
  cases h with
  | noSource ha hs => simp [VerifyDue, hs]
  | xferErr ha source hs e w1 hx => simp [VerifyDue, hs, hx]
  | xferOk ha source hs r w1 w2 w' hx ht he =>
    obtain ⟨_, hv, hf⟩ := verification_outcome ext task transferrer verifier stats dry json mode limiter pm source r
      ha hs hx ht h0
    constructor
    · rintro ⟨s, r', w1', _, hs', hx', hm, hd, hdir⟩
      rw [hs] at hs'; cases hs'; rw [hx] at hx'; cases hx'
      have hwv : wantsVerify mode dry source (some r') = true := (wantsVerify_iff dry mode source _).2 ⟨hm, hd, hdir, rfl⟩
      rw [hv, hf, hwv]
      cases verdictOk (runM (ext.verify_transfer verifier source.path task.dest_path) w2).1 <;> simp <;> omega
    · intro hnd
      have hwv : wantsVerify mode dry source r = false := by
        cases hwv : wantsVerify mode dry source r
        · rfl
        · obtain ⟨hm, hd, hdir, hr⟩ := (wantsVerify_iff dry mode source r).1 hwv
          obtain ⟨r', rfl⟩ := Option.isSome_iff_exists.1 hr
          exact absurd ⟨source, r', w1, ha, hs, hx, hm, hd, hdir⟩ hnd
      rw [hv, hf, hwv]; simp
  | skip ha w' he => simp [VerifyDue, ha]
  | delOk ha isDir st1 w1 w2 w' dres hp hd hg he =>
    obtain ⟨n, rfl⟩ := deletePre_stats ext task dry stats hp
    simp [VerifyDue, ha]
  | delErr ha isDir st1 w1 w2 dres e hp hd hg =>
    obtain ⟨n, rfl⟩ := deletePre_stats ext task dry stats hp
    simp [VerifyDue, ha]

/-- C19b: an `Err` of `verify_transfer` (the re-read failed) is a verification FAILURE — never "verified", never
    dropped — and the task still answers `Ok(())`. -/
theorem verify_error_is_failure (source : FileEntry) (r : TransferResult) {w1 w2 : W} (e : Rs.Err)
    (ha : task.action = .Create ∨ task.action = .Update) (hs : task.source = some source)
    (hx : runM (xferCall ext task transferrer source) w = (.ok (some r), w1))
    (ht : runM (throttle ext limiter r.bytes_written) w1 = (.ok (), w2))
    (hm : mode ≠ ChecksumType.None) (hd : dry = false) (hdir : source.is_dir = false)
    (hve : (runM (ext.verify_transfer verifier source.path task.dest_path) w2).1 = .error e)
    (h : runM (run_task ext task transferrer verifier stats dry json mode limiter pm) w = (.ok (res, st'), w')) :
    res = .ok () ∧ st'.verification_failures = stats.verification_failures + 1 ∧
      st'.files_verified = stats.files_verified := by
  obtain ⟨h1, hv, hf⟩ := verification_outcome ext task transferrer verifier stats dry json mode limiter pm source
    (some r) ha hs hx ht h
  have hwv : wantsVerify mode dry source (some r) = true := (wantsVerify_iff dry mode source _).2 ⟨hm, hd, hdir, rfl⟩
  rw [hwv, hve] at hv hf
  exact ⟨h1, by simpa [verdictOk] using hf, by simpa [verdictOk] using hv⟩

set_option linter.unusedVariables false in
/-- … and its event is still emitted (with `--json`): the log grows by the task's own event. -/
theorem verify_error_keeps_event (hl : Logs ext log) (source : FileEntry) (r : TransferResult) {w1 w2 : W} (e : Rs.Err)
    (ha : task.action = .Create ∨ task.action = .Update) (hs : task.source = some source)
    (hx : runM (xferCall ext task transferrer source) w = (.ok (some r), w1))
    (ht : runM (throttle ext limiter r.bytes_written) w1 = (.ok (), w2))
    (h : runM (run_task ext task transferrer verifier stats dry true mode limiter pm) w = (.ok (res, st'), w')) :
    ∃ ev, log w' = log w ++ [ev] ∧ OwnEvent task ev := by
  obtain ⟨h1, _, _⟩ := verification_outcome ext task transferrer verifier stats dry true mode limiter pm source
    (some r) ha hs hx ht h
  have := events_logged ext task transferrer verifier stats dry true mode limiter pm hl h
  have hw : hasWork task = true := by rcases ha with ha | ha <;> simp [hasWork, ha, hs]
  rw [h1] at this
  simpa [isOk, hw] using this

/-- `files_scanned` and `duration` belong to the scan and to the end of the run: no task changes them. -/
theorem scan_fields_untouched
    (h : runM (run_task ext task transferrer verifier stats dry json mode limiter pm) w = (.ok (res, st'), w')) :
    st'.files_scanned = stats.files_scanned ∧ st'.duration = stats.duration :=
  (stats_after ext task transferrer verifier stats dry json mode limiter pm h).2.2.1

theorem foreign_fields_untouched
    (h : runM (run_task ext task transferrer verifier stats dry json mode limiter pm) w = (.ok (res, st'), w')) :
    ForeignUntouched task.action stats st' :=
  (stats_after ext task transferrer verifier stats dry json mode limiter pm h).2.2.2.1

/-- a FAILED task changes nothing but the error list (and, for a deletion in a dry run, `bytes_would_delete`). -/
theorem failed_changes_only_errors (e : Rs.Err)
    (h : runM (run_task ext task transferrer verifier stats dry json mode limiter pm) w = (.ok (.error e, st'), w')) :
    ∃ n, st' = { stats with errors := stats.errors ++ [errorRecord task e], bytes_would_delete := n } ∧
      (task.action ≠ .Delete → n = stats.bytes_would_delete) := by
  rw [run_task_iff_ran] at h
  cases h with
  | xferErr ha source hs e' w1 hx =>
    refine ⟨stats.bytes_would_delete, rfl, fun _ => rfl⟩
  | delErr ha isDir st1 w1 w2 dres e' hp hd hg =>
    obtain ⟨n, rfl⟩ := deletePre_stats ext task dry stats hp
    exact ⟨n, rfl, fun hne => absurd ha hne⟩

/-! ## deletions: the "already gone" rule (still for ANY instance) -/

/-- C06/C10/C19 (the rule itself): the Delete arm answers `Ok` EXACTLY when `transferrer.delete` answered `Ok`, or
    failed with an error `e` that IS an `Io` error AND whose kind IS `NotFound` or `NotADirectory` (`goneKind`).
    Nothing else is consulted: not the file system, not `exists()`. -/
theorem delete_ok_iff (ha : task.action = .Delete) {isDir : Bool} {st1 : SyncStats} {w1 w2 : W}
    {dres : Except Rs.Err Unit}
    (hp : runM (deletePre ext task dry stats) w = (.ok (isDir, st1), w1))
    (hd : runM (ext.transferrer_delete transferrer task.dest_path isDir) w1 = (dres, w2))
    (h : runM (run_task ext task transferrer verifier stats dry json mode limiter pm) w = (.ok (res, st'), w')) :
    res = .ok () ↔
      dres = .ok () ∨ ∃ e, dres = .error e ∧ ext.err_is_io e = true ∧ goneKind ext e = true := by
  rw [← goneRule_ok_iff]
  rw [run_task_iff_ran] at h
  cases h with
  | noSource ha' | xferErr ha' | xferOk ha' | skip ha' => simp [ha] at ha'
  | delOk ha' isDir' st1' w1' w2' w'' dres' hp' hd' hg he =>
    rw [hp] at hp'; cases hp'; rw [hd] at hd'; cases hd'
    simp [hg]
  | delErr ha' isDir' st1' w1' w2' dres' e hp' hd' hg =>
    rw [hp] at hp'; cases hp'; rw [hd] at hd'; cases hd'
    simp [hg]

/-- every OTHER error of `transferrer.delete` — not an `Io` error, or an `Io` error of another kind (EIO, EACCES,
    EISDIR, ENOTEMPTY …) — is returned as it is, recorded with action "delete", and NOT counted as a deletion. -/
theorem delete_other_error_recorded (ha : task.action = .Delete) {isDir : Bool} {st1 : SyncStats} {w1 w2 : W} (e : Rs.Err)
    (hp : runM (deletePre ext task dry stats) w = (.ok (isDir, st1), w1))
    (hd : runM (ext.transferrer_delete transferrer task.dest_path isDir) w1 = (.error e, w2))
    (hne : ¬ (ext.err_is_io e = true ∧ goneKind ext e = true))
    (h : runM (run_task ext task transferrer verifier stats dry json mode limiter pm) w = (.ok (res, st'), w')) :
    res = .error e ∧ st'.errors = stats.errors ++ [errorRecord task e] ∧ st'.files_deleted = stats.files_deleted ∧
      w' = w2 := by
  have hiff := delete_ok_iff ext task transferrer verifier stats dry json mode limiter pm ha hp hd h
  rw [run_task_iff_ran] at h
  cases h with
  | noSource ha' | xferErr ha' | xferOk ha' | skip ha' => simp [ha] at ha'
  | delOk ha' isDir' st1' w1' w2' w'' dres' hp' hd' hg he =>
    exfalso
    rcases hiff.1 rfl with h1 | ⟨e', h1, h2, h3⟩
    · cases h1
    · cases h1; exact hne ⟨h2, h3⟩
  | delErr ha' isDir' st1' w1' w2' dres' e' hp' hd' hg =>
    rw [hp] at hp'; cases hp'; rw [hd] at hd'; cases hd'
    obtain ⟨h1, _⟩ := goneRule_error ext _ _ hg
    cases h1
    obtain ⟨n, rfl⟩ := deletePre_stats ext task dry stats hp
    exact ⟨rfl, rfl, rfl, rfl⟩

/-- an entry that is already gone IS a deletion: counted, no error record (and, with `--json`, its `delete` event —
    `events_logged`). -/
theorem delete_not_found_counts (ha : task.action = .Delete) {isDir : Bool} {st1 : SyncStats} {w1 w2 : W} (e : Rs.Err)
    (hp : runM (deletePre ext task dry stats) w = (.ok (isDir, st1), w1))
    (hd : runM (ext.transferrer_delete transferrer task.dest_path isDir) w1 = (.error e, w2))
    (hio : ext.err_is_io e = true) (hk : goneKind ext e = true)
    (h : runM (run_task ext task transferrer verifier stats dry json mode limiter pm) w = (.ok (res, st'), w')) :
    res = .ok () ∧ st'.files_deleted = stats.files_deleted + 1 ∧ st'.errors = stats.errors := by
  have hres : res = .ok () :=
    (delete_ok_iff ext task transferrer verifier stats dry json mode limiter pm ha hp hd h).2 (.inr ⟨e, rfl, hio, hk⟩)
  subst hres
  have h1 := own_counter_iff_ok ext task transferrer verifier stats dry json mode limiter pm h
  have h2 := errors_iff_err ext task transferrer verifier stats dry json mode limiter pm h
  simp only [isOk, hasWork, ha, Bool.and_self, if_true, bump, counters, Prod.mk.injEq] at h1
  exact ⟨rfl, h1.2.2.2, h2⟩

/-- the flag handed to the executor is `Path::is_dir(dest_path)`, asked in the world the task STARTED in — before
    `metadata`, before the deletion. -/
theorem delete_flag_is_path_is_dir {isDir : Bool} {st1 : SyncStats} {w1 : W}
    (hp : runM (deletePre ext task dry stats) w = (.ok (isDir, st1), w1)) :
    ∃ w0, runM (ext.path_is_dir task.dest_path) w = (.ok isDir, w0) :=
  let ⟨w0, h, _⟩ := deletePre_inv ext task dry stats hp
  ⟨w0, h⟩

/-- … and the world after the task is the world after ONE call of `transferrer.delete` with that flag, or that
    world after the event was emitted (which of the two is decided by `res`: `Ran.delErr` / `Ran.delOk`; the
    statement leaves it open). -/
theorem delete_calls_executor_once (ha : task.action = .Delete)
    (h : runM (run_task ext task transferrer verifier stats dry json mode limiter pm) w = (.ok (res, st'), w')) :
    ∃ isDir st1 w1, runM (deletePre ext task dry stats) w = (.ok (isDir, st1), w1) ∧
      (w' = (runM (ext.transferrer_delete transferrer task.dest_path isDir) w1).2 ∨
       runM (emitIf ext json (deleteEvent task)) (runM (ext.transferrer_delete transferrer task.dest_path isDir) w1).2 =
         (.ok (), w')) := by
  rw [run_task_iff_ran] at h
  cases h with
  | noSource ha' | xferErr ha' | xferOk ha' | skip ha' => simp [ha] at ha'
  | delOk ha' isDir st1 w1 w2 w'' dres hp hd hg he => exact ⟨isDir, st1, w1, hp, .inr (by rw [hd]; exact he)⟩
  | delErr ha' isDir st1 w1 w2 dres e hp hd hg => exact ⟨isDir, st1, w1, hp, .inl (by rw [hd])⟩

end anyInstance

/-! ## bridge to the handwritten model (`Engine.execTask`, the model C19 / C19Truth / C10 / C10Post / C06 are about)

  The instance `engineExt cfg : Ext EWorld` (Lemmas/GenEngineTask, TRUSTED): `transferrer_create/update/delete` ARE
  the GENERATED `Transferrer::{create, update, delete}` of unit Transfer run on `extOf cfg` (Lemmas/GenTransfer) with the
  `Transferrer` value the engine builds from its configuration (`selfOf cfg`) — the two translated units composed;
  `path_is_dir` / `std_fs_metadata` read the destination tree; `verify_transfer` compares content ids; `emit` appends to
  the event stream `EWorld.log`; all errors are `Err.io`, and `io_error_kind` answers `NotFound` (consulted only on an
  error of `transferrer_delete`, which on this instance fails only for an absent entry: `delete_fails_only_absent`).

  Abstraction: `absExec ew st = ⟨ew.xw.w, absBook root st ew.log⟩` — counters ↦ `created/updated/skipped/deleted`, the
  event stream ↦ `(Act × Path)` through `keyOf root`, the error records ↦ `(Act × Path)` through the action NAME and
  `keyOf root` (both lists newest-first, as the model keeps them).

  Hypotheses (those of the GenTransfer bridges; examples at the end of the file): `CleanPath k` and `task.dest_path = destOf root k`;
  for a Create/Update task a source entry with `Readable`, `SrcFile`, `HasInode`; `dry_run = cfg.dryRun`; `json = true`
  (the model records an event for every successful task; without `--json` see `no_json_emits_nothing`). -/

section bridge
open SyModel.Engine SyModel.Lemmas.GenTransfer
variable (cfg : Cfg) (ew : EWorld) (task : SyncTask) (k : Engine.Path) (transferrer verifier : Rs.Opaque)
  (stats : SyncStats) (mode : ChecksumType) (limiter pm : Option Rs.Opaque)

/-- the instance obeys the logging discipline `Logs`: the event theorems apply to it -/
theorem engine_logs : Logs (engineExt cfg) (fun ew => ew.log) where
  emit _ _ := rfl
  create _ _ _ _ := rfl
  update _ _ _ _ := rfl
  delete _ _ _ _ := rfl
  verify _ _ _ _ := rfl
  consume _ _ _ := rfl
  sleep _ _ := rfl
  metadata _ _ := rfl
  is_dir _ _ := rfl

/-- BRIDGE (Create): see `xfer_eq_execTask`. -/
theorem create_eq_execTask (hk : CleanPath k) (hd : task.dest_path = destOf ew.xw.root k) (e : FileEntry)
    (ha : task.action = .Create) (hs : task.source = some e)
    (hread : Readable cfg (toE e)) (hsrc : SrcFile ew.xw (toE e)) (hino : HasInode cfg (toE e)) :
    ∃ res st' ew',
      runM (run_task (engineExt cfg) task transferrer verifier stats cfg.dryRun true mode limiter pm) ew =
        (.ok (res, st'), ew') ∧
      ew'.xw.root = ew.xw.root ∧
      absBook ew'.xw.root st' ew'.log = (execTask cfg noFaults (absExec ew stats) (absTaskE cfg ew.xw task k)).b ∧
      (∀ u, res = .ok u → ew'.xw.w = (execTask cfg noFaults (absExec ew stats) (absTaskE cfg ew.xw task k)).w ∧
        (perform cfg ew.xw.w (absTaskE cfg ew.xw task k)).isSome = true) ∧
      (∀ er, res = .error er → (execTask cfg noFaults (absExec ew stats) (absTaskE cfg ew.xw task k)).w = ew.xw.w ∧
        Left ew.xw ew'.xw k ∧ perform cfg ew.xw.w (absTaskE cfg ew.xw task k) = none) :=
  (xfer_eq_execTask cfg ew task k transferrer verifier stats mode limiter pm hk hd e (.inl ha) hs hread hsrc hino).imp
    fun _ => .imp fun _ => .imp fun _ h => ⟨h.1, h.2.1.1, h.2.2⟩

/-- BRIDGE (Update): the same through `Transferrer::update` (every entry kind, the directory-over-link replacement of
    fix 862af11 included). -/
theorem update_eq_execTask (hk : CleanPath k) (hd : task.dest_path = destOf ew.xw.root k) (e : FileEntry)
    (ha : task.action = .Update) (hs : task.source = some e)
    (hread : Readable cfg (toE e)) (hsrc : SrcFile ew.xw (toE e)) (hino : HasInode cfg (toE e)) :
    ∃ res st' ew',
      runM (run_task (engineExt cfg) task transferrer verifier stats cfg.dryRun true mode limiter pm) ew =
        (.ok (res, st'), ew') ∧
      ew'.xw.root = ew.xw.root ∧
      absBook ew'.xw.root st' ew'.log = (execTask cfg noFaults (absExec ew stats) (absTaskE cfg ew.xw task k)).b ∧
      (∀ u, res = .ok u → ew'.xw.w = (execTask cfg noFaults (absExec ew stats) (absTaskE cfg ew.xw task k)).w ∧
        (perform cfg ew.xw.w (absTaskE cfg ew.xw task k)).isSome = true) ∧
      (∀ er, res = .error er → (execTask cfg noFaults (absExec ew stats) (absTaskE cfg ew.xw task k)).w = ew.xw.w ∧
        Left ew.xw ew'.xw k ∧ perform cfg ew.xw.w (absTaskE cfg ew.xw task k) = none) :=
  (xfer_eq_execTask cfg ew task k transferrer verifier stats mode limiter pm hk hd e (.inr ha) hs hread hsrc hino).imp
    fun _ => .imp fun _ => .imp fun _ h => ⟨h.1, h.2.1.1, h.2.2⟩

/-- BRIDGE (Skip): the abstraction after `run_task` IS `execTask` of the model (any `dry_run`). -/
theorem skip_eq_model (hk : CleanPath k) (hd : task.dest_path = destOf ew.xw.root k) (ha : task.action = .Skip)
    (dry : Bool) :
    ∃ st' ew',
      runM (run_task (engineExt cfg) task transferrer verifier stats dry true mode limiter pm) ew =
        (.ok (.ok (), st'), ew') ∧
      absExec ew' st' = execTask cfg noFaults (absExec ew stats) (absTaskE cfg ew.xw task k) :=
  (skip_bridge cfg ew task k transferrer verifier stats mode limiter pm hk hd ha dry).imp
    fun _ => .imp fun _ h => ⟨h.1, h.2.2⟩

/-- BRIDGE (Delete): the abstraction after `run_task` IS `execTask` of the model, for EVERY node at the key — a
    directory (with its subtree), a file, a link, NOTHING (already gone) — and in a dry run; the task always answers
    `Ok`. -/
theorem delete_eq_model (hk : CleanPath k) (hd : task.dest_path = destOf ew.xw.root k) (ha : task.action = .Delete) :
    ∃ st' ew',
      runM (run_task (engineExt cfg) task transferrer verifier stats cfg.dryRun true mode limiter pm) ew =
        (.ok (.ok (), st'), ew') ∧
      absExec ew' st' = execTask cfg noFaults (absExec ew stats) (absTaskE cfg ew.xw task k) :=
  (delete_bridge cfg ew task k transferrer verifier stats mode limiter pm hk hd ha).imp
    fun _ => .imp fun _ h => ⟨h.1, h.2.2⟩

/-- the deletion of an ABSENT entry, spelled out: the translated executor fails (`Err.io`, which the instance calls
    `NotFound`: `GenTransfer.delete_absent_is_not_found`), the rule of `run_task` turns that into `Ok(())`, the deletion is
    COUNTED and its event emitted, no error is recorded, the world is untouched — and the model's `perform` answers
    "deleted" with the same world: they agree. -/
theorem delete_absent_agrees (hk : CleanPath k) (hd : task.dest_path = destOf ew.xw.root k) (ha : task.action = .Delete)
    (hdry : cfg.dryRun = false) (hn : ew.xw.w.dst.get? k = none) :
    runM ((engineExt cfg).transferrer_delete transferrer task.dest_path false) ew = (.error .io, ew) ∧
    (engineExt cfg).err_is_io .io = true ∧ (engineExt cfg).io_error_kind .io = ErrorKind.NotFound ∧
    perform cfg ew.xw.w (absTaskE cfg ew.xw task k) = some ew.xw.w ∧
    ∃ st' ew',
      runM (run_task (engineExt cfg) task transferrer verifier stats cfg.dryRun true mode limiter pm) ew =
        (.ok (.ok (), st'), ew') ∧
      ew'.xw = ew.xw ∧ ew'.log = ew.log ++ [SyncEvent.Delete task.dest_path] ∧
      st'.files_deleted = stats.files_deleted + 1 ∧ st'.errors = stats.errors := by
  have hrun : runM ((engineExt cfg).transferrer_delete transferrer task.dest_path false) ew = (.error .io, ew) := by
    rw [hd, delete_engine_run cfg ew k transferrer hk]
    simp [hdry, removeW, hn]
  have hperf : perform cfg ew.xw.w (absTaskE cfg ew.xw task k) = some ew.xw.w := by
    rw [perform_delete (t := absTaskE cfg ew.xw task k) (by simp [absTaskE, ha, absAct])]
    simp [hdry, show (absTaskE cfg ew.xw task k).rel = k from rfl, hn]
  refine ⟨hrun, rfl, rfl, hperf, ?_⟩
  obtain ⟨n, w', hp, h⟩ := delete_task_run cfg ew task k transferrer verifier stats mode limiter pm hk hd ha
  rw [hperf] at hp
  cases hp
  exact ⟨_, _, h, rfl, rfl, rfl, rfl⟩

/-- BRIDGE, lifted to every task kind the model has: `Book` (counters, events, errors) agrees in EVERY case; the whole
    `Exec` (world included) agrees whenever the task answers `Ok`; after an `Err` (Create/Update only) the model keeps
    its world and the instance's differs from it as `Left` says (parents of `k` created / replaced link removed).
    With `json = true` (the model records an event for every successful task) and `dry_run = cfg.dryRun`; that `Ok`
    coincides with `perform` succeeding is in `create_eq_execTask` / `update_eq_execTask`, not repeated here. -/
theorem run_task_eq_execTask_model (hk : CleanPath k) (hd : task.dest_path = destOf ew.xw.root k)
    (hsrc : ∀ e, task.source = some e → Readable cfg (toE e) ∧ SrcFile ew.xw (toE e) ∧ HasInode cfg (toE e))
    (hwork : (task.action = .Create ∨ task.action = .Update) → task.source.isSome = true) :
    ∃ res st' ew',
      runM (run_task (engineExt cfg) task transferrer verifier stats cfg.dryRun true mode limiter pm) ew =
        (.ok (res, st'), ew') ∧
      ew'.xw.root = ew.xw.root ∧
      (absExec ew' st').b = (execTask cfg noFaults (absExec ew stats) (absTaskE cfg ew.xw task k)).b ∧
      (∀ u, res = .ok u →
        absExec ew' st' = execTask cfg noFaults (absExec ew stats) (absTaskE cfg ew.xw task k)) ∧
      (∀ er, res = .error er → (execTask cfg noFaults (absExec ew stats) (absTaskE cfg ew.xw task k)).w = ew.xw.w ∧
        Left ew.xw ew'.xw k) :=
  (run_task_eq_execTask cfg ew task k transferrer verifier stats mode limiter pm hk hd hsrc hwork).imp
    fun _ => .imp fun _ => .imp fun _ h =>
      ⟨h.1, h.2.1.1, h.2.2.1, h.2.2.2.1, fun er hr => ⟨(h.2.2.2.2 er hr).1, (h.2.2.2.2 er hr).2.1⟩⟩

end bridge

/-! ## non-vacuity: a world that LOGS every call, the translated function run on it by the kernel, and the
    instance `engineExt` run on a concrete tree -/

/-- the world is the list of calls made so far -/
abbrev Log := List String

def logged {α : Type} (tag : String) (a : Except Rs.Err α) : Rs.M Log α := ExceptT.mk (fun w => (a, w ++ [tag]))

def evTag : SyncEvent → String
  | .Create _ _ _ => "emit:create" | .Update _ _ _ _ => "emit:update" | .Skip _ _ => "emit:skip"
  | .Delete _ => "emit:delete" | _ => "emit:other"

/-- every operation appends its name to the log and answers a fixed value; `delete` also logs the flag it was given;
    `Err.io` is the one `Io` error, of kind `kind` -/
def logExt (xfer : Except Rs.Err (Option TransferResult)) (verified : Except Rs.Err Bool) (isDir : Bool)
    (del : Except Rs.Err Unit) (kind : ErrorKind) : Ext Log where
  err_is_io e := e == .io
  io_error_kind _ := kind
  std_fs_metadata _ := logged "metadata" (.ok ⟨false, 0, 7⟩)
  tokio_time_sleep _ := logged "sleep" (.ok ())
  transferrer_create _ _ _ := logged "create" xfer
  transferrer_update _ _ _ := logged "update" xfer
  transferrer_delete _ _ b := logged (if b then "delete(dir)" else "delete(file)") del
  verify_transfer _ _ _ := logged "verify" verified
  emit ev := logged (evTag ev) (.ok ())
  limiter_consume _ _ := logged "consume" (.ok 5)
  path_is_dir _ := logged "is_dir" (.ok isDir)

def stats0 : SyncStats :=
  { files_scanned := 3, files_created := 0, files_updated := 0, files_skipped := 0, files_deleted := 0,
    bytes_transferred := 0, files_delta_synced := 0, delta_bytes_saved := 0, files_compressed := 0,
    compression_bytes_saved := 0, files_verified := 0, verification_failures := 0, duration := 0,
    bytes_would_add := 0, bytes_would_change := 0, bytes_would_delete := 0, errors := [] }

def exEntry : FileEntry :=
  { path := "/s/a".toList, relative_path := "a".toList, size := 10, modified := 5000, is_dir := false,
    is_symlink := false, symlink_target := none, is_sparse := false, allocated_size := 0, xattrs := none,
    inode := some 3, nlink := 1, acls := none, bsd_flags := none }

def exTask (a : SyncAction) : SyncTask :=
  { source := some exEntry, dest_path := "/d/a".toList, action := a, source_checksum := none, dest_checksum := none }

def exResult : TransferResult :=
  { bytes_written := 10, delta_operations := none, literal_bytes := none, transferred_bytes := none,
    compression_used := false }

def exErr (a : String) : SyncError := { path := "/d/a".toList, error := [], action := a.toList }

/-- Create, executor `Ok(Some)`, verification on, `verify_transfer` answers `Err`: a FAILURE is counted, the task is
    `Ok`, its event is emitted -/
theorem run_create_verify_err :
    runM (run_task (logExt (.ok (some exResult)) (.error .io) false (.ok ()) .Other) (exTask .Create) {} {} stats0
      false true .Cryptographic none none) [] =
    (.ok (.ok (), { stats0 with files_created := 1, bytes_transferred := 10, verification_failures := 1 }),
      ["create", "verify", "emit:create"]) := by rfl

/-- … answers `Ok(true)`: verified; with a rate limiter: `consume`, then the sleep it asks for -/
theorem run_create_verified_limited :
    runM (run_task (logExt (.ok (some exResult)) (.ok true) false (.ok ()) .Other) (exTask .Create) {} {} stats0
      false true .Cryptographic (some {}) none) [] =
    (.ok (.ok (), { stats0 with files_created := 1, bytes_transferred := 10, files_verified := 1 }),
      ["create", "consume", "sleep", "verify", "emit:create"]) := by rfl

/-- Create, executor `Ok(None)` (dry run, directory, preserved or skipped link): COUNTED as created, nothing to verify -/
theorem run_create_none :
    runM (run_task (logExt (.ok none) (.ok true) false (.ok ()) .Other) (exTask .Create) {} {} stats0
      false true .Cryptographic none none) [] =
    (.ok (.ok (), { stats0 with files_created := 1 }), ["create", "emit:create"]) := by rfl

/-- Create, executor fails: ONE error record with action "create", no counter, NO event, nothing else is called -/
theorem run_create_error :
    runM (run_task (logExt (.error .io) (.ok true) false (.ok ()) .Other) (exTask .Create) {} {} stats0
      false true .Cryptographic (some {}) none) [] =
    (.ok (.error .io, { stats0 with errors := [exErr "create"] }), ["create"]) := by rfl

/-- Update, executor fails: the record says "update" -/
theorem run_update_error :
    runM (run_task (logExt (.error .io) (.ok true) false (.ok ()) .Other) (exTask .Update) {} {} stats0
      false true .Cryptographic none none) [] =
    (.ok (.error .io, { stats0 with errors := [exErr "update"] }), ["update"]) := by rfl

/-- Update with a delta result, `verify_transfer` answers `Ok(false)` -/
theorem run_update_delta_mismatch :
    runM (run_task (logExt (.ok (some { exResult with delta_operations := some 4, literal_bytes := some 3 }))
      (.ok false) false (.ok ()) .Other) (exTask .Update) {} {} stats0 false true .Fast none none) [] =
    (.ok (.ok (), { stats0 with files_updated := 1, bytes_transferred := 10, files_delta_synced := 1
                                delta_bytes_saved := 7, verification_failures := 1 }),
      ["update", "verify", "emit:update"]) := by rfl

/-- Skip: counted, one event — and none without `--json` -/
theorem run_skip :
    runM (run_task (logExt (.ok none) (.ok true) false (.ok ()) .Other) (exTask .Skip) {} {} stats0
      false true .Cryptographic none none) [] =
    (.ok (.ok (), { stats0 with files_skipped := 1 }), ["emit:skip"]) := by rfl

theorem run_skip_no_json :
    runM (run_task (logExt (.ok none) (.ok true) false (.ok ()) .Other) (exTask .Skip) {} {} stats0
      false false .Cryptographic none none) [] =
    (.ok (.ok (), { stats0 with files_skipped := 1 }), []) := by rfl

/-- Delete of a directory: `is_dir` is asked FIRST and handed to the executor; counted, one event -/
theorem run_delete_dir :
    runM (run_task (logExt (.ok none) (.ok true) true (.ok ()) .Other) (exTask .Delete) {} {} stats0
      false true .Cryptographic none none) [] =
    (.ok (.ok (), { stats0 with files_deleted := 1 }), ["is_dir", "delete(dir)", "emit:delete"]) := by rfl

/-- Delete, the executor fails with an `Io` error of kind NotFound: ALREADY GONE — counted as deleted, no error -/
theorem run_delete_not_found :
    runM (run_task (logExt (.ok none) (.ok true) false (.error .io) .NotFound) (exTask .Delete) {} {} stats0
      false true .Cryptographic none none) [] =
    (.ok (.ok (), { stats0 with files_deleted := 1 }), ["is_dir", "delete(file)", "emit:delete"]) := by rfl

/-- Delete, the executor fails with an `Io` error of ANOTHER kind (EIO on the unlink of a dangling link): an error, recorded with action "delete", NOT counted, no event -/
theorem run_delete_eio :
    runM (run_task (logExt (.ok none) (.ok true) false (.error .io) .Other) (exTask .Delete) {} {} stats0
      false true .Cryptographic none none) [] =
    (.ok (.error .io, { stats0 with errors := [exErr "delete"] }), ["is_dir", "delete(file)"]) := by rfl

/-- … and an error that is not an `Io` error at all, whatever `io_error_kind` says of it -/
theorem run_delete_non_io :
    runM (run_task (logExt (.ok none) (.ok true) false (.error .other) .NotFound) (exTask .Delete) {} {} stats0
      false true .Cryptographic none none) [] =
    (.ok (.error .other, { stats0 with errors := [exErr "delete"] }), ["is_dir", "delete(file)"]) := by rfl

/-- Delete in a dry run of a non-directory: `metadata` for `bytes_would_delete`, then the executor -/
theorem run_delete_dry :
    runM (run_task (logExt (.ok none) (.ok true) false (.ok ()) .Other) (exTask .Delete) {} {} stats0
      true true .Cryptographic none none) [] =
    (.ok (.ok (), { stats0 with files_deleted := 1, bytes_would_delete := 7 }),
      ["is_dir", "metadata", "delete(file)", "emit:delete"]) := by rfl

/-- a Create task without source entry: nothing at all -/
theorem run_create_no_source :
    runM (run_task (logExt (.ok none) (.ok true) false (.ok ()) .Other) { (exTask .Create) with source := none } {} {}
      stats0 false true .Cryptographic none none) [] = (.ok (.ok (), stats0), []) := by rfl

/-- the hypotheses of `verification_outcome` / `verify_error_is_failure` / `delete_ok_iff` are satisfiable -/
example : runM (xferCall (logExt (.ok (some exResult)) (.error .io) false (.ok ()) .Other) (exTask .Create) {} exEntry) [] =
    (.ok (some exResult), ["create"]) := rfl
example : runM (throttle (logExt (.ok (some exResult)) (.error .io) false (.ok ()) .Other) none exResult.bytes_written)
    ["create"] = (.ok (), ["create"]) := rfl
example : (runM ((logExt (.ok (some exResult)) (.error .io) false (.ok ()) .Other).verify_transfer {} exEntry.path
    (exTask .Create).dest_path) ["create"]).1 = .error .io := rfl
example : runM (deletePre (logExt (.ok none) (.ok true) false (.error .io) .Other) (exTask .Delete) false stats0) [] =
    (.ok (false, stats0), ["is_dir"]) := rfl
example : VerifyDue (logExt (.ok (some exResult)) (.error .io) false (.ok ()) .Other) (exTask .Create) {} false
    .Cryptographic ([] : Log) :=
  ⟨exEntry, exResult, _, .inl rfl, rfl, rfl, by decide, rfl, rfl⟩
example : ¬ VerifyDue (logExt (.ok none) (.error .io) false (.ok ()) .Other) (exTask .Create) {} false
    .Cryptographic ([] : Log) := by
  rintro ⟨s, r, w1, _, _, h, _⟩
  have : (runM (xferCall (logExt (.ok none) (.error .io) false (.ok ()) .Other) (exTask .Create) {} s) ([] : Log)).1 =
      .ok none := rfl
  rw [h] at this; cases this

/-! ### `engineExt` on a concrete tree (`exWorld` of Props/GenTransfer) -/

open SyModel.Engine SyModel.Lemmas.GenTransfer in
def exCfg : Cfg := SyModel.Props.GenTransfer.exCfg

open SyModel.Engine SyModel.Lemmas.GenTransfer in
/-- destination `/dst` holding the directory `a` and the file `a/old`; sources `/src/f` (regular file) -/
def exEW : EWorld := { xw := SyModel.Props.GenTransfer.exWorld, log := [] }

def exSrcEntry : FileEntry :=
  { path := "/src/f".toList, relative_path := "f".toList, size := 10, modified := 5000, is_dir := false,
    is_symlink := false, symlink_target := none, is_sparse := false, allocated_size := 0,
    xattrs := none, inode := some 3, nlink := 1, acls := none, bsd_flags := none }

open SyModel.Engine SyModel.Lemmas.GenTransfer in
def exTaskAt (a : SyncAction) (k : Engine.Path) : SyncTask :=
  { source := some exSrcEntry, dest_path := destOf exEW.xw.root k, action := a, source_checksum := none,
    dest_checksum := none }

/-- a decidable view of what the task answered: `Ok`/`Err` and the stats -/
def view (r : Except Rs.Err (Except Rs.Err Unit × SyncStats)) : Option (Bool × SyncStats) :=
  match r with
  | .ok (res, st) => some (isOk res, st)
  | .error _ => none

section
open SyModel.Engine SyModel.Lemmas.GenTransfer
example : CleanPath ["a", "f"] := by decide
example : (exTaskAt .Create ["a", "f"]).dest_path = destOf exEW.xw.root ["a", "f"] := rfl
example : Readable exCfg (toE exSrcEntry) := fun h => by cases h
example : SrcFile exEW.xw (toE exSrcEntry) := fun _ _ => ⟨_, rfl⟩
example : HasInode exCfg (toE exSrcEntry) := fun _ _ _ h => by simp [toE, exSrcEntry] at h
example : exCfg.dryRun = false ∧ exEW.xw.w.dst.get? ["gone"] = none := by decide

/-- Create of `a/f` with verification on, run by the kernel through BOTH translated units: the file is there, it
    verifies (content ids equal), one `create` event, `files_created = 1` -/
example : view (runM (run_task (engineExt exCfg) (exTaskAt .Create ["a", "f"]) {} {} stats0 false true .Cryptographic none
    none) exEW).1 = some (true, { stats0 with files_created := 1, bytes_transferred := 10, files_verified := 1 }) := by
  decide
example : (runM (run_task (engineExt exCfg) (exTaskAt .Create ["a", "f"]) {} {} stats0 false true .Cryptographic none none)
    exEW).2.log = [SyncEvent.Create (destOf exEW.xw.root ["a", "f"]) 10 10] := by decide
/-- Create of a file where the destination holds the DIRECTORY `a`: the copy fails, one error record, no event -/
example : view (runM (run_task (engineExt exCfg) (exTaskAt .Create ["a"]) {} {} stats0 false true .Cryptographic none none)
    exEW).1 = some (false, { stats0 with errors := [⟨destOf exEW.xw.root ["a"], [], "create".toList⟩] }) := by decide
example : (runM (run_task (engineExt exCfg) (exTaskAt .Create ["a"]) {} {} stats0 false true .Cryptographic none none)
    exEW).2.log = [] := by decide
/-- Delete of the directory `a`: gone with `a/old`; Delete of the absent `gone`: counted, world untouched -/
example : (runM (run_task (engineExt exCfg) (exTaskAt .Delete ["a"]) {} {} stats0 false true .None none none)
    exEW).2.xw.w.dst = [] := by decide
example : view (runM (run_task (engineExt exCfg) (exTaskAt .Delete ["gone"]) {} {} stats0 false true .None none none)
    exEW).1 = some (true, { stats0 with files_deleted := 1 }) := by decide
end

end SyModel.Props.GenEngineTask
