/-
  GenLocalCopy2 — second part of the bridge for the translated unit `LocalCopy` (continues `Props/GenLocalCopy.lean`).

  Faults and the RAII guard on the temp+rename route (C05, C09, C10): with the single-fault countdown of the instance
  (`LWorld.fault`), for a fault at ANY fallible operation from `File::create(working file)` on — the opens, every
  read / seek / write of the block loop however long, `set_file_mtime`, the `rename` —: the call fails; every name
  refers to what it referred to before (the destination to its OLD inode); every inode that existed is unchanged; the
  working file is gone after `scope_exit`; no guard stays armed.  If the call succeeds the fault is still pending.
  A fault at the 3rd–5th fallible call (the `metadata` calls) fails the call before anything has happened.  The countdowns
  0, 1, 5 and 6 are not covered: they hit `lstat`, `exists`, `estimate_change_ratio` and `remove_file(working file)`, whose
  errors the code swallows (`capture`): after `lstat`, `estimate_change_ratio` and `remove_file(working file)` the call goes
  on along the same route with the fault used up; after `exists` it takes the `copy_file` route.
  Then the COW route, `copy_file` over an existing file, a hard-linked one and a symlink, and the change-ratio fallback.
-/
import SyModel.Props.GenLocalCopy
import SyModel.Lemmas.GenLocalCopyCow
set_option autoImplicit false
namespace SyModel.Props.GenLocalCopy2
open SyModel SyModel.Generated.LocalCopy SyModel.Transfer SyModel.LocalCopy SyModel.Props.GenLocalCopy
open SyModel.Generated.Rs (wp_of_run run_of_wp wp_bind_run)
open SyModel.Data (upd_same upd_ne)

/-! ## faults on the temp+rename route -/

/-- **Old or new (C09, C10).**  In-place rebuild route, the working-file path free, a fault due at the `(k+8)`-th fallible
    call or later (`File::create(working file)` is the 8th): the call either FAILS — then `FailPost`: all names and all
    old inodes as before, no guard, the fault used up — or SUCCEEDS — then `OkPost`: `dst` names the new inode, the
    working-file path is free, the old inode only lost a link, and the fault is still pending. -/
theorem inplace_fault_old_or_new (cfg : LocalCopy.Cfg) (self : LocalTransport) (w : LWorld) (src dst : Generated.Rs.Path) (is id : Nat)
    (S D : Bytes) (ms md : Nat) (xs xd : List Generated.Rs.Str) (ls ld k : Nat)
    (h : UpdPreF w src dst is id S D ms md xs xd ls ld) (hr : InPlaceRoute cfg D ld) (hF : w.fault = some (k + 7)) :
    ∃ r w', LocalTransport.sync_file_with_delta (posix cfg) self src dst w = (r, w') ∧
      ((∃ e, r = .error e ∧ FailPost w w') ∨ (∃ v, r = .ok v ∧ OkPost w dst (dst ++ TEMP_SUFFIX) id w.nextIno w')) := by
  have hwp := sync_inplace_wp cfg self w src dst is id S D ms md xs xd ls ld k h hF hr.big hr.notSparse hr.ratio hr.noCow hr.noVerify
  unfold Generated.Rs.wp at hwp
  rcases hrun : LocalTransport.sync_file_with_delta (posix cfg) self src dst w with ⟨r, w'⟩
  rw [hrun] at hwp
  refine ⟨r, w', rfl, ?_⟩
  cases r with
  | error e => exact Or.inl ⟨e, rfl, hwp⟩
  | ok v => exact Or.inr ⟨v, rfl, hwp⟩

/-- **If the fault fires, the call fails (C10) and the destination is the OLD file (C09).**  Same hypotheses; when the
    countdown has been used up at the end (`w'.fault = none`: some operation was hit), the result is `Err`, the name `dst`
    still refers to inode `id`, which still holds the old bytes / mtime / xattrs / link count; the source is untouched; the
    working file does not exist. -/
theorem inplace_fault_fired_fails (cfg : LocalCopy.Cfg) (self : LocalTransport) (w : LWorld) (src dst : Generated.Rs.Path) (is id : Nat)
    (S D : Bytes) (ms md : Nat) (xs xd : List Generated.Rs.Str) (ls ld k : Nat)
    (h : UpdPreF w src dst is id S D ms md xs xd ls ld) (hr : InPlaceRoute cfg D ld) (hF : w.fault = some (k + 7))
    (hfired : (LocalTransport.sync_file_with_delta (posix cfg) self src dst w).2.fault = none) :
    ∃ e w', LocalTransport.sync_file_with_delta (posix cfg) self src dst w = (.error e, w') ∧
      w'.names dst = some (.file id) ∧ w'.inodes id = some ⟨ofU8 D, md, xd, ld⟩ ∧
      w'.names src = some (.file is) ∧ w'.inodes is = some ⟨ofU8 S, ms, xs, ls⟩ ∧
      w'.names (dst ++ TEMP_SUFFIX) = none ∧ w'.guards = [] := by
  obtain ⟨r, w', hrun, hcase⟩ := inplace_fault_old_or_new cfg self w src dst is id S D ms md xs xd ls ld k h hr hF
  rw [hrun] at hfired
  rcases hcase with ⟨e, hre, hp⟩ | ⟨v, _, hp⟩
  · subst hre
    exact ⟨e, w', hrun, by rw [hp.names, h.hdst], by rw [hp.inodes id h.fresh.2, h.hidst], by rw [hp.names, h.hsrc],
      by rw [hp.inodes is h.fresh.1, h.hisrc], by rw [hp.names, h.hfree], hp.guards⟩
  · exact absurd hfired hp.pending

/-- **No working file remains (C05) — in particular after a failing `rename`.**  Whatever operation of the route the fault
    hits (the last fallible one is `fs::rename(temp, dest)`), when the call returns `Err` the working-file path is free and
    no guard is armed: `temp_guard.defuse()` comes AFTER the rename, so a failing rename leaves the guard armed and
    `scope_exit` removes the file.  (With `defuse()` before the rename this is false.)  The statement is the
    `Err` half of `inplace_fault_old_or_new`. -/
theorem inplace_failing_rename_leaves_no_working_file (cfg : LocalCopy.Cfg) (self : LocalTransport) (w : LWorld)
    (src dst : Generated.Rs.Path) (is id : Nat) (S D : Bytes) (ms md : Nat) (xs xd : List Generated.Rs.Str) (ls ld k : Nat)
    (h : UpdPreF w src dst is id S D ms md xs xd ls ld) (hr : InPlaceRoute cfg D ld) (hF : w.fault = some (k + 7))
    (e : Generated.Rs.Err) (w' : LWorld)
    (hfail : LocalTransport.sync_file_with_delta (posix cfg) self src dst w = (.error e, w')) :
    w'.names (dst ++ TEMP_SUFFIX) = none ∧ w'.guards = [] ∧ (∀ p, w'.names p = w.names p) := by
  obtain ⟨r, w'', hrun, hcase⟩ := inplace_fault_old_or_new cfg self w src dst is id S D ms md xs xd ls ld k h hr hF
  rw [hfail] at hrun
  obtain ⟨rfl, rfl⟩ := Prod.mk.inj hrun
  rcases hcase with ⟨_, _, hp⟩ | ⟨v, hv, _⟩
  · exact ⟨by rw [hp.names, h.hfree], hp.guards, hp.names⟩
  · cases hv

/-- a fault at one of the three `metadata` calls before the working file exists (3rd–5th fallible call): the call fails,
    no name and no inode has changed -/
theorem inplace_fault_before_working_file (cfg : LocalCopy.Cfg) (self : LocalTransport) (w : LWorld) (src dst : Generated.Rs.Path)
    (is id : Nat) (S D : Bytes) (ms md : Nat) (xs xd : List Generated.Rs.Str) (ls ld k : Nat)
    (h : UpdPreF w src dst is id S D ms md xs xd ls ld) (hF : w.fault = some k) (hk : k = 2 ∨ k = 3 ∨ k = 4)
    (hbig : 10485760 ≤ D.length) (hsp : cfg.sparse = false) :
    ∃ e w', LocalTransport.sync_file_with_delta (posix cfg) self src dst w = (.error e, w') ∧ FailPost w w' := by
  have hwp := sync_inplace_fault_early cfg self w src dst is id S D ms md xs xd ls ld k h hF hk hbig
  unfold Generated.Rs.wp at hwp
  rcases hrun : LocalTransport.sync_file_with_delta (posix cfg) self src dst w with ⟨r, w'⟩
  rw [hrun] at hwp
  cases r with
  | error e => exact ⟨e, w', rfl, hwp⟩
  | ok v => exact absurd hwp (by simp)

/-- **On success `guard_defuse` precedes `scope_exit`, which then removes nothing**: without a fault the last operation of
    the route is the `rename`, no guard is armed at the end and the working-file path is free -/
theorem inplace_success_scope_exit_removes_nothing (cfg : LocalCopy.Cfg) (self : LocalTransport) (w : LWorld)
    (src dst : Generated.Rs.Path) (is id : Nat) (S D : Bytes) (ms md : Nat) (xs xd : List Generated.Rs.Str) (ls ld : Nat)
    (h : UpdPre w src dst is id S D ms md xs xd ls ld) (hr : InPlaceRoute cfg D ld) :
    ∃ v w', LocalTransport.sync_file_with_delta (posix cfg) self src dst w = (.ok v, w') ∧
      w'.log.getLast? = some (Op.rename (dst ++ TEMP_SUFFIX) dst) ∧ w'.guards = [] ∧ w'.names (dst ++ TEMP_SUFFIX) = none := by
  obtain ⟨w', hrun, ⟨_, ht, _, _, _, _, _, hlog, hg⟩, _⟩ := sync_inplace_eval cfg self w src dst is id S D ms md xs xd ls ld h hr
  refine ⟨_, w', hrun, ?_, hg, ht⟩
  have hl : w'.log = ((unlinkSym w (dst ++ TEMP_SUFFIX)).log ++
      ([Op.create (dst ++ TEMP_SUFFIX) w.nextIno, Op.setLen w.nextIno (List.length S)] ++
        List.map (fun x => Op.write w.nextIno x.fst x.snd) (wsOf (rebuildInPlaceLoop LOCAL_BLOCK_SIZE S D)) ++
        [Op.utime (dst ++ TEMP_SUFFIX) w.nextIno ms])) ++ [Op.rename (dst ++ TEMP_SUFFIX) dst] := by
    rw [hlog]; simp [List.append_assoc]
  rw [hl, List.getLast?_concat]

/-- **the exception, stated at the guard itself**: when the removal performed by the guard's drop is the operation the fault
    hits, the working file STAYS (the error of `remove_file` is ignored by `Drop`, temp_file.rs:69-79).  On the route above
    this cannot happen with a single fault — the guard is only dropped armed after an error, and the error has used the
    fault up (`FailPost.spent`) — but it does happen after an error of the operation's own. -/
theorem dropGuard_hit_keeps_working_file (W : LWorld) (p : Generated.Rs.Path) (j : Nat) (hn : W.names p = some (.file j))
    (hF : W.fault = some 0) : (dropGuard W p).names p = some (.file j) ∧ (dropGuard W p).fault = none := by
  have hst : W.stat p = some (.file j) := stat_of_file W p j hn
  unfold dropGuard prim
  simp [hst, hF, hn]

/-! ## the COW route (`use_cow_strategy`) -/

/-- the hypotheses under which `sync_file_with_delta` takes the COW route -/
structure CowRoute (cfg : LocalCopy.Cfg) (D : Bytes) (ld : Nat) : Prop where
  big : 10485760 ≤ D.length
  notSparse : cfg.sparse = false
  ratio : cfg.ratio ≠ some false
  /-- `supports_cow_reflinks && same_filesystem && !has_hard_links` -/
  cow : (cfg.cow && cfg.sameFs && !decide (1 < ld)) = true
  noVerify : cfg.verifyOnWrite = false

/-- **Postcondition of the COW route (C01; cf. C03).**  The call succeeds; `dst` names a FRESH inode (the clone) holding exactly
    the source's bytes `S` — whatever `D` was: when the source is shorter the clone is cut by `set_len(bytes_written)` —
    with the source's mtime, no xattr (every attribute `fs::copy` brought along is stripped), one link; the working file is
    gone, no guard; source untouched; the old inode only lost its name; `bytes_written = |S|`, the counters are those of
    `rebuildCow LOCAL_BLOCK_SIZE S D`. -/
theorem sync_cow_postcondition (cfg : LocalCopy.Cfg) (self : LocalTransport) (w : LWorld) (src dst : Generated.Rs.Path) (is id : Nat)
    (S D : Bytes) (ms md : Nat) (xs xd : List Generated.Rs.Str) (ls ld : Nat) (h : UpdPre w src dst is id S D ms md xs xd ls ld)
    (hr : CowRoute cfg D ld) :
    ∃ w', LocalTransport.sync_file_with_delta (posix cfg) self src dst w =
      (.ok { bytes_written := S.length, delta_operations := some (rebuildCow LOCAL_BLOCK_SIZE S D).2.1,
             literal_bytes := some (rebuildCow LOCAL_BLOCK_SIZE S D).2.2, transferred_bytes := none,
             compression_used := false }, w') ∧
      w'.names dst = some (.file w.nextIno) ∧
      w'.inodes w.nextIno = some ⟨ofU8 S, ms, [], 1⟩ ∧
      w'.names (dst ++ TEMP_SUFFIX) = none ∧ w'.guards = [] ∧
      (∀ p, p ≠ dst → p ≠ dst ++ TEMP_SUFFIX → w'.names p = w.names p) ∧
      w'.inodes is = some ⟨ofU8 S, ms, xs, ls⟩ ∧ w'.inodes id = some ⟨ofU8 D, md, xd, ld - 1⟩ ∧
      (∀ i, i ≠ w.nextIno → i ≠ id → w'.inodes i = w.inodes i) ∧
      w'.log = (unlinkSym w (dst ++ TEMP_SUFFIX)).log ++
        ([Op.create (dst ++ TEMP_SUFFIX) w.nextIno, Op.write w.nextIno 0 (ofU8 D)] ++
          (stripNames (copiedXattrs cfg xd []) (copiedXattrs cfg xd [])).map (Op.xattrRemove w.nextIno) ++
          (wsOf (rebuildCowLoop LOCAL_BLOCK_SIZE S D)).map (fun x => Op.write w.nextIno x.1 x.2) ++
          [Op.setLen w.nextIno S.length, Op.utime (dst ++ TEMP_SUFFIX) w.nextIno ms, Op.rename (dst ++ TEMP_SUFFIX) dst]) := by
  obtain ⟨hbig, hsp, hratio, hcow, hv⟩ := hr
  obtain ⟨w', hrun, ⟨hn, ht, hnames, hino, his, hid, hothers, hlog, hg⟩, _⟩ :=
    sync_cow_run cfg self w src dst is id S D ms md xs xd ls ld h hbig hsp hratio hcow hv
  have hoff := (C01Bytes.blockCompare_bytes_written LOCAL_BLOCK_SIZE (by decide) S D).2
  refine ⟨w', ?_, hn, ?_, ht, hg, hnames, his, hid, hothers, ?_⟩
  · rw [hrun, hoff]; rfl
  · rw [hino, show (rebuildCowLoop LOCAL_BLOCK_SIZE S D).temp = S from C01Bytes.blockCompare_cow _ (by decide) S D]
  · rw [hlog, hoff]

/-- **Order facts of the COW route (C09).**  The appended operations are `pre ++ [utime tmp, rename tmp dst]`; nothing in
    `pre` names `dst` or touches the inode `dst` referred to (the clone is a NEW inode: `fs::copy(dest, temp)` only reads
    `dest`); the truncation `set_len(|S|)` is in `pre`; mtime is set on the working file immediately before the rename,
    which is last. -/
theorem sync_cow_order (cfg : LocalCopy.Cfg) (self : LocalTransport) (w : LWorld) (src dst : Generated.Rs.Path) (is id : Nat)
    (S D : Bytes) (ms md : Nat) (xs xd : List Generated.Rs.Str) (ls ld : Nat) (h : UpdPre w src dst is id S D ms md xs xd ls ld)
    (hr : CowRoute cfg D ld) :
    ∃ pre, (LocalTransport.sync_file_with_delta (posix cfg) self src dst w).2.log =
        w.log ++ pre ++ [Op.utime (dst ++ TEMP_SUFFIX) w.nextIno ms, Op.rename (dst ++ TEMP_SUFFIX) dst] ∧
      (∀ o ∈ pre, touchesDest dst id o = false) ∧ Op.setLen w.nextIno S.length ∈ pre := by
  obtain ⟨w', hrun, _, _, _, _, _, _, _, _, hlog⟩ := sync_cow_postcondition cfg self w src dst is id S D ms md xs xd ls ld h hr
  have htd := h.htmp.ne h.hdst
  have hid : w.nextIno ≠ id := by have := h.fresh.2; omega
  obtain ⟨u, hu, hu2⟩ := unlinkSym_log_untouched w dst id htd
  refine ⟨u ++ ([Op.create (dst ++ TEMP_SUFFIX) w.nextIno, Op.write w.nextIno 0 (ofU8 D)] ++
      (stripNames (copiedXattrs cfg xd []) (copiedXattrs cfg xd [])).map (Op.xattrRemove w.nextIno) ++
      (wsOf (rebuildCowLoop LOCAL_BLOCK_SIZE S D)).map (fun x => Op.write w.nextIno x.1 x.2) ++ [Op.setLen w.nextIno S.length]), ?_, ?_, ?_⟩
  · rw [hrun]; show w'.log = _; rw [hlog, hu]; simp [List.append_assoc]
  · intro o ho
    simp only [List.mem_append, List.mem_cons, List.mem_map, List.not_mem_nil, or_false] at ho
    rcases ho with ho | (((ho | ho) | ⟨x, _, ho⟩) | ⟨x, _, ho⟩) | ho
    · exact hu2 o ho
    · subst ho; simp [touchesDest, htd]
    · subst ho; simp [touchesDest, hid]
    · subst ho; simp [touchesDest, hid]
    · subst ho; simp [touchesDest, hid]
    · subst ho; simp [touchesDest, hid]
  · simp

/-! ## `copy_file` over an existing regular file (every file below 10 MiB) -/

def isRename : Op → Bool
  | .rename _ _ => true
  | _ => false

/-- **`copy_file` over an existing file without other hard links (C01, C09; cf. C03).**  For every world without a pending
    fault, `src` a regular file (inode record `ns`), `dst` an existing regular file (ANY content, mtime, stale xattrs; link
    count ≤ 1), the parent of `dst` usable: the call returns `Ok(new(|src|))`; `dst` is the SAME inode, now holding the
    source's bytes and mtime and NO extended attribute (every stale one — and every one `fs::copy` brought along — is
    removed); no other inode and no existing name changes; the log is `[mkdir parent]? truncate, write, removexattr…,
    utime` — the TRUNCATION of the destination is the first operation on it, `set_file_mtime` the last (the order C09's
    crash analysis of the full-copy route relies on), and there is no rename. -/
theorem copy_file_over_existing (cfg : LocalCopy.Cfg) (self : LocalTransport) (w : LWorld) (src dst : Generated.Rs.Path)
    (is id : Nat) (ns nd : Inode) (h : CopyPre w src dst is id ns nd) (hl : nd.nlink ≤ 1) :
    ∃ w' mid, LocalTransport.copy_file (posix cfg) self src dst w = (.ok (TransferResult.new ns.bytes.length), w') ∧
      w'.names dst = some (.file id) ∧ w'.inodes id = some ⟨ns.bytes, ns.mtime, [], nd.nlink⟩ ∧
      (∀ p, w.names p ≠ none → w'.names p = w.names p) ∧ (∀ i, i ≠ id → w'.inodes i = w.inodes i) ∧
      w'.log = w.log ++ parentOps w dst ++ ([Op.truncate id, Op.write id 0 ns.bytes] ++ mid ++ [Op.utime dst id ns.mtime]) ∧
      (∀ o ∈ mid, ∃ a, o = Op.xattrRemove id a ∧ a ∈ copiedXattrs cfg ns.xattrs nd.xattrs) ∧
      (∀ o ∈ w'.log, o ∉ w.log → isRename o = false) := by
  have hrun := copy_file_existing_run cfg self w src dst is id ns nd h
  rw [if_neg (by omega)] at hrun
  refine ⟨_, (stripNames (copiedXattrs cfg ns.xattrs nd.xattrs) (copiedXattrs cfg ns.xattrs nd.xattrs)).map (Op.xattrRemove id),
    hrun, (parentW_names w dst dst (by rw [h.hdst]; simp)).trans h.hdst, upd_same _ _ _, fun p hp => parentW_names w dst p hp, fun i hi => upd_ne _ _ hi, ?_, ?_, ?_⟩
  · show _ ++ _ ++ _ ++ _ ++ _ = _
    simp only [List.append_assoc, List.cons_append, List.nil_append]
  · intro o ho
    obtain ⟨a, ha, rfl⟩ := List.mem_map.mp ho
    exact ⟨a, rfl, stripNames_subset _ _ a ha⟩
  · intro o ho hno
    replace ho : o ∈ _ ++ _ ++ _ ++ _ ++ _ := ho
    simp only [List.mem_append, List.mem_cons, List.mem_map, List.not_mem_nil, or_false] at ho
    rcases ho with (((ho | ho) | (ho | ho)) | ⟨a, _, ho⟩) | ho
    · exact absurd ho hno
    · unfold parentOps at ho
      split at ho
      · split at ho
        · simp at ho
        · split at ho <;> simp at ho
          subst ho; rfl
      · simp at ho
    all_goals (subst ho; rfl)

/-- **A destination with other hard links is never written through (C02; cf. C13).**  Link count > 1: the NAME `dst` is
    unlinked first (`break_unshared_hard_link`) and a NEW inode is created; the old inode keeps bytes, mtime and xattrs
    (every other name still sees the old content) and only loses one link. -/
theorem copy_file_breaks_hard_link (cfg : LocalCopy.Cfg) (self : LocalTransport) (w : LWorld) (src dst : Generated.Rs.Path)
    (is id : Nat) (ns nd : Inode) (h : CopyPre w src dst is id ns nd) (hl : 1 < nd.nlink) :
    ∃ w', LocalTransport.copy_file (posix cfg) self src dst w = (.ok (TransferResult.new ns.bytes.length), w') ∧
      w'.names dst = some (.file w.nextIno) ∧ w'.inodes w.nextIno = some ⟨ns.bytes, ns.mtime, [], 1⟩ ∧
      w'.inodes id = some { nd with nlink := nd.nlink - 1 } ∧
      (∀ p, p ≠ dst → w.names p ≠ none → w'.names p = w.names p) ∧ (∀ i, i ≠ id → i ≠ w.nextIno → w'.inodes i = w.inodes i) ∧
      w'.log = w.log ++ parentOps w dst ++ ([Op.unlink dst, Op.create dst w.nextIno, Op.write w.nextIno 0 ns.bytes] ++
        (stripNames (copiedXattrs cfg ns.xattrs []) (copiedXattrs cfg ns.xattrs [])).map (Op.xattrRemove w.nextIno) ++
        [Op.utime dst w.nextIno ns.mtime]) := by
  have hrun := copy_file_existing_run cfg self w src dst is id ns nd h
  rw [if_pos hl] at hrun
  have hidne : id ≠ w.nextIno := by have := h.fresh.2; omega
  refine ⟨_, hrun, upd_same _ _ _, upd_same _ _ _, (upd_ne _ _ hidne).trans (upd_same _ _ _),
    fun p hp hn => (upd_ne _ _ hp).trans ((upd_ne _ _ hp).trans (parentW_names w dst p hn)),
    fun i h1 h2 => (upd_ne _ _ h2).trans (upd_ne _ _ h1), ?_⟩
  show _ ++ _ ++ _ ++ _ ++ _ = _
  simp only [List.append_assoc, List.cons_append, List.nil_append]

/-- **`copy_file` on its own never writes through a destination symlink (C02; cf. C17).**  `dst` a symlink to ANYTHING (the
    source itself, an outside file, nothing), a bare name: `copy_file`'s OWN `remove_if_symlink` unlinks the link, then a
    fresh inode is created at the name; every inode that existed (in particular the link's target) and every other name is
    unchanged; the log is exactly `unlink dst, create dst, write, utime`.  (`GenLocalCopy.sync_symlink_dest_never_through`
    cannot see `copy_file`'s own call: there `sync_file_with_delta` has removed the link already.) -/
theorem copy_file_symlink_dest_never_through (cfg : LocalCopy.Cfg) (self : LocalTransport) (w : LWorld)
    (src dst t : Generated.Rs.Path) (is : Nat) (ns : Inode) (hnf : w.fault = none) (hsrc : w.names src = some (.file is))
    (hisrc : w.inodes is = some ns) (hdst : w.names dst = some (.symlink t)) (hfresh : is < w.nextIno)
    (hpar : Generated.Rs.parent dst = some []) (hx : cfg.copyXattrs = false) :
    ∃ w', LocalTransport.copy_file (posix cfg) self src dst w = (.ok (TransferResult.new ns.bytes.length), w') ∧
      w'.names dst = some (.file w.nextIno) ∧ w'.inodes w.nextIno = some ⟨ns.bytes, ns.mtime, [], 1⟩ ∧
      (∀ p, p ≠ dst → w'.names p = w.names p) ∧ (∀ i, i ≠ w.nextIno → w'.inodes i = w.inodes i) ∧
      w'.inodes is = some ns ∧
      w'.log = w.log ++ [Op.unlink dst, Op.create dst w.nextIno, Op.write w.nextIno 0 ns.bytes, Op.utime dst w.nextIno ns.mtime] := by
  rcases w with ⟨nm, ino, ni, hs, nh, g, lg, now, F⟩
  simp only at hnf hsrc hisrc hdst hfresh
  subst hnf
  refine ⟨_, copy_file_fresh_run cfg self nm ino ni hs nh g lg now src dst is ns hsrc hisrc (Or.inr ⟨t, hdst⟩) hfresh hpar hx,
    upd_same _ _ _, upd_same _ _ _, fun p hp => (upd_ne _ _ hp).trans (unlinkSym_names_ne _ _ _ hp), fun i hi => upd_ne _ _ hi, (upd_ne _ _ (Nat.ne_of_lt hfresh)).trans hisrc, ?_⟩
  show (unlinkSym _ dst).log ++ _ = _
  rw [unlinkSym_of_symlink _ dst t hdst]
  simp

-- the hypotheses hold in `GenLocalCopy.linkW` (`d` → `s`, the source itself)
example : ∃ w', (LocalTransport.copy_file (posix plainCfg) default ['s'] ['d'] linkW).2 = w' ∧
    w'.inodes 0 = some ⟨[1, 2, 3], 7, [], 1⟩ ∧ w'.names ['d'] = some (.file 1) := by
  obtain ⟨w', h1, h2, _, _, _, h6, _⟩ := copy_file_symlink_dest_never_through plainCfg default linkW ['s'] ['d'] ['s'] 0
    ⟨[1, 2, 3], 7, [], 1⟩ rfl rfl rfl rfl (by decide) (by decide) rfl
  exact ⟨w', by rw [h1], h6, h2⟩

/-! ## the change-ratio fallback of `sync_file_with_delta` -/

/-- **Finding C09/large-update-rewritten-in-place, as a theorem.**  Destination ≥ 10 MiB, source not sparse, the sampled
    change ratio above the threshold (`!ratio.use_delta`), no other hard link: the call succeeds and the destination ends
    up with the source's bytes / mtime / no xattrs — but it is the SAME inode, the FIRST operation of the call is the
    truncation of that inode, and there is NO working file and NO rename: a crash after the first operation leaves a
    destination that is neither the old nor the new file. -/
theorem ratio_fallback_rewrites_in_place (cfg : LocalCopy.Cfg) (self : LocalTransport) (w : LWorld) (src dst : Generated.Rs.Path)
    (is id : Nat) (ns nd : Inode) (hnf : w.fault = none) (hsrc : w.names src = some (.file is)) (hisrc : w.inodes is = some ns)
    (hdst : w.names dst = some (.file id)) (hidst : w.inodes id = some nd) (hne : is ≠ id)
    (hfresh : is < w.nextIno ∧ id < w.nextIno) (hng : w.guards = [])
    (hbig : 10485760 ≤ nd.bytes.length) (hsp : cfg.sparse = false) (hr : cfg.ratio = some false) (hl : nd.nlink ≤ 1) :
    ∃ w' rest, LocalTransport.sync_file_with_delta (posix cfg) self src dst w = (.ok (TransferResult.new ns.bytes.length), w') ∧
      w'.names = w.names ∧ w'.inodes id = some ⟨ns.bytes, ns.mtime, [], nd.nlink⟩ ∧
      (∀ i, i ≠ id → w'.inodes i = w.inodes i) ∧
      w'.log = w.log ++ Op.truncate id :: rest ∧ (∀ o ∈ rest, isRename o = false) ∧
      rest.getLast? = some (Op.utime dst id ns.mtime) := by
  rcases w with ⟨nm, ino, ni, hs, nh, g, lg, now, F⟩
  simp only at hnf hsrc hisrc hdst hidst hfresh hng
  subst hnf hng
  have hhl : hasHardLinks ⟨nm, ino, ni, hs, nh, [], lg, now, none⟩ dst = false :=
    (hasHardLinks_file _ dst id nd hdst hidst).trans (decide_eq_false (by omega))
  refine run_of_wp_ex ?_
  unfold LocalTransport.sync_file_with_delta
  refine sync_head_wp cfg self src dst hsrc hisrc hdst hidst hbig hsp (Or.inl rfl) (fun _ => ?_) (fun h => absurd hr h)
  refine wp_bind_run (break_link_none cfg src dst hhl) ?_
  refine wp_bind_run (fs_copy_over_file cfg src dst is id ns nd hsrc hisrc hdst hidst hne) ?_
  refine wp_strip_mtime cfg dst id _ _ hdst (upd_same _ _ _) ?_
  refine wp_of_run rfl ?_
  refine wp_bind_run (a := ()) rfl ?_
  refine wp_bind_run (a := _) rfl ?_
  refine wp_of_run rfl ?_
  refine ⟨rfl, [Op.write id 0 ns.bytes] ++ (stripNames (copiedXattrs cfg ns.xattrs nd.xattrs) (copiedXattrs cfg ns.xattrs nd.xattrs)).map (Op.xattrRemove id) ++
      [Op.utime dst id ns.mtime], rfl, upd_same _ _ _, ?_, ?_, ?_, ?_⟩
  · exact fun i hi => (upd_ne _ _ hi).trans (upd_ne _ _ hi)
  · show lg ++ _ ++ _ ++ _ = _
    simp only [List.append_assoc, List.cons_append, List.nil_append, copiedXattrs]
  · intro o ho
    simp only [List.mem_append, List.mem_cons, List.mem_map, List.not_mem_nil, or_false] at ho
    rcases ho with (ho | ⟨a, _, ho⟩) | ho <;> (subst ho; rfl)
  · rw [List.getLast?_concat]

/-- the same fallback over a destination with other hard links: the link is broken first (C02; cf. C13) -/
theorem ratio_fallback_breaks_hard_link (cfg : LocalCopy.Cfg) (self : LocalTransport) (w : LWorld) (src dst : Generated.Rs.Path)
    (is id : Nat) (ns nd : Inode) (hnf : w.fault = none) (hsrc : w.names src = some (.file is)) (hisrc : w.inodes is = some ns)
    (hdst : w.names dst = some (.file id)) (hidst : w.inodes id = some nd) (hne : is ≠ id)
    (hfresh : is < w.nextIno ∧ id < w.nextIno) (hng : w.guards = [])
    (hbig : 10485760 ≤ nd.bytes.length) (hsp : cfg.sparse = false) (hr : cfg.ratio = some false) (hl : 1 < nd.nlink) :
    ∃ w', LocalTransport.sync_file_with_delta (posix cfg) self src dst w = (.ok (TransferResult.new ns.bytes.length), w') ∧
      w'.names dst = some (.file w.nextIno) ∧ w'.inodes w.nextIno = some ⟨ns.bytes, ns.mtime, [], 1⟩ ∧
      w'.inodes id = some { nd with nlink := nd.nlink - 1 } ∧
      (∀ p, p ≠ dst → w'.names p = w.names p) ∧ (∀ i, i ≠ id → i ≠ w.nextIno → w'.inodes i = w.inodes i) ∧
      w'.log = w.log ++ ([Op.unlink dst, Op.create dst w.nextIno, Op.write w.nextIno 0 ns.bytes] ++
        (stripNames (copiedXattrs cfg ns.xattrs []) (copiedXattrs cfg ns.xattrs [])).map (Op.xattrRemove w.nextIno) ++
        [Op.utime dst w.nextIno ns.mtime]) := by
  rcases w with ⟨nm, ino, ni, hs, nh, g, lg, now, F⟩
  simp only at hnf hsrc hisrc hdst hidst hfresh hng
  subst hnf hng
  have hsd : src ≠ dst := by intro e; rw [e, hdst] at hsrc; cases hsrc; exact hne rfl
  have hisne : is ≠ ni := by omega
  have hidne : id ≠ ni := by omega
  refine run_of_wp ?_
  unfold LocalTransport.sync_file_with_delta
  refine sync_head_wp cfg self src dst hsrc hisrc hdst hidst hbig hsp (Or.inl rfl) (fun _ => ?_) (fun h => absurd hr h)
  refine wp_bind_run (break_link_shared cfg src dst id nd hdst hidst hl) ?_
  refine wp_bind_run (fs_copy_to_free cfg src dst is ns ((upd_ne _ _ hsd).trans hsrc)
    ((upd_ne _ _ hne).trans hisrc) (upd_same _ _ _) hisne) ?_
  refine wp_strip_mtime cfg dst ni _ _ (upd_same _ _ _) (upd_same _ _ _) ?_
  refine wp_of_run rfl ?_
  refine wp_bind_run (a := ()) rfl ?_
  refine wp_bind_run (a := _) rfl ?_
  refine wp_of_run rfl ?_
  refine ⟨rfl, upd_same _ _ _, upd_same _ _ _, ?_, ?_, ?_, ?_⟩
  · exact (upd_ne _ _ hidne).trans ((upd_ne _ _ hidne).trans (upd_same _ _ _))
  · exact fun p hp => (upd_ne _ _ hp).trans (upd_ne _ _ hp)
  · exact fun i h1 h2 => (upd_ne _ _ h2).trans ((upd_ne _ _ h2).trans (upd_ne _ _ h1))
  · show lg ++ _ ++ _ ++ _ ++ _ = _
    cases hx : cfg.copyXattrs <;> simp [List.append_assoc, copiedXattrs, hx]

/-! ### non-vacuity -/

/-- the 10 MiB world of `GenLocalCopy.exW` with a fault due at the 30th fallible call -/
def exWF : LWorld := { exW with fault := some (22 + 7) }

theorem exWF_pre : UpdPreF exWF ['s'] ['d'] 0 1 [1, 2, 3] (List.replicate 10485760 0) 7 5 [] [['u']] 1 1 :=
  { hsrc := rfl, hisrc := rfl, hdst := rfl, hidst := rfl, ne := by decide, hfree := rfl, fresh := by decide, noguards := rfl }

example : ∃ r w', LocalTransport.sync_file_with_delta (posix plainCfg) default ['s'] ['d'] exWF = (r, w') ∧
    ((∃ e, r = .error e ∧ FailPost exWF w') ∨ (∃ v, r = .ok v ∧ OkPost exWF ['d'] (['d'] ++ TEMP_SUFFIX) 1 2 w')) :=
  inplace_fault_old_or_new plainCfg default exWF ['s'] ['d'] 0 1 [1, 2, 3] (List.replicate 10485760 0) 7 5 [] [['u']] 1 1 22
    exWF_pre exW_route rfl

/-- `dropGuard_hit_keeps_working_file` is not vacuous -/
example : (dropGuard { exW with names := fun p => if p = ['t'] then some (.file 0) else exW.names p, fault := some 0 } ['t']).names ['t']
    = some (.file 0) := by
  exact (dropGuard_hit_keeps_working_file _ ['t'] 0 rfl rfl).1

def cowCfg : LocalCopy.Cfg := { sparse := false, ratio := some true, cow := true, sameFs := true, verifyOnWrite := false, copyXattrs := true }

theorem exW_cow_route : CowRoute cowCfg (List.replicate 10485760 0) 1 :=
  { big := by rw [List.length_replicate]; exact Nat.le_refl _, notSparse := rfl, ratio := by decide, cow := rfl, noVerify := rfl }

/-- the COW postcondition instantiated: the 3-byte source replaces the 10 MiB destination (cut by `set_len(3)`), the stale
    xattr `u` the clone inherited is removed -/
example : ∃ w', (LocalTransport.sync_file_with_delta (posix cowCfg) default ['s'] ['d'] exW).2 = w' ∧
    w'.names ['d'] = some (.file 2) ∧ w'.inodes 2 = some ⟨ofU8 [1, 2, 3], 7, [], 1⟩ := by
  obtain ⟨w', h1, h2, h3, _⟩ := sync_cow_postcondition cowCfg default exW ['s'] ['d'] 0 1 [1, 2, 3]
    (List.replicate 10485760 0) 7 5 [] [['u']] 1 1 exW_pre exW_cow_route
  exact ⟨w', by rw [h1], h2, h3⟩

/-- a small world for `copy_file`: `s` (inode 0), `d` (inode 1: stale xattr `u`, two links), bare names -/
def cpW : LWorld :=
  { names := fun p => if p = ['s'] then some (.file 0) else if p = ['d'] then some (.file 1) else if p = ['e'] then some (.file 1) else none,
    inodes := fun i => if i = 0 then some ⟨[1, 2, 3], 7, [], 1⟩ else if i = 1 then some ⟨[9, 9, 9, 9], 5, [['u']], 2⟩ else none,
    nextIno := 2, handles := fun _ => none, nextHandle := 0, guards := [], log := [], now := 9, fault := none }

theorem cpW_pre : CopyPre cpW ['s'] ['d'] 0 1 ⟨[1, 2, 3], 7, [], 1⟩ ⟨[9, 9, 9, 9], 5, [['u']], 2⟩ :=
  { nf := rfl, hsrc := rfl, hisrc := rfl, hdst := rfl, hidst := rfl, ne := by decide, fresh := by decide,
    parent := by intro d hd; left; have : Generated.Rs.parent ['d'] = some [] := by decide
                 rw [this] at hd; exact (Option.some.inj hd).symm }

/-- the hard-link theorem instantiated: `e`, the other name of inode 1, still sees `[9,9,9,9]` -/
example : ∃ w', (LocalTransport.copy_file (posix plainCfg) default ['s'] ['d'] cpW).2 = w' ∧
    w'.names ['d'] = some (.file 2) ∧ w'.names ['e'] = some (.file 1) ∧
    w'.inodes 1 = some ⟨[9, 9, 9, 9], 5, [['u']], 1⟩ ∧ w'.inodes 2 = some ⟨[1, 2, 3], 7, [], 1⟩ := by
  obtain ⟨w', h1, h2, h3, h4, h5, _⟩ := copy_file_breaks_hard_link plainCfg default cpW ['s'] ['d'] 0 1 _ _ cpW_pre (by decide)
  exact ⟨w', by rw [h1], h2, by rw [h5 ['e'] (by decide) (by decide)]; rfl, h4, h3⟩

/-- the in-place hypotheses are satisfiable as well (link count 1) -/
example : CopyPre { cpW with inodes := fun i => if i = 0 then some ⟨[1, 2, 3], 7, [], 1⟩ else if i = 1 then some ⟨[9], 5, [['u']], 1⟩ else none }
    ['s'] ['d'] 0 1 ⟨[1, 2, 3], 7, [], 1⟩ ⟨[9], 5, [['u']], 1⟩ :=
  { nf := rfl, hsrc := rfl, hisrc := rfl, hdst := rfl, hidst := rfl, ne := by decide, fresh := by decide,
    parent := by intro d hd; left; have : Generated.Rs.parent ['d'] = some [] := by decide
                 rw [this] at hd; exact (Option.some.inj hd).symm }

/-- `ratio_fallback_*`: the hypotheses hold in `exW` with the ratio gate answering "no delta" -/
example : exW.fault = none ∧ exW.names ['s'] = some (.file 0) ∧ exW.names ['d'] = some (.file 1) ∧ exW.guards = [] ∧
    (⟨false, some false, false, true, false, false⟩ : LocalCopy.Cfg).ratio = some false := by decide

end SyModel.Props.GenLocalCopy2
