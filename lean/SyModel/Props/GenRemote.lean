/-
  GenRemote — the translated remote helper (`SyModel/Generated/Code/Remote.lean`, regenerated on every run from
  `main` of src/bin/sy-remote.rs — arms `ApplyDelta`, `ReceiveFile`, `ReceiveSparseFile` — and `apply_delta` of
  src/delta/applier.rs), run in the POSIX world of `Lemmas/GenRemote.lean` PART 1, computes the handwritten models
  the property theorems C04 / C04Wire / C14 are about:

      apply_delta                      ↦  Delta.applyOps                        (Delta/Core.lean)
      main, arm ApplyDelta             ↦  Delta.remoteDecode / remoteApply      (Delta/Wire.lean)
      main, arm ReceiveFile            ↦  Compress.receiveFileOver .create      (Compress/Sniff.lean)
      main, arm ReceiveSparseFile      ↦  Compress.receiveSparseFileOver .create (Compress/Sparse.lean)

  The translated code is an effect unit: a program in `Rs.M W = ExceptT Rs.Err (StateM W)` over a record `Ext W` of
  world operations.  It is run here with `W := Remote.World` and `ext := Remote.posix P` (the trusted instance); a run
  is `main (posix P) w : Except Rs.Err Unit × World` — exit status and final world.

  Abstraction map.
    * bytes: `Vec<u8>` is `List Nat` in the translated code and `Bytes = List UInt8` in the models.  Worlds are
      related to model values through `ofU8 : Bytes → List Nat` (`map UInt8.toNat`), i.e. the theorems quantify over
      all model byte strings and speak about the worlds that hold their images; `apply_delta`, which takes a
      `Delta` value of the translated type, is stated for every such value whose `Data` bytes are `< 256`
      (`OpU8`; all `Vec<u8>` are) through `absOp : DeltaOp → Delta.Op`;
    * `Generated.Remote.Compression ↦ Compress.Compression`, `DataRegion ↦ Compress.Region`, `Delta ↦ Delta.Delta`
      (`absCompression`, `concRegion`, `concDelta`: field by field);
    * a file on disk is `World.files path = some content`; its explicit mtime `World.mtime path = some ns`;
      `RemoteFile.mtimeSec = some s` corresponds to `some (Rs.duration_from_secs s)` (`UNIX_EPOCH + s` seconds);
    * `stats` (`DeltaStats`) are given as the code computes them (`literalBytes`, `bytesWritten`, `ops.length`); the
      text printed on stdout is not modelled.
  Parameters (`Remote.Parsers`): the codecs `L`, `Z` (third party), `String::from_utf8` / `as_bytes`
  (`utf8Decode` / `utf8Encode`), and — fixed — the model's JSON parsers `Delta.decodeJson`, `Compress.decodeRegions`
  for `serde_json::from_str`.

  Hypotheses: explicit in the statements, except the first (satisfiability: the `example`s at the end).
    * path texts are clean — no trailing `/`, no `//`, not `/` itself — the domain on which `Rs.parent` is
      `Path::parent`.  NO statement says so: outside it (e.g. `out = d/`) the real helper fails with EISDIR where the
      world creates a regular file under the text `d/`.  The sender never passes such a path;
    * the command line selects the arm (`w.cli.command = …`); stdin is fresh (`w.stdinPos = 0`);
    * `CanCreate w out` / `CanReceive w out`: `File::create out` can succeed — `out` is not a directory, is not the
      empty path, its parent exists (`apply-delta`) or can be made by `create_dir_all` (no regular file in the way).
      Without it the helper fails with ENOENT/EISDIR/ENOTDIR where the models (which have no directories) report a
      written file;
    * `base ≠ out` for `apply_delta` (DOMAIN RESTRICTION, see `apply_delta_in_place_counterexample`): with
      `old_file = new_file` the code truncates the file before reading it.  The only caller passes
      `dest` and `dest.sy-tmp` (src/transport/ssh.rs:1032-1036);
    * `P.Utf8Sound` for the `ApplyDelta` arm: `String::from_utf8` accepts 7-bit text and `as_bytes` inverts it.  The
      model parses the bytes directly; `Delta.decodeJson_ascii` (proved) shows that it only accepts 7-bit text, so the
      `from_utf8` step cannot change the outcome;
    * `w.denyUtime = false` where the mtime is compared: the code IGNORES a failing `set_file_mtime`
      (`let _ = …`), the models say the mtime is the `--mtime` argument — see `main_receive_file_mtime_denied`.
-/
import SyModel.Lemmas.GenRemote
import SyModel.Props.C04Wire
import SyModel.Props.C14
set_option autoImplicit false
namespace SyModel.Props.GenRemote
open SyModel SyModel.Generated SyModel.Generated.Remote SyModel.Remote
open SyModel.Data (upd_same upd_ne)

/-- `String::from_utf8` / `str::as_bytes`, as far as the helper depends on them -/
structure Utf8Sound (P : Parsers) : Prop where
  /-- a decoded text encodes back to the bytes it came from -/
  roundtrip : ∀ b s, P.utf8Decode b = some s → P.utf8Encode s = b
  /-- 7-bit text is valid UTF-8 -/
  ascii : ∀ b, Ascii b → (P.utf8Decode b).isSome = true

/-- what the helper left at `p` if it exited with status 0 -/
def output (r : Except Rs.Err Unit × World) (p : Rs.Path) : Option (List Nat) :=
  match r.1 with
  | .ok _ => r.2.files p
  | .error _ => none

/-! ### `apply_delta` (src/delta/applier.rs) -/

/-- `apply_delta(old_file, &delta, new_file)` on a world where `old_file` holds `old`:
    * if the model applies the ops (`applyOps = some newBytes`) the call returns `Ok(stats)` and the final world is
      the initial one with `new_file ↦ newBytes` (and the two handles; `deltaWorld`), every other file untouched;
    * otherwise (a `Copy` leaves `old`) it returns `Err` and `new_file` is LEFT HOLDING the output of the ops
      before the failing one (`applyPartial`) — the code does not remove it. -/
theorem apply_delta_eq_model (P : Parsers) (w : World) (old_file new_file : Rs.Path) (delta : Remote.Delta)
    (old : Bytes) (hold : w.files old_file = some (ofU8 old)) (hne : old_file ≠ new_file)
    (hcr : CanCreate w new_file) (hu : ∀ op ∈ delta.ops, OpU8 op) :
    match Delta.applyOps old (delta.ops.map absOp) with
    | some newBytes =>
      ∃ posOld, apply_delta (posix P) old_file delta new_file w =
        (.ok { operations_count := delta.ops.length, literal_bytes := literalBytes delta.ops,
               bytes_written := bytesWritten delta.ops },
         deltaWorld w old_file new_file posOld (ofU8 newBytes))
    | none =>
      ∃ posOld, apply_delta (posix P) old_file delta new_file w =
        (.error .io, deltaWorld w old_file new_file posOld (ofU8 (applyPartial old (delta.ops.map absOp)))) := by
  have h := apply_delta_run P w old_file new_file delta old hold hne hcr hu
  cases ha : Delta.applyOps old (delta.ops.map absOp) with
  | none => exact ⟨_, by rw [h, ha]; rfl⟩
  | some r => exact ⟨_, by rw [h, ha, applyOps_eq_partial old _ r ha]; rfl⟩

theorem deltaWorld_frame (w : World) (o n : Rs.Path) (pos : Nat) (out : List Nat) :
    (deltaWorld w o n pos out).files n = some out ∧
    (∀ q, q ≠ n → (deltaWorld w o n pos out).files q = w.files q) ∧
    (deltaWorld w o n pos out).dirs = w.dirs ∧ (deltaWorld w o n pos out).stdin = w.stdin ∧
    (deltaWorld w o n pos out).stdinPos = w.stdinPos ∧
    (∀ q, q ≠ n → (deltaWorld w o n pos out).mtime q = w.mtime q) :=
  ⟨upd_same _ _ _, fun _ hq => upd_ne _ _ hq, rfl, rfl, rfl, fun _ hq => upd_ne _ _ hq⟩

/-- `stats.bytes_written` of a successful call is the size of the file written. -/
theorem apply_delta_bytes_written (old : Bytes) (delta : Remote.Delta) (newBytes : Bytes)
    (h : Delta.applyOps old (delta.ops.map absOp) = some newBytes) : bytesWritten delta.ops = newBytes.length := by
  obtain ⟨ops, _, _⟩ := delta
  induction ops generalizing newBytes with
  | nil =>
    cases h
    rfl
  | cons op t ih =>
    obtain ⟨b, r', ht, rfl, hb⟩ := Delta.applyOps_cons_some h
    cases op with
    | Copy off sz => rw [bytesWritten, ih r' ht, List.length_append, Delta.readExact_length hb]
    | Data d =>
      cases hb
      rw [bytesWritten, ih r' ht, List.length_append, List.length_map]

/-- DOMAIN RESTRICTION `old_file ≠ new_file`, concrete input: applying `[Copy 0 1]` to the one-byte file `a` IN PLACE
    fails (the file was truncated by `File::create` before the read) and leaves `a` empty, whereas
    `applyOps [7] [copy 0 1] = some [7]`.  The Rust source has no guard; its only caller never aliases the paths. -/
theorem apply_delta_in_place_counterexample (P : Parsers) :
    let w : World := { cli := ⟨.Scan []⟩, stdin := [], stdinPos := 0, files := fun p => if p = ['a'] then some [7] else none,
                       dirs := fun _ => false, mtime := fun _ => none, denyUtime := false, opened := 0,
                       handle := fun _ => none }
    let r := apply_delta (posix P) ['a'] { ops := [.Copy 0 1], source_size := 1, block_size := 1 } ['a'] w
    r.1 = .error .io ∧ r.2.files ['a'] = some [] ∧ Delta.applyOps [7] [.copy 0 1] = some [7] := by
  have hm : Delta.applyOps [7] [.copy 0 1] = some [7] := by decide
  simp [apply_delta, Rs.run_bind, run_op, posix_open, posix_create, posix_seek, posix_read_exact, openOp, createOp,
    Rs.parent, Rs.splitLastAt, World.isDir, seekOp, readExactOp, World.target, World.source, World.setPos, stdinHandle, Data.upd,
    hm]

/-! ### `sy-remote apply-delta` -/

/-- the helper's decoding of stdin is the model's: zstd sniffing on the first four bytes, `decompress`,
    `String::from_utf8`, `serde_json::from_str` together compute `remoteDecode` -/
theorem decode_eq_model (P : Parsers) (hU : Utf8Sound P) (stdin : Bytes) :
    ((Compress.sniff P.Z stdin).bind P.utf8Decode).bind (fun text => Delta.decodeJson (P.utf8Encode text)) =
      Delta.remoteDecode P.Z stdin := by
  unfold Delta.remoteDecode
  cases hs : Compress.sniff P.Z stdin with
  | none => rfl
  | some t =>
    simp only [Option.bind]
    cases hd : P.utf8Decode t with
    | none =>
      cases hj : Delta.decodeJson t with
      | none => rfl
      | some d =>
        have := hU.ascii t (Delta.decodeJson_ascii hj)
        rw [hd] at this; simp at this
    | some s => simp only [hU.roundtrip t s hd]

/-- The `ApplyDelta` arm is `remoteDecode` followed by `applyOps`:
    * stdin does not decode: exit with an error, nothing is created;
    * it decodes to `d` and the ops apply: exit 0, `output_file ↦ newBytes`;
    * a `Copy` leaves `base_file`: exit with an error, `output_file` is left holding the partial output. -/
theorem main_apply_delta_eq_model (P : Parsers) (hU : Utf8Sound P) (w : World) (base_file output_file : Rs.Path)
    (stdin old : Bytes)
    (hcli : w.cli.command = .ApplyDelta base_file output_file) (hstdin : w.stdin = ofU8 stdin) (hpos : w.stdinPos = 0)
    (hold : w.files base_file = some (ofU8 old)) (hne : base_file ≠ output_file) (hcr : CanCreate w output_file) :
    match Delta.remoteDecode P.Z stdin with
    | none => main (posix P) w = (.error .other, afterRead w)
    | some d =>
      match Delta.applyOps old d.ops with
      | some newBytes =>
        ∃ posOld, main (posix P) w = (.ok (), deltaWorld (afterRead w) base_file output_file posOld (ofU8 newBytes))
      | none =>
        ∃ posOld, main (posix P) w =
          (.error .io, deltaWorld (afterRead w) base_file output_file posOld (ofU8 (applyPartial old d.ops))) := by
  have h := main_apply_delta_run P w base_file output_file stdin old hcli hstdin hpos hold hne hcr
  have hd := decode_eq_model P hU stdin
  cases hs : (Compress.sniff P.Z stdin).bind P.utf8Decode with
  | none =>
    rw [hs] at hd h
    rw [← hd]; exact h
  | some text =>
    rw [hs] at hd h
    simp only [Option.bind] at hd
    dsimp only at h
    rw [← hd]
    cases hj : Delta.decodeJson (P.utf8Encode text) with
    | none => rw [hj] at h; exact h
    | some d =>
      rw [hj] at h
      dsimp only at h ⊢
      cases ha : Delta.applyOps old d.ops with
      | none => exact ⟨_, by rw [h, ha]; rfl⟩
      | some r => exact ⟨_, by rw [h, ha, applyOps_eq_partial old _ r ha]; rfl⟩

/-- … in one line: what `sy-remote apply-delta` leaves at `output_file` when it exits 0 is `remoteApply`. -/
theorem main_apply_delta_output (P : Parsers) (hU : Utf8Sound P) (w : World) (base_file output_file : Rs.Path)
    (stdin old : Bytes)
    (hcli : w.cli.command = .ApplyDelta base_file output_file) (hstdin : w.stdin = ofU8 stdin) (hpos : w.stdinPos = 0)
    (hold : w.files base_file = some (ofU8 old)) (hne : base_file ≠ output_file) (hcr : CanCreate w output_file) :
    output (main (posix P) w) output_file = (Delta.remoteApply P.Z old stdin).map ofU8 := by
  have h := main_apply_delta_eq_model P hU w base_file output_file stdin old hcli hstdin hpos hold hne hcr
  unfold Delta.remoteApply
  cases hd : Delta.remoteDecode P.Z stdin with
  | none => rw [hd] at h; simp only [h, output]; rfl
  | some d =>
    rw [hd] at h
    dsimp only at h ⊢
    cases ha : Delta.applyOps old d.ops with
    | none => rw [ha] at h; obtain ⟨_, h⟩ := h; simp only [h, output]; rfl
    | some r =>
      rw [ha] at h; obtain ⟨_, h⟩ := h
      simp only [h, output, (deltaWorld_frame _ _ _ _ _).1]; rfl

/-! ### `sy-remote receive-file` -/

/-- The `ReceiveFile` arm is `receiveFileOver .create`, for ANY prior content of the output path (`prior = none`: the
    path did not exist): on success the path holds the model's content, its mtime is the model's (`--mtime` in whole
    seconds, or the time of the write), every other file is untouched and the parent directory exists; the helper
    fails exactly when the model does (a zstd frame that does not decompress), and then nothing was created.
    `_hprior` only says what `prior` names; the proof does not use it, because `File::create` (`createOp`) empties the
    path whatever it held — which is the content of "for ANY prior". -/
theorem main_receive_file_eq_model (P : Parsers) (w : World) (output_path : Rs.Path) (mtime : Option Nat)
    (stdin : Bytes) (prior : Option Bytes)
    (hcli : w.cli.command = .ReceiveFile output_path mtime) (hstdin : w.stdin = ofU8 stdin) (hpos : w.stdinPos = 0)
    (_hprior : w.files output_path = prior.map ofU8) (hcr : CanReceive w output_path) (hut : w.denyUtime = false) :
    match Compress.receiveFileOver .create P.Z prior stdin mtime with
    | some f =>
      ∃ w', main (posix P) w = (.ok (), w') ∧
        w'.files output_path = some (ofU8 f.content) ∧
        w'.mtime output_path = f.mtimeSec.map Rs.duration_from_secs ∧
        (∀ q, q ≠ output_path → w'.files q = w.files q) ∧
        (∀ d, Rs.parent output_path = some d → w'.isDir d = true)
    | none => main (posix P) w = (.error .other, afterRead w) := by
  obtain ⟨hnd, d, hp, hclear⟩ := hcr
  have h := main_receive_file_run P w output_path d mtime stdin hcli hstdin hpos hnd hp hclear
  unfold Compress.receiveFileOver
  cases hs : Compress.sniff P.Z stdin with
  | none => rw [hs] at h; exact h
  | some data =>
    rw [hs] at h
    simp only [Option.map, Compress.openOutput, Compress.writeAll, List.drop_nil, List.append_nil]
    refine ⟨_, h, upd_same _ _ _, ?_, fun _ hq => upd_ne _ _ hq, ?_⟩
    · simp only [outWorld, upd_eq, upd_same, hut, Bool.false_eq_true, if_false]; cases mtime <;> rfl
    · intro d' hd'
      rw [hp] at hd'; cases hd'
      exact outWorld_parent_isDir _ _ _ _ _ _ _

/-- DISAGREEMENT (reported): when the file system refuses to set the time, the code swallows the error
    (`let _ = filetime::set_file_mtime(..)`) — the helper exits 0, the content is right, but the mtime is the time of
    the write, while `receiveFileOver` says `mtimeSec = --mtime`.  The model describes the helper only under
    `denyUtime = false`. -/
theorem main_receive_file_mtime_denied (P : Parsers) (w : World) (output_path : Rs.Path) (secs : Nat)
    (stdin data : Bytes)
    (hcli : w.cli.command = .ReceiveFile output_path (some secs)) (hstdin : w.stdin = ofU8 stdin) (hpos : w.stdinPos = 0)
    (hcr : CanReceive w output_path) (hut : w.denyUtime = true) (hs : Compress.sniff P.Z stdin = some data) :
    ∃ w', main (posix P) w = (.ok (), w') ∧ w'.files output_path = some (ofU8 data) ∧ w'.mtime output_path = none ∧
      (Compress.receiveFileOver .create P.Z none stdin (some secs)).map (·.mtimeSec) = some (some secs) := by
  obtain ⟨hnd, d, hp, hclear⟩ := hcr
  have h := main_receive_file_run P w output_path d (some secs) stdin hcli hstdin hpos hnd hp hclear
  rw [hs] at h
  refine ⟨_, h, upd_same _ _ _, ?_, ?_⟩
  · simp only [outWorld, upd_eq, upd_same, hut, if_true]
  · simp [Compress.receiveFileOver, hs]

/-! ### `sy-remote receive-sparse-file` -/

/-- The `ReceiveSparseFile` arm is `receiveSparseFileOver .create`, for any prior content of the output path: on
    success the path holds the model's content and mtime and nothing else changed; it fails exactly when the model
    does (regions JSON does not parse — before anything is created — or stdin ends inside a region).  `_hprior` is
    unused for the reason given at `main_receive_file_eq_model`. -/
theorem main_receive_sparse_eq_model (P : Parsers) (w : World) (output_path : Rs.Path) (total_size : Nat)
    (regions : Rs.Str) (mtime : Option Nat) (stdin : Bytes) (prior : Option Bytes)
    (hcli : w.cli.command = .ReceiveSparseFile output_path total_size regions mtime)
    (hstdin : w.stdin = ofU8 stdin) (hpos : w.stdinPos = 0)
    (_hprior : w.files output_path = prior.map ofU8) (hcr : CanReceive w output_path) (hut : w.denyUtime = false) :
    match Compress.receiveSparseFileOver .create prior total_size (P.utf8Encode regions) stdin mtime with
    | some f =>
      ∃ w', main (posix P) w = (.ok (), w') ∧
        w'.files output_path = some (ofU8 f.content) ∧
        w'.mtime output_path = f.mtimeSec.map Rs.duration_from_secs ∧
        (∀ q, q ≠ output_path → w'.files q = w.files q)
    | none =>
      ∃ e w', main (posix P) w = (.error e, w') ∧ (∀ q, q ≠ output_path → w'.files q = w.files q) ∧
        (Compress.decodeRegions (P.utf8Encode regions) = none → w' = w) := by
  obtain ⟨hnd, d, hp, hclear⟩ := hcr
  have h := main_receive_sparse_run P w output_path d total_size regions mtime hcli hnd hp hclear
  unfold Compress.receiveSparseFileOver Compress.receiveSparseOver
  cases hdec : Compress.decodeRegions (P.utf8Encode regions) with
  | none => rw [hdec] at h; exact ⟨_, _, h, fun _ _ => rfl, fun _ => rfl⟩
  | some rs =>
    rw [hdec] at h
    simp only [Compress.openOutput] at *
    have hm := sparseLoop_eq_model stdin (Compress.setLen [] total_size) rs 0 0
    rw [ofU8_setLen, List.drop_zero, show (ofU8 ([] : Bytes)) = [] from rfl] at hm
    rw [hstdin, hpos] at h
    cases hg : Compress.receiveSparseGo (Compress.setLen [] total_size) rs stdin with
    | none =>
      rw [hg] at hm
      simp only [Option.isSome_none] at hm
      simp only [hm.1, Bool.false_eq_true, if_false] at h
      exact ⟨_, _, h, fun _ hq => upd_ne _ _ hq, fun hx => by simp at hx⟩
    | some c =>
      rw [hg] at hm
      simp only [Option.isSome_some] at hm
      simp only [hm.1, if_true, hm.2 c rfl] at h
      refine ⟨_, h, upd_same _ _ _, ?_, fun _ hq => upd_ne _ _ hq⟩
      simp only [outWorld, upd_eq, upd_same, hut, Bool.false_eq_true, if_false]

/-! ### property theorems, restated about the TRANSLATED code -/

/-- C04Wire.wire_roundtrip + C04Wire.C04_wire_mem about the translated helper: feed what `ssh.rs` sends
    (`compress(serde_json::to_string(&delta), Zstd)`) for the delta of the in-memory generator to the translated
    `main` with the command `apply-delta base out`: it exits 0 and `out` holds exactly `new`. -/
theorem translated_C04_wire_mem {H : Type} [BEq H] (P : Parsers) (hU : Utf8Sound P) (hZ : P.Z.Sound)
    (strong : Bytes → H) (old new : Bytes) (bs : Nat) (hbs : 0 < bs) (hc : Delta.NoCollision strong old new bs)
    (w : World) (base_file output_file : Rs.Path)
    (hcli : w.cli.command = .ApplyDelta base_file output_file)
    (hstdin : w.stdin = ofU8 (Delta.wireSend P.Z { ops := Delta.genMem strong (Delta.checksums strong bs old) bs new,
                                                    sourceSize := new.length, blockSize := bs }))
    (hpos : w.stdinPos = 0) (hold : w.files base_file = some (ofU8 old)) (hne : base_file ≠ output_file)
    (hcr : CanCreate w output_file) :
    output (main (posix P) w) output_file = some (ofU8 new) := by
  rw [main_apply_delta_output P hU w base_file output_file _ old hcli hstdin hpos hold hne hcr,
    C04Wire.C04_wire_mem P.Z hZ strong old new bs hbs hc]
  rfl

/-- C04Wire.wire_roundtrip about the translated helper, for ANY delta: the translated `main` applies exactly the ops
    that were sent. -/
theorem translated_wire_roundtrip (P : Parsers) (hU : Utf8Sound P) (hZ : P.Z.Sound) (d : Delta.Delta)
    (w : World) (base_file output_file : Rs.Path) (old : Bytes)
    (hcli : w.cli.command = .ApplyDelta base_file output_file) (hstdin : w.stdin = ofU8 (Delta.wireSend P.Z d))
    (hpos : w.stdinPos = 0) (hold : w.files base_file = some (ofU8 old)) (hne : base_file ≠ output_file)
    (hcr : CanCreate w output_file) :
    output (main (posix P) w) output_file = (Delta.applyOps old d.ops).map ofU8 := by
  rw [main_apply_delta_output P hU w base_file output_file _ old hcli hstdin hpos hold hne hcr]
  rw [C04Wire.remoteApply_wireSend P.Z hZ]

/-- C14.receive_file_on_frame + C14.receive_file_ignores_prior about the translated helper: a zstd frame of `x` on
    stdin of `receive-file out --mtime s`, whatever `out` held before: `out` holds `x` with mtime `s` seconds. -/
theorem translated_receive_file_on_frame (P : Parsers) (hZ : P.Z.Sound) (x : Bytes) (mtime : Option Nat)
    (prior : Option Bytes) (w : World) (output_path : Rs.Path)
    (hcli : w.cli.command = .ReceiveFile output_path mtime) (hstdin : w.stdin = ofU8 (P.Z.compress x))
    (hpos : w.stdinPos = 0) (hprior : w.files output_path = prior.map ofU8) (hcr : CanReceive w output_path)
    (hut : w.denyUtime = false) :
    ∃ w', main (posix P) w = (.ok (), w') ∧ w'.files output_path = some (ofU8 x) ∧
      w'.mtime output_path = mtime.map Rs.duration_from_secs := by
  have h := main_receive_file_eq_model P w output_path mtime _ prior hcli hstdin hpos hprior hcr hut
  have hm : Compress.receiveFileOver .create P.Z prior (P.Z.compress x) mtime =
      some { content := x, mtimeSec := mtime } :=
    (C14.receive_file_ignores_prior P.Z prior (P.Z.compress x) mtime).trans (C14.receive_file_on_frame P.Z hZ x mtime)
  rw [hm] at h
  obtain ⟨w', h1, h2, h3, _⟩ := h
  exact ⟨w', h1, h2, h3⟩

/-- C14.sparse_helper_transparent_over_prior about the translated helper: what `copy_sparse_file` sends for a file
    whose regions cover its data, fed to the translated `main`, rebuilds the file over any prior content. -/
theorem translated_sparse_transparent (P : Parsers) (content : Bytes) (r : Compress.Region) (rs : List Compress.Region)
    (hcov : Compress.Covers content (r :: rs)) (prior : Option Bytes) (w : World) (output_path : Rs.Path)
    (regions : Rs.Str) (mtime : Option Nat)
    (hregions : P.utf8Encode regions = Compress.encodeRegions (r :: rs))
    (hcli : w.cli.command = .ReceiveSparseFile output_path content.length regions mtime)
    (hstdin : w.stdin = ofU8 ((r :: rs).flatMap (Compress.slice content))) (hpos : w.stdinPos = 0)
    (hprior : w.files output_path = prior.map ofU8) (hcr : CanReceive w output_path) (hut : w.denyUtime = false) :
    ∃ w', main (posix P) w = (.ok (), w') ∧ w'.files output_path = some (ofU8 content) ∧
      w'.mtime output_path = mtime.map Rs.duration_from_secs := by
  have h := main_receive_sparse_eq_model P w output_path content.length regions mtime _ prior hcli hstdin hpos hprior
    hcr hut
  have hm : Compress.receiveSparseFileOver .create prior content.length (P.utf8Encode regions)
      ((r :: rs).flatMap (Compress.slice content)) mtime = some { content := content, mtimeSec := mtime } := by
    have := Compress.receiveSparse_gather content (r :: rs) hcov
    simp only [Compress.receiveSparseFileOver, hregions, Compress.decodeRegions_encode, Compress.receiveSparseOver,
      Compress.openOutput]
    unfold Compress.receiveSparse at this
    rw [this]
  rw [hm] at h
  obtain ⟨w', h1, h2, h3, _⟩ := h
  exact ⟨w', h1, h2, h3⟩

/-! ### the hypotheses are satisfiable -/

/-- a `from_utf8` that accepts exactly 7-bit text (the least one `Utf8Sound` allows; real UTF-8 accepts more) -/
def asciiUtf8 (L Z : Compress.Codec) : Parsers where
  L := L
  Z := Z
  utf8Decode b := if b.all (fun x => x.toNat < 128) then some (b.map fun x => Char.ofNat x.toNat) else none
  utf8Encode s := s.map fun c => c.toNat.toUInt8

theorem asciiUtf8_sound (L Z : Compress.Codec) : Utf8Sound (asciiUtf8 L Z) where
  roundtrip := by
    intro b s h
    simp only [asciiUtf8] at h ⊢
    split at h
    · rename_i hb
      simp only [Option.some.injEq] at h; subst h
      rw [List.map_map]
      conv => rhs; rw [← List.map_id b]
      apply List.map_congr_left
      intro x hx
      have hx' : x.toNat < 128 := by simpa using List.all_eq_true.mp hb x hx
      have key : ∀ n, n < 128 → (Char.ofNat n).toNat = n := by decide
      simp only [Function.comp, key _ hx', id]
      exact UInt8.ofNat_toNat
    · simp at h
  ascii := by
    intro b hb
    simp only [asciiUtf8]
    rw [if_pos]
    · rfl
    · exact List.all_eq_true.mpr fun x hx => by simpa using hb x hx

example : Utf8Sound (asciiUtf8 Compress.toyL Compress.toyZ) := asciiUtf8_sound _ _

/-- a world for `sy-remote apply-delta a b` with `a ↦ old`: every hypothesis of `main_apply_delta_eq_model` holds -/
def applyWorld (old stdin : Bytes) : World :=
  { cli := ⟨.ApplyDelta ['a'] ['b']⟩, stdin := ofU8 stdin, stdinPos := 0,
    files := fun p => if p = ['a'] then some (ofU8 old) else none,
    dirs := fun _ => false, mtime := fun _ => none, denyUtime := false, opened := 0, handle := fun _ => none }

example (old stdin : Bytes) :
    (applyWorld old stdin).cli.command = .ApplyDelta ['a'] ['b'] ∧ (applyWorld old stdin).stdin = ofU8 stdin ∧
    (applyWorld old stdin).stdinPos = 0 ∧ (applyWorld old stdin).files ['a'] = some (ofU8 old) ∧
    (['a'] : Rs.Path) ≠ ['b'] ∧ CanCreate (applyWorld old stdin) ['b'] :=
  ⟨rfl, rfl, rfl, by simp [applyWorld], by decide, rfl, [], by decide, rfl⟩

/-- a world for `sy-remote receive-file d/f` (and `receive-sparse-file d/f …`) over prior content, `d` missing -/
def receiveWorld (cmd : Commands) (stdin : Bytes) (prior : Option Bytes) : World :=
  { cli := ⟨cmd⟩, stdin := ofU8 stdin, stdinPos := 0,
    files := fun p => if p = ['d', '/', 'f'] then prior.map ofU8 else none,
    dirs := fun _ => false, mtime := fun _ => none, denyUtime := false, opened := 0, handle := fun _ => none }

example (cmd : Commands) (stdin : Bytes) (prior : Option Bytes) :
    (receiveWorld cmd stdin prior).files ['d', '/', 'f'] = prior.map ofU8 ∧
    CanReceive (receiveWorld cmd stdin prior) ['d', '/', 'f'] := by
  refine ⟨by simp [receiveWorld], rfl, ['d'], by decide, ?_⟩
  intro a ha
  have : selfAndAncestors ['d'] = [['d']] := by decide
  rw [this] at ha
  simp only [List.mem_singleton] at ha
  subst ha
  simp [receiveWorld]

/-- the end-to-end statement on a concrete run: the toy codec's frame of the JSON of `[Copy 1 2, Data [9]]` applied to
    `[1, 2, 3]` by the translated `main` leaves `[2, 3, 9]` in `b`. -/
example : output (main (posix (asciiUtf8 Compress.toyL Compress.toyZ))
      (applyWorld [1, 2, 3] (Delta.wireSend Compress.toyZ { ops := [.copy 1 2, .data [9]], sourceSize := 3, blockSize := 2 })))
      ['b'] = some [2, 3, 9] := by
  rw [translated_wire_roundtrip (asciiUtf8 Compress.toyL Compress.toyZ) (asciiUtf8_sound _ _) Compress.toyZ_sound _ _ ['a'] ['b'] [1, 2, 3] rfl rfl rfl
    (by simp [applyWorld]) (by decide) ⟨rfl, [], by decide, rfl⟩]
  decide

end SyModel.Props.GenRemote
