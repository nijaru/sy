/-
  The translated hard-link hand-off `Transferrer::transfer_link_member` (`SyModel/Generated/Code/LinkMember.lean`,
  regenerated on every run from /repo/src/sync/transfer.rs) SIMULATES the labelled transition system of
  `Hardlink/Protocol.lean`, the model of property C13: one run of the generated function on `ltsExt cfg w` (the function
  run AS worker `w`; TRUSTED, described in Lemmas/GenLinkMemberLts.lean) from the top of the function or from
  `notified.await` is the model's `poll` — state, label sequence, the way it ends — from every state of the repaired
  variant; the claim's two map operations are one micro-step and a run never interleaves.  Hence schedules of generated
  polls are schedules of model polls, and the theorems of Props/C13.lean hold of them (`gen_*`).
-/
import SyModel.Lemmas.GenLinkMemberSim
import SyModel.Lemmas.GenLinkMemberScen
import SyModel.Props.C13
namespace SyModel.Props.GenLinkMemberLts
open SyModel SyModel.Hardlink SyModel.Generated SyModel.Generated.LinkMember SyModel.Lemmas.GenLinkMember
  SyModel.Lemmas.GenLinkMemberLts
open SyModel.Lemmas.GenTransfer (runM)

/-- the LTS's path identifiers (worker ids) map injectively to the unit's `Rs.Path` -/
theorem path_encoding_injective (a b : Nat) (h : encPath a = encPath b) : a = b := encPath_injective h
/-- the LTS's map values map injectively to the unit's `InodeState` (Notify identities and inode numbers are the same
    numbers on both sides) -/
theorem entry_encoding_injective (a b : Entry) (h : encEntry a = encEntry b) : a = b := by
  cases a <;> cases b <;> simp only [encEntry, InodeState.InProgress.injEq, InodeState.Completed.injEq, reduceCtorEq] at h
  · rw [encNotify_injective h]
  · rw [encPath_injective h]
/-- the errors of the operations are distinct from each other, from the blocked exit, from the desynchronisation marker
    and from the fuel's `Err(other)` -/
theorem error_encoding (a b : Op) :
    (errOf a = errOf b → a = b) ∧ errOf a ≠ blockedErr ∧ errOf a ≠ desyncErr ∧ errOf a ≠ Rs.Err.other ∧
      blockedErr ≠ desyncErr :=
  ⟨errOf_injective, by cases a <;> decide, by cases a <;> decide, by cases a <;> decide, by decide⟩

/-- Repaired variant, worker `w < cfg.n` of a link group (`linked`), no await points inside its
    transport operations, at the TOP of the function (`pc = start`) in ANY state `s` — reachable or not —, any `self`
    and `source`, any fuel ≥ 1.  ONE run of the GENERATED `transfer_link_member` on `ltsExt cfg w`, called with the
    worker's own destination path, inode and `is_update`:
    * ends in exactly the state of the model's `poll cfg s w`,
    * has logged exactly its label sequence,
    * and ends the same way: `Ok(_)` ↔ `ready ok`; `Err(errOf o)` ↔ `ready (err o)` (the error of the operation that
      failed); the blocked exit (`Err(blockedErr)`, flag set) ↔ `pending`.
    In particular the run never answers `desyncErr` (every operation was called where the LTS expects it, with the
    arguments the LTS expects) and never runs out of fuel. -/
theorem poll_eq_generated (cfg : Cfg) (hv : cfg.variant = .repaired) (s : State) (w : Nat) (hw : w < cfg.n)
    (hl : (cfg.worker w).linked = true)
    (hy : (cfg.worker w).yMkdir = 0 ∧ (cfg.worker w).yCopy = 0 ∧ (cfg.worker w).yLink = 0)
    (hpc : s.pc w = .start) (fuel : Nat) (self : Transferrer) (source : FileEntry) :
    ∃ (res : Except Rs.Err (Option TransferResult)) (b : Bool),
      runM (Transferrer.transfer_link_member (ltsExt cfg w (fuel + 1)) self source (encPath w)
          (encInode (cfg.worker w).inode) (isUpdate cfg w)) ⟨s, [], false⟩ =
        (res, ⟨(poll cfg s w).1, (poll cfg s w).2.1, b⟩) ∧
      Ended res b (poll cfg s w).2.2 := by
  obtain ⟨res, b, hrun, hend, _⟩ := genCall_sim ⟨hv, hw, hl, hy.1, hy.2.1, hy.2.2⟩ self source hpc fuel
  exact ⟨res, b, hrun [], hend⟩

/-- the same as one equation between triples (state, labels, outcome) -/
theorem poll_eq_generated' (cfg : Cfg) (hv : cfg.variant = .repaired) (s : State) (w : Nat) (hw : w < cfg.n)
    (hl : (cfg.worker w).linked = true)
    (hy : (cfg.worker w).yMkdir = 0 ∧ (cfg.worker w).yCopy = 0 ∧ (cfg.worker w).yLink = 0)
    (hpc : s.pc w = .start) (fuel : Nat) (self : Transferrer) (source : FileEntry) :
    let r := runM (Transferrer.transfer_link_member (ltsExt cfg w (fuel + 1)) self source (encPath w)
          (encInode (cfg.worker w).inode) (isUpdate cfg w)) ⟨s, [], false⟩
    (r.2.s, r.2.labels, outcome r.1 r.2.blocked) = poll cfg s w := by
  exact (genCall_sim ⟨hv, hw, hl, hy.1, hy.2.1, hy.2.2⟩ self source hpc fuel).poll_eq

/-- **resumption after a wake-up.**  The worker is suspended at `notified.await` (`pc = waiting g snap`).  Polling it
    again = polling the await and, when it completes, going round the loop: `await_notified snap` followed by the generated
    function (the loop carries no state: `Props.GenLinkMember.transfer_link_member_eq`, so what follows `continue` IS
    the function from its top).  State, labels and the way it ends are those of the model's `poll`:
    counter unchanged ⇒ still `pending`, nothing happens; counter moved ⇒ `wake`, then one full round. -/
theorem poll_eq_generated_resume (cfg : Cfg) (hv : cfg.variant = .repaired) (s : State) (w : Nat) (hw : w < cfg.n)
    (hl : (cfg.worker w).linked = true)
    (hy : (cfg.worker w).yMkdir = 0 ∧ (cfg.worker w).yCopy = 0 ∧ (cfg.worker w).yLink = 0)
    (g snap : Nat) (hpc : s.pc w = .waiting g snap) (fuel : Nat) (self : Transferrer) (source : FileEntry) :
    ∃ (res : Except Rs.Err (Option TransferResult)) (b : Bool),
      runM ((ltsExt cfg w (fuel + 1)).await_notified snap >>= fun _ =>
          Transferrer.transfer_link_member (ltsExt cfg w (fuel + 1)) self source (encPath w)
            (encInode (cfg.worker w).inode) (isUpdate cfg w)) ⟨s, [], false⟩ =
        (res, ⟨(poll cfg s w).1, (poll cfg s w).2.1, b⟩) ∧
      Ended res b (poll cfg s w).2.2 := by
  obtain ⟨res, b, hrun, hend, _⟩ := resume_sim ⟨hv, hw, hl, hy.1, hy.2.1, hy.2.2⟩ self source hpc fuel
  exact ⟨res, b, hrun [], hend⟩

set_option linter.unusedVariables false in
/-- the wake-up really goes round the loop: when the counter has moved, the resumed poll starts with `wake` and goes on
    with what a poll from the top does in the state after the wake-up.  (Of every variant and worker: only `hw`, `hpc`
    and `hc` are needed.) -/
theorem resume_goes_round (cfg : Cfg) (hv : cfg.variant = .repaired) (s : State) (w : Nat) (hw : w < cfg.n)
    (hl : (cfg.worker w).linked = true)
    (hy : (cfg.worker w).yMkdir = 0 ∧ (cfg.worker w).yCopy = 0 ∧ (cfg.worker w).yLink = 0)
    (g snap : Nat) (hpc : s.pc w = .waiting g snap) (hc : s.calls g ≠ snap) :
    poll cfg s w =
      ((poll cfg (s.apply w (cfg.worker w).inode { pc := .start }) w).1,
       .wake :: (poll cfg (s.apply w (cfg.worker w).inode { pc := .start }) w).2.1,
       (poll cfg (s.apply w (cfg.worker w).inode { pc := .start }) w).2.2) := by
  have hs : step cfg s w = some (.wake, s.apply w (cfg.worker w).inode { pc := .start }) :=
    step_of_next hw (by rw [hpc]; simp [next, hc])
  rw [poll_step hs]
  rfl

/-- the waiter's path with its labels: from the top, entry `InProgress(g)`: register, re-check, BLOCK — in this order -/
theorem waiter_blocks (cfg : Cfg) (hv : cfg.variant = .repaired) (s : State) (w : Nat) (hw : w < cfg.n)
    (hl : (cfg.worker w).linked = true)
    (hy : (cfg.worker w).yMkdir = 0 ∧ (cfg.worker w).yCopy = 0 ∧ (cfg.worker w).yLink = 0)
    (hpc : s.pc w = .start) (g : Nat) (he : s.map (cfg.worker w).inode = some (.inProgress g)) :
    (poll cfg s w).2 = ([.readInProgress g, .arm g, .recheckSame], .pending) ∧
      (poll cfg s w).1.pc w = .waiting g (s.calls g) := by
  have hm : Member cfg w := ⟨hv, hw, hl, hy.1, hy.2.1, hy.2.2⟩
  have h0 := runs_get_inProgress 1 hm hpc he
  obtain ⟨t', hr, hpc', hs⟩ := waitArm_sim 1 hm (t := s.apply w (cfg.worker w).inode { pc := .sawInProgress g })
    (apply_pc_self ..) he
  rw [poll_of_steps (h0.1.trans hr.1) (Or.inr ⟨rfl, ⟨_, _, hpc'⟩, hs⟩)]
  exact ⟨rfl, hpc'⟩

/-- **the claim's lock scope is atomic.**  Rust holds the mutex across `contains_key` and `insert`; the translation
    emits two operations.  On `ltsExt`: (1) `map_contains` answering "absent" changes NOTHING (the lock is held);
    (2) a `map_insert(InProgress)` that goes through is exactly the LTS's ONE step `claimOk` of `w` from the state the read
    saw.  (That no other worker's step comes between them, nor between any two operations, is `run_is_own_execution`.) -/
theorem claim_pair_is_one_step (cfg : Cfg) (w fuel i n : Nat) (lw lw1 lw2 : LWorld)
    (h1 : runM ((ltsExt cfg w fuel).map_contains i) lw = (.ok false, lw1))
    (h2 : runM ((ltsExt cfg w fuel).map_insert i (.InProgress n)) lw1 = (.ok (), lw2)) :
    lw1 = lw ∧ lw.s.map i = none ∧ step cfg lw.s w = some (.claimOk, lw2.s) ∧ lw2.labels = lw.labels ++ [.claimOk] := by
  have e := contains_false_holds_lock cfg w fuel i lw lw1 h1
  subst e
  obtain ⟨_, _, _, he, hs, hl, _⟩ := insert_claim_is_claimOk cfg w fuel i n lw1 lw2 h2
  exact ⟨rfl, he, hs, hl⟩

/-- **a run of the generated function on `ltsExt` is ONE worker's uninterrupted macro-step**: from every world, with
    every fuel and all arguments, the state after the run is reached by micro-steps of `w` alone (an execution of the LTS
    whose schedule is `[w, w, …, w]`) -/
theorem run_is_own_execution (cfg : Cfg) (w fuel : Nat) (self : Transferrer) (source : FileEntry) (dest : Rs.Path)
    (inode : Nat) (upd : Bool) (lw : LWorld) :
    ∃ k, Exec cfg lw.s (List.replicate k w)
      (runM (Transferrer.transfer_link_member (ltsExt cfg w fuel) self source dest inode upd) lw).2.s :=
  own_generated cfg w fuel self source dest inode upd lw

/-- no transport operation of a link-group member has an await point (the generated code has no representation of a
    pending transport future) -/
def NoYields (cfg : Cfg) : Prop :=
  ∀ v, v < cfg.n → (cfg.worker v).linked = true →
    (cfg.worker v).yMkdir = 0 ∧ (cfg.worker v).yCopy = 0 ∧ (cfg.worker v).yLink = 0

/-- a point at which a link-group member can be polled by `genPoll`: the top of the function, suspended at
    `notified.await`, or returned -/
def AtBoundary (s : State) (w : Nat) : Prop :=
  s.pc w = .start ∨ (∃ g snap, s.pc w = .waiting g snap) ∨ ∃ r, s.pc w = .done r

def Boundaries (cfg : Cfg) (s : State) : Prop :=
  ∀ v, v < cfg.n → (cfg.worker v).linked = true → AtBoundary s v

theorem boundaries_init (cfg : Cfg) : Boundaries cfg (init cfg) := by
  intro v _ _
  unfold AtBoundary init
  simp only
  split
  · exact Or.inr (Or.inr ⟨_, rfl⟩)
  · exact Or.inl rfl

theorem pollEnd_boundary {cfg : Cfg} {w : Nat} {t' : State} {out : PollOut} (h : PollEnd cfg w t' out) :
    AtBoundary t' w :=
  h.elim (fun ⟨r, _, hd⟩ => Or.inr (Or.inr ⟨r, hd⟩)) fun ⟨_, hw, _⟩ => Or.inr (Or.inl hw)

/-- **`genPoll` = `poll`** at every poll boundary, and the boundary is kept -/
theorem genPoll_eq_poll (cfg : Cfg) (hv : cfg.variant = .repaired) (hy : NoYields cfg) (fuel : Nat)
    (self : Transferrer) (source : FileEntry) (s : State) (w : Nat) (hw : w < cfg.n)
    (hb : (cfg.worker w).linked = true → AtBoundary s w) :
    genPoll cfg (fuel + 1) self source s w = poll cfg s w ∧
      ((cfg.worker w).linked = true → AtBoundary (poll cfg s w).1 w) := by
  cases hl : (cfg.worker w).linked with
  | false => exact ⟨by simp [genPoll, hl], fun h => by cases h⟩
  | true =>
    have hm : Member cfg w := ⟨hv, hw, hl, (hy w hw hl).1, (hy w hw hl).2.1, (hy w hw hl).2.2⟩
    rcases hb hl with hpc | ⟨g, snap, hpc⟩ | ⟨r, hpc⟩
    · have h := genCall_sim hm self source hpc fuel
      refine ⟨?_, fun _ => pollEnd_boundary h.pollEnd⟩
      simp only [genPoll, hl, hpc, ↓reduceIte]
      exact h.poll_eq
    · have h := resume_sim hm self source hpc fuel
      refine ⟨?_, fun _ => pollEnd_boundary h.pollEnd⟩
      simp only [genPoll, hl, hpc, ↓reduceIte]
      exact h.poll_eq
    · refine ⟨?_, fun _ => by rw [poll_done hpc]; exact Or.inr (Or.inr ⟨r, hpc⟩)⟩
      simp only [genPoll, hl, hpc, ↓reduceIte, poll_done hpc]

/-- the state after a schedule of polls, every poll of a link-group member being a run of the GENERATED function on
    `ltsExt` (`genPoll`); `src v` is the scanned entry of path `v` -/
def genSched (cfg : Cfg) (fuel : Nat) (self : Transferrer) (src : Nat → FileEntry) : State → List Nat → State
  | s, [] => s
  | s, w :: ws => genSched cfg fuel self src (genPoll cfg fuel self (src w) s w).1 ws

theorem poll_keeps_boundaries {cfg : Cfg} {s : State} {w : Nat} (hb : Boundaries cfg s)
    (hw' : (cfg.worker w).linked = true → AtBoundary (poll cfg s w).1 w) : Boundaries cfg (poll cfg s w).1 := by
  intro v hv hl
  by_cases hvw : v = w
  · subst hvw; exact hw' hl
  · obtain ⟨k, hk⟩ := poll_exec cfg s w
    have := exec_pc_other hk hvw
    unfold AtBoundary
    rw [this]
    exact hb v hv hl

/-- **a schedule of generated polls = the same schedule of model polls**, from every state whose link-group members
    are at poll boundaries (the initial state is one) -/
theorem genSched_eq_pollSched (cfg : Cfg) (hv : cfg.variant = .repaired) (hy : NoYields cfg) (fuel : Nat)
    (self : Transferrer) (src : Nat → FileEntry) :
    ∀ (ws : List Nat) (s : State), (∀ w ∈ ws, w < cfg.n) → Boundaries cfg s →
      genSched cfg (fuel + 1) self src s ws = pollSched cfg s ws ∧ Boundaries cfg (pollSched cfg s ws)
  | [], s, _, hb => ⟨rfl, hb⟩
  | w :: ws, s, hws, hb => by
    have hw := hws w (List.mem_cons_self ..)
    obtain ⟨he, hb'⟩ := genPoll_eq_poll cfg hv hy fuel self (src w) s w hw (hb w hw)
    unfold genSched pollSched
    rw [he]
    exact genSched_eq_pollSched cfg hv hy fuel self src ws _ (fun v hv => hws v (List.mem_cons_of_mem _ hv))
      (poll_keeps_boundaries hb hb')

section Carried
variable (cfg : Cfg) (hv : cfg.variant = .repaired) (hy : NoYields cfg) (fuel : Nat) (self : Transferrer)
  (src : Nat → FileEntry)
include hv hy

/-- **the transfer**: from the initial state a schedule of generated polls leaves the model's state, a reachable one, and
    there every generated poll is the model's -/
theorem gen_eq_model (ws : List Nat) (hws : ∀ w ∈ ws, w < cfg.n) :
    genSched cfg (fuel + 1) self src (init cfg) ws = pollSched cfg (init cfg) ws ∧
      Reachable cfg (pollSched cfg (init cfg) ws) ∧
      ∀ w, w < cfg.n → ∀ source, genPoll cfg (fuel + 1) self source (pollSched cfg (init cfg) ws) w =
        poll cfg (pollSched cfg (init cfg) ws) w :=
  let ⟨he, hb⟩ := genSched_eq_pollSched cfg hv hy fuel self src ws _ hws (boundaries_init cfg)
  ⟨he, (pollSched_exec cfg ws _).elim fun _ hx => reachable_exec (reachable_init cfg) hx,
    fun w hw source => (genPoll_eq_poll cfg hv hy fuel self source _ w hw (hb w hw)).1⟩

/-- every state reached by a schedule of generated polls is a reachable state of the LTS: ALL the safety theorems of
    Props/C13.lean (`single_owner`, `in_progress_is_held`, `link_structure`, `no_cross_group_sharing`, …) apply to it -/
theorem gen_run_reachable (ws : List Nat) (hws : ∀ w ∈ ws, w < cfg.n) :
    Reachable cfg (genSched cfg (fuel + 1) self src (init cfg) ws) := by
  obtain ⟨he, hr, _⟩ := gen_eq_model cfg hv hy fuel self src ws hws
  rwa [he]

/-- no generated poll makes progress any more: every worker's poll logs nothing -/
def Quiescent (s : State) : Prop :=
  ∀ w, w < cfg.n → (genPoll cfg (fuel + 1) self (src w) s w).2.1 = []

/-- **every_run_completes**, about the TRANSLATED function.  Run any schedule of polls from the initial state, each poll
    of a link-group member being a run of the generated function on `ltsExt`.  If afterwards no poll makes progress any
    more (the run is maximal), then EVERY worker's future has returned: nobody is left waiting — whatever failed, in
    whatever order the polls came. -/
theorem gen_every_run_completes (ws : List Nat) (hws : ∀ w ∈ ws, w < cfg.n)
    (hq : Quiescent cfg fuel self src (genSched cfg (fuel + 1) self src (init cfg) ws)) :
    allDone cfg (genSched cfg (fuel + 1) self src (init cfg) ws) ∧
      ∀ w, w < cfg.n → ∃ r, (genPoll cfg (fuel + 1) self (src w) (genSched cfg (fuel + 1) self src (init cfg) ws) w).2.2
        = .ready r := by
  obtain ⟨he, hr, hp⟩ := gen_eq_model cfg hv hy fuel self src ws hws
  unfold Quiescent at hq
  rw [he] at hq ⊢
  -- on the model: nobody is enabled, so the state is final, and a poll of a returned worker answers `ready`
  have hd := allDone_of_maximal (invR_reachable hv hr) fun w hw => poll_nil_not_enabled (hp w hw _ ▸ hq w hw)
  refine ⟨hd, fun w hw => ?_⟩
  rw [hp w hw]
  obtain ⟨r, hpc⟩ := Pc.eq_done_of_isDone (hd w hw)
  exact ⟨r, by rw [poll_done hpc]⟩

/-- the states of an infinite schedule `σ` of generated polls -/
def genTrace (σ : Nat → Nat) : Nat → State
  | 0 => init cfg
  | i + 1 => (genPoll cfg (fuel + 1) self (src (σ i)) (genTrace σ i) (σ i)).1

/-- every worker is polled again and again -/
def Fair (σ : Nat → Nat) : Prop := (∀ i, σ i < cfg.n) ∧ ∀ w, w < cfg.n → ∀ i, ∃ j, i ≤ j ∧ σ j = w

omit hv hy in
theorem genTrace_spec (hv : cfg.variant = .repaired) (hy : NoYields cfg) (σ : Nat → Nat) (hσ : ∀ i, σ i < cfg.n) :
    ∀ i, Boundaries cfg (genTrace cfg fuel self src σ i) ∧
      genTrace cfg fuel self src σ (i + 1) = (poll cfg (genTrace cfg fuel self src σ i) (σ i)).1
  | 0 => ⟨boundaries_init cfg,
      congrArg (·.1) (genPoll_eq_poll cfg hv hy fuel self _ _ _ (hσ 0) (boundaries_init cfg _ (hσ 0))).1⟩
  | i + 1 => by
    obtain ⟨hb, he⟩ := genTrace_spec hv hy σ hσ i
    have hb' : Boundaries cfg (genTrace cfg fuel self src σ (i + 1)) := by
      rw [he]
      exact poll_keeps_boundaries hb (genPoll_eq_poll cfg hv hy fuel self (src (σ i)) _ _ (hσ i) (hb _ (hσ i))).2
    exact ⟨hb', congrArg (·.1) (genPoll_eq_poll cfg hv hy fuel self _ _ _ (hσ (i + 1)) (hb' _ (hσ (i + 1)))).1⟩

/-- **liveness under a fair schedule**, about the TRANSLATED function: for every fair infinite schedule of polls — each
    poll of a link-group member a run of the generated function on `ltsExt` — there is a point at which every worker
    has returned. -/
theorem gen_fair_schedule_completes (σ : Nat → Nat) (hf : Fair cfg σ) :
    ∃ N, allDone cfg (genTrace cfg fuel self src σ N) :=
  fair_polls_complete hv hf.2 (reachable_init cfg) fun i => (genTrace_spec cfg fuel self src hv hy σ hf.1 i).2

/-- **owner_failure_surfaces**, about the TRANSLATED function.  After any schedule of generated polls, let the poll of
    worker `g` — a run of the generated function — return the error of the operation `o` (`ready (err o)`: the function
    answered `Err(errOf o)`).  Then after EVERY continuation of generated polls that is maximal: every worker has returned
    (no waiter of `g` is left hanging), `g`'s result is still exactly that error, and no `InProgress` entry is left in the
    map. -/
theorem gen_owner_failure_surfaces (ws : List Nat) (hws : ∀ w ∈ ws, w < cfg.n) (g : Nat) (hg : g < cfg.n) (o : Op)
    (hfail : (genPoll cfg (fuel + 1) self (src g) (genSched cfg (fuel + 1) self src (init cfg) ws) g).2.2 = .ready (.err o))
    (ws' : List Nat) (hws' : ∀ w ∈ ws', w < cfg.n)
    (hq : Quiescent cfg fuel self src (genSched cfg (fuel + 1) self src (init cfg) (ws ++ g :: ws'))) :
    allDone cfg (genSched cfg (fuel + 1) self src (init cfg) (ws ++ g :: ws')) ∧
      (genSched cfg (fuel + 1) self src (init cfg) (ws ++ g :: ws')).pc g = .done (.err o) ∧
      ∀ i g', (genSched cfg (fuel + 1) self src (init cfg) (ws ++ g :: ws')).map i ≠ some (.inProgress g') := by
  have hall : ∀ w ∈ ws ++ g :: ws', w < cfg.n := fun w hw =>
    (List.mem_append.1 hw).elim (hws w) fun h => (List.mem_cons.1 h).elim (fun h => h ▸ hg) (hws' w)
  obtain ⟨hdone, _⟩ := gen_every_run_completes cfg hv hy fuel self src _ hall hq
  obtain ⟨e1, _, p1⟩ := gen_eq_model cfg hv hy fuel self src ws hws
  obtain ⟨e2, hr, _⟩ := gen_eq_model cfg hv hy fuel self src _ hall
  rw [e1, p1 g hg] at hfail
  rw [e2] at hdone ⊢
  -- on the model: `g` has returned with that error and stays there; a final state holds no claim
  refine ⟨hdone, ?_, allDone_no_claim hv (inv_reachable hr) hdone⟩
  rw [pollSched_append]
  obtain ⟨sched, he⟩ := pollSched_exec cfg ws' (poll cfg (pollSched cfg (init cfg) ws) g).1
  have hpcg := poll_ready_pc hfail
  exact (exec_done_stable he g (by rw [hpcg]; rfl)).trans hpcg

/-- **link_structure**, about the TRANSLATED function: after ANY schedule of generated polls, two paths whose transfers
    returned `Ok` share a destination inode iff their sources do, and each has its source's content -/
theorem gen_link_structure (hwf : C13.WF cfg) (hdst : cfg.DstOk) (ws : List Nat) (hws : ∀ w ∈ ws, w < cfg.n)
    (w₁ w₂ : Nat) (hw₁ : w₁ < cfg.n) (hw₂ : w₂ < cfg.n) (ha₁ : C13.Active cfg w₁) (ha₂ : C13.Active cfg w₂)
    (hok₁ : (genSched cfg (fuel + 1) self src (init cfg) ws).pc w₁ = .done .ok)
    (hok₂ : (genSched cfg (fuel + 1) self src (init cfg) ws).pc w₂ = .done .ok) :
    ∃ f₁ f₂, (genSched cfg (fuel + 1) self src (init cfg) ws).dst w₁ = some f₁ ∧
      (genSched cfg (fuel + 1) self src (init cfg) ws).dst w₂ = some f₂ ∧
      (f₁.ino = f₂.ino ↔ (cfg.worker w₁).inode = (cfg.worker w₂).inode) ∧
      f₁.content = cfg.content (cfg.worker w₁).inode ∧ f₂.content = cfg.content (cfg.worker w₂).inode :=
  C13.link_structure cfg hwf hdst _ (gen_run_reachable cfg hv hy fuel self src ws hws) w₁ w₂ hw₁ hw₂ ha₁ ha₂ hok₁ hok₂

end Carried

/-! ## The hypotheses are satisfiable; concrete runs

  `demo` (four names of one source inode to be created; the copy of 0 and the attribute writers of 1 fail, the link of 3
  fails), `demoU` (three names to be updated), `after cfg micro` (the state after a thread-level schedule of micro-steps)
  and the kernel-checked scenarios `scen_*` (generated poll = model poll along whole schedules, with the expected label
  sequences) are in Lemmas/GenLinkMemberScen.lean. -/

theorem demo_noYields : NoYields demo := fun _ _ _ => ⟨rfl, rfl, rfl⟩
theorem demoU_noYields : NoYields demoU := fun _ _ _ => ⟨rfl, rfl, rfl⟩

/-- `poll_eq_generated`'s hypotheses hold of worker 0 of `demo` in the initial state … -/
example : demo.variant = .repaired ∧ 0 < demo.n ∧ (demo.worker 0).linked = true ∧ (init demo).pc 0 = .start :=
  ⟨rfl, by decide, rfl, rfl⟩
/-- … and the theorem applied there: the run of the generated function ends in the model's state with the model's
    labels; the model says: claim, copy fails, release, `Err(copy)` -/
example : ∃ res b,
    runM (Transferrer.transfer_link_member (ltsExt demo 0 1) default default (encPath 0) (encInode 7) false)
      ⟨init demo, [], false⟩ = (res, ⟨(poll demo (init demo) 0).1, (poll demo (init demo) 0).2.1, b⟩) ∧
    Ended res b (poll demo (init demo) 0).2.2 :=
  poll_eq_generated demo rfl (init demo) 0 (by decide) rfl ⟨rfl, rfl, rfl⟩ rfl 0 default default
example : (poll demo (init demo) 0).2 =
    ([.readNone, .claimOk, .opOk .mkdir, .opErr .copy, .remove, .notify], .ready (.err .copy)) := scen_owner_paths_labels.1
/-- a worker suspended at `notified.await` (hypothesis of `poll_eq_generated_resume`), its counter unchanged … -/
example : (after demo [0, 0, 1, 1, 1]).pc 1 = .waiting 0 0 ∧ (after demo [0, 0, 1, 1, 1]).calls 0 = 0 := ⟨rfl, rfl⟩
/-- … and moved (hypothesis `hc` of `resume_goes_round`) -/
example : (after demo [0, 0, 1, 1, 1, 0, 0, 0, 0]).pc 1 = .waiting 0 0 ∧
    (after demo [0, 0, 1, 1, 1, 0, 0, 0, 0]).calls 0 ≠ 0 := ⟨rfl, by decide⟩
/-- a state in which worker 1 is at the top and finds `InProgress(0)` (hypotheses of `waiter_blocks`) -/
example : (after demo [0, 0]).pc 1 = .start ∧ (after demo [0, 0]).map (demo.worker 1).inode = some (.inProgress 0) :=
  ⟨rfl, rfl⟩
/-- the two halves of the claim go through on a concrete world (hypotheses of `claim_pair_is_one_step`): worker 0 of
    `demo` after its first read -/
example :
    runM ((ltsExt demo 0 1).map_contains 7) ⟨after demo [0], [], false⟩ = (.ok false, ⟨after demo [0], [], false⟩) ∧
    (runM ((ltsExt demo 0 1).map_insert 7 (.InProgress 0)) ⟨after demo [0], [], false⟩).1 = .ok () :=
  ⟨rfl, rfl⟩
theorem demo_roundRobin_fair : Fair demo (fun i => i % 4) :=
  ⟨fun i => by show i % 4 < 4; omega, fun w hw i => ⟨4 * (i + 1) + w, by omega, by
    have : w < 4 := hw
    show (4 * (i + 1) + w) % 4 = w
    omega⟩⟩
example : Boundaries demo (init demo) := boundaries_init demo
example : Fair demo (fun i => i % 4) := demo_roundRobin_fair
/-- `gen_fair_schedule_completes` applied: under round-robin polling of the generated function every worker of `demo`
    returns -/
example : ∃ N, allDone demo (genTrace demo 0 default (fun _ => default) (fun i => i % 4) N) :=
  gen_fair_schedule_completes demo rfl demo_noYields 0 default _ _ demo_roundRobin_fair
/-- `Quiescent` is satisfiable: after the generated polls `[0, 1, 2, 3]` of `demo` nothing moves any more -/
example : Quiescent demo 0 default (fun _ => default)
    (genSched demo 1 default (fun _ => default) (init demo) [0, 1, 2, 3]) := by
  rw [(gen_eq_model demo rfl demo_noYields 0 default _ [0, 1, 2, 3] (by decide)).1]
  intro w hw
  have hw' : w < 4 := hw
  have : w = 0 ∨ w = 1 ∨ w = 2 ∨ w = 3 := by omega
  rcases this with rfl | rfl | rfl | rfl <;> decide
/-- the failing poll of `gen_owner_failure_surfaces` exists: worker 0 of `demo`, first poll -/
example : (genPoll demo 1 default default (genSched demo 1 default (fun _ => default) (init demo) []) 0).2.2 =
    .ready (.err .copy) := by
  show (genPoll demo (0 + 1) default default (init demo) 0).2.2 = _
  rw [(genPoll_eq_poll demo rfl demo_noYields 0 default default _ 0 (by decide) (boundaries_init demo 0 (by decide))).1]
  decide
/-- `gen_link_structure`'s hypotheses: `demoU` is well formed, its destination is a name space, and after the generated
    polls `[0, 1]` both transfers returned `Ok` -/
example : C13.WF demoU := fun _ _ _ _ _ _ => ⟨rfl, rfl⟩
theorem demoU_dstOk : demoU.DstOk :=
  ⟨fun q f _ h => by
      simp only [demoU] at h ⊢
      cases h
      show 3 ≤ (if q = 2 then 101 else 100)
      split <;> omega,
   fun _ _ _ _ _ _ hq hr _ => by cases hq; cases hr; rfl, fun _ _ _ => rfl⟩
theorem demoU_both_ok : (genSched demoU 1 default (fun _ => default) (init demoU) [0, 1]).pc 0 = .done .ok ∧
    (genSched demoU 1 default (fun _ => default) (init demoU) [0, 1]).pc 1 = .done .ok := by
  rw [(gen_eq_model demoU rfl demoU_noYields 0 default _ [0, 1] (by decide)).1]
  decide
example : (genSched demoU 1 default (fun _ => default) (init demoU) [0, 1]).pc 0 = .done .ok ∧
    (genSched demoU 1 default (fun _ => default) (init demoU) [0, 1]).pc 1 = .done .ok := demoU_both_ok
/-- … and the theorem applied: after the translated hand-off the two updated names share one inode and show the new
    content -/
example : ∃ f₁ f₂, (genSched demoU 1 default (fun _ => default) (init demoU) [0, 1]).dst 0 = some f₁ ∧
    (genSched demoU 1 default (fun _ => default) (init demoU) [0, 1]).dst 1 = some f₂ ∧
    (f₁.ino = f₂.ino ↔ (demoU.worker 0).inode = (demoU.worker 1).inode) ∧
    f₁.content = demoU.content (demoU.worker 0).inode ∧ f₂.content = demoU.content (demoU.worker 1).inode :=
  gen_link_structure demoU rfl demoU_noYields 0 default _ (fun _ _ _ _ _ _ => ⟨rfl, rfl⟩) demoU_dstOk [0, 1]
    (by decide) 0 1 (by decide) (by decide) (by simp [C13.Active, demoU]) (by simp [C13.Active, demoU])
    demoU_both_ok.1 demoU_both_ok.2

end SyModel.Props.GenLinkMemberLts
