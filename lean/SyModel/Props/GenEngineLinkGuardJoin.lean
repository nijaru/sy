/-
  GenEngineLinkGuardJoin — the predicate of the TRANSLATED link guard (`Props/GenEngineLinkGuard.holds`, repair 0e87354) read on the
  paths the engine actually builds, `destination.join(relative)`: in COMPONENT terms it holds exactly when the task's relative path
  lies STRICTLY below the replaced link's relative path and the link is still a symlink.  This ties the guard's textual test
  (`!=` and `Path::starts_with`, the latter run against std by the harness stream `prelude`) to the entry-level model's
  `FailCause.ancestor`, which is stated over component lists (`isPrefix`): `dx/a` is not below `d`, `d` is not below itself.
-/
import SyModel.Props.GenEngineLinkGuard
import SyModel.Lemmas.GenEnginePlan
namespace SyModel.Props.GenEngineLinkGuardJoin
open SyModel SyModel.Engine SyModel.Generated
open SyModel.Props.GenEngineLinkGuard
open SyModel.Lemmas.GenEnginePlan (path_starts_with_join)
open SyModel.Lemmas.GenPlannerFx (compsOf)

theorem join_injective (root a b : Rs.Path) (h : Rs.join root a = Rs.join root b) : a = b :=
  Lemmas.PathText.join_injective root h

theorem holds_join {W : Type} (ext : EngineLinkGuard.Ext W) (w : W) (task : EngineLinkGuard.SyncTask) (root a b : Rs.Path) (hb : b ≠ [])
    (hd : task.dest_path = Rs.join root a) :
    holds ext w task (Rs.join root b) =
      ((a != b && isPrefix (compsOf b) (compsOf a)) && isLink ext w (Rs.join root b)) := by
  unfold holds
  rw [hd, path_starts_with_join root a b hb]
  congr 2
  rw [Bool.eq_iff_iff]
  simp only [bne_iff_ne, ne_eq]
  constructor
  · intro h e; exact h (by rw [e])
  · intro h e; exact h (join_injective root a b e)

/-- a task whose relative path is not strictly below the link's is never held back by that link, whatever the world -/
theorem not_below_not_held {W : Type} (ext : EngineLinkGuard.Ext W) (w : W) (task : EngineLinkGuard.SyncTask) (root a b : Rs.Path) (hb : b ≠ [])
    (hd : task.dest_path = Rs.join root a) (hn : isPrefix (compsOf b) (compsOf a) = false) :
    holds ext w task (Rs.join root b) = false := by
  rw [holds_join ext w task root a b hb hd, hn]; simp

/-- non-vacuity: `d/a` below `d` under the root `dst`; `dx/a` is not -/
example : (("d/a".toList != "d".toList) && isPrefix (compsOf "d".toList) (compsOf "d/a".toList)) = true := by decide
example : isPrefix (compsOf "d".toList) (compsOf "dx/a".toList) = false := by decide

end SyModel.Props.GenEngineLinkGuardJoin
