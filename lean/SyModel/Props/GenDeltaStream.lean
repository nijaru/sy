/-
  Props.GenDeltaStream — bridge theorems for the translated `generate_delta_streaming` of unit `Delta`
  (`SyModel/Generated/Code/Delta.lean`, translated from /repo/src/delta/generator.rs:67-228; the generator sy uses
  for remote delta sync): run on the documented instance `inst strong` of its `Ext` record (the trusted first part
  of Lemmas/GenDelta.lean) it computes exactly the handwritten model `SyModel.Delta.genStream` with
  `chunk = 256 * 1024` that the C04 theorems are about; C04 restated about the TRANSLATED streaming generator.
-/
import SyModel.Lemmas.GenDeltaStream
import SyModel.Props.GenDelta
set_option autoImplicit false
namespace SyModel.Props.GenDeltaStream
open SyModel SyModel.Delta SyModel.Generated SyModel.Generated.Delta SyModel.GenDelta SyModel.GenDeltaStream
open SyModel.Generated.Rs (run_bind_ok run_bind_error)

/-- NORMAL FORM (every `Ext`), with `streamResult` written out: `source_size + 1` rounds (`iterM`) of the EFFECTFUL
    step `streamStep` — a round performs at most one effect, the refill `read`.  The only theorem about
    `generate_delta_streaming` that depends on the shape of the generated code; everything below is about
    `streamStep` / `streamResult`. -/
theorem generate_delta_streaming_normal_form {W : Type} (ext : Ext W) (p : Rs.Path) (cs : List BlockChecksum)
    (bs : Nat) :
    generate_delta_streaming ext p cs bs =
      (ext.File_open p >>= fun h => ext.h_metadata h >>= fun md =>
        if (Rs.len md == 0) = true then pure { ops := [], source_size := 0, block_size := bs }
        else
          ext.h_read h (List.replicate (256 * 1024) 0) >>= fun r1 =>
            iterM (streamStep ext (buildMap cs) h bs) (Rs.len md + 1) (streamInitA Acc.rs ext bs r1) >>= fun s =>
              pure { ops := flushG s.1 s.2.1, source_size := Rs.len md, block_size := bs }) :=
  generate_delta_streaming_nf ext p cs bs

/-- a `for _ in [0:n]` loop whose body is an effectful step with `break` is `iterM` (the loop lemma the normal form
    rests on) -/
theorem forIn_range_effectful {m : Type → Type} [Monad m] [LawfulMonad m] {σ : Type} (n : Nat) (s : σ)
    (f : Nat → σ → m (ForInStep σ)) (step : σ → m (ForInStep σ)) (h : ∀ a s, f a s = step s) :
    forIn [0:n] s f = iterM step n s :=
  forIn_range_M n s f step h

/-- the shape of a round (every `Ext`): below the loop condition it is ONE ROUND OF THE IN-MEMORY GENERATOR on the
    window (`memStep` of Lemmas/GenDelta.lean with `source_data := window`, `pos := window_pos`) followed by the refill;
    at or beyond it, `break` without effect -/
theorem streaming_round_shape {W : Type} (ext : Ext W) (cmap : Rs.HashMap Nat (List BlockChecksum)) (h bs : Nat)
    (ops : List DeltaOp) (lit window chunk_buf : List Nat) (bytes_read : Nat) (rolling : RollSt) (wpos fpos : Nat) :
    (wpos < window.length →
      streamStep ext cmap h bs (ops, lit, window, chunk_buf, bytes_read, rolling, wpos, fpos) =
        refillA Acc.rs ext h bs (stepVal (memStep ext cmap window bs (ops, lit, wpos, rolling))).1 window chunk_buf
          bytes_read (stepVal (memStep ext cmap window bs (ops, lit, wpos, rolling))).2.1
          (stepVal (memStep ext cmap window bs (ops, lit, wpos, rolling))).2.2.2
          (stepVal (memStep ext cmap window bs (ops, lit, wpos, rolling))).2.2.1
          (fposOf Acc.rs ext cmap bs window ops lit rolling wpos fpos)) ∧
    (window.length ≤ wpos →
      streamStep ext cmap h bs (ops, lit, window, chunk_buf, bytes_read, rolling, wpos, fpos) =
        pure (ForInStep.done (ops, lit, window, chunk_buf, bytes_read, rolling, wpos, fpos))) :=
  ⟨fun hlt => streamStepA_eq Acc.rs ext cmap h bs window chunk_buf bytes_read ops lit rolling wpos fpos hlt,
   fun hge => streamStepA_done Acc.rs ext cmap h bs _ hge⟩

/-- ONE ROUND = `srefill ∘ sbody`: from a code state that represents the model state `st` (`strSt`: the window
    buffer `win` still holds the `st.wpos` consumed bytes, `win.drop st.wpos = st.wrest`; accumulators reversed;
    handle position `pos` with `st.fileRest = new.drop pos`), a round of the translated loop succeeds and arrives
    at a code state that represents `srefill bs (256 * 1024) (sbody … st x tl)`; only the handle position moved. -/
theorem streaming_round_eq_model (strong : Bytes → Nat) (cs : List BlockChecksum) (w0 : DWorld) (h : Nat)
    (p : Rs.Path) (new : Bytes) (hfile : w0.files p = some new) (pos bs : Nat) (win : Bytes) (cbuf : List Nat)
    (hcb : cbuf.length = 256 * 1024) (fpos : Nat) (st : SSt) (hrep : Rep win st) (hfr : st.fileRest = new.drop pos)
    (x : UInt8) (tl : Bytes) (hw : st.wrest = x :: tl) :
    ∃ win' cbuf' fpos' pos',
      streamStep (inst strong) (buildMap cs) h bs (strSt bs win cbuf fpos st) (w0.setPos h p pos) =
        (.ok (.yield (strSt bs win' cbuf' fpos'
          (srefill bs (256 * 1024) (sbody strong (cs.map absBlock) bs st x tl)))), w0.setPos h p pos') ∧
      Rep win' (srefill bs (256 * 1024) (sbody strong (cs.map absBlock) bs st x tl)) ∧ cbuf'.length = 256 * 1024 ∧
      (srefill bs (256 * 1024) (sbody strong (cs.map absBlock) bs st x tl)).fileRest = new.drop pos' := by
  obtain ⟨win', cbuf', fpos', pos', h1, hR⟩ := step_inst strong cs bs hfile h ⟨hrep, hcb, hfr⟩ fpos x tl hw
  exact ⟨win', cbuf', fpos', pos', h1, hR.toRep, hR.cbuf, hR.file⟩

/-- FUEL + LOOP INVARIANT.  From a code state that represents the model state `st`, EVERY fuel
    `≥ |st.wrest| + |st.fileRest|` gives the same final state: the loop has stopped by its own condition
    (`window.len() ≤ window_pos`), so the bounded `for … break` is the Rust `while`; the flushed ops are the model's
    `genStreamGo st`.  Every round consumes at least one byte of `wrest ++ fileRest` (`sbody_measure`, needs
    `0 < bs`) and the window only ever holds bytes of the file, so at the call, where `|wrest| + |fileRest| = |new|
    = source_size`, the `source_size + 1` rounds of the translation are enough (one more than needed). -/
theorem streaming_fuel_sufficient (strong : Bytes → Nat) (cs : List BlockChecksum) (bs : Nat) (hbs : 0 < bs)
    (w0 : DWorld) (h : Nat) (p : Rs.Path) (new : Bytes) (hfile : w0.files p = some new) (st : SSt) (pos : Nat)
    (win : Bytes) (cbuf : List Nat) (fpos : Nat) (hrep : Rep win st) (hcb : cbuf.length = 256 * 1024)
    (hfr : st.fileRest = new.drop pos) :
    ∃ s' pos',
      (∀ fuel, st.wrest.length + st.fileRest.length ≤ fuel →
        iterM (streamStep (inst strong) (buildMap cs) h bs) fuel (strSt bs win cbuf fpos st) (w0.setPos h p pos) =
          (.ok s', w0.setPos h p pos')) ∧
      flushG s'.1 s'.2.1 = (genStreamGo strong (cs.map absBlock) bs (256 * 1024) hbs st).map repOp ∧
      s'.2.2.1.length ≤ s'.2.2.2.2.2.2.1 :=
  streamLoop_eq strong cs bs hfile h hbs st ⟨hrep, hcb, hfr⟩ fpos

/-- a missing source file: the `File::open` error, nothing changes -/
theorem generate_delta_streaming_missing (strong : Bytes → Nat) (w : DWorld) (p : Rs.Path) (hfile : w.files p = none)
    (cs : List BlockChecksum) (bs : Nat) :
    generate_delta_streaming (inst strong) p cs bs w = (.error .io, w) := by
  rw [generate_delta_streaming_nf, streamResult, streamResultA,
    run_bind_error (open_inst_none strong hfile)]

/-- an empty source file: no op, as the model says (`genStream … [] = some []`); the file contents are unchanged -/
theorem generate_delta_streaming_empty (strong : Bytes → Nat) (w : DWorld) (p : Rs.Path) (hfile : w.files p = some [])
    (cs : List BlockChecksum) (bs : Nat) (hbs : 0 < bs) :
    generate_delta_streaming (inst strong) p cs bs w =
      (.ok { ops := [], source_size := 0, block_size := bs },
       { w with opened := w.opened + 1, handle := upd w.handle (w.opened + 1) (some (p, 0)) }) ∧
    (genStream strong (cs.map absBlock) bs (256 * 1024) []).map (·.map repOp) = some [] := by
  constructor
  · have hfile' : ({ w with opened := w.opened + 1 } : DWorld).files p = some [] := hfile
    rw [generate_delta_streaming_nf, streamResult, streamResultA,
      run_bind_ok (open_inst strong hfile), run_bind_ok (metadata_inst strong hfile' _ 0)]
    rfl
  · rw [genStream_nil _ _ _ _ hbs]
    rfl

/-- **`generate_delta_streaming` = model.**  For every world in which `p` is a regular file with content `new`,
    every list of checksums and every `0 < block_size` (NO upper bound on `block_size` is needed for this
    equality: the model has the same defect as the code for `block_size > CHUNK_SIZE`, see
    `genStream_counterexample_bs_gt_chunk`), the translated `generate_delta_streaming` on the instance succeeds with
    exactly the model's op list for `chunk = 256 * 1024` (literal boundaries included), `source_size = |new|`,
    `block_size`; afterwards the world is what it was plus one open handle at some position. -/
theorem generate_delta_streaming_eq_model (strong : Bytes → Nat) (w : DWorld) (p : Rs.Path) (new : Bytes)
    (hfile : w.files p = some new) (cs : List BlockChecksum) (bs : Nat) (hbs : 0 < bs) :
    ∃ ops pos, genStream strong (cs.map absBlock) bs (256 * 1024) new = some ops ∧
      generate_delta_streaming (inst strong) p cs bs w =
        (.ok { ops := ops.map repOp, source_size := new.length, block_size := bs },
         { w with opened := w.opened + 1, handle := upd w.handle (w.opened + 1) (some (p, pos)) }) := by
  by_cases hne : new = []
  · subst hne
    exact ⟨[], 0, genStream_nil _ _ _ _ hbs, (generate_delta_streaming_empty strong w p hfile cs bs hbs).1⟩
  · refine ⟨genStreamGo strong (cs.map absBlock) bs (256 * 1024) hbs (sinit bs (256 * 1024) new), ?_⟩
    obtain ⟨pos, hrun⟩ := streamResult_inst strong cs bs hbs hfile hne
    exact ⟨pos, by unfold genStream; rw [dif_pos hbs], by rw [generate_delta_streaming_nf, hrun]⟩

/-- the file contents are never changed (with or without the file) -/
theorem generate_delta_streaming_files_unchanged (strong : Bytes → Nat) (w : DWorld) (p : Rs.Path)
    (cs : List BlockChecksum) (bs : Nat) (hbs : 0 < bs) :
    (generate_delta_streaming (inst strong) p cs bs w).2.files = w.files := by
  cases hfile : w.files p with
  | none => rw [generate_delta_streaming_missing strong w p hfile]
  | some new =>
    obtain ⟨ops, pos, -, h⟩ := generate_delta_streaming_eq_model strong w p new hfile cs bs hbs
    rw [h]

/-! ### C04 about the TRANSLATED streaming generator -/

/-- **C04 (streaming generator), translated.**  Under `NoCollision` (as in `Props/C04`), `0 < bs` and
    `bs ≤ CHUNK_SIZE = 256 * 1024` (the model's `bs ≤ chunk`; sy's block sizes are `≤ 128 KiB`,
    `C04.consts_ok_chunk`): running the translated `generate_delta_streaming` on the checksums of `old` succeeds,
    leaves all file contents as they were, and applying the ops it returns to `old` gives exactly `new`. -/
theorem translated_genStream_reconstructs (strong : Bytes → Nat) (w : DWorld) (p : Rs.Path) (old new : Bytes)
    (hfile : w.files p = some new) (cs : List BlockChecksum) (bs : Nat)
    (hcs : cs.map absBlock = checksums strong bs old) (hbs : 0 < bs) (hchunk : bs ≤ 256 * 1024)
    (hc : NoCollision strong old new bs) :
    ∃ d w', generate_delta_streaming (inst strong) p cs bs w = (.ok d, w') ∧ w'.files = w.files ∧
      d.source_size = new.length ∧ d.block_size = bs ∧
      applyOps old (d.ops.map absOp) = some new := by
  obtain ⟨ops, pos, hm, hrun⟩ := generate_delta_streaming_eq_model strong w p new hfile cs bs hbs
  refine ⟨_, _, hrun, rfl, rfl, rfl, ?_⟩
  simp only [GenDelta.absOps_repOps]
  obtain ⟨ops', h1, h2⟩ := C04.genStream_reconstructs strong old new bs (256 * 1024) hbs hchunk hc
  rw [hcs, h1] at hm
  cases hm
  exact h2

/-- every `Copy` the translated `generate_delta_streaming` returns references a range inside `old` -/
theorem translated_streaming_copies_in_range (strong : Bytes → Nat) (w : DWorld) (p : Rs.Path) (old new : Bytes)
    (hfile : w.files p = some new) (cs : List BlockChecksum) (bs : Nat)
    (hcs : cs.map absBlock = checksums strong bs old) (hbs : 0 < bs) (hchunk : bs ≤ 256 * 1024)
    (hc : NoCollision strong old new bs) :
    ∃ d w', generate_delta_streaming (inst strong) p cs bs w = (.ok d, w') ∧
      ∀ off sz, DeltaOp.Copy off sz ∈ d.ops → sz = 0 ∨ off + sz ≤ old.length := by
  obtain ⟨d, w', hrun, -, -, -, happ⟩ :=
    translated_genStream_reconstructs strong w p old new hfile cs bs hcs hbs hchunk hc
  exact ⟨d, w', hrun, copies_of_apply happ⟩

/-- Rust panics on `&v[a..b]` with `a > b` or `b > len`, on `&v[a..]` with `a > len` and on `v[i]` with `i ≥ len`;
    the Prelude's `Rs.slice`, `Rs.slice_from`, `Rs.index` are total.  For EVERY `Ext` whose `read` keeps the
    contract of `Read::read` (`n ≤ buf.len()`, `ReadOK`), every path, checksum list, block size and WORLD, replacing
    the three accessors by functions that answer ANYTHING outside those ranges (`Acc.InRange`) does not change what
    `generate_delta_streaming` computes (result AND final world): every slice and index it evaluates is in range.
    Unlike `generate_delta` this needs neither `0 < bs` nor an invariant: each access is guarded by the loop
    condition or by a test in the same round, `&chunk_buf[..bytes_read]` by the contract of `read`. -/
theorem generate_delta_streaming_accesses_in_range {W : Type} (A : Acc) (hA : A.InRange) (ext : Ext W)
    (hread : ReadOK ext) (p : Rs.Path) (cs : List BlockChecksum) (bs : Nat) (w : W) :
    streamResultA A ext p cs bs w = generate_delta_streaming ext p cs bs w := by
  rw [generate_delta_streaming_nf]
  exact streamResultA_inRange A hA ext bs hread p cs w

/-- … per round, from ANY state in ANY world -/
theorem generate_delta_streaming_step_in_range {W : Type} (A : Acc) (hA : A.InRange) (ext : Ext W)
    (hread : ReadOK ext) (cmap : Rs.HashMap Nat (List BlockChecksum)) (h bs : Nat) (s : StSt) (w : W) :
    streamStepA A ext cmap h bs s w = streamStep ext cmap h bs s w :=
  streamStepA_inRange A hA ext cmap h bs hread s w

/-- … in particular on the instance (its `read` keeps the contract) -/
theorem generate_delta_streaming_accesses_in_range_inst (A : Acc) (hA : A.InRange) (strong : Bytes → Nat)
    (p : Rs.Path) (cs : List BlockChecksum) (bs : Nat) (w : DWorld) :
    streamResultA A (inst strong) p cs bs w = generate_delta_streaming (inst strong) p cs bs w :=
  generate_delta_streaming_accesses_in_range A hA (inst strong) (readOK_inst strong) p cs bs w

/-- `window.drain(0..window_pos)` (panics for `window_pos > window.len()`) is in range as well: in every code state
    that represents a model state the consumed prefix lies inside the window buffer -/
theorem streaming_drain_in_range (win : Bytes) (st : SSt) (hrep : Rep win st) (bs : Nat) (cbuf : List Nat)
    (fpos : Nat) : (strSt bs win cbuf fpos st).2.2.2.2.2.2.1 ≤ (strSt bs win cbuf fpos st).2.2.1.length := by
  simpa [strSt] using hrep.wpos


/-! ### `block_size > CHUNK_SIZE`: why `bs ≤ chunk` is a hypothesis of the C04 corollaries (not of the bridge) -/

/-- The MODEL with `chunk = 2 < bs = 3` on the three-byte file `[1, 2, 3]`, no checksums: the first window `[1, 2]`
    is consumed through the partial branch / literal steps, `window_pos = 2 < bs` so the refill never fires, the loop
    ends with the third byte unread: the delta is `[Data [1, 2]]` and reconstructs `[1, 2] ≠ new`.  By
    `generate_delta_streaming_eq_model` (which needs no bound on `bs`) the translated code does the same thing with
    `chunk = 256 * 1024`: for `block_size > 256 KiB` and a file longer than 256 KiB the Rust function returns `Ok`
    with a delta that silently drops everything after the first chunk (`source_size` still says `|new|`).
    Unreachable from sy (`calculate_block_size ≤ 128 KiB`, `C04.consts_ok_chunk`); library level only. -/
theorem genStream_counterexample_bs_gt_chunk :
    genStream (fun _ => (0 : Nat)) [] 3 2 [1, 2, 3] = some [Op.data [1, 2]] ∧
      applyOps [] [Op.data [1, 2]] = some [1, 2] := by
  constructor
  · unfold genStream
    rw [dif_pos (by decide), genStreamGo]
    simp [sinit, sbody, srefill, hasAtLeast, findPartial]
    rw [genStreamGo]
    simp [sbody, srefill, hasAtLeast, findPartial]
    rw [genStreamGo]
    simp [flush]
  · simp [applyOps]

/-! ### non-vacuity of the hypotheses -/

/-- `w.files p = some new`, `0 < bs`: a world and a call (`w0` of Props/GenDelta: one file `f` holding the byte 7);
    the theorem computes the delta -/
example : ∃ pos, generate_delta_streaming (inst (fun _ => 0)) ['f'] [] 3 GenDelta.w0 =
    (.ok { ops := [DeltaOp.Data [7]], source_size := 1, block_size := 3 },
     { GenDelta.w0 with opened := 1, handle := upd GenDelta.w0.handle 1 (some (['f'], pos)) }) := by
  obtain ⟨ops, pos, hm, hrun⟩ := generate_delta_streaming_eq_model (fun _ => 0) GenDelta.w0 ['f'] [7] (by simp [GenDelta.w0]) [] 3
    (by decide)
  refine ⟨pos, ?_⟩
  rw [hrun]
  have : ops = [Op.data [7]] := by
    unfold genStream at hm
    rw [dif_pos (by decide), genStreamGo] at hm
    simp [sinit, sbody, srefill, hasAtLeast, findPartial] at hm
    rw [genStreamGo] at hm
    simp [flush] at hm
    exact hm.symm
  subst this
  simp [repOp, ofU8, GenDelta.w0]

/-- `bs ≤ 256 * 1024` together with `0 < bs`: every block size sy computes (`BLOCK_SIZE_MIN … BLOCK_SIZE_MAX`) -/
example (bs : Nat) (h1 : Generated.BLOCK_SIZE_MIN ≤ bs) (h2 : bs ≤ Generated.BLOCK_SIZE_MAX) :
    0 < bs ∧ bs ≤ 256 * 1024 :=
  ⟨Nat.lt_of_lt_of_le C04.consts_ok_block_min h1, Nat.le_trans h2 C04.consts_ok_chunk⟩

/-- `cs.map absBlock = checksums strong bs old` is satisfiable for every `old`: take `repBlock` of the model's list -/
example (strong : Bytes → Nat) (bs : Nat) (old : Bytes) :
    ((checksums strong bs old).map (repBlock bs)).map absBlock = checksums strong bs old := by
  rw [List.map_map]; exact List.map_id _

/-- `NoCollision` holds for every pair of files when the strong hash is injective -/
example (strong : Bytes → Nat) (hinj : ∀ a b, strong a = strong b → a = b) (old new : Bytes) (bs : Nat) :
    NoCollision strong old new bs :=
  noCollision_of_injective strong hinj old new bs

/-- `Acc.InRange` is satisfied by accessors that answer garbage out of range (`garbage` of Props/GenDelta), and
    `ReadOK` by the instance -/
example (strong : Bytes → Nat) (p : Rs.Path) (cs : List BlockChecksum) (bs : Nat) (w : DWorld) :
    streamResultA GenDelta.garbage (inst strong) p cs bs w = generate_delta_streaming (inst strong) p cs bs w :=
  generate_delta_streaming_accesses_in_range_inst _ GenDelta.garbage_inRange strong p cs bs w

/-- `Rep win st`, `cbuf.length = 256 * 1024`, `st.fileRest = new.drop pos`, `st.wrest = x :: tl`: the state at the
    call (`sinit`) of a non-empty file satisfies them -/
example (bs : Nat) (x : UInt8) (tl : Bytes) :
    Rep ((x :: tl).take (256 * 1024)) (sinit bs (256 * 1024) (x :: tl)) ∧
      (sinit bs (256 * 1024) (x :: tl)).fileRest = (x :: tl).drop ((x :: tl).take (256 * 1024)).length ∧
      (sinit bs (256 * 1024) (x :: tl)).wrest = x :: tl.take (256 * 1024 - 1) ∧
      (List.replicate (256 * 1024) (0 : Nat)).length = 256 * 1024 := by
  have hR := repC_sinit bs (256 * 1024) (x :: tl) _ (List.length_replicate (n := 256 * 1024) (a := 0))
  exact ⟨hR.toRep, hR.file, by simp [sinit], List.length_replicate⟩

/-- `w.files p = some []` (streaming, empty file) is satisfiable -/
example : (generate_delta_streaming (inst (fun _ => 0)) ['e'] [] 3
    { files := fun p => if p = ['e'] then some [] else none, opened := 0, handle := fun _ => none }).1 =
    .ok { ops := [], source_size := 0, block_size := 3 } := by
  rw [(generate_delta_streaming_empty (fun _ => 0) _ ['e'] (by simp) [] 3 (by decide)).1]

end SyModel.Props.GenDeltaStream
