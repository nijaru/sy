/-
  GenScanner — `StreamingScanner::next` (src/sync/scanner.rs:254-343) with `detect_sparse_file` and `detect_hardlink_info`,
  TRANSLATED on every run into `SyModel/Generated/Code/Scanner.lean`.  The directory walk (`ext.walker_next`), `read_link`,
  the xattr / ACL reads are operations of a world `W`; everything is proved about the translated `scanner_next` for ANY
  instance `ext : Ext W` (the non-vacuity section at the end fixes one).

  The translated `next` is `iter`: the rounds of the Rust `loop`, each a function `round` of the walker's answer
  (Lemmas/GenScanner); the fuel that bounds the translation matters only when the walker answers the root `fuel` times in a
  row.  Every entry answered as `some (.ok fe)` has an `Origin`: the walker answer, its metadata and the world in which
  `read_link` was asked, with all fields of `fe` read off them.  No listed entry has the relative path "." when its path
  text is clean (`noDotTail`) — the assumption `∀ f ∈ files, f.relative_path ≠ rootKey` of
  `GenEngineCache.record_scan_keeps_root_absent` (connected in Props/GenScannerCache).
-/
import SyModel.Lemmas.GenScanner
namespace SyModel.Props.GenScanner
open SyModel.Generated SyModel.Generated.Scanner SyModel.Lemmas.GenScanner

/-! ### `round`, case by case -/

/-- the walker is exhausted: `next` answers `None` -/
theorem round_none {W : Type} (ext : Ext W) (self : StreamingScanner) : round ext self none = pure (some none) := rfl

/-- the walker reports an error: `Some(Err(Io))` -/
theorem round_walker_error {W : Type} (ext : Ext W) (self : StreamingScanner) (e : Rs.Err) :
    round ext self (some (.error e)) = pure (some (some (.error Rs.Err.io))) := rfl

/-- the root itself: the round `continue`s, no operation is performed -/
theorem round_root {W : Type} (ext : Ext W) (self : StreamingScanner) (de : DirEntry) (h : de.path = self.root) :
    round ext self (some (.ok de)) = pure none := by
  have : (de.path == self.root) = true := by simp [h]
  simp only [round, this, if_true]

/-- `DirEntry::metadata` fails: `Some(Err(ReadDirError))` -/
theorem round_md_error {W : Type} (ext : Ext W) (self : StreamingScanner) (de : DirEntry) (e : Rs.Err)
    (h : de.path ≠ self.root) (hmd : de.md = .error e) :
    round ext self (some (.ok de)) = pure (some (some (.error Rs.Err.io))) := by
  have : (de.path == self.root) = false := by simpa using h
  simp only [round, this, hmd, Bool.false_eq_true, if_false]

/-- `strip_prefix` fails: `Some(Err(InvalidPath))` -/
theorem round_strip_error {W : Type} (ext : Ext W) (self : StreamingScanner) (de : DirEntry) (md : SMeta) (e : Rs.Err)
    (h : de.path ≠ self.root) (hmd : de.md = .ok md) (hs : Rs.strip_prefix de.path self.root = .error e) :
    round ext self (some (.ok de)) = pure (some (some (.error Rs.Err.other))) := by
  have : (de.path == self.root) = false := by simpa using h
  simp only [round, this, hmd, hs, Bool.false_eq_true, if_false]

/-- otherwise: the operations of `entryTail` in program order (`read_link` for a symlink only, xattrs, ACLs), then
    `Some(Ok(mkEntry ..))` — or `Some(Err(ReadDirError))` when the modification time cannot be read -/
theorem round_entry {W : Type} (ext : Ext W) (self : StreamingScanner) (de : DirEntry) (md : SMeta) (rel : Rs.Path)
    (h : de.path ≠ self.root) (hmd : de.md = .ok md) (hs : Rs.strip_prefix de.path self.root = .ok rel) :
    round ext self (some (.ok de)) = entryTail ext de.path rel md >>= fun r => pure (some (some r)) := by
  have : (de.path == self.root) = false := by simpa using h
  simp only [round, this, hmd, hs, Bool.false_eq_true, if_false]

theorem entryTail_eq {W : Type} (ext : Ext W) (path rel : Rs.Path) (md : SMeta) :
    entryTail ext path rel md =
      ((if md.is_symlink = true then Rs.capture (ext.std_fs_read_link path) >>= fun r => pure (Rs.ok r) else pure none) >>=
        fun tgt => ext.read_xattrs path >>= fun xa => ext.read_acls path >>= fun acl =>
          match md.mtime with
          | .ok t => pure (.ok (mkEntry path rel md tgt xa acl (ext.read_bsd_flags md) t))
          | .error _ => pure (.error Rs.Err.io)) := rfl

/-- **the translated `next` is the rounds iterated up to the fuel** (out of fuel: `Rs.Err.other`) -/
theorem scanner_next_eq_iter {W : Type} (ext : Ext W) (self : StreamingScanner) :
    scanner_next ext self = iter ext self ext.fuel := scanner_next_nf ext self

theorem iter_zero {W : Type} (ext : Ext W) (self : StreamingScanner) : iter ext self 0 = throw Rs.Err.other := rfl
theorem iter_succ {W : Type} (ext : Ext W) (self : StreamingScanner) (n : Nat) :
    iter ext self (n + 1) = (ext.walker_next () >>= round ext self) >>= fun r => match r with
      | some a => pure a
      | none => iter ext self n := rfl

/-- the same operations with another fuel -/
def withFuel {W : Type} (ext : Ext W) (f : Nat) : Ext W := { ext with fuel := f }

theorem step_withFuel {W : Type} (ext : Ext W) (self : StreamingScanner) (f : Nat) :
    step (withFuel ext f) self = step ext self := rfl

theorem iter_withFuel {W : Type} (ext : Ext W) (self : StreamingScanner) (f n : Nat) :
    iter (withFuel ext f) self n = iter ext self n := by
  induction n with
  | zero => rfl
  | succ n ih => simp only [iter, step_withFuel, ih]

theorem decidedWithin_withFuel {W : Type} (ext : Ext W) (self : StreamingScanner) (f n : Nat) (w : W) :
    decidedWithin (withFuel ext f) self n w = decidedWithin ext self n w := by
  induction n generalizing w with
  | zero => rfl
  | succ n ih => simp only [decidedWithin, step_withFuel, ih]

/-- **fuel sufficiency**: if one of the first `n` rounds from `w` decides (does not `continue`), every fuel `≥ n` gives the
    same result and the same world -/
theorem scanner_next_fuel_irrelevant {W : Type} (ext : Ext W) (self : StreamingScanner) (n f1 f2 : Nat) (w : W)
    (h : decidedWithin ext self n w = true) (h1 : n ≤ f1) (h2 : n ≤ f2) :
    runM (scanner_next (withFuel ext f1) self) w = runM (scanner_next (withFuel ext f2) self) w := by
  rw [scanner_next_nf, scanner_next_nf, iter_withFuel, iter_withFuel]
  show runM (iter ext self f1) w = runM (iter ext self f2) w
  rw [iter_fuel_irrelevant ext self n f1 w h h1, iter_fuel_irrelevant ext self n f2 w h h2]

theorem decidedWithin_of_skips {W : Type} (ext : Ext W) (self : StreamingScanner) (k m : Nat) (w w1 : W)
    (hs : Skips ext self k w w1) : decidedWithin ext self (k + m) w = decidedWithin ext self m w1 := by
  induction hs with
  | zero w => simp
  | succ de hw hroot rest ih =>
    rename_i k w w1 w2
    have : runM (step ext self) w = (.ok none, w1) := (step_skip_iff ext self w w1).mpr ⟨de, hw, hroot⟩
    rw [show k + 1 + m = (k + m) + 1 by omega, decidedWithin, this]
    exact ih

/-- a round in which the walker answers `none`, an error, or an entry other than the root decides -/
theorem step_decides_of_non_root {W : Type} (ext : Ext W) (self : StreamingScanner) (w w1 : W)
    (ans : Option (Except Rs.Err DirEntry)) (hw : runM (ext.walker_next ()) w = (.ok ans, w1))
    (hnr : ∀ de, ans = some (.ok de) → de.path ≠ self.root) (w2 : W) : runM (step ext self) w ≠ (.ok none, w2) := by
  intro h
  obtain ⟨de, h1, h2⟩ := (step_skip_iff ext self w w2).mp h
  rw [hw] at h1
  injection h1 with h1 _; injection h1 with h1
  exact hnr de h1 h2

/-- **fuel sufficiency, in terms of the walker**: if after `k` answers "the root itself" the walker answers anything else
    (`none`, an error, an entry with another path), every fuel above `k` gives the same result and the same world -/
theorem scanner_next_fuel_irrelevant_of_walker {W : Type} (ext : Ext W) (self : StreamingScanner) (k f1 f2 : Nat) (w w1 w2 : W)
    (ans : Option (Except Rs.Err DirEntry)) (hs : Skips ext self k w w1)
    (hw : runM (ext.walker_next ()) w1 = (.ok ans, w2)) (hnr : ∀ de, ans = some (.ok de) → de.path ≠ self.root)
    (h1 : k < f1) (h2 : k < f2) :
    runM (scanner_next (withFuel ext f1) self) w = runM (scanner_next (withFuel ext f2) self) w := by
  refine scanner_next_fuel_irrelevant ext self (k + 1) f1 f2 w ?_ h1 h2
  rw [decidedWithin_of_skips ext self k 1 w w1 hs, decidedWithin]
  have hd := step_decides_of_non_root ext self w1 w2 ans hw hnr
  rcases hstep : runM (step ext self) w1 with ⟨e | r, w3⟩
  · rfl
  · cases r with
    | some a => rfl
    | none => exact absurd hstep (hd w3)

/-- explicit form: after `k < fuel` answers "the root itself" (worlds `w … w1`), a round that answers `a` makes `a` the result
    of `next` — the fuel does not occur in the result -/
theorem scanner_next_answer_after_skips {W : Type} (ext : Ext W) (self : StreamingScanner) (k : Nat) (w w1 w2 : W) (a : Answer)
    (hs : Skips ext self k w w1) (hk : k < ext.fuel) (hstep : runM (step ext self) w1 = (.ok (some a), w2)) :
    runM (scanner_next ext self) w = (.ok a, w2) := by
  rw [scanner_next_nf]; exact iter_decided_after_skips ext self k ext.fuel w w1 w2 (.ok a) hs hk hstep

theorem scanner_next_error_after_skips {W : Type} (ext : Ext W) (self : StreamingScanner) (k : Nat) (w w1 w2 : W) (e : Rs.Err)
    (hs : Skips ext self k w w1) (hk : k < ext.fuel) (hstep : runM (step ext self) w1 = (.error e, w2)) :
    runM (scanner_next ext self) w = (.error e, w2) := by
  rw [scanner_next_nf]; exact iter_decided_after_skips ext self k ext.fuel w w1 w2 (.error e) hs hk hstep

/-- **fuel exhaustion**: when the walker answers the root `ext.fuel` times in a row, the translation throws
    `Rs.Err.other` where the Rust `loop` would go on -/
theorem scanner_next_exhausted {W : Type} (ext : Ext W) (self : StreamingScanner) (w w1 : W)
    (hs : Skips ext self ext.fuel w w1) : runM (scanner_next ext self) w = (.error Rs.Err.other, w1) := by
  rw [scanner_next_nf]; exact skips_exhausted ext self ext.fuel w w1 hs

/-- **`detect_sparse_file`**: sparse iff the size exceeds 4096 and the allocated bytes are below `size - 4096` -/
theorem detect_sparse_file_iff (p : Rs.Path) (md : SMeta) :
    (detect_sparse_file p md).1 = true ↔ md.size > 4096 ∧ md.blocks * 512 < md.size - 4096 := by
  rw [detect_sparse_file_eq]; simp

theorem detect_sparse_file_allocated (p : Rs.Path) (md : SMeta) : (detect_sparse_file p md).2 = md.blocks * 512 := rfl

theorem detect_sparse_file_path_irrelevant (p q : Rs.Path) (md : SMeta) : detect_sparse_file p md = detect_sparse_file q md := rfl

theorem detect_hardlink_info_eq (md : SMeta) : detect_hardlink_info md = (some md.ino, md.nlink) := rfl

/-- `fe` is answered by `next` in some world -/
def Listed {W : Type} (ext : Ext W) (self : StreamingScanner) (fe : FileEntry) : Prop :=
  ∃ w w', runM (scanner_next ext self) w = (.ok (some (.ok fe)), w')

/-- where a listed entry comes from: `de` is what the walker answered (leaving the world `w1`), `md` its metadata -/
structure Origin {W : Type} (ext : Ext W) (sc : StreamingScanner) (fe : FileEntry) (de : DirEntry) (md : SMeta) (w1 : W) :
    Prop where
  walker : ∃ w0, runM (ext.walker_next ()) w0 = (.ok (some (.ok de)), w1)
  path_eq : fe.path = de.path
  md_ok : de.md = .ok md
  /-- the root itself is never listed -/
  path_ne_root : fe.path ≠ sc.root
  relative_path : Rs.strip_prefix fe.path sc.root = .ok fe.relative_path
  is_dir : fe.is_dir = md.is_dir
  size : fe.size = md.size
  is_symlink : fe.is_symlink = md.is_symlink
  nlink : fe.nlink = md.nlink
  inode : fe.inode = some md.ino
  modified : md.mtime = .ok fe.modified
  bsd_flags : fe.bsd_flags = ext.read_bsd_flags md
  target_none : fe.is_symlink = false → fe.symlink_target = none
  /-- `read_link` is asked in the world right after the walker's answer -/
  target_link : fe.is_symlink = true → fe.symlink_target = Rs.ok (runM (ext.std_fs_read_link fe.path) w1).1
  sparse_iff : fe.is_sparse = true ↔
    fe.is_dir = false ∧ fe.is_symlink = false ∧ fe.size > 4096 ∧ md.blocks * 512 < fe.size - 4096
  /-- directories and symlinks -/
  not_regular : fe.is_dir = true ∨ fe.is_symlink = true → fe.is_sparse = false ∧ fe.allocated_size = 0
  regular_allocated : fe.is_dir = false → fe.is_symlink = false → fe.allocated_size = md.blocks * 512

theorem sparsePair_regular (p : Rs.Path) (md : SMeta) (hd : md.is_dir = false) (hl : md.is_symlink = false) :
    sparsePair p md = detect_sparse_file p md := by
  simp [sparsePair, hd, hl]

theorem sparsePair_not_regular (p : Rs.Path) (md : SMeta) (h : md.is_dir = true ∨ md.is_symlink = true) :
    sparsePair p md = (false, 0) := by
  rcases h with h | h <;> simp [sparsePair, h]

theorem sparsePair_fst_iff (p : Rs.Path) (md : SMeta) :
    (sparsePair p md).1 = true ↔
      md.is_dir = false ∧ md.is_symlink = false ∧ md.size > 4096 ∧ md.blocks * 512 < md.size - 4096 := by
  unfold sparsePair
  cases md.is_dir
  · cases md.is_symlink
    · exact (detect_sparse_file_iff p md).trans ⟨fun h => ⟨rfl, rfl, h⟩, fun h => h.2.2⟩
    · exact ⟨nofun, fun h => nomatch h.2.1⟩
  · exact ⟨nofun, fun h => nomatch h.1⟩

/-- all fields of `mkEntry` at once -/
theorem origin_of_mkEntry {W : Type} (ext : Ext W) (self : StreamingScanner) (de : DirEntry) (md : SMeta) (rel : Rs.Path)
    (xa : Option (Rs.HashMap Rs.Str (List Nat))) (acl : Option (List Nat)) (t : Rs.SystemTime) (w0 w1 : W)
    (hw : runM (ext.walker_next ()) w0 = (.ok (some (.ok de)), w1)) (hne : de.path ≠ self.root) (hmd : de.md = .ok md)
    (hrel : Rs.strip_prefix de.path self.root = .ok rel) (hmt : md.mtime = .ok t) :
    Origin ext self (mkEntry de.path rel md (linkValue ext de.path md w1) xa acl (ext.read_bsd_flags md) t) de md w1 where
  walker := ⟨w0, hw⟩
  path_eq := rfl
  md_ok := hmd
  path_ne_root := hne
  relative_path := hrel
  is_dir := rfl
  size := rfl
  is_symlink := rfl
  nlink := rfl
  inode := rfl
  modified := hmt
  bsd_flags := rfl
  target_none := fun h => if_neg (ne_true_of_eq_false h)
  target_link := fun h => if_pos h
  sparse_iff := sparsePair_fst_iff de.path md
  not_regular := fun h => by
    show (sparsePair de.path md).1 = false ∧ (sparsePair de.path md).2 = 0
    rw [sparsePair_not_regular _ _ h]; exact ⟨rfl, rfl⟩
  regular_allocated := fun hd hl => by
    show (sparsePair de.path md).2 = md.blocks * 512
    rw [sparsePair_regular _ _ hd hl]; rfl

/-- **the origin of every listed entry** (any instance, any fuel, any world) -/
theorem scanner_next_origin {W : Type} (ext : Ext W) (self : StreamingScanner) (w w' : W) (fe : FileEntry)
    (h : runM (scanner_next ext self) w = (.ok (some (.ok fe)), w')) : ∃ de md w1, Origin ext self fe de md w1 := by
  rw [scanner_next_nf] at h
  obtain ⟨w0, w1, de, md, rel, xa, acl, t, hw, hne, hmd, hrel, hmt, rfl⟩ := iter_listed ext self ext.fuel w w' fe h
  exact ⟨de, md, w1, origin_of_mkEntry ext self de md rel xa acl t w0 w1 hw hne hmd hrel hmt⟩

theorem listed_origin {W : Type} (ext : Ext W) (self : StreamingScanner) (fe : FileEntry) (h : Listed ext self fe) :
    ∃ de md w1, Origin ext self fe de md w1 := by
  obtain ⟨w, w', h⟩ := h; exact scanner_next_origin ext self w w' fe h

theorem listed_path_ne_root {W : Type} (ext : Ext W) (self : StreamingScanner) (fe : FileEntry) (h : Listed ext self fe) :
    fe.path ≠ self.root := by
  obtain ⟨de, md, w1, o⟩ := listed_origin ext self fe h; exact o.path_ne_root

theorem listed_relative_path {W : Type} (ext : Ext W) (self : StreamingScanner) (fe : FileEntry) (h : Listed ext self fe) :
    Rs.strip_prefix fe.path self.root = .ok fe.relative_path := by
  obtain ⟨de, md, w1, o⟩ := listed_origin ext self fe h; exact o.relative_path

/-- the metadata-derived fields are those of the walker's metadata for this path -/
theorem listed_metadata_fields {W : Type} (ext : Ext W) (self : StreamingScanner) (fe : FileEntry) (h : Listed ext self fe) :
    ∃ de md, (∃ w0 w1, runM (ext.walker_next ()) w0 = (.ok (some (.ok de)), w1)) ∧ de.path = fe.path ∧ de.md = .ok md ∧
      fe.is_dir = md.is_dir ∧ fe.size = md.size ∧ fe.is_symlink = md.is_symlink ∧ fe.nlink = md.nlink ∧
      fe.inode = some md.ino ∧ md.mtime = .ok fe.modified := by
  obtain ⟨de, md, w1, o⟩ := listed_origin ext self fe h
  obtain ⟨w0, hw⟩ := o.walker
  exact ⟨de, md, ⟨w0, w1, hw⟩, o.path_eq.symm, o.md_ok, o.is_dir, o.size, o.is_symlink, o.nlink, o.inode, o.modified⟩

theorem listed_symlink_target_none {W : Type} (ext : Ext W) (self : StreamingScanner) (fe : FileEntry) (h : Listed ext self fe)
    (hl : fe.is_symlink = false) : fe.symlink_target = none := by
  obtain ⟨de, md, w1, o⟩ := listed_origin ext self fe h; exact o.target_none hl

/-- **a symlink's target is `read_link(path).ok()`**, asked in the world right after the walker's answer -/
theorem listed_symlink_target {W : Type} (ext : Ext W) (self : StreamingScanner) (fe : FileEntry) (h : Listed ext self fe)
    (hl : fe.is_symlink = true) : ∃ w1, fe.symlink_target = Rs.ok (runM (ext.std_fs_read_link fe.path) w1).1 := by
  obtain ⟨de, md, w1, o⟩ := listed_origin ext self fe h; exact ⟨w1, o.target_link hl⟩

/-- **a sparse entry is a regular file larger than 4096 bytes whose allocated bytes are below `size - 4096`** -/
theorem listed_sparse {W : Type} (ext : Ext W) (self : StreamingScanner) (fe : FileEntry) (h : Listed ext self fe)
    (hs : fe.is_sparse = true) :
    fe.is_dir = false ∧ fe.is_symlink = false ∧ fe.size > 4096 ∧
      ∃ (de : DirEntry) (md : SMeta), de.path = fe.path ∧ de.md = .ok md ∧ md.blocks * 512 < fe.size - 4096 := by
  obtain ⟨de, md, w1, o⟩ := listed_origin ext self fe h
  obtain ⟨h1, h2, h3, h4⟩ := o.sparse_iff.mp hs
  exact ⟨h1, h2, h3, de, md, o.path_eq.symm, o.md_ok, h4⟩

theorem listed_not_regular {W : Type} (ext : Ext W) (self : StreamingScanner) (fe : FileEntry) (h : Listed ext self fe)
    (hk : fe.is_dir = true ∨ fe.is_symlink = true) : fe.is_sparse = false ∧ fe.allocated_size = 0 := by
  obtain ⟨de, md, w1, o⟩ := listed_origin ext self fe h; exact o.not_regular hk

/-- every listed entry has an inode number (Unix build) -/
theorem listed_inode_some {W : Type} (ext : Ext W) (self : StreamingScanner) (fe : FileEntry) (h : Listed ext self fe) :
    fe.inode.isSome = true := by
  obtain ⟨de, md, w1, o⟩ := listed_origin ext self fe h; rw [o.inode]; rfl

/-! ### no listed entry has the relative path "." -/

/-- the cache key of the source root (`GenEngineCache.rootKey`) -/
def rootKey : Rs.Path := ['.']

/-- under a hypothesis on `Rs.strip_prefix` that no root satisfies (`root ++ "/."` differs from the root and strips to "."); the
    usable form is `relative_path_ne_dot` below -/
theorem relative_path_ne_dot_of_strip {W : Type} (ext : Ext W) (self : StreamingScanner) (fe : FileEntry)
    (hstrip : ∀ p, p ≠ self.root → Rs.strip_prefix p self.root ≠ .ok rootKey) (h : Listed ext self fe) :
    fe.relative_path ≠ rootKey := by
  intro hc
  have h1 := listed_relative_path ext self fe h
  rw [hc] at h1
  exact hstrip fe.path (listed_path_ne_root ext self fe h) h1

/-- **`relative_path ≠ "."`** for every listed entry whose path text is clean (`noDotTail`: not "." and not ending in "/.") -/
theorem relative_path_ne_dot {W : Type} (ext : Ext W) (self : StreamingScanner) (fe : FileEntry)
    (hclean : noDotTail fe.path = true) (h : Listed ext self fe) : fe.relative_path ≠ rootKey := by
  intro hc
  have h1 := listed_relative_path ext self fe h
  rw [hc] at h1
  exact strip_prefix_ne_dot fe.path self.root (listed_path_ne_root ext self fe h) hclean h1

/-- the same with the cleanliness stated once, about the walker: it never answers a path that is "." or ends in "/." -/
theorem relative_path_ne_dot_of_walker {W : Type} (ext : Ext W) (self : StreamingScanner)
    (hwalk : ∀ w0 w1 de, runM (ext.walker_next ()) w0 = (.ok (some (.ok de)), w1) → noDotTail de.path = true)
    (fe : FileEntry) (h : Listed ext self fe) : fe.relative_path ≠ rootKey := by
  obtain ⟨de, md, w1, o⟩ := listed_origin ext self fe h
  obtain ⟨w0, hw⟩ := o.walker
  exact relative_path_ne_dot ext self fe (by rw [o.path_eq]; exact hwalk w0 w1 de hw) h

/-- a whole scan (any list of listed entries) -/
theorem scan_relative_paths_ne_dot {W : Type} (ext : Ext W) (self : StreamingScanner) (files : List FileEntry)
    (hl : ∀ f ∈ files, Listed ext self f) (hclean : ∀ f ∈ files, noDotTail f.path = true) :
    ∀ f ∈ files, f.relative_path ≠ rootKey :=
  fun f hf => relative_path_ne_dot ext self f (hclean f hf) (hl f hf)

/-! ### non-vacuity: a world that is the list of the walker's answers still to come -/

section nonvacuity
/-- equality of results is decidable (only for the kernel-evaluated runs below; local to this section) -/
@[instance_reducible] def exceptDecEq {ε α : Type} [DecidableEq ε] [DecidableEq α] : DecidableEq (Except ε α) := fun a b =>
  match a, b with
  | .ok x, .ok y => if h : x = y then isTrue (h ▸ rfl) else isFalse (fun e => h (Except.ok.inj e))
  | .error x, .error y => if h : x = y then isTrue (h ▸ rfl) else isFalse (fun e => h (Except.error.inj e))
  | .ok _, .error _ => isFalse (fun e => by cases e)
  | .error _, .ok _ => isFalse (fun e => by cases e)
attribute [local instance] exceptDecEq

abbrev TW := List (Except Rs.Err DirEntry)

/-- the walker pops the list (`None` at its end); `read_link` knows one link, `r/l → tgt`; no xattrs, no ACLs -/
def testExt (fuel : Nat) : Ext TW where
  fuel := fuel
  walker_next := fun _ w => match w with
    | [] => (.ok none, [])
    | a :: t => (.ok (some a), t)
  std_fs_read_link := fun p w => if p = ['r', '/', 'l'] then (.ok ['t', 'g', 't'], w) else (.error Rs.Err.io, w)
  read_xattrs := fun _ w => (.ok none, w)
  read_acls := fun _ w => (.ok none, w)
  read_bsd_flags := fun _ => none

def self0 : StreamingScanner := ⟨['r']⟩
def dirMeta : SMeta := ⟨4096, 8, 2, 2, true, false, .ok 7⟩
def linkMeta : SMeta := ⟨3, 0, 3, 1, false, true, .ok 8⟩
/-- 10000 bytes in 8 blocks: 4096 allocated < 10000 - 4096 -/
def sparseMeta : SMeta := ⟨10000, 8, 4, 1, false, false, .ok 9⟩
/-- 10000 bytes in 24 blocks: fully allocated -/
def denseMeta : SMeta := ⟨10000, 24, 5, 2, false, false, .ok 9⟩
def rootE : Except Rs.Err DirEntry := .ok ⟨['r'], .ok dirMeta⟩
def linkE : Except Rs.Err DirEntry := .ok ⟨['r', '/', 'l'], .ok linkMeta⟩
def sparseE : Except Rs.Err DirEntry := .ok ⟨['r', '/', 's'], .ok sparseMeta⟩
def denseE : Except Rs.Err DirEntry := .ok ⟨['r', '/', 'd'], .ok denseMeta⟩
def dirE : Except Rs.Err DirEntry := .ok ⟨['r', '/', 'a'], .ok dirMeta⟩

def linkFe : FileEntry :=
  { path := ['r', '/', 'l'], relative_path := ['l'], size := 3, modified := 8, is_dir := false, is_symlink := true,
    symlink_target := some ['t', 'g', 't'], is_sparse := false, allocated_size := 0, xattrs := none, inode := some 3,
    nlink := 1, acls := none, bsd_flags := none }
def sparseFe : FileEntry :=
  { path := ['r', '/', 's'], relative_path := ['s'], size := 10000, modified := 9, is_dir := false, is_symlink := false,
    symlink_target := none, is_sparse := true, allocated_size := 4096, xattrs := none, inode := some 4,
    nlink := 1, acls := none, bsd_flags := none }
def denseFe : FileEntry :=
  { path := ['r', '/', 'd'], relative_path := ['d'], size := 10000, modified := 9, is_dir := false, is_symlink := false,
    symlink_target := none, is_sparse := false, allocated_size := 12288, xattrs := none, inode := some 5,
    nlink := 2, acls := none, bsd_flags := none }
def dirFe : FileEntry :=
  { path := ['r', '/', 'a'], relative_path := ['a'], size := 4096, modified := 7, is_dir := true, is_symlink := false,
    symlink_target := none, is_sparse := false, allocated_size := 0, xattrs := none, inode := some 2,
    nlink := 2, acls := none, bsd_flags := none }

/-- the root is skipped; the symlink comes with its target; the rest of the walk stays in the world -/
theorem nv_root_skipped_symlink : (runM (scanner_next (testExt 5) self0) [rootE, linkE, sparseE]).1 = .ok (some (.ok linkFe)) := by
  rw [scanner_next_nf]; decide
theorem nv_rest_of_walk_kept : (runM (scanner_next (testExt 5) self0) [rootE, linkE, sparseE]).2.length = 1 := by
  rw [scanner_next_nf]; decide
/-- the same run evaluated on the generated code itself (only the library's range loop rewritten to its list form) -/
theorem nv_root_skipped_symlink_generated : (runM (scanner_next (testExt 5) self0) [rootE, linkE, sparseE]).1 = .ok (some (.ok linkFe)) := by
  unfold scanner_next
  rw [Std.Legacy.Range.forIn_eq_forIn_range']
  decide
/-- a sparse file, a fully allocated file (hard link count 2), a directory (`+kernel`: the numerals 10000 / 4096 exceed the
    elaborator's recursion depth; the kernel evaluates them) -/
theorem nv_sparse : (runM (scanner_next (testExt 5) self0) [sparseE]).1 = .ok (some (.ok sparseFe)) := by
  rw [scanner_next_nf]; decide +kernel
theorem nv_dense : (runM (scanner_next (testExt 5) self0) [denseE]).1 = .ok (some (.ok denseFe)) := by
  rw [scanner_next_nf]; decide +kernel
theorem nv_dir : (runM (scanner_next (testExt 5) self0) [dirE]).1 = .ok (some (.ok dirFe)) := by
  rw [scanner_next_nf]; decide
/-- a symlink whose `read_link` fails is listed without target -/
theorem nv_symlink_unreadable : (runM (scanner_next (testExt 5) self0) [.ok ⟨['r', '/', 'k'], .ok linkMeta⟩]).1 =
    .ok (some (.ok { linkFe with path := ['r', '/', 'k'], relative_path := ['k'], symlink_target := none })) := by
  rw [scanner_next_nf]; decide
theorem nv_end_of_walk : (runM (scanner_next (testExt 5) self0) [rootE]).1 = .ok none := by
  rw [scanner_next_nf]; decide
theorem nv_walker_error : (runM (scanner_next (testExt 5) self0) [rootE, .error Rs.Err.other, linkE]).1 = .ok (some (.error Rs.Err.io)) := by
  rw [scanner_next_nf]; decide
theorem nv_metadata_error : (runM (scanner_next (testExt 5) self0) [.ok ⟨['r', '/', 'x'], .error Rs.Err.other⟩]).1 =
    .ok (some (.error Rs.Err.io)) := by
  rw [scanner_next_nf]; decide
theorem nv_not_below_root : (runM (scanner_next (testExt 5) self0) [.ok ⟨['r', 'x'], .ok dirMeta⟩]).1 = .ok (some (.error Rs.Err.other)) := by
  rw [scanner_next_nf]; decide
theorem nv_mtime_error : (runM (scanner_next (testExt 5) self0) [.ok ⟨['r', '/', 'x'], .ok { dirMeta with mtime := .error Rs.Err.io }⟩]).1 =
    .ok (some (.error Rs.Err.io)) := by
  rw [scanner_next_nf]; decide
/-- fuel exhaustion: two root answers use up a fuel of 2; a fuel of 3 reaches the entry (and any larger fuel agrees) -/
theorem nv_fuel_exhausted : (runM (scanner_next (testExt 2) self0) [rootE, rootE, linkE]).1 = .error Rs.Err.other := by
  rw [scanner_next_nf]; decide
theorem nv_fuel_enough : (runM (scanner_next (testExt 3) self0) [rootE, rootE, linkE]).1 = .ok (some (.ok linkFe)) := by
  rw [scanner_next_nf]; decide
theorem nv_decidedWithin : decidedWithin (testExt 0) self0 3 [rootE, rootE, linkE] = true ∧
    decidedWithin (testExt 0) self0 2 [rootE, rootE, linkE] = false := by decide
theorem nv_fuel_irrelevant (f : Nat) (hf : 3 ≤ f) :
    runM (scanner_next (withFuel (testExt 0) f) self0) [rootE, rootE, linkE] =
      runM (scanner_next (withFuel (testExt 0) 3) self0) [rootE, rootE, linkE] :=
  scanner_next_fuel_irrelevant (testExt 0) self0 3 f 3 _ (by decide) hf (Nat.le_refl 3)
/-- the hypotheses of the field theorems are met: `linkFe` is listed, and its path is clean -/
theorem nv_listed : Listed (testExt 5) self0 linkFe := ⟨[rootE, linkE], [], by rw [scanner_next_nf]; rfl⟩
theorem nv_clean : noDotTail linkFe.path = true := by decide
theorem nv_relative_path_ne_dot : linkFe.relative_path ≠ rootKey :=
  relative_path_ne_dot (testExt 5) self0 linkFe nv_clean nv_listed
/-- without cleanliness "." IS listed: a walker answering `r/.` (the real one never does) -/
theorem nv_dot_listed_without_cleanliness : (runM (scanner_next (testExt 5) self0) [.ok ⟨['r', '/', '.'], .ok dirMeta⟩]).1 =
    .ok (some (.ok { dirFe with path := ['r', '/', '.'], relative_path := ['.'] })) := by
  rw [scanner_next_nf]; decide
end nonvacuity

end SyModel.Props.GenScanner
