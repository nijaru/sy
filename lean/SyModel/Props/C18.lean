/-
  C18 — Caches and databases never change the outcome.
  Property theorems only.
-/
import SyModel.Engine.Caches
import SyModel.Lemmas.EnginePath
import SyModel.Generated.Consts
namespace SyModel.Props.C18
open SyModel SyModel.Engine

/-- the engine never saves resume state (no `.save(` on a ResumeState in sync/mod.rs), so a state
    file can only be one that fails the integrity / compatibility checks or a hand-made one -/
theorem consts_ok_resume_never_saved : Generated.RESUME_SAVE_CALLS_IN_ENGINE = 0 := by decide

/-- the root key of the substitution test is the literal `"."` and cache keys come from scanned
    relative paths only (regenerated from src/sync/mod.rs) -/
theorem consts_ok_cache_root_key : Generated.DIRCACHE_ROOT_KEY = "." := rfl

/-- a database row is believed only when path, mtime (seconds AND nanoseconds) and size all match
    (the WHERE clause of `get_checksum`, regenerated from src/sync/checksumdb.rs): `Db.lookup`
    compares the full nanosecond mtime and the size -/
theorem consts_ok_db_lookup_guards :
    Generated.CHECKSUMDB_LOOKUP_GUARDS = "path = ?1 AND mtime_secs = ?2 AND mtime_nanos = ?3 AND size = ?4" :=
  rfl

/-- the row stored at the end of a run under the source file's (path, mtime, size) carries the checksum of that same
    SOURCE file (`Db.store1` files `m.content` of the scanned entry), whatever happened to its transfer — regenerated from
    the store block of src/sync/mod.rs (a store block that hashed the destination copy would change this constant) -/
theorem consts_ok_db_store_hashes_source : Generated.CHECKSUMDB_STORE_HASHED_FILE = "&file.path" := rfl

/-- one more run: the cache is updated from that run's scan -/
def cacheAfter : DirCache → List (List SEntry) → DirCache
  | c, [] => c
  | c, scan :: rest => cacheAfter (c.update scan) rest

/-- **The root is never cached**: over any history of runs starting from an empty, absent,
    unparsable or version-mismatched cache file, the root key never enters the cache. -/
theorem root_never_cached (h : List (List SEntry)) (hs : ∀ scan ∈ h, NoDotRels scan)
    (c : DirCache) (hc : rootKey ∉ c.dirs) : rootKey ∉ (cacheAfter c h).dirs := by
  induction h generalizing c with
  | nil => exact hc
  | cons scan rest ih =>
    apply ih (fun s hs' => hs s (List.mem_cons_of_mem _ hs'))
    simp only [DirCache.update, List.mem_append, List.mem_map, List.mem_filter, not_or]
    refine ⟨hc, ?_⟩
    rintro ⟨e, ⟨he, _⟩, hrel⟩
    exact hs scan (List.mem_cons_self ..) e he hrel

/-- … hence the cached scan is never substituted for the real one. -/
theorem cache_never_substitutes (h : List (List SEntry)) (hs : ∀ scan ∈ h, NoDotRels scan) :
    (cacheAfter DirCache.loadDamaged h).canUse = false := by
  have := root_never_cached h hs DirCache.loadDamaged (by simp [DirCache.loadDamaged, DirCache.empty])
  simpa [DirCache.canUse] using this

/-- With truthful rows the planner decides exactly as without the database. -/
theorem db_hit_correct (cfg : Cfg) (db : Db) (dst : Map DNode) (scan : List SEntry)
    (ht : RowsTruthful db scan) : ∀ e ∈ scan, planEntryDb cfg db dst e = planEntry cfg dst e := by
  intro e he
  unfold planEntryDb
  cases hk : e.kind with
  | dir => rfl
  | symlink t g => rfl
  | file m n =>
    simp only
    have hseen : seenContent db e.rel m = m.content := by
      unfold seenContent
      cases hl : db.lookup e.rel m.mtime m.size with
      | none => rfl
      | some ck => exact ht e he m n hk ck hl
    rw [hseen]
    simp only [planEntry, hk]

/-- Rows written by a run are truthful for the tree they were written from (distinct paths). -/
theorem stored_rows_truthful (db : Db) (scan : List SEntry) (hu : (scan.map (·.rel)).Nodup) :
    RowsTruthful (db.storeAll scan) scan := by
  -- generalised: rows for the already processed prefix are truthful and later entries do not touch them
  suffices h : ∀ (done todo : List SEntry) (d : Db), scan = done ++ todo →
      (∀ e ∈ done, ∀ m n, e.kind = .file m n → d.get? e.rel = some ⟨m.mtime, m.size, m.content⟩) →
      ∀ e ∈ done ++ todo, ∀ m n, e.kind = .file m n →
        (Db.storeAll d todo).get? e.rel = some ⟨m.mtime, m.size, m.content⟩ by
    intro e he m n hk ck hl
    have := h [] scan db rfl (by intro e he; cases he) e (by simpa using he) m n hk
    unfold Db.lookup at hl
    rw [this] at hl
    simp at hl
    exact hl.symm
  intro done todo
  induction todo generalizing done with
  | nil => intro d _ hd e he m n hk; simp at he; simpa [Db.storeAll] using hd e he m n hk
  | cons a rest ih =>
    intro d hsplit hd e he m n hk
    have hnod : ((done ++ a :: rest).map (·.rel)).Nodup := hsplit ▸ hu
    have hstep : Db.storeAll d (a :: rest) = Db.storeAll (Db.store1 d a) rest := rfl
    rw [hstep]
    apply ih (done ++ [a]) _ (by simpa using hsplit) _ e (by simpa using he) m n hk
    intro e' he' m' n' hk'
    rcases List.mem_append.mp he' with hin | hin
    · -- an earlier entry: its row is untouched by `a` (different path)
      have hne : a.rel ≠ e'.rel := by
        intro heq
        have := hnod
        rw [List.map_append, List.nodup_append] at this
        exact this.2.2 e'.rel (List.mem_map.mpr ⟨e', hin, rfl⟩) a.rel (by simp) heq.symm
      unfold Db.store1
      cases hak : a.kind with
      | file ma na => simp only; rw [Map.get?_set_ne _ _ _ _ hne]; exact hd e' hin m' n' hk'
      | dir => exact hd e' hin m' n' hk'
      | symlink t g => exact hd e' hin m' n' hk'
    · simp at hin; subst hin
      unfold Db.store1
      rw [hk']; simp

/-- Edits made with a forward-moving clock keep every matching row truthful: an edited file gets
    an mtime newer than anything recorded for it, so its stale row no longer matches. -/
theorem edit_keeps_rows_truthful (db : Db) (scan scan' : List SEntry)
    (ht : RowsTruthful db scan)
    (hedit : ∀ e' ∈ scan', ∀ m' n', e'.kind = .file m' n' →
      (∃ e ∈ scan, e.rel = e'.rel ∧ e.kind = .file m' n') ∨
      (∀ r, db.get? e'.rel = some r → r.mtime < m'.mtime)) :
    RowsTruthful db scan' := by
  intro e' he' m' n' hk' ck hl
  rcases hedit e' he' m' n' hk' with ⟨e, he, hrel, hk⟩ | hnew
  · exact ht e he m' n' hk ck (hrel ▸ hl)
  · unfold Db.lookup at hl
    cases hg : db.get? e'.rel with
    | none => simp [hg] at hl
    | some r =>
      simp only [hg] at hl
      split at hl
      · rename_i hm; have := hnew r hg; omega
      · cases hl

/-- **C18 (checksum database)**: whatever the database holds, if its rows are truthful for the
    current source — which every run establishes and every forward-clock edit preserves — the plan,
    and therefore the whole run, is the one made without the database. -/
theorem C18_db_plan_eq (cfg : Cfg) (db : Db) (dst : Map DNode) (scan : List SEntry)
    (ht : RowsTruthful db (scanFilter cfg scan)) :
    (scanFilter cfg scan).map (planEntryDb cfg db dst) = (scanFilter cfg scan).map (planEntry cfg dst) := by
  apply List.map_congr_left
  intro e he
  exact db_hit_correct cfg db dst _ ht e he

/-- The full statement fails when an edit *restores* an earlier (mtime, size) pair with different
    content without a sync in between: the stale row matches again (finding
    `C18/checksumdb-stale-row-after-mtime-restored`). -/
theorem db_hit_correct_counterexample_mtime_restored :
    let db : Db := [(["f"], ⟨100, 3, 1⟩)]                   -- row written when `f` held content 1
    let m : FileMeta := { content := 2, size := 3, mtime := 100, xattrs := [], ino := 7 }   -- now content 2, same mtime+size
    seenContent db ["f"] m = 1 ∧ m.content = 2 := by
  decide

/-- a tree of its own (not `Engine.exScan` of Lemmas/EngineWF, which this name shadows here) -/
def exScan : List SEntry :=
  [{ rel := ["sub"], kind := .dir, size := 4096, excluded := false },
   { rel := ["sub", "a"], kind := .file { content := 5, size := 3, mtime := 9, xattrs := [], ino := 1 } 1, size := 3, excluded := false }]

example : NoDotRels exScan := by intro e he; simp [exScan] at he; rcases he with rfl | rfl <;> decide
example : (cacheAfter DirCache.loadDamaged [exScan, exScan]).dirs = [["sub"], ["sub"]] := by decide
example : RowsTruthful (Db.storeAll [] exScan) exScan := stored_rows_truthful [] exScan (by decide)

end SyModel.Props.C18
