/-
  C16 — Filters select exactly the documented set (engine leg): entries that are filtered out
  are never created or updated in the destination.  Property theorems only.
-/
import SyModel.Lemmas.EngineRun
import SyModel.Lemmas.EngineFilter
namespace SyModel.Props.C16Engine
open SyModel SyModel.Engine

/-- **Filtered entries are never transferred.**  For a scanned entry that the filter (rules,
    excluded ancestors, size bounds) drops:
    * no task of the plan — create, update, skip or delete — targets its path;
    * hence no action event and no error record of the report carries its path;
    * and the node at its path is unchanged by the run, under every fault plan, as long as the
      path is not a parent of a selected entry (sy creates missing parents of what it transfers)
      and — with `--delete` — the scan is parent-closed (no stale directory above it). -/
theorem filtered_never_transferred (cfg : Cfg) (flt : Faults) (scan : List SEntry) (dst : Map DNode) (n : Nat)
    (hu : UniqueRels scan) (e : SEntry) (he : e ∈ scan) (hf : e ∉ scanFilter cfg scan) :
    (∀ t ∈ plan cfg scan dst, t.rel ≠ e.rel) ∧
    (∀ a, (a, e.rel) ∉ (runF cfg flt scan dst n).events ∧ (a, e.rel) ∉ (runF cfg flt scan dst n).errors) ∧
    ((∀ s ∈ scanFilter cfg scan, isPrefix e.rel s.rel = false) →
      (cfg.delete = true → ParentClosed scan ∧ dst.get? [] = none) →
      (runF cfg flt scan dst n).dst.get? e.rel = dst.get? e.rel) := by
  have hplan : ∀ t ∈ plan cfg scan dst, t.rel ≠ e.rel := by
    intro t ht
    by_cases hd : t.act = .delete
    · obtain ⟨_, htd⟩ := deletion_of_task ht hd
      obtain ⟨p, rfl, _, _, hs, _⟩ := mem_planDeletions.1 htd
      exact fun h => hs e he h.symm
    · obtain ⟨s, hs, rfl⟩ := entry_of_task ht hd
      rw [planEntry_rel]
      intro hr
      have := hu.eq_of_rel (mem_of_mem_scanFilter hs) he hr
      subst this; exact hf hs
  refine ⟨hplan, fun a => ?_, fun hanc hdel => ?_⟩
  · cases hr : (runF cfg flt scan dst n).refused with
    | true =>
      rw [runF_of_refused hr]
      simp
    | false =>
      rw [(runF_of_not_refused hr).events, (runF_of_not_refused hr).errors, List.mem_reverse, List.mem_reverse]
      -- events and errors only carry paths of planned tasks
      have hno : ¬ ((a, e.rel) ∈ (finalExec cfg flt scan dst n).b.events ∨
          (a, e.rel) ∈ (finalExec cfg flt scan dst n).b.errors) := by
        intro h
        rcases foldl_book_mem cfg flt _ _ _ h with h1 | ⟨t, ht, hr'⟩
        · rcases h1 with h1 | h1 <;> cases h1
        · exact hplan t ht (congrArg Prod.snd hr').symm
      exact ⟨fun h => hno (Or.inl h), fun h => hno (Or.inr h)⟩
  · cases hr : (runF cfg flt scan dst n).refused with
    | true => rw [runF_of_refused hr]
    | false =>
      rw [(runF_of_not_refused hr).dst]
      apply foldl_get?_eq
      intro t ht hcov
      rcases hcov with ⟨hd, hp⟩ | ⟨hd, _, hp⟩
      · obtain ⟨hdl, htd⟩ := deletion_of_task ht hd
        have := deletion_not_above (hdel hdl).1 (hdel hdl).2 htd he
        rw [hp] at this; cases this
      · obtain ⟨s, hs, rfl⟩ := entry_of_task ht hd
        rw [planEntry_rel] at hp
        rw [hanc s hs] at hp; cases hp

/-- What the filter drops, spelled out on one step of the fold (the `filter` closure of `SyncEngine::sync`): an
    entry below an already excluded directory, an entry excluded by a rule, or a non-directory
    outside the size bounds is not selected. -/
theorem dropped_cases (cfg : Cfg) (e : SEntry) (rest : List SEntry) (ex : List Path)
    (h : ex.any (fun d => isPrefix d e.rel) = true ∨ e.excluded = true ∨
      (e.isDir = false ∧ sizeFiltered cfg e.size = true)) :
    scanFilterGo cfg (e :: rest) ex =
      scanFilterGo cfg rest (if ex.any (fun d => isPrefix d e.rel) = true then ex
        else if e.excluded = true ∧ e.isDir = true then ex ++ [e.rel] else ex) := by
  rw [scanFilterGo]
  by_cases h1 : ex.any (fun d => isPrefix d e.rel) = true
  · simp [h1]
  · by_cases h2 : e.excluded = true
    · by_cases h3 : e.isDir = true <;> simp [h1, h2, h3]
    · rcases h with h | h | ⟨h3, h4⟩
      · exact absurd h h1
      · exact absurd h h2
      · simp [h1, h2, h3, h4]

def exCfgOrder : Cfg where
  delete := false
  force := false
  dryRun := false
  xattrs := false
  hardlinks := false
  threshold := 50
  links := .preserve
  compare := .default
  minSize := none
  maxSize := none
  maxErrors := 100
  tie := false

/-- **Subtree exclusion relies on scan order, and holds under it**: when parents precede their
    children in the scan, nothing below a directory that is not selected (excluded by a rule, or
    itself below an excluded directory) is selected — hence (by `filtered_never_transferred`)
    nothing below it is ever transferred. -/
theorem excluded_dir_drops_subtree (cfg : Cfg) (scan : List SEntry) (hu : UniqueRels scan)
    (hpf : ParentsFirst scan) (d e : SEntry) (hd : d ∈ scan) (hdk : d.kind = .dir)
    (hdn : d ∉ scanFilter cfg scan) (hp : isPrefix d.rel e.rel = true) (hne : d.rel ≠ e.rel)
    (hd0 : d.rel ≠ []) : e ∉ scanFilter cfg scan := by
  intro hsel
  obtain ⟨d', hd', hr, _⟩ := selected_ancestors_selected hu hpf hsel (mem_ancestors.2 ⟨hd0, hp, hne⟩)
  have := hu.eq_of_rel (mem_of_mem_scanFilter hd') hd hr
  subst this; exact hdn hd'

/-- … and conversely the selected set is closed under (non-root) ancestors. -/
theorem selected_closed_under_ancestors (cfg : Cfg) (scan : List SEntry) (hu : UniqueRels scan)
    (hpf : ParentsFirst scan) (e : SEntry) (he : e ∈ scanFilter cfg scan) (a : Path) (ha : a ≠ [])
    (hp : isPrefix a e.rel = true) (hne : a ≠ e.rel) :
    ∃ d ∈ scanFilter cfg scan, d.rel = a ∧ d.kind = .dir :=
  selected_ancestors_selected hu hpf he (mem_ancestors.2 ⟨ha, hp, hne⟩)

/-- the order matters: with the child listed *before* its excluded parent the child is selected
    (the situation `ParentsFirst` excludes; `ignore::Walk` never produces it) -/
theorem order_matters_counterexample :
    let child : SEntry := ⟨["a", "f"], .file (exMeta 1 1 1 1) 1, 1, false⟩
    let parent : SEntry := ⟨["a"], .dir, 0, true⟩
    child ∈ scanFilter exCfgOrder [child, parent] ∧ child ∉ scanFilter exCfgOrder [parent, child] := by decide

def exCfg : Cfg where
  delete := true
  force := true
  dryRun := false
  xattrs := true
  hardlinks := false
  threshold := 50
  links := .preserve
  compare := .default
  minSize := none
  maxSize := some 500
  maxErrors := 100
  tie := false

/-- `big`, excluded by a rule, exists on both sides -/
def dstBig : Map DNode := (["big"], .file (exMeta 77 5 5 5)) :: exDst

example : (run exCfg exScan dstBig 1000).dst.get? ["big"] = some (.file (exMeta 77 5 5 5)) :=
  (filtered_never_transferred exCfg noFaults exScan dstBig 1000 exScan_uniqueRels
    ⟨["big"], .file (exMeta 9 900 1 8) 1, 900, true⟩ (by decide) (by decide)).2.2 (by decide)
    (fun _ => ⟨exScan_parentClosed, rfl⟩)

/-- the same entry dropped by the size bound alone (not excluded, 900 > 500) -/
example : (⟨["big"], .file (exMeta 9 900 1 8) 1, 900, false⟩ : SEntry) ∉
    scanFilter exCfg [⟨["big"], .file (exMeta 9 900 1 8) 1, 900, false⟩] := by decide

end SyModel.Props.C16Engine
