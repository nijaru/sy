/-
  GenGuards — the translated arithmetic of the two deletion guards
    * `SyncEngine::sync`, mass-deletion guard (src/sync/mod.rs): `delete_percentage`, `threshold_exceeded`
    * `check_deletion_limit` (src/bisync/engine.rs): `bisync_deletion_percent`, `bisync_limit_exceeded`
  (fragments translated into `SyModel/Generated/Code/Guards.lean`, `f64` idealised as `Rat`)
  is the integer cross-multiplied test of the handwritten models: `Engine.guardRefuses` (what C07 is about)
  and `Bisync.deletionLimitExceeded`.

  Abstraction map.
    * the deletion list `Vec<SyncTask>` ↦ its length (the fragment reads `deletions.len()` only);
    * `SyncEngineView ↦ Cfg`: `delete_threshold ↦ threshold`; `force_delete` is not read by the two fragments
      (the `!self.force_delete` test encloses them in the source and is a separate conjunct of `guardRefuses`);
    * `f64 ↦ Rat`: exact.  The model keeps the one place where `f64` and ℚ can differ — exact equality
      `dels·100 = thr·cnt`, where the rounded quotient·100 can land on either side — as the free boolean `Cfg.tie`
      (resp. the separate predicate `Bisync.deletionTie`); the idealised code is the instance `tie = false`.
  Hypothesis: `0 < dest_file_count` / `total_files ≠ 0` — both fragments are guarded by exactly that test in the
  source (`if dest_file_count > 0 {…}`, `if total_files == 0 { return Ok(()) }`), so the excluded input never
  reaches them; `mass_deletion_guard_eq_model` and `check_deletion_limit_eq_model` put the test back and hold for ALL inputs.
-/
import SyModel.Generated.Code.Guards
import SyModel.Engine.Model
import SyModel.Bisync.Exec
namespace SyModel.Props.GenGuards
open SyModel SyModel.Generated SyModel.Generated.Guards

/-! ### `(d as f64 / c as f64) * 100.0 > t as f64` over ℚ is `d·100 > t·c` over ℕ -/

theorem cast_nat_rat (n : Nat) : (Rs.cast n : Rat) = (n : Rat) := rfl

theorem percent_gt_iff (d c t : Nat) (hc : 0 < c) :
    ((d : Rat) / (c : Rat)) * (100 : Rat) > (t : Rat) ↔ d * 100 > t * c := by
  have hc' : (0 : Rat) < (c : Rat) := Rat.natCast_pos.mpr hc
  have h100 : ((100 : Nat) : Rat) = (100 : Rat) := rfl
  have h1 : ((d : Rat) / (c : Rat)) * (100 : Rat) = ((d * 100 : Nat) : Rat) / (c : Rat) := by
    rw [Rat.natCast_mul, h100, Rat.div_def, Rat.div_def, Rat.mul_assoc, Rat.mul_assoc,
      Rat.mul_comm (c : Rat)⁻¹ (100 : Rat)]
  show (t : Rat) < _ ↔ t * c < d * 100
  rw [h1, Rat.lt_div_iff hc', ← Rat.natCast_mul, Rat.natCast_lt_natCast]

theorem threshold_exceeded_eq_model (e : SyncEngineView) (dels : List Rs.Opaque) (cnt : Nat) (hcnt : 0 < cnt) :
    threshold_exceeded e (delete_percentage dels cnt) =
      decide (dels.length * 100 > e.delete_threshold * cnt) := by
  unfold threshold_exceeded delete_percentage
  simp only [cast_nat_rat, Rs.len]
  exact decide_eq_decide.mpr (percent_gt_iff dels.length cnt e.delete_threshold hcnt)

/-- the engine view a model configuration stands for. -/
def viewOf (cfg : Engine.Cfg) : SyncEngineView := ⟨cfg.threshold, cfg.force⟩

/-- the model's whole guard, for ALL inputs (including `cnt = 0`), with the fragments in the place the source has
    them: inside `if self.delete && !self.force_delete`, `if !deletions.is_empty()`, `if dest_file_count > 0`.
    The last disjunct is the `f64` tie the idealisation cannot see (`cfg.tie = false` in ℚ). -/
theorem mass_deletion_guard_eq_model (cfg : Engine.Cfg) (dels : List Rs.Opaque) (cnt : Nat) :
    Engine.guardRefuses cfg dels.length cnt =
      (cfg.delete && !cfg.force && decide (0 < dels.length) && decide (0 < cnt) &&
        (threshold_exceeded (viewOf cfg) (delete_percentage dels cnt) ||
          (decide (dels.length * 100 = cfg.threshold * cnt) && cfg.tie))) := by
  unfold Engine.guardRefuses
  by_cases hcnt : 0 < cnt
  · rw [threshold_exceeded_eq_model _ _ _ hcnt]; rfl
  · simp [hcnt]

/-- with exact arithmetic (`tie = false`) the model's guard is the translated code and nothing else. -/
theorem mass_deletion_guard_exact (cfg : Engine.Cfg) (htie : cfg.tie = false) (dels : List Rs.Opaque) (cnt : Nat) :
    Engine.guardRefuses cfg dels.length cnt =
      (cfg.delete && !cfg.force && decide (0 < dels.length) && decide (0 < cnt) &&
        threshold_exceeded (viewOf cfg) (delete_percentage dels cnt)) := by
  rw [mass_deletion_guard_eq_model, htie]; simp

theorem bisync_limit_exceeded_eq_model (dels total maxDelete : Nat) (htotal : total ≠ 0) :
    bisync_limit_exceeded (bisync_deletion_percent dels total) maxDelete =
      decide (dels * 100 > maxDelete * total) := by
  unfold bisync_limit_exceeded bisync_deletion_percent
  simp only [cast_nat_rat]
  exact decide_eq_decide.mpr (percent_gt_iff dels total maxDelete (Nat.pos_of_ne_zero htotal))

/-- the model's limit test, for ALL change lists and limits, with the fragments after the two early returns
    (`max_delete_percent == 0`, `total_files == 0`) as in the source. -/
theorem check_deletion_limit_eq_model (changes : List Bisync.Change) (maxDelete : Nat) :
    Bisync.deletionLimitExceeded changes maxDelete =
      (maxDelete ≠ 0 && changes.length ≠ 0 &&
        bisync_limit_exceeded
          (bisync_deletion_percent (changes.filter (·.ctype.isDeletion)).length changes.length) maxDelete) := by
  unfold Bisync.deletionLimitExceeded
  by_cases ht : changes.length = 0
  · simp [ht]
  · rw [bisync_limit_exceeded_eq_model _ _ _ ht]

end SyModel.Props.GenGuards
