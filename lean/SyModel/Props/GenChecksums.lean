/-
  Props.GenChecksums — bridge theorems for the translated unit `Checksums` (`SyModel/Generated/Code/Checksums.lean`,
  translated from /repo/src/delta/checksum.rs): the translated `compute_checksums`, run on the documented
  instance `cinst strong` of its `Ext` record (the trusted first part of Lemmas/GenChecksums.lean), computes exactly the
  handwritten model `SyModel.Delta.checksums` the C04 theorems are about; the dependence of that equality on FULL reads
  as a theorem (positive with the hypothesis `FullReads`, negative on the instance `cinstShort k`); C04 restated about
  the COMPOSITION of the translated functions (checksums of the old file, either translated generator on the new file).
-/
import SyModel.Lemmas.GenChecksums
import SyModel.Props.GenDelta
import SyModel.Props.GenDeltaStream
set_option autoImplicit false
namespace SyModel.Props.GenChecksums
open SyModel SyModel.Delta SyModel.Generated SyModel.Generated.Checksums SyModel.GenDelta SyModel.GenChecksums
open SyModel.Generated.Rs (run_bind)

/-! ### normal form (every `Ext`) -/

/-- NORMAL FORM (every `Ext`): `metadata(path)`, the empty-file return, then the closure `blockM` for the indices
    `0 … div_ceil(len, block_size) - 1`.  The TRANSLATION runs them in order, the first error ending the run (`seqM`);
    the Rust code runs them with rayon (`into_par_iter`, checksum.rs:46-47), so on a failing closure which closures ran
    and which error comes back may differ — on success the list is the same.  The only theorem about
    `compute_checksums` that depends on the shape of the generated code; everything below is about `blockM`. -/
theorem compute_checksums_normal_form {W : Type} (ext : Ext W) (path : Rs.Path) (bs : Nat) :
    compute_checksums ext path bs =
      (ext.std_fs_metadata path >>= fun md =>
        if (Rs.len md == 0) = true then pure []
        else seqM (blockM ext path bs) (List.range' 0 (Rs.div_ceil (Rs.len md) bs))) :=
  compute_checksums_nf ext path bs

/-! ### the translated function on the instance is the model -/

/-- **`compute_checksums` = model, the full-read hypothesis explicit.**  For every `read` operation that is FULL on
    live handles (`FullReads`), every world in which `p` is a regular file with content `old` and every
    `0 < block_size`: the translated `compute_checksums` succeeds with a list `cs` whose abstraction is exactly the
    model's `checksums strong bs old`; entry `i` carries `index = i` and `offset = i * bs`; there are
    `div_ceil(|old|, bs)` entries; file contents are what they were (one more open handle per block). -/
theorem compute_checksums_eq_model_of_fullReads (strong : Bytes → Nat)
    (rd : Nat → List Nat → Rs.M DWorld (Nat × List Nat)) (hfull : FullReads rd)
    (w : DWorld) (p : Rs.Path) (old : Bytes) (hfile : w.files p = some old) (bs : Nat) (hbs : 0 < bs) :
    ∃ cs w', compute_checksums (cinstWith strong rd) p bs w = (.ok cs, w') ∧
      cs.map absBlockC = checksums strong bs old ∧
      cs.length = Rs.div_ceil old.length bs ∧
      (∀ i (h : i < cs.length), cs[i].index = i ∧ cs[i].offset = i * bs) ∧
      w'.files = w.files ∧ w'.opened = w.opened + cs.length := by
  refine ⟨_, _, compute_checksums_cap bs strong rd bs p old (fullReads_cap rd hfull bs) w hfile,
    map_blockOf_full bs strong bs hbs (Nat.le_refl _) old, by simp, ?_, foldl_stepW_files _ _ _ _ _ _, ?_⟩
  · intro i h
    simp [blockOf]
  · rw [foldl_stepW_opened]; simp

/-- **`compute_checksums` = model** on THE instance `cinst strong` (full reads, `GenDelta.readOp`). -/
theorem compute_checksums_eq_model (strong : Bytes → Nat) (w : DWorld) (p : Rs.Path) (old : Bytes)
    (hfile : w.files p = some old) (bs : Nat) (hbs : 0 < bs) :
    ∃ cs w', compute_checksums (cinst strong) p bs w = (.ok cs, w') ∧
      cs.map absBlockC = checksums strong bs old ∧
      cs.length = Rs.div_ceil old.length bs ∧
      (∀ i (h : i < cs.length), cs[i].index = i ∧ cs[i].offset = i * bs) ∧
      w'.files = w.files ∧ w'.opened = w.opened + cs.length :=
  compute_checksums_eq_model_of_fullReads strong readOp fullReads_readOp w p old hfile bs hbs

/-- the same result as records of unit `Delta` (what the translated generators take): exactly `repBlock bs` of the
    model's list — in particular `index = offset / block_size`, the reading `Delta.Core` gives of the field the model
    does not carry -/
theorem compute_checksums_eq_repBlock (strong : Bytes → Nat) (w : DWorld) (p : Rs.Path) (old : Bytes)
    (hfile : w.files p = some old) (bs : Nat) (hbs : 0 < bs) :
    ∃ cs w', compute_checksums (cinst strong) p bs w = (.ok cs, w') ∧
      cs.map toDeltaBC = (checksums strong bs old).map (repBlock bs) := by
  obtain ⟨cs, w', hrun, hmodel, -, hidx, -, -⟩ := compute_checksums_eq_model strong w p old hfile bs hbs
  refine ⟨cs, w', hrun, ?_⟩
  rw [← hmodel, List.map_map]
  apply List.ext_getElem (by simp)
  intro i h1 h2
  simp only [List.getElem_map, Function.comp, toDeltaBC, repBlock, absBlockC]
  obtain ⟨hi, ho⟩ := hidx i (by simpa using h1)
  rw [hi, ho, Nat.mul_div_cancel _ hbs]

/-- a missing file: the `std::fs::metadata` error, nothing changes (no handle is opened) -/
theorem compute_checksums_missing (strong : Bytes → Nat) (rd : Nat → List Nat → Rs.M DWorld (Nat × List Nat))
    (w : DWorld) (p : Rs.Path) (hfile : w.files p = none) (bs : Nat) :
    compute_checksums (cinstWith strong rd) p bs w = (.error .io, w) := by
  rw [compute_checksums_head, hfile]

/-- an empty file: no block, no handle opened, for every block size (0 included: Rust returns before the division) -/
theorem compute_checksums_empty (strong : Bytes → Nat) (rd : Nat → List Nat → Rs.M DWorld (Nat × List Nat))
    (w : DWorld) (p : Rs.Path) (hfile : w.files p = some []) (bs : Nat) :
    compute_checksums (cinstWith strong rd) p bs w = (.ok [], w) := by
  rw [compute_checksums_head, hfile]
  rfl

/-- the file contents are never changed, with or without the file, for every block size -/
theorem compute_checksums_files_unchanged (strong : Bytes → Nat) (w : DWorld) (p : Rs.Path) (bs : Nat) :
    (compute_checksums (cinst strong) p bs w).2.files = w.files := by
  cases hfile : w.files p with
  | none => rw [cinst, compute_checksums_missing strong readOp w p hfile]
  | some old =>
    rw [cinst, compute_checksums_cap bs strong readOp bs p old (fullReads_cap readOp fullReads_readOp bs) w hfile]
    exact foldl_stepW_files _ _ _ _ _ _

/-! ### `block_size = 0`: an observation about the translation -/

/-- OBSERVATION.  For `block_size = 0` and a NON-EMPTY file the Rust code panics (`u64::div_ceil(0)`: "attempt to
    divide by zero", checksum.rs:41).  The TRANSLATION computes `Rs.div_ceil n 0 = (n + 0 - 1) / 0 = 0` (`Nat`
    division by zero is 0), runs the loop zero times and answers `Ok([])` without opening the file; the MODEL
    (`checksumsFrom`, branch `bs = 0`) answers `[]` as well.  So translation and model agree with each other and both
    differ from the code (a panic is not representable in `Rs.M`); the bridge theorems carry `0 < bs` for that reason,
    not because the equality fails.  `calculate_block_size` never yields 0 (`C04.consts_ok_block_min`); `sy-remote
    checksums --block-size 0` reaches the panic. -/
theorem compute_checksums_bs0_observation (strong : Bytes → Nat) (rd : Nat → List Nat → Rs.M DWorld (Nat × List Nat))
    (w : DWorld) (p : Rs.Path) (old : Bytes) (hfile : w.files p = some old) :
    compute_checksums (cinstWith strong rd) p 0 w = (.ok [], w) ∧ checksums strong 0 old = [] ∧
      ∀ n, Rs.div_ceil n 0 = 0 := by
  refine ⟨?_, ?_, fun n => by simp [Rs.div_ceil]⟩
  · rw [compute_checksums_head, hfile]
    dsimp only
    split
    · rfl
    · simp [Rs.div_ceil, seqM]; rfl
  · rw [checksums, checksumsFrom]; simp

/-! ### the short-read hazard

`compute_checksums` performs ONE `read` per block and labels the block `size = bytes_read`.  `Read::read` may deliver
fewer bytes than asked for before end of file; the equality with the model holds exactly as long as it does not. -/

/-- EXACT RESULT on the instance whose `read` delivers at most `k` bytes per call, for every `k`, block size and file:
    block `i` is `offset = i * bs`, `size = min(bs, k, |old| - i * bs)` with the hashes of exactly those bytes; the
    number of blocks is still `div_ceil(|old|, bs)` (it comes from the file length, not from what was read). -/
theorem compute_checksums_short_exact (k : Nat) (strong : Bytes → Nat) (w : DWorld) (p : Rs.Path) (old : Bytes)
    (hfile : w.files p = some old) (bs : Nat) :
    compute_checksums (cinstShort k strong) p bs w =
      (.ok ((List.range' 0 (Rs.div_ceil old.length bs)).map (blockOf k strong bs old)),
       (List.range' 0 (Rs.div_ceil old.length bs)).foldl (stepW k bs p old) w) :=
  compute_checksums_cap k strong (readCapOp k) bs p old (fun _ _ _ => rfl) w hfile

/-- a cap of at least one block is harmless: the model's list -/
theorem compute_checksums_short_ge_eq_model (k : Nat) (strong : Bytes → Nat) (w : DWorld) (p : Rs.Path) (old : Bytes)
    (hfile : w.files p = some old) (bs : Nat) (hbs : 0 < bs) (hk : bs ≤ k) :
    ∃ cs w', compute_checksums (cinstShort k strong) p bs w = (.ok cs, w') ∧
      cs.map absBlockC = checksums strong bs old :=
  ⟨_, _, compute_checksums_short_exact k strong w p old hfile bs, map_blockOf_full k strong bs hbs hk old⟩

/-- **THE HAZARD, for all inputs.**  When one `read` delivers at most `k < block_size` bytes and the file is longer
    than `k`, the translated `compute_checksums` still SUCCEEDS and its result is NOT the model's checksum list (the
    first entry already has `size = k` where the model has `min(bs, |old|) > k`).  So `FullReads` cannot be dropped
    from `compute_checksums_eq_model_of_fullReads`. -/
theorem compute_checksums_short_ne_model (k : Nat) (strong : Bytes → Nat) (w : DWorld) (p : Rs.Path) (old : Bytes)
    (hfile : w.files p = some old) (bs : Nat) (hbs : 0 < bs) (hk : k < bs) (hlen : k < old.length) :
    ∃ cs w', compute_checksums (cinstShort k strong) p bs w = (.ok cs, w') ∧
      cs.map absBlockC ≠ checksums strong bs old := by
  refine ⟨_, _, compute_checksums_short_exact k strong w p old hfile bs, ?_⟩
  rw [checksums, checksumsFrom_eq_range strong bs hbs, div_ceil_step _ _ (by omega) hbs, List.range'_succ]
  simp only [List.map_cons]
  intro h
  have h0 := (List.cons.inj h).1
  have hs : (absBlockC (blockOf k strong bs old 0)).size = (modelBlock strong bs 0 old 0).size := by rw [h0]
  simp only [absBlockC, blockOf, modelBlock, Nat.zero_mul, Nat.sub_zero, List.drop_zero, List.length_take] at hs
  omega

/-- … and yet every entry is TRUTHFUL: it lies inside `old` and carries the two hashes of exactly the bytes
    `old[offset .. offset + size)` — because the closure SEEKS to `index * block_size` for every block, a short read
    shortens the entry but never mislabels it.  What is lost is the tiling (`C04.checksums_cover`: `size = bs` except
    at the end), i.e. matches, not the soundness of a match.  The seeded change C04c (/verif/seeded/README.md) read
    SEQUENTIALLY through one buffered handle (no seek per block) with the same `offset = index * block_size`
    labelling; there the short read also shifts every later block, the entries stop being truthful and reconstruction
    fails. -/
theorem compute_checksums_short_entries_truthful (k : Nat) (strong : Bytes → Nat) (w : DWorld) (p : Rs.Path)
    (old : Bytes) (hfile : w.files p = some old) (bs : Nat) (hbs : 0 < bs) :
    ∃ cs w', compute_checksums (cinstShort k strong) p bs w = (.ok cs, w') ∧
      ∀ c ∈ cs, c.offset + c.size ≤ old.length ∧ c.size ≤ bs ∧ c.offset % bs = 0 ∧
        c.weak = hashBytes ((old.drop c.offset).take c.size) ∧
        c.strong = strong ((old.drop c.offset).take c.size) := by
  refine ⟨_, _, compute_checksums_short_exact k strong w p old hfile bs, ?_⟩
  intro c hc
  obtain ⟨i, hi, rfl⟩ := List.mem_map.mp hc
  have hi' : i < Rs.div_ceil old.length bs := by simpa using (List.mem_range'_1.mp hi).2
  have hlt : i * bs < old.length := by
    unfold Rs.div_ceil at hi'
    have := (Nat.le_div_iff_mul_le hbs).mp hi'
    rw [Nat.succ_mul] at this
    omega
  refine ⟨?_, ?_, ?_, rfl, rfl⟩
  · simp only [blockOf]; omega
  · simp only [blockOf]; omega
  · simp [blockOf]

/-- the world of the concrete witness: one file `s` holding seven bytes — three blocks of size 3 -/
def wS : DWorld :=
  { files := fun p => if p = ['s'] then some [1, 2, 3, 4, 5, 6, 7] else none, opened := 0, handle := fun _ => none }

/-- **Concrete counterexample (`k = block_size - 1`).**  `old = [1..7]`, `block_size = 3`, a `read` that delivers at
    most 2 bytes per call: the translated `compute_checksums` answers three entries of sizes 2, 2, 1 at offsets 0, 3, 6
    (the bytes `old[2]` and `old[5]` belong to no entry), the model three entries of sizes 3, 3, 1; with full reads the
    translated function answers the model's list. -/
theorem compute_checksums_counterexample_short_read (strong : Bytes → Nat) :
    (compute_checksums (cinstShort 2 strong) ['s'] 3 wS).1 =
        .ok [⟨0, 0, 2, hashBytes [1, 2], strong [1, 2]⟩, ⟨1, 3, 2, hashBytes [4, 5], strong [4, 5]⟩,
             ⟨2, 6, 1, hashBytes [7], strong [7]⟩] ∧
      checksums strong 3 [1, 2, 3, 4, 5, 6, 7] =
        [⟨0, 3, hashBytes [1, 2, 3], strong [1, 2, 3]⟩, ⟨3, 3, hashBytes [4, 5, 6], strong [4, 5, 6]⟩,
         ⟨6, 1, hashBytes [7], strong [7]⟩] ∧
      (compute_checksums (cinst strong) ['s'] 3 wS).1 =
        .ok [⟨0, 0, 3, hashBytes [1, 2, 3], strong [1, 2, 3]⟩, ⟨1, 3, 3, hashBytes [4, 5, 6], strong [4, 5, 6]⟩,
             ⟨2, 6, 1, hashBytes [7], strong [7]⟩] := by
  have hr : List.range' 0 (Rs.div_ceil 7 3) = [0, 1, 2] := by decide
  refine ⟨?_, ?_, ?_⟩
  · rw [compute_checksums_short_exact 2 strong wS ['s'] [1, 2, 3, 4, 5, 6, 7] (by simp [wS]) 3]
    simp [hr, blockOf, blkBytes]
  · rw [checksums, checksumsFrom_eq_range strong 3 (by decide)]
    simp [hr, modelBlock]
  · rw [cinst, compute_checksums_cap 3 strong readOp 3 ['s'] [1, 2, 3, 4, 5, 6, 7]
      (fullReads_cap readOp fullReads_readOp 3) wS (by simp [wS])]
    simp [hr, blockOf, blkBytes]

/-- `FullReads` is what separates the two instances: a capped `read` is not full (for any cap) -/
theorem capped_read_not_full (k : Nat) : ¬ FullReads (readCapOp k) := by
  intro h
  -- a buffer and a file of `k + 1` bytes: the full read delivers `k + 1`, the capped one `k`
  have := h 1 (List.replicate (k + 1) 0)
    { files := fun _ => some (List.replicate (k + 1) 0), opened := 1, handle := fun _ => some ([], 0) } (by simp [DWorld.source])
  have h1 := congrArg (fun r => r.1.toOption.map (·.1)) this
  simp [readCapOp, readOp, DWorld.source, Except.toOption] at h1

/-! ### C04 about the COMPOSITION of the translated functions -/

/-- **C04, translated pipeline (in-memory generator).**  In any world where `pOld` holds `old` and `pNew` holds `new`,
    for `0 < bs` and `NoCollision` (as in `Props/C04`): running the translated `compute_checksums` on the old file and
    handing its result — as it is, through the field-by-field record conversion `toDeltaBC` — to the translated
    `generate_delta` on the new file succeeds, leaves all file contents as they were, and applying the returned ops to
    `old` gives exactly `new`. -/
theorem translated_pipeline_reconstructs (strong : Bytes → Nat) (w : DWorld) (pOld pNew : Rs.Path) (old new : Bytes)
    (hold : w.files pOld = some old) (hnew : w.files pNew = some new) (bs : Nat) (hbs : 0 < bs)
    (hc : NoCollision strong old new bs) :
    ∃ d w', (compute_checksums (cinst strong) pOld bs >>= fun cs =>
        Generated.Delta.generate_delta (inst strong) pNew (cs.map toDeltaBC) bs) w = (.ok d, w') ∧
      w'.files = w.files ∧ d.source_size = new.length ∧ d.block_size = bs ∧
      applyOps old (d.ops.map absOp) = some new := by
  obtain ⟨cs, w1, hrun, hmodel, -, -, hfiles, -⟩ := compute_checksums_eq_model strong w pOld old hold bs hbs
  obtain ⟨d, w2, hgen, hfiles2, hs, hb, happ⟩ := GenDelta.translated_genMem_reconstructs strong w1 pNew old new
    (by rw [hfiles]; exact hnew) (cs.map toDeltaBC) bs (by rw [map_absBlock_toDeltaBC]; exact hmodel) hbs hc
  refine ⟨d, w2, ?_, by rw [hfiles2, hfiles], hs, hb, happ⟩
  rw [run_bind, hrun]
  exact hgen

/-- **C04, translated pipeline (streaming generator, the one `sy` uses for remote delta sync).**  The same with
    `generate_delta_streaming`, for `0 < bs ≤ CHUNK_SIZE = 256 * 1024` (sy's block sizes are `≤ 128 KiB`,
    `C04.consts_ok_chunk`). -/
theorem translated_pipeline_streaming_reconstructs (strong : Bytes → Nat) (w : DWorld) (pOld pNew : Rs.Path)
    (old new : Bytes) (hold : w.files pOld = some old) (hnew : w.files pNew = some new) (bs : Nat) (hbs : 0 < bs)
    (hchunk : bs ≤ 256 * 1024) (hc : NoCollision strong old new bs) :
    ∃ d w', (compute_checksums (cinst strong) pOld bs >>= fun cs =>
        Generated.Delta.generate_delta_streaming (inst strong) pNew (cs.map toDeltaBC) bs) w = (.ok d, w') ∧
      w'.files = w.files ∧ d.source_size = new.length ∧ d.block_size = bs ∧
      applyOps old (d.ops.map absOp) = some new := by
  obtain ⟨cs, w1, hrun, hmodel, -, -, hfiles, -⟩ := compute_checksums_eq_model strong w pOld old hold bs hbs
  obtain ⟨d, w2, hgen, hfiles2, hs, hb, happ⟩ := GenDeltaStream.translated_genStream_reconstructs strong w1 pNew old new
    (by rw [hfiles]; exact hnew) (cs.map toDeltaBC) bs (by rw [map_absBlock_toDeltaBC]; exact hmodel) hbs hchunk hc
  refine ⟨d, w2, ?_, by rw [hfiles2, hfiles], hs, hb, happ⟩
  rw [run_bind, hrun]
  exact hgen

/-- every `Copy` either translated pipeline returns references a range inside `old` -/
theorem translated_pipeline_copies_in_range (strong : Bytes → Nat) (w : DWorld) (pOld pNew : Rs.Path) (old new : Bytes)
    (hold : w.files pOld = some old) (hnew : w.files pNew = some new) (bs : Nat) (hbs : 0 < bs)
    (hchunk : bs ≤ 256 * 1024) (hc : NoCollision strong old new bs) :
    (∃ d w', (compute_checksums (cinst strong) pOld bs >>= fun cs =>
        Generated.Delta.generate_delta (inst strong) pNew (cs.map toDeltaBC) bs) w = (.ok d, w') ∧
      ∀ off sz, Generated.Delta.DeltaOp.Copy off sz ∈ d.ops → sz = 0 ∨ off + sz ≤ old.length) ∧
    (∃ d w', (compute_checksums (cinst strong) pOld bs >>= fun cs =>
        Generated.Delta.generate_delta_streaming (inst strong) pNew (cs.map toDeltaBC) bs) w = (.ok d, w') ∧
      ∀ off sz, Generated.Delta.DeltaOp.Copy off sz ∈ d.ops → sz = 0 ∨ off + sz ≤ old.length) := by
  obtain ⟨d, w', hrun, -, -, -, happ⟩ := translated_pipeline_reconstructs strong w pOld pNew old new hold hnew bs hbs hc
  obtain ⟨d2, w2, hrun2, -, -, -, happ2⟩ :=
    translated_pipeline_streaming_reconstructs strong w pOld pNew old new hold hnew bs hbs hchunk hc
  exact ⟨⟨d, w', hrun, copies_of_apply happ⟩, d2, w2, hrun2, copies_of_apply happ2⟩

/-- **What the hazard costs in THIS code: matches, not correctness.**  With a `read` capped at ANY `k` (short reads
    included) and a collision-free strong hash, the composition `compute_checksums` → `generate_delta` still
    reconstructs `new` exactly: the entries are truthful (`compute_checksums_short_entries_truthful`), and the
    generators only need that (`CandidatesSound`).  The per-block `seek` is what makes this true; compare the
    seeded change C04c, where it is gone. -/
theorem translated_pipeline_short_reads_still_reconstruct (k : Nat) (strong : Bytes → Nat)
    (hinj : ∀ a b, strong a = strong b → a = b) (w : DWorld) (pOld pNew : Rs.Path) (old new : Bytes)
    (hold : w.files pOld = some old) (hnew : w.files pNew = some new) (bs : Nat) (hbs : 0 < bs) :
    ∃ d w', (compute_checksums (cinstShort k strong) pOld bs >>= fun cs =>
        Generated.Delta.generate_delta (inst strong) pNew (cs.map toDeltaBC) bs) w = (.ok d, w') ∧
      applyOps old (d.ops.map absOp) = some new := by
  obtain ⟨cs, w1, hrun, htruth⟩ := compute_checksums_short_entries_truthful k strong w pOld old hold bs hbs
  have hfiles : w1.files = w.files := by
    rw [compute_checksums_short_exact k strong w pOld old hold bs] at hrun
    rw [← (Prod.mk.inj hrun).2]; exact foldl_stepW_files _ _ _ _ _ _
  have hs : CandidatesSound strong old new ((cs.map toDeltaBC).map absBlock) := by
    rw [map_absBlock_toDeltaBC]
    intro c hc win _ hst
    obtain ⟨c', hc', rfl⟩ := List.mem_map.mp hc
    obtain ⟨hrange, -, -, -, hstrong⟩ := htruth c' hc'
    have : (old.drop c'.offset).take c'.size = win := hinj _ _ (by simpa [absBlockC, hstrong] using hst)
    exact (readExact_of_range hrange).trans (congrArg some this)
  obtain ⟨d, w2, hgen, -, -, -, happ⟩ := GenDelta.generate_delta_reconstructs_of_sound strong w1 pNew old new
    (by rw [hfiles]; exact hnew) (cs.map toDeltaBC) bs hbs hs
  exact ⟨d, w2, by rw [run_bind, hrun]; exact hgen, happ⟩

/-! ### non-vacuity of the hypotheses -/

/-- `FullReads` holds of the world's `read` -/
example : FullReads readOp := fullReads_readOp

/-- `w.files p = some old`, `0 < bs`: the bridge on the witness world computes three blocks -/
example : ∃ cs w', compute_checksums (cinst (fun _ => 0)) ['s'] 3 wS = (.ok cs, w') ∧ cs.length = 3 := by
  obtain ⟨cs, w', h, -, hl, -⟩ := compute_checksums_eq_model (fun _ => 0) wS ['s'] [1, 2, 3, 4, 5, 6, 7] (by simp [wS]) 3
    (by decide)
  exact ⟨cs, w', h, by rw [hl]; decide⟩

/-- missing file: `w.files p = none` is satisfiable -/
example : (compute_checksums (cinst (fun _ => 0)) ['g'] 3 wS).1 = .error .io := by
  rw [cinst, compute_checksums_missing _ _ wS ['g'] (by simp [wS])]

/-- empty file: `w.files p = some []` is satisfiable -/
example : (compute_checksums (cinst (fun _ => 0)) ['e'] 3
    { files := fun p => if p = ['e'] then some [] else none, opened := 0, handle := fun _ => none }).1 = .ok [] := by
  rw [cinst, compute_checksums_empty _ _ _ ['e'] (by simp)]

/-- `k < bs`, `k < |old|` (the hazard) and `bs ≤ k` (harmless cap) are satisfiable on the witness world -/
example (strong : Bytes → Nat) : ∃ cs w', compute_checksums (cinstShort 2 strong) ['s'] 3 wS = (.ok cs, w') ∧
    cs.map absBlockC ≠ checksums strong 3 [1, 2, 3, 4, 5, 6, 7] :=
  compute_checksums_short_ne_model 2 strong wS ['s'] _ (by simp [wS]) 3 (by decide) (by decide) (by decide)

example (strong : Bytes → Nat) : ∃ cs w', compute_checksums (cinstShort 3 strong) ['s'] 3 wS = (.ok cs, w') ∧
    cs.map absBlockC = checksums strong 3 [1, 2, 3, 4, 5, 6, 7] :=
  compute_checksums_short_ge_eq_model 3 strong wS ['s'] _ (by simp [wS]) 3 (by decide) (by decide)

/-- an injective strong hash exists (`hinj` of `translated_pipeline_short_reads_still_reconstruct` and of the
    examples below is satisfiable): bytes as digits in base 257 -/
def enc : Bytes → Nat
  | [] => 0
  | x :: t => enc t * 257 + x.toNat + 1

theorem enc_injective : ∀ a b, enc a = enc b → a = b := by
  intro a
  induction a with
  | nil => intro b h; cases b with
    | nil => rfl
    | cons y t => simp [enc] at h
  | cons x t ih => intro b h; cases b with
    | nil => simp [enc] at h
    | cons y t' =>
      have hx := x.toNat_lt
      have hy := y.toNat_lt
      simp only [enc] at h
      have h1 : enc t = enc t' := by omega
      have h2 : x.toNat = y.toNat := by omega
      rw [ih t' h1, UInt8.toNat_inj.mp h2]

/-- short reads, `k = 2 < bs = 3`: the pipeline still reconstructs (instance of the theorem with a real `strong`) -/
example : ∃ d w', (compute_checksums (cinstShort 2 enc) ['o'] 3 >>= fun cs =>
      Generated.Delta.generate_delta (inst enc) ['n'] (cs.map toDeltaBC) 3)
        { files := fun p => if p = ['o'] then some [1, 2, 3, 4, 5, 6, 7] else if p = ['n'] then some [9, 4, 5, 6, 1, 2, 3, 7, 7]
            else none, opened := 0, handle := fun _ => none } = (.ok d, w') ∧
    applyOps [1, 2, 3, 4, 5, 6, 7] (d.ops.map absOp) = some [9, 4, 5, 6, 1, 2, 3, 7, 7] :=
  translated_pipeline_short_reads_still_reconstruct 2 enc enc_injective _ ['o'] ['n'] [1, 2, 3, 4, 5, 6, 7]
    [9, 4, 5, 6, 1, 2, 3, 7, 7] (by simp) (by simp) 3 (by decide)

/-- the world of the pipeline examples: the old file `o` and the new file `n` -/
def wP : DWorld :=
  { files := fun p => if p = ['o'] then some [1, 2, 3, 4, 5, 6, 7] else if p = ['n'] then some [9, 4, 5, 6, 1, 2, 3, 7, 7]
      else none,
    opened := 0, handle := fun _ => none }

/-- the hypotheses of both pipeline theorems are satisfiable together (two files, `bs = 3 ≤ 256 KiB`, `NoCollision`
    from an injective strong hash as in `Props/GenDelta`) -/
example (strong : Bytes → Nat) (hinj : ∀ a b, strong a = strong b → a = b) :
    ∃ d w', (compute_checksums (cinst strong) ['o'] 3 >>= fun cs =>
        Generated.Delta.generate_delta_streaming (inst strong) ['n'] (cs.map toDeltaBC) 3) wP = (.ok d, w') ∧
      applyOps [1, 2, 3, 4, 5, 6, 7] (d.ops.map absOp) = some [9, 4, 5, 6, 1, 2, 3, 7, 7] := by
  obtain ⟨d, w', h, -, -, -, ha⟩ := translated_pipeline_streaming_reconstructs strong wP ['o'] ['n']
    [1, 2, 3, 4, 5, 6, 7] [9, 4, 5, 6, 1, 2, 3, 7, 7] (by simp [wP]) (by simp [wP]) 3 (by decide) (by decide)
    (noCollision_of_injective strong hinj _ _ _)
  exact ⟨d, w', h, ha⟩

/-- … and the old and the new file may be the same path (`sy` re-syncing an unchanged file) -/
example (strong : Bytes → Nat) (hinj : ∀ a b, strong a = strong b → a = b) :
    ∃ d w', (compute_checksums (cinst strong) ['s'] 3 >>= fun cs =>
        Generated.Delta.generate_delta (inst strong) ['s'] (cs.map toDeltaBC) 3) wS = (.ok d, w') ∧
      applyOps [1, 2, 3, 4, 5, 6, 7] (d.ops.map absOp) = some [1, 2, 3, 4, 5, 6, 7] := by
  obtain ⟨d, w', h, -, -, -, ha⟩ := translated_pipeline_reconstructs strong wS ['s'] ['s']
    [1, 2, 3, 4, 5, 6, 7] [1, 2, 3, 4, 5, 6, 7] (by simp [wS]) (by simp [wS]) 3 (by decide)
    (noCollision_of_injective strong hinj _ _ _)
  exact ⟨d, w', h, ha⟩

end SyModel.Props.GenChecksums
