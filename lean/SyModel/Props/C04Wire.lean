/-
  C04 (wire leg) — the delta survives the JSON + zstd wire encoding consumed by the remote
  helper, and the composition with both generators still reconstructs `new`.
  Property theorems only; helper lemmas live in `SyModel/Lemmas/{Json,Wire,Codec}`.  The two `consts_ok_*` are side
  conditions on constants extracted from the Rust source on every run (`Generated/Consts`).
-/
import SyModel.Props.C04
import SyModel.Lemmas.Wire
import SyModel.Lemmas.Codec
import SyModel.Generated.Consts
namespace SyModel.Props.C04Wire
open SyModel SyModel.Delta SyModel.Compress SyModel.Json

/-- the bytes `sy-remote apply-delta` compares are the model's magic, in positions 0‥3. -/
theorem consts_ok_magic_apply_delta :
    Generated.ZSTD_MAGIC_APPLY_DELTA = zstdMagic.map UInt8.toNat := by decide

/-- the length guard of the sniffing test is the length of the magic. -/
theorem consts_ok_sniff_len_apply_delta :
    Generated.SNIFF_MIN_LEN_APPLY_DELTA = zstdMagic.length := by decide

/-- `hasZstdMagic` is "starts with `zstdMagic`" (so the two constants above pin it down). -/
theorem sniff_test_is_prefix (l : Bytes) : hasZstdMagic l = true ↔ ∃ r, l = zstdMagic ++ r :=
  hasZstdMagic_iff l

theorem number_roundtrip (n : Nat) (rest : Bytes) (h : startsDigit rest = false) :
    parseNat (printNat n ++ rest) = some (n, rest) :=
  parseNat_print n rest h

/-- the parser inverts the printer on every delta (any op list incl. empty ops and empty `Data`,
    any numbers). -/
theorem json_roundtrip (d : Delta) : decodeJson (encodeJson d) = some d :=
  decodeJson_encodeJson d

/-- compressed leg: what `ssh.rs` sends (`compress(json, Zstd)`) is decoded by `apply-delta` to the
    delta that was sent. -/
theorem wire_roundtrip (Z : Codec) (hZ : Z.Sound) (d : Delta) :
    remoteDecode Z (Z.compress (encode d)) = some d := by
  unfold remoteDecode
  rw [sniff_compress Z hZ]
  exact decodeJson_encodeJson d

/-- uncompressed leg: plain JSON on stdin is never mistaken for a zstd frame (it starts with `{`),
    whatever the codec does. -/
theorem wire_roundtrip_uncompressed (Z : Codec) (d : Delta) :
    remoteDecode Z (encode d) = some d := by
  unfold remoteDecode encode
  rw [sniff_raw Z _ (encodeJson_no_magic d)]
  exact decodeJson_encodeJson d

/-- the helper applies exactly the ops that were sent; `source_size` and `block_size` travel with them and are not
    read (`apply_delta` uses `delta.ops` only) -/
theorem remoteApply_wireSend (Z : Codec) (hZ : Z.Sound) (old : Bytes) (d : Delta) :
    remoteApply Z old (wireSend Z d) = applyOps old d.ops := by
  unfold remoteApply wireSend
  rw [wire_roundtrip Z hZ]

theorem remoteApply_encode (Z : Codec) (old : Bytes) (d : Delta) :
    remoteApply Z old (encode d) = applyOps old d.ops := by
  unfold remoteApply
  rw [wire_roundtrip_uncompressed Z]

/-- the delta of the in-memory generator, sent compressed and applied by the helper, rebuilds `new`. -/
theorem C04_wire_mem {H} [BEq H] (Z : Codec) (hZ : Z.Sound) (strong : Bytes → H) (old new : Bytes) (bs : Nat)
    (h : 0 < bs) (hc : NoCollision strong old new bs) :
    remoteApply Z old
      (wireSend Z { ops := genMem strong (checksums strong bs old) bs new,
                    sourceSize := new.length, blockSize := bs }) = some new :=
  (remoteApply_wireSend Z hZ old _).trans (C04.genMem_reconstructs strong old new bs h hc)

/-- streaming generator (the one `ssh.rs` uses) through the wire, for every window ≥ block size. -/
theorem C04_wire_stream {H} [BEq H] (Z : Codec) (hZ : Z.Sound) (strong : Bytes → H) (old new : Bytes)
    (bs chunk : Nat) (h : 0 < bs) (hchunk : bs ≤ chunk) (hc : NoCollision strong old new bs) :
    ∃ ops, genStream strong (checksums strong bs old) bs chunk new = some ops ∧
      remoteApply Z old (wireSend Z { ops := ops, sourceSize := new.length, blockSize := bs }) = some new := by
  obtain ⟨ops, h1, h2⟩ := C04.genStream_reconstructs strong old new bs chunk h hchunk hc
  exact ⟨ops, h1, (remoteApply_wireSend Z hZ old _).trans h2⟩

/-- … with the code's `CHUNK_SIZE` and every block size `calculate_block_size` yields. -/
theorem C04_wire_stream_sy {H} [BEq H] (Z : Codec) (hZ : Z.Sound) (strong : Bytes → H) (old new : Bytes)
    (bs : Nat) (h : 0 < bs) (hmax : bs ≤ Generated.BLOCK_SIZE_MAX) (hc : NoCollision strong old new bs) :
    ∃ ops, genStream strong (checksums strong bs old) bs Generated.STREAM_CHUNK_SIZE new = some ops ∧
      remoteApply Z old (wireSend Z { ops := ops, sourceSize := new.length, blockSize := bs }) = some new :=
  C04_wire_stream Z hZ strong old new bs _ h (Nat.le_trans hmax C04.consts_ok_chunk) hc

/-- the in-memory generator when the JSON is sent uncompressed (the helper accepts both). -/
theorem C04_wire_mem_uncompressed {H} [BEq H] (Z : Codec) (strong : Bytes → H) (old new : Bytes) (bs : Nat)
    (h : 0 < bs) (hc : NoCollision strong old new bs) :
    remoteApply Z old
      (encode { ops := genMem strong (checksums strong bs old) bs new,
                sourceSize := new.length, blockSize := bs }) = some new :=
  (remoteApply_encode Z old _).trans (C04.genMem_reconstructs strong old new bs h hc)

/-- the streaming generator when the JSON is sent uncompressed. -/
theorem C04_wire_stream_uncompressed {H} [BEq H] (Z : Codec) (strong : Bytes → H) (old new : Bytes)
    (bs chunk : Nat) (h : 0 < bs) (hchunk : bs ≤ chunk) (hc : NoCollision strong old new bs) :
    ∃ ops, genStream strong (checksums strong bs old) bs chunk new = some ops ∧
      remoteApply Z old (encode { ops := ops, sourceSize := new.length, blockSize := bs }) = some new := by
  obtain ⟨ops, h1, h2⟩ := C04.genStream_reconstructs strong old new bs chunk h hchunk hc
  exact ⟨ops, h1, (remoteApply_encode Z old _).trans h2⟩

/-- `Codec.Sound` is satisfiable ("identity with magic"). -/
example : toyZ.Sound := toyZ_sound

/-- the printer produces the documented text (`{"ops":[{"Copy":{"offset":0,"size":4}},{"Data":[1,2,3]}],"source_size":10,"block_size":4}`). -/
example : encodeJson { ops := [.copy 0 4, .data [1, 2, 3]], sourceSize := 10, blockSize := 4 } =
    lit "{\"ops\":[{\"Copy\":{\"offset\":0,\"size\":4}},{\"Data\":[1,2,3]}],\"source_size\":10,\"block_size\":4}" := by
  simp only [encodeJson, encodeOps, encodeOp, encodeByteList]
  rw [show (1 : UInt8).toNat = 1 from rfl, show (2 : UInt8).toNat = 2 from rfl, show (3 : UInt8).toNat = 3 from rfl]
  rw [printNat_lt (by omega : 0 < 10), printNat_lt (by omega : 4 < 10), printNat_lt (by omega : 1 < 10),
    printNat_lt (by omega : 2 < 10), printNat_lt (by omega : 3 < 10), printNat_ge (by omega : ¬ 10 < 10),
    printNat_lt (by omega : 10 / 10 < 10)]
  repeat rw [lit_ofList]
  rfl

/-- a concrete delta with a `Copy`, an empty and a non-empty `Data` and a `u64::MAX` offset survives
    the compressed wire. -/
example : remoteDecode toyZ (toyZ.compress (encode
    { ops := [.copy 18446744073709551615 0, .data [], .data [0, 255]], sourceSize := 7, blockSize := 3 })) =
    some { ops := [.copy 18446744073709551615 0, .data [], .data [0, 255]], sourceSize := 7, blockSize := 3 } :=
  wire_roundtrip toyZ toyZ_sound _

/-- the composed statement on a concrete non-trivial pair (injective strong hash). -/
example : remoteApply toyZ [1, 2, 3, 4, 5, 6, 7]
    (wireSend toyZ { ops := genMem (H := Bytes) id (checksums id 3 [1, 2, 3, 4, 5, 6, 7]) 3 [9, 4, 5, 6, 1, 2, 3, 7, 7],
                     sourceSize := 9, blockSize := 3 }) = some [9, 4, 5, 6, 1, 2, 3, 7, 7] :=
  C04_wire_mem toyZ toyZ_sound id _ _ 3 (by decide) (C04.noCollision_id _ _ _)

end SyModel.Props.C04Wire
