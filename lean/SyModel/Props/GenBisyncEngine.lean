/-
  GenBisyncEngine — the TRANSLATED bidirectional engine (`SyModel.Generated.BisyncEngine`, translated by
  tools/rs2lean.py from /repo/src/bisync/engine.rs and classifier.rs: `BisyncEngine::sync`,
  `execute_actions`, `execute_single_action`, `copy_file`, `delete_file`, `update_state`, `file_state`,
  `check_deletion_limit`, `classify_changes`, in the effect monad `Rs.M W = ExceptT Rs.Err (StateM W)` over a
  structure `Ext W` of world operations) computes, on the model's world, what the HANDWRITTEN model
  `SyModel.Bisync.Exec` (`execOne`, `execActions`, `updateStateRepaired`, `deletionLimitExceeded`, `sync Cfg.repaired`)
  says — the model the theorems C11 / C12 are about.

  THE INSTANCE (trusted; the one place where modelling decisions live).
    `W := Bisync.World` (two roots = finite maps relative path ↦ `File`, the state table `Db`, the logical clock).
    `modelExt src dst bis cci : Ext World`, `src`/`dst` the two root TEXTS:
      * a path text is decoded by stripping `src ++ "/"` or `dst ++ "/"` (`decode`); nothing exists outside the roots;
      * `std_fs_copy a b`        fails when `a` is missing; else `b` := the bytes (cid, size) of `a` NOW, mtime := clock
                                 (the clock is read, never advanced), an existing `b` is replaced; answers the size;
      * `std_fs_rename a b`      inside one root: fails when `a` is missing, replaces `b`, keeps bytes and mtime;
      * `std_fs_remove_file a`   fails when `a` is missing;
      * `std_fs_symlink_metadata` fails when missing; every file is a regular file;
      * `std_fs_create_dir_all`  always succeeds and changes nothing — THE MODEL HAS NO DIRECTORIES (a file on
                                 one side whose name is a directory prefix of a file on the other is outside it);
      * `db_store` = INSERT OR REPLACE on (path, side); `db_delete` removes both sides; `db_clear_all` empties;
        `db_load_all` pairs the rows by path (`Db.loadAll`); opening never fails and creates no rows;
      * `scanner_scan root`      the root's files as `FileEntry` values (`entryOf`: relative_path, path, size, modified);
      * `SystemTime_now` reads the clock; `Instant::now`/`elapsed` answer nothing / 0 ns;
      * `bisync := bis` (the pure externs `same_bytes`, `generate_conflict_timestamp`) — tied to the world by the
        hypotheses `SameBytesAgrees bis (contOf src dst w)`, `StampAgrees bis stamp` of the theorems;
        `collect_conflict_info := cci`, any function (reporting only).

  Hypotheses (each with a satisfiability example in the last section):
    `RootsOK src dst`   the root texts are non-empty and neither `src/` is a prefix of `dst/` nor the reverse (the two
                        trees are disjoint; `sy` itself does not check this: a run with nested roots is outside the model);
    `WorldOK w`         each root is a finite map (no path twice) whose names are non-empty and do not end in `/`;
    `SameBytesAgrees`, `StampAgrees` (GenBisync) for the pure externs, satisfiable for EVERY world (`hyps_satisfiable`);
    `Fresh w stamp`     (Bisync.History) the conflict names of this run name nothing that exists — needed ONLY to
                        compare with `Bisync.sync`'s fixed iteration order; it cannot be dropped (last example).
-/
import SyModel.Generated.Code.BisyncEngine
import SyModel.Props.GenBisync
import SyModel.Props.GenGuards
import SyModel.Lemmas.GenBisyncEngine
import SyModel.Lemmas.RsMap

namespace SyModel.Props.GenBisyncEngine
open SyModel
open SyModel.Generated (Rs.M Rs.Err Rs.Path Rs.Str Rs.Metadata Rs.Opaque Rs.HashMap)
open SyModel.Generated.Bisync (FileEntry SyncState SyncAction ResolvedChanges BisyncStats ConflictResolution
  resolve_conflict resolve_changes simulate_actions)
open SyModel.Generated.BisyncEngine
open SyModel.Bisync (World Root Db File Row aget aset aerase ExecState execOne execActions Action)
open SyModel.Props.GenBisync
-- the rules are `Rs.Pres`'s; they apply to this unit's `Pres` because it unfolds to `Rs.Pres`
open SyModel.Generated.Rs (Pres.pure Pres.liftE Pres.bind Pres.forIn)

/-- the timestamp of a rename `resolve_conflict` answers is the text `generate_conflict_timestamp` returned, for ANY
    `ext` and any change (no `HasEntry`: without entries the `Rename` strategy answers a copy, not a rename) -/
theorem resolve_conflict_ts (ext : Generated.Bisync.Ext) (c : Generated.Bisync.Change) (st : ConflictResolution)
    (a : SyncAction) (h : resolve_conflict ext c st = .ok a) :
    ∀ s d ts, a = .RenameConflict s d ts → ts = ext.generate_conflict_timestamp () := by
  intro s' d' ts ha
  subst ha
  by_cases hne : st = .Rename → HasEntry c
  · exact (resolve_conflict_from_change ext c st hne _ h).2.2
  · obtain ⟨rfl, hn⟩ := Classical.not_imp.mp hne
    obtain ⟨p, ct, _ | s, _ | d⟩ := c
    · simp [resolve_conflict, Generated.Rs.is_some] at h
    all_goals exact absurd (by simp [HasEntry]) hn

/-! ## the instance of `Ext` on the model's world -/

/-- which root a path text lies under (the source root is tried first), and its path relative to that root -/
def decode (src dst p : Rs.Path) : Option (Bisync.Side × Bisync.Path) :=
  match stripRoot src p with
  | some rel => some (.source, rel)
  | none => (stripRoot dst p).map fun rel => (.dest, rel)

def root (w : World) : Bisync.Side → Root
  | .source => w.left
  | .dest => w.right

def setRoot (w : World) : Bisync.Side → Root → World
  | .source, r => { w with left := r }
  | .dest, r => { w with right := r }

/-- the file a path text names, if any (nothing exists outside the two roots) -/
def fileAt (src dst : Rs.Path) (w : World) (p : Rs.Path) : Option File :=
  (decode src dst p).bind fun x => aget x.2 (root w x.1)

/-- `Side` of state.rs ↦ the model's `Side` (a bijection; inverse `concSide`) -/
def absSide : Generated.Bisync.Side → Bisync.Side
  | .Source => .source
  | .Dest => .dest

def concSide : Bisync.Side → Generated.Bisync.Side
  | .source => .Source
  | .dest => .Dest

/-- a row of the state table as the `SyncState` `load_all` returns (`last_sync` is stored but never read) -/
def concRow (p : Bisync.Path) (sd : Bisync.Side) (r : Row) : SyncState :=
  { path := p, side := concSide sd, mtime := r.mtime, size := r.size, checksum := none, last_sync := 0 }

/-- the `FileEntry` the scanner produces for the regular file `f` at `rel` under `root` -/
def entryOf (rootText : Rs.Path) (rel : Bisync.Path) (f : File) : FileEntry :=
  { (default : FileEntry) with
    path := Generated.Rs.join rootText rel, relative_path := rel, size := f.size, modified := f.mtime,
    is_dir := false, allocated_size := f.size, nlink := 1 }

/-- what `Scanner::scan` lists for a root of regular files, in the order of the model's `Bisync.scan` -/
def scanEntries (rootText : Rs.Path) (r : Root) : List FileEntry := r.map fun kv => entryOf rootText kv.1 kv.2

/-! ### the world operations (each one: the result of the call and the world it leaves) -/

/-- `std::fs::symlink_metadata(a)`: fails on a missing file; every file of the model is a regular file -/
def fsMetadata (src dst a : Rs.Path) (w : World) : Except Rs.Err Rs.Metadata × World :=
  match fileAt src dst w a with
  | some f => (.ok { dir := false, mtime := f.mtime, size := f.size }, w)
  | none => (.error .io, w)

/-- `std::fs::copy(a, b)`: fails when `a` is missing; otherwise `b` gets the bytes (content id, size) `a` holds NOW
    and a NEW mtime, the logical clock; an existing `b` is replaced; answers the number of bytes copied -/
def fsCopy (src dst a b : Rs.Path) (w : World) : Except Rs.Err Nat × World :=
  match fileAt src dst w a, decode src dst b with
  | some f, some (sb, rb) => (.ok f.size, setRoot w sb (aset rb { f with mtime := w.clock } (root w sb)))
  | _, _ => (.error .io, w)

/-- `std::fs::remove_file(a)`: fails on a missing file -/
def fsRemove (src dst a : Rs.Path) (w : World) : Except Rs.Err Unit × World :=
  match decode src dst a with
  | some (sa, ra) =>
    match aget ra (root w sa) with
    | some _ => (.ok (), setRoot w sa (aerase ra (root w sa)))
    | none => (.error .io, w)
  | none => (.error .io, w)

/-- `std::fs::rename(a, b)` inside one root: fails when `a` is missing; replaces an existing `b`; the file keeps
    its bytes and mtime. (A rename from one root into the other is never asked for by the engine; it fails.) -/
def fsRename (src dst a b : Rs.Path) (w : World) : Except Rs.Err Unit × World :=
  match decode src dst a, decode src dst b with
  | some (sa, ra), some (sb, rb) =>
    if sa = sb then
      match Bisync.renameFile ra rb (root w sa) with
      | some r => (.ok (), setRoot w sa r)
      | none => (.error .io, w)
    else (.error .io, w)
  | _, _ => (.error .io, w)

/-- `BisyncStateDb::load_all`: one pair of rows per path that has a row (state.rs:226-262) -/
def dbLoadAll (w : World) : Rs.HashMap Rs.Path (Option SyncState × Option SyncState) :=
  w.db.loadAll.map fun kv => (kv.1, (kv.2.1.map (concRow kv.1 .source), kv.2.2.map (concRow kv.1 .dest)))

/-- `Scanner::new(r).scan()` for one of the two roots: its regular files -/
def scanRoot (src dst r : Rs.Path) (w : World) : Except Rs.Err (List FileEntry) × World :=
  if r = src then (.ok (scanEntries src w.left), w)
  else if r = dst then (.ok (scanEntries dst w.right), w)
  else (.error .io, w)

/-- **the instance**: the externs of the translated engine as operations on the model's world. `src`, `dst` are
    the two root texts; `bis` carries `same_bytes` and the conflict timestamp (tied to the world by the
    hypotheses `SameBytesAgrees bis (contOf src dst w)` and `StampAgrees bis stamp` of the theorems); `cci` is
    `collect_conflict_info` (reporting only: any function). -/
def modelExt (src dst : Rs.Path) (bis : Generated.Bisync.Ext)
    (cci : List Generated.Bisync.Change → Generated.Bisync.ConflictResolution → List ConflictInfo) : Ext World where
  bisync := bis
  collect_conflict_info := cci
  Scanner_new := fun p => p
  -- opening the state database creates an empty one when there is none: no rows either way
  BisyncStateDb_open := fun _ _ => pure ⟨⟩
  BisyncStateDb_open_existing_read_only := fun _ _ => pure (some ⟨⟩)
  std_fs_rename := fun a b => op (fsRename src dst a b)
  -- the model has no directories: creating the parents of a path always succeeds and changes nothing
  std_fs_create_dir_all := fun _ => pure ()
  std_fs_copy := fun a b => op (fsCopy src dst a b)
  std_fs_remove_file := fun a => op (fsRemove src dst a)
  std_fs_symlink_metadata := fun a => op (fsMetadata src dst a)
  -- the logical clock is read, never advanced, by the engine (time passes between runs: `Bisync.sync`'s `clock + 1`)
  SystemTime_now := fun _ => op fun w => (.ok w.clock, w)
  std_time_Instant_now := fun _ => pure ⟨⟩
  instant_elapsed := fun _ => pure 0
  db_clear_all := fun _ => op fun w => (.ok (), { w with db := [] })
  db_load_all := fun _ => op fun w => (.ok (dbLoadAll w), w)
  -- `store` is INSERT OR REPLACE on (path, side) (state.rs:176); `delete` removes both sides (state.rs:265-271)
  db_store := fun _ st => op fun w => (.ok (), { w with db := aset (st.path, absSide st.side) (absRow st) w.db })
  db_delete := fun _ p => op fun w => (.ok (), { w with db := Bisync.Db.delete p w.db })
  scanner_scan := fun r => op (scanRoot src dst r)

/-- the hypothesis on the two root texts: both non-empty, and neither `src/` a prefix of `dst/` nor the reverse, so
    that `root.join(rel)` decodes back to `(root, rel)` (`decode_join`) -/
structure RootsOK (src dst : Rs.Path) : Prop where
  src_ne : src ≠ []
  dst_ne : dst ≠ []
  src_not_in_dst : ¬ (src ++ ['/']) <+: (dst ++ ['/'])
  dst_not_in_src : ¬ (dst ++ ['/']) <+: (src ++ ['/'])

instance (src dst : Rs.Path) : Decidable (RootsOK src dst) :=
  decidable_of_iff (src ≠ [] ∧ dst ≠ [] ∧ ¬ (src ++ ['/']) <+: (dst ++ ['/']) ∧ ¬ (dst ++ ['/']) <+: (src ++ ['/']))
    ⟨fun ⟨a, b, c, d⟩ => ⟨a, b, c, d⟩, fun ⟨a, b, c, d⟩ => ⟨a, b, c, d⟩⟩

example : RootsOK "/home/u/a".toList "/home/u/ab".toList := by decide
example : ¬ RootsOK "/home/u/a".toList "/home/u/a/b".toList := by decide

def rootText (src dst : Rs.Path) : Bisync.Side → Rs.Path
  | .source => src
  | .dest => dst

theorem decode_join {src dst : Rs.Path} (hr : RootsOK src dst) (sd : Bisync.Side) (rel : Bisync.Path) :
    decode src dst (Generated.Rs.join (rootText src dst sd) rel) = some (sd, rel) := by
  cases sd with
  | source => simp [decode, rootText, stripRoot_join hr.src_ne]
  | dest =>
    simp [decode, rootText, stripRoot_join hr.dst_ne,
      stripRoot_join_other hr.dst_ne hr.src_not_in_dst hr.dst_not_in_src]

theorem fileAt_join {src dst : Rs.Path} (hr : RootsOK src dst) (sd : Bisync.Side) (rel : Bisync.Path) (w : World) :
    fileAt src dst w (Generated.Rs.join (rootText src dst sd) rel) = aget rel (root w sd) := by
  simp [fileAt, decode_join hr]

section
variable (src dst : Rs.Path) (bis : Generated.Bisync.Ext)
  (cci : List Generated.Bisync.Change → Generated.Bisync.ConflictResolution → List ConflictInfo)

/-- `file_state` on ANY path text: never fails, touches nothing, answers the (mtime, size) of the file there -/
theorem file_state_run (p : Rs.Path) (w : World) :
    runM (file_state (modelExt src dst bis cci) p) w =
      (.ok ((fileAt src dst w p).map fun f => (f.mtime, f.size)), w) := by
  unfold file_state
  simp only [runM_bind, runM_capture, modelExt, runM_op, fsMetadata]
  cases fileAt src dst w p <;> rfl

/-- `copy_file` on ANY two path texts is the world operation `fsCopy` (the `create_dir_all` of the parent, when
    there is a parent, changes nothing) -/
theorem copy_file_run (a b : Rs.Path) (w : World) :
    runM (copy_file (modelExt src dst bis cci) a b) w = fsCopy src dst a b w := by
  unfold copy_file
  cases Generated.Rs.parent b <;> simp only [runM_bind, modelExt, runM_op, runM_pure]

theorem delete_file_run (a : Rs.Path) (w : World) :
    runM (delete_file (modelExt src dst bis cci) a) w = fsRemove src dst a w := by
  unfold delete_file
  simp only [modelExt, runM_op]

variable {src dst}

theorem fsCopy_join (hr : RootsOK src dst) (sa sb : Bisync.Side) (ra rb : Bisync.Path) (w : World) :
    fsCopy src dst (Generated.Rs.join (rootText src dst sa) ra) (Generated.Rs.join (rootText src dst sb) rb) w =
      match aget ra (root w sa) with
      | some f => (.ok f.size, setRoot w sb (aset rb { f with mtime := w.clock } (root w sb)))
      | none => (.error .io, w) := by
  simp only [fsCopy, fileAt_join hr, decode_join hr]
  cases aget ra (root w sa) <;> rfl

theorem fsRemove_join (hr : RootsOK src dst) (sa : Bisync.Side) (ra : Bisync.Path) (w : World) :
    fsRemove src dst (Generated.Rs.join (rootText src dst sa) ra) w =
      match aget ra (root w sa) with
      | some _ => (.ok (), setRoot w sa (aerase ra (root w sa)))
      | none => (.error .io, w) := by
  simp only [fsRemove, decode_join hr]

theorem fsRename_join (hr : RootsOK src dst) (sa : Bisync.Side) (ra rb : Bisync.Path) (w : World) :
    fsRename src dst (Generated.Rs.join (rootText src dst sa) ra) (Generated.Rs.join (rootText src dst sa) rb) w =
      match Bisync.renameFile ra rb (root w sa) with
      | some r => (.ok (), setRoot w sa r)
      | none => (.error .io, w) := by
  simp only [fsRename, decode_join hr, if_true]

/-- **file_state = the model's lookup**: for the path `root(sd)/rel`, `Some` of the metadata (`File.meta`) of the
    file the model's root holds at `rel`, `None` when it holds none; the world is not touched. -/
theorem file_state_eq_model (hr : RootsOK src dst) (sd : Bisync.Side) (rel : Bisync.Path) (w : World) :
    runM (file_state (modelExt src dst bis cci) (Generated.Rs.join (rootText src dst sd) rel)) w =
      (.ok ((aget rel (root w sd)).map fun f => (f.meta.mtime, f.meta.size)), w) := by
  rw [file_state_run, fileAt_join hr]; rfl

/-- **copy_file = the model's `copyFile`** from side `sa` to side `sb` at the same relative path: `Err` and nothing
    changed when the source is missing, otherwise `Ok(size)` and root `sb` becomes `copyFile clock rel (root sa) (root sb)`
    (the bytes of the source as it is now, mtime := the logical clock). -/
theorem copy_file_eq_model (hr : RootsOK src dst) (sa sb : Bisync.Side) (rel : Bisync.Path) (w : World) :
    runM (copy_file (modelExt src dst bis cci) (Generated.Rs.join (rootText src dst sa) rel)
        (Generated.Rs.join (rootText src dst sb) rel)) w =
      match Bisync.copyFile w.clock rel (root w sa) (root w sb) with
      | some r => (.ok (((aget rel (root w sa)).map (·.size)).getD 0), setRoot w sb r)
      | none => (.error .io, w) := by
  rw [copy_file_run, fsCopy_join hr]
  unfold Bisync.copyFile
  cases aget rel (root w sa) <;> rfl

/-- **delete_file = the model's delete**: `Err` and nothing changed when the file is missing (`remove_file` fails),
    otherwise the path is erased from that root. -/
theorem delete_file_eq_model (hr : RootsOK src dst) (sd : Bisync.Side) (rel : Bisync.Path) (w : World) :
    runM (delete_file (modelExt src dst bis cci) (Generated.Rs.join (rootText src dst sd) rel)) w =
      match aget rel (root w sd) with
      | some _ => (.ok (), setRoot w sd (aerase rel (root w sd)))
      | none => (.error .io, w) := by
  rw [delete_file_run, fsRemove_join hr]

/-- a name `conflict_filename` can work on: not empty, no trailing `/` (`ConflictDomain`) -/
def NameOK (p : Bisync.Path) : Prop := p ≠ [] ∧ p.getLast? ≠ some '/'

/-- what an action must satisfy for the model's `Action` to describe it: nothing for copies and deletes; for a rename,
    both entries carry the same relative path (the model renames ONE path on both sides; `execute_single_action` reads
    `source.relative_path` on the left and `dest.relative_path` on the right), that path is a name
    `conflict_filename` can work on, and the timestamp text is a decimal numeral (the model's stamp is a number).
    Every action `resolve_changes` makes of the classifier's changes is such (`resolved_actions_ok`). -/
def ActionOK : SyncAction → Prop
  | .RenameConflict s d ts =>
    d.relative_path = s.relative_path ∧ NameOK s.relative_path ∧ ∃ n, ts = Nat.toDigits 10 n
  | _ => True

/-- **execute_single_action = execOne.** For every executable action and every world: the roots after the call are
    the roots of the model's `execOne` on the abstracted action (clock, state table untouched); the call answers
    `Err` exactly when `execOne` records an error (a copy whose source is missing, a delete of a missing file, a
    rename whose first or second file is missing — after a failed SECOND rename the first stays done, on both
    sides), and `Ok(mBytes)` — `fs::copy`'s answer, the size of the copied file as it is NOW; `0` for a delete or a
    rename — otherwise. -/
theorem execute_single_action_eq_model (hr : RootsOK src dst) (cont : Rs.Path → Option Nat) (a : SyncAction)
    (ha : ActionOK a) (w : World) :
    runM (execute_single_action (modelExt src dst bis cci) src dst a) w =
      (let st := Bisync.execOne w.clock ⟨w.left, w.right, []⟩ (absAction cont a)
       (if st.errors.isEmpty then .ok (mBytes ⟨w.left, w.right, []⟩ (absAction cont a)) else .error .io,
        { w with left := st.left, right := st.right })) := by
  have hs : ∀ rel, Generated.Rs.join src rel = Generated.Rs.join (rootText src dst .source) rel := fun _ => rfl
  have hd : ∀ rel, Generated.Rs.join dst rel = Generated.Rs.join (rootText src dst .dest) rel := fun _ => rfl
  unfold execute_single_action
  cases a with
  | CopyToSource e =>
    refine (copy_file_eq_model bis cci hr .dest .source e.relative_path w).trans ?_
    show (match Bisync.copyFile w.clock e.relative_path w.right w.left with | some r => _ | none => _) = _
    cases h : Bisync.copyFile w.clock e.relative_path w.right w.left <;>
      simp only [absAction, absActionAt, actionPath, Bisync.execOne, h] <;> rfl
  | CopyToDest e =>
    refine (copy_file_eq_model bis cci hr .source .dest e.relative_path w).trans ?_
    show (match Bisync.copyFile w.clock e.relative_path w.left w.right with | some r => _ | none => _) = _
    cases h : Bisync.copyFile w.clock e.relative_path w.left w.right <;>
      simp only [absAction, absActionAt, actionPath, Bisync.execOne, h] <;> rfl
  | DeleteFromSource q =>
    simp only [runM_bind, delete_file_run]
    rw [hs, fsRemove_join hr]
    simp only [absAction, absActionAt, Bisync.execOne, root, setRoot, mBytes]
    rcases Option.eq_none_or_eq_some (aget q w.left) with hx | ⟨f, hx⟩ <;> simp [hx]
  | DeleteFromDest q =>
    simp only [runM_bind, delete_file_run]
    rw [hd, fsRemove_join hr]
    simp only [absAction, absActionAt, Bisync.execOne, root, setRoot, mBytes]
    rcases Option.eq_none_or_eq_some (aget q w.right) with hx | ⟨f, hx⟩ <;> simp [hx]
  | RenameConflict s d ts =>
    obtain ⟨hp, ⟨hne, hlast⟩, n, rfl⟩ := ha
    have c1 := conflict_filename_join_eq_model src s.relative_path hr.src_ne hne hlast n .source
    have c2 := conflict_filename_join_eq_model dst s.relative_path hr.dst_ne hne hlast n .dest
    have e1 : Bisync.Side.source.str = ['s', 'o', 'u', 'r', 'c', 'e'] := by decide
    have e2 : Bisync.Side.dest.str = ['d', 'e', 's', 't'] := by decide
    rw [e1] at c1
    rw [e2] at c2
    simp only [runM_bind, modelExt, runM_op, hp, c1, c2]
    simp only [hs, hd, fsRename_join hr, absAction, absActionAt, actionPath, Bisync.execOne, absStamp_toDigits,
      mBytes, root]
    rcases Option.eq_none_or_eq_some (Bisync.renameFile s.relative_path
        (Bisync.conflictName s.relative_path n .source) w.left) with hx | ⟨l, hx⟩
    · simp [hx]
    · simp only [hx, setRoot]
      rcases Option.eq_none_or_eq_some (Bisync.renameFile s.relative_path
          (Bisync.conflictName s.relative_path n .dest) w.right) with hy | ⟨r, hy⟩
      · simp [hy]
      · simp [hy]
end

theorem absAction_path (cont : Rs.Path → Option Nat) (a : SyncAction) : (absAction cont a).path = actionPath a := by
  cases a <;> rfl

/-- the statistics of a real run whose (abstracted) actions are `acts`, executed from `w` -/
def realStats (w : World) (acts : List Action) (counts : Nat × Nat) : BisyncStats :=
  let st0 : ExecState := ⟨w.left, w.right, []⟩
  { files_synced_to_dest := modelCount .copyToDest (okActions w.clock acts st0) +
      modelCount .rename (okActions w.clock acts st0)
    files_synced_to_source := modelCount .copyToSource (okActions w.clock acts st0) +
      modelCount .rename (okActions w.clock acts st0)
    files_deleted_from_source := modelCount .deleteFromSource (okActions w.clock acts st0)
    files_deleted_from_dest := modelCount .deleteFromDest (okActions w.clock acts st0)
    conflicts_resolved := counts.1
    conflicts_renamed := counts.2
    bytes_transferred := okBytes w.clock acts st0
    duration_ms := 0 }

theorem realStats_duration (w : World) (acts : List Action) (counts : Nat × Nat) :
    { realStats w acts counts with duration_ms := Generated.Rs.as_millis 0 } = realStats w acts counts := rfl

section
variable {src dst : Rs.Path} (bis : Generated.Bisync.Ext)
  (cci : List Generated.Bisync.Change → Generated.Bisync.ConflictResolution → List ConflictInfo)

/-- **execute_actions = execActions.** For every list of executable actions and every world the call succeeds
    (single failures are collected, never abort); the roots it leaves are those of the model's `execActions` on the
    abstracted list (state table and clock untouched); one message per model error; the returned failed set is the
    set of the model's error paths in first-occurrence order (`failed_set`: no duplicates, same members); the four
    file counters count the actions that succeeded (`okActions`; a rename counts on both sides), the bytes are
    those the succeeded copies moved (`okBytes`; a rename moves none), the two conflict counters are copied. -/
theorem execute_actions_eq_model (hr : RootsOK src dst) (cont : Rs.Path → Option Nat)
    (resolved : ResolvedChanges) (hok : ∀ a ∈ resolved.actions, ActionOK a) (w : World) :
    runM (execute_actions (modelExt src dst bis cci) src dst resolved) w =
      (let m := resolved.actions.map (absAction cont)
       let st0 : ExecState := ⟨w.left, w.right, []⟩
       let st := execActions w.clock m st0
       (.ok (realStats w m (resolved.conflicts_resolved, resolved.conflicts_renamed),
             List.replicate st.errors.length Generated.Rs.opaqueMsg,
             Generated.Rs.extend [] st.errors),
        { w with left := st.left, right := st.right })) := by
  unfold execute_actions
  dsimp only
  -- the loop from ANY statistics `x.1.1`, messages `x.1.2.1` and failed set `x.1.2.2`: the model's `execActions`
  rw [runM_bind, runM_forIn_rec ActionOK
    (fun acts (x : (BisyncStats × List Rs.Str × List Rs.Path) × World) =>
      let m := acts.map (absAction cont)
      let st0 : ExecState := ⟨x.2.left, x.2.right, []⟩
      let st := execActions x.2.clock m st0
      ((addOk x.1.1 (okActions x.2.clock m st0) (okBytes x.2.clock m st0),
        x.1.2.1 ++ List.replicate st.errors.length Generated.Rs.opaqueMsg, Generated.Rs.extend x.1.2.2 st.errors),
       { x.2 with left := st.left, right := st.right }))]
  · have hd : (default : BisyncStats) = ⟨0, 0, 0, 0, 0, 0, 0, 0⟩ := rfl
    simp only [hd, addOk, addCounts, realStats, Nat.zero_add, List.nil_append]
    rfl
  · rintro ⟨⟨s, es, fl⟩, w⟩
    simp [execActions, okActions, okBytes, addOk_nil, Generated.Rs.extend]
  · rintro a t ⟨s, es, fl⟩ w ha
    have hc := Bisync.execOne_errors_cases w.clock w.left w.right (absAction cont a)
    have hE := Bisync.execActions_errors w.clock (t.map (absAction cont))
      (execOne w.clock ⟨w.left, w.right, []⟩ (absAction cont a))
    simp only [execActions] at hE
    simp only [runM_bind, runM_capture, execute_single_action_eq_model bis cci hr cont a ha, List.map_cons,
      execActions, List.foldl_cons, okActions, okBytes, stepOk]
    rw [hE, okActions_errors, okBytes_errors]
    obtain ⟨st, hst⟩ : ∃ st, execOne w.clock ⟨w.left, w.right, []⟩ (absAction cont a) = st := ⟨_, rfl⟩
    simp only [hst] at hc ⊢
    rcases hc with hc | hc <;>
      simp only [hc, List.isEmpty_nil, List.isEmpty_cons, if_true, Bool.false_eq_true, if_false]
    · refine ⟨(addOk s [absAction cont a] (mBytes ⟨w.left, w.right, []⟩ (absAction cont a)), es, fl),
        { w with left := st.left, right := st.right },
        by cases a <;> rfl, ?_⟩
      simp only [addOk_addOk, List.nil_append, List.singleton_append]
    · refine ⟨(s, es ++ [Generated.Rs.opaqueMsg], Generated.Rs.set_insert fl (actionPath a)),
        { w with left := st.left, right := st.right }, by rw [action_path_eq]; rfl, ?_⟩
      simp only [absAction_path, List.nil_append, Nat.zero_add, List.length_append,
        List.length_cons, List.length_nil, Generated.Rs.extend, List.append_assoc]
      congr 3
      rw [Nat.add_comm, List.replicate_succ]
      rfl
  · exact hok

/-- the set of failed paths `execute_actions` returns is the set of the model's error paths, without duplicates -/
theorem failed_set (errs : List Bisync.Path) :
    (Generated.Rs.extend [] errs).Nodup ∧ ∀ p, p ∈ Generated.Rs.extend [] errs ↔ p ∈ errs :=
  ⟨Generated.Rs.nodup_extend [] errs List.nodup_nil, fun p => by rw [Generated.Rs.mem_extend]; simp⟩
end

section
variable {src dst : Rs.Path} (bis : Generated.Bisync.Ext)
  (cci : List Generated.Bisync.Change → Generated.Bisync.ConflictResolution → List ConflictInfo)

theorem run_now (u : Unit) (w : World) :
    runM ((modelExt src dst bis cci).SystemTime_now u) w = (.ok w.clock, w) := rfl
theorem run_db_store (h : Rs.Opaque) (st : SyncState) (w : World) :
    runM ((modelExt src dst bis cci).db_store h st) w =
      (.ok (), { w with db := aset (st.path, absSide st.side) (absRow st) w.db }) := rfl
theorem run_db_delete (h : Rs.Opaque) (p : Rs.Path) (w : World) :
    runM ((modelExt src dst bis cci).db_delete h p) w = (.ok (), { w with db := Bisync.Db.delete p w.db }) := rfl
theorem run_db_clear_all (h : Rs.Opaque) (w : World) :
    runM ((modelExt src dst bis cci).db_clear_all h) w = (.ok (), { w with db := [] }) := rfl
theorem run_db_load_all (h : Rs.Opaque) (w : World) :
    runM ((modelExt src dst bis cci).db_load_all h) w = (.ok (dbLoadAll w), w) := rfl
theorem run_scan (r : Rs.Path) (w : World) :
    runM ((modelExt src dst bis cci).scanner_scan r) w = scanRoot src dst r w := rfl
theorem run_open (a b : Rs.Path) (w : World) :
    runM ((modelExt src dst bis cci).BisyncStateDb_open a b) w = (.ok ⟨⟩, w) := rfl
theorem run_open_ro (a b : Rs.Path) (w : World) :
    runM ((modelExt src dst bis cci).BisyncStateDb_open_existing_read_only a b) w = (.ok (some ⟨⟩), w) := rfl
theorem run_instant_now (u : Unit) (w : World) :
    runM ((modelExt src dst bis cci).std_time_Instant_now u) w = (.ok ⟨⟩, w) := rfl
theorem run_elapsed (h : Rs.Opaque) (w : World) :
    runM ((modelExt src dst bis cci).instant_elapsed h) w = (.ok 0, w) := rfl

/-- **update_state = updateStateRepaired**, exactly (same iteration order: the path list as given), for every path
    list and every failed set: never fails, touches only the state table; a path in `failed` keeps its rows, a path
    that is a file on both sides gets both rows from the files' CURRENT metadata, any other path loses its rows. -/
theorem update_state_eq_model (hr : RootsOK src dst) (h : Rs.Opaque) (paths failed : List Rs.Path) (w : World) :
    runM (update_state (modelExt src dst bis cci) h src dst paths failed) w =
      (.ok (), { w with db := Bisync.updateStateRepaired w.left w.right failed w.db paths }) := by
  have hs : ∀ rel, Generated.Rs.join src rel = Generated.Rs.join (rootText src dst .source) rel := fun _ => rfl
  have hd : ∀ rel, Generated.Rs.join dst rel = Generated.Rs.join (rootText src dst .dest) rel := fun _ => rfl
  unfold update_state
  rw [runM_bind, run_now]
  dsimp only
  rw [runM_bind, runM_forIn_rec (fun _ => True) (fun ps (x : Unit × World) =>
    ((), { x.2 with db := Bisync.updateStateRepaired x.2.left x.2.right failed x.2.db ps }))
    (fun _ => rfl) ?_ _ fun _ _ => trivial]
  · rfl
  intro p ps s w _
  by_cases hf : p ∈ failed
  · have : Generated.Rs.contains failed p = true := by simpa [Generated.Rs.contains] using hf
    exact ⟨(), w, by simp only [this, if_true, runM_pure], by simp only [Bisync.updateStateRepaired, hf, if_true]⟩
  · have : Generated.Rs.contains failed p = false := by simpa [Generated.Rs.contains] using hf
    simp only [this, Bool.false_eq_true, if_false, runM_bind, hs, hd, file_state_run, fileAt_join hr, root,
      Bisync.updateStateRepaired, hf]
    rcases Option.eq_none_or_eq_some (aget p w.left) with hl | ⟨l, hl⟩ <;>
      rcases Option.eq_none_or_eq_some (aget p w.right) with hr' | ⟨r, hr'⟩ <;>
      simp [hl, hr', runM_bind, runM_map, run_db_store, run_db_delete, absSide, absRow, File.meta]
end

/-- **check_deletion_limit = deletionLimitExceeded** (`f64` idealised as ℚ: the tie `deletions·100 = max·total`,
    where rounding could go either way, is `Bisync.deletionTie`): `Err(Config)` exactly when the model refuses. This is
    translated function = model; `GenGuards.check_deletion_limit_eq_model` is model = translated fragments, and this
    goes through its `GenGuards.bisync_limit_exceeded_eq_model`. -/
theorem check_deletion_limit_eq_model (cont : Rs.Path → Option Nat) (changes : List Generated.Bisync.Change)
    (maxDelete : Nat) :
    check_deletion_limit changes maxDelete =
      if Bisync.deletionLimitExceeded (changes.map (absChange cont)) maxDelete
      then .error (.config Generated.Rs.opaqueMsg) else .ok () := by
  unfold check_deletion_limit Bisync.deletionLimitExceeded
  dsimp only
  generalize hcount : Generated.Rs.count _ = dels
  have hf : ((changes.map (absChange cont)).filter (·.ctype.isDeletion)).length = dels := by
    rw [← hcount]
    simp only [Generated.Rs.count, Generated.Rs.filter, List.filter_map, List.length_map]
    congr 2
    funext c
    obtain ⟨p, ct, s, d⟩ := c
    cases ct <;> rfl
  rw [hf]
  have hl : Generated.Rs.len changes = changes.length := rfl
  rw [hl, List.length_map]
  clear hf hcount
  rcases Nat.eq_zero_or_pos maxDelete with rfl | hm
  · rfl
  rcases Nat.eq_zero_or_pos changes.length with ht | ht
  · rw [ht]
    cases maxDelete <;> rfl
  · have hb := GenGuards.bisync_limit_exceeded_eq_model dels changes.length maxDelete (Nat.ne_of_gt ht)
    -- the two fragments are the very expressions of `check_deletion_limit`: unfolded, `hb` rewrites the goal
    unfold Generated.Guards.bisync_limit_exceeded Generated.Guards.bisync_deletion_percent at hb
    rw [hb]
    by_cases hd : dels * 100 > maxDelete * changes.length <;>
      simp [Nat.ne_of_gt hm, Nat.ne_of_gt ht, hd] <;> rfl

/-- the map `classify_changes` builds from a scan: `relative_path ↦ entry` -/
def mapOf (fs : List FileEntry) : Rs.HashMap Rs.Path FileEntry :=
  fs.foldl (fun m e => Generated.Rs.insert_mut m e.relative_path e) []

/-- the set of paths `classify_changes` iterates over, in the order the translation's `HashSet` gives them -/
def genPaths (sf df : List FileEntry) (prior : Rs.HashMap Rs.Path (Option SyncState × Option SyncState)) :
    List Rs.Path :=
  Generated.Rs.extend (Generated.Rs.extend (Generated.Rs.extend [] (Generated.Rs.keys (mapOf sf)))
    (Generated.Rs.keys (mapOf df))) (Generated.Rs.keys prior)

/-- what one iteration finds out about path `p` -/
def genOne (cont : Rs.Path → Option Nat) (sf df : List FileEntry)
    (prior : Rs.HashMap Rs.Path (Option SyncState × Option SyncState)) (p : Rs.Path) :
    Option Generated.Bisync.Change :=
  let s := Generated.Rs.get (mapOf sf) p
  let d := Generated.Rs.get (mapOf df) p
  let pr := Generated.Rs.get prior p
  (Bisync.classifySingle .repaired (s.map (absEntry cont)) (d.map (absEntry cont))
      ((pr.bind (·.1)).map absRow) ((pr.bind (·.2)).map absRow)).map fun ct =>
    { path := p, change_type := concChangeType ct, source_entry := s, dest_entry := d }

/-- `classify_changes` never fails, touches nothing, and answers the changes of `genPaths` in order -/
theorem classify_changes_run {W : Type} (ext : Ext W) {cont : Rs.Path → Option Nat}
    (hx : SameBytesAgrees ext.bisync cont) (sf df : List FileEntry)
    (prior : Rs.HashMap Rs.Path (Option SyncState × Option SyncState)) (w : W) :
    runM (classify_changes ext sf df prior) w =
      (.ok ((genPaths sf df prior).filterMap (genOne cont sf df prior)), w) := by
  unfold classify_changes
  dsimp only
  have hins : ∀ fs : List FileEntry,
      (forIn fs ([] : Rs.HashMap Rs.Path FileEntry) fun entry __s =>
        (pure (ForInStep.yield (Generated.Rs.insert_mut __s entry.relative_path entry)) : Rs.M W _)) = pure (mapOf fs) :=
    fun fs => Generated.Rs.forIn_pure_foldl _ _ (fun _ _ => rfl) fs []
  rw [hins, hins]
  dsimp only [Generated.Rs.pure_bind_rfl]
  rw [runM_bind, runM_forIn_rec (fun _ => True)
    (fun ps x => (x.1 ++ ps.filterMap (genOne cont sf df prior), x.2)) (fun x => by simp) ?_ _ fun _ _ => trivial]
  · rfl
  intro p ps acc w _
  rw [runM_bind, classify_single_path_eq hx]
  simp only [runM_liftE_ok, List.filterMap_cons]
  unfold genOne
  dsimp only [Generated.Rs.and_then]
  cases Bisync.classifySingle .repaired _ _ _ _
  · exact ⟨_, _, rfl, rfl⟩
  · exact ⟨_, _, rfl, by simp⟩

/-- a scan, as the model's classifier takes it -/
def absScan (cont : Rs.Path → Option Nat) (fs : List FileEntry) : List (Bisync.Path × Bisync.Entry) :=
  fs.map fun e => (e.relative_path, absEntry cont e)

/-- the loaded prior state, as the model's classifier takes it -/
def absPrior (prior : Rs.HashMap Rs.Path (Option SyncState × Option SyncState)) :
    List (Bisync.Path × (Option Row × Option Row)) :=
  prior.map fun kv => (kv.1, (kv.2.1.map absRow, kv.2.2.map absRow))

/-- the scanner never yields a relative path twice -/
def ScanOK (fs : List FileEntry) : Prop := (fs.map (·.relative_path)).Nodup

theorem get_mapOf {fs : List FileEntry} (h : ScanOK fs) (p : Rs.Path) :
    Generated.Rs.get (mapOf fs) p = fs.find? (fun e => e.relative_path == p) := by
  unfold mapOf
  rw [Generated.Rs.get_foldl_insert_mut (fun e : FileEntry => e.relative_path) fs h]
  cases fs.find? (fun e => e.relative_path == p) <;> rfl

theorem get_mapOf_path {fs : List FileEntry} (h : ScanOK fs) {p : Rs.Path} {e : FileEntry}
    (he : Generated.Rs.get (mapOf fs) p = some e) : e.relative_path = p := by
  rw [get_mapOf h] at he
  simpa using List.find?_some he

theorem get_mapOf_abs (cont : Rs.Path → Option Nat) {fs : List FileEntry} (h : ScanOK fs) (p : Rs.Path) :
    (Generated.Rs.get (mapOf fs) p).map (absEntry cont) = Bisync.lookup p (absScan cont fs) := by
  rw [get_mapOf h]
  exact (Bisync.lookup_map_find (fun e : FileEntry => e.relative_path) (absEntry cont) fs p).symm

theorem lookup_absPrior (prior : Rs.HashMap Rs.Path (Option SyncState × Option SyncState)) (p : Rs.Path) :
    Bisync.lookup p (absPrior prior) =
      (Generated.Rs.get prior p).map fun x => (x.1.map absRow, x.2.map absRow) := by
  rw [get_eq_lookup, Bisync.lookup_eq_aget, Bisync.lookup_eq_aget]
  exact Bisync.aget_map_snd (fun x : Option SyncState × Option SyncState => (x.1.map absRow, x.2.map absRow)) p prior

theorem genOne_abs (cont : Rs.Path → Option Nat) {sf df : List FileEntry} (hs : ScanOK sf) (hd : ScanOK df)
    (prior : Rs.HashMap Rs.Path (Option SyncState × Option SyncState)) (p : Rs.Path) :
    (genOne cont sf df prior p).map (absChange cont) =
      Bisync.classifyOne .repaired (absScan cont sf) (absScan cont df) (absPrior prior) p := by
  unfold genOne Bisync.classifyOne
  dsimp only
  rw [← get_mapOf_abs cont hs, ← get_mapOf_abs cont hd, lookup_absPrior]
  have h1 : ((Generated.Rs.get prior p).map fun x => (x.1.map absRow, x.2.map absRow)).bind (·.1) =
      ((Generated.Rs.get prior p).bind (·.1)).map absRow := by
    cases Generated.Rs.get prior p <;> rfl
  have h2 : ((Generated.Rs.get prior p).map fun x => (x.1.map absRow, x.2.map absRow)).bind (·.2) =
      ((Generated.Rs.get prior p).bind (·.2)).map absRow := by
    cases Generated.Rs.get prior p <;> rfl
  rw [h1, h2, Option.map_map]
  congr 1
  funext ct
  simp [absChange, absChangeType_concChangeType]

theorem mem_genPaths (sf df : List FileEntry) (prior : Rs.HashMap Rs.Path (Option SyncState × Option SyncState))
    (p : Rs.Path) :
    p ∈ genPaths sf df prior ↔
      p ∈ sf.map (·.relative_path) ∨ p ∈ df.map (·.relative_path) ∨ p ∈ prior.map (·.1) := by
  have hk : ∀ fs : List FileEntry, p ∈ Generated.Rs.keys (mapOf fs) ↔ p ∈ fs.map (·.relative_path) := by
    intro fs
    unfold mapOf
    rw [Generated.Rs.mem_keys_foldl_insert_mut (fun e : FileEntry => e.relative_path)]
    simp [Generated.Rs.keys]
  unfold genPaths
  simp only [Generated.Rs.mem_extend, hk, List.not_mem_nil, false_or, or_assoc]
  rfl

theorem nodup_genPaths (sf df : List FileEntry) (prior : Rs.HashMap Rs.Path (Option SyncState × Option SyncState)) :
    (genPaths sf df prior).Nodup :=
  Generated.Rs.nodup_extend _ _ (Generated.Rs.nodup_extend _ _ (Generated.Rs.nodup_extend _ _ List.nodup_nil))

theorem genPaths_perm (cont : Rs.Path → Option Nat) (sf df : List FileEntry)
    (prior : Rs.HashMap Rs.Path (Option SyncState × Option SyncState)) :
    (genPaths sf df prior).Perm (Bisync.allPathsOf (absScan cont sf) (absScan cont df) (absPrior prior)) := by
  unfold Bisync.allPathsOf
  rw [List.perm_ext_iff_of_nodup (nodup_genPaths sf df prior) (Bisync.nodup_dedup _)]
  intro p
  rw [mem_genPaths, Bisync.mem_dedup]
  simp only [absScan, absPrior, List.mem_append, List.map_map, or_assoc]
  rfl

theorem genOne_some {cont : Rs.Path → Option Nat} {sf df : List FileEntry}
    {prior : Rs.HashMap Rs.Path (Option SyncState × Option SyncState)} {p : Rs.Path} {c : Generated.Bisync.Change}
    (h : genOne cont sf df prior p = some c) :
    c.path = p ∧ c.source_entry = Generated.Rs.get (mapOf sf) p ∧ c.dest_entry = Generated.Rs.get (mapOf df) p ∧
      HasEntry c := by
  unfold genOne at h
  dsimp only at h
  rw [Option.map_eq_some_iff] at h
  obtain ⟨ct, hct, rfl⟩ := h
  refine ⟨rfl, rfl, rfl, ?_⟩
  unfold HasEntry
  dsimp only
  cases hs : Generated.Rs.get (mapOf sf) p <;> cases hd : Generated.Rs.get (mapOf df) p <;> simp
  have hn := Bisync.classifySingle_needs hct
  rw [hs, hd] at hn
  cases ct <;> cases hn

theorem filterMap_genOne_paths_nodup (cont : Rs.Path → Option Nat) (sf df : List FileEntry)
    (prior : Rs.HashMap Rs.Path (Option SyncState × Option SyncState)) (l : List Rs.Path) (hl : l.Nodup) :
    ((l.filterMap (genOne cont sf df prior)).map (·.path)).Nodup := by
  rw [List.map_filterMap]
  refine List.Pairwise.filterMap _ (fun a a' hne b hb b' hb' e => ?_) hl
  obtain ⟨c, hc, rfl⟩ := Option.map_eq_some_iff.mp hb
  obtain ⟨c', hc', rfl⟩ := Option.map_eq_some_iff.mp hb'
  exact hne ((genOne_some hc).1.symm.trans (e.trans (genOne_some hc').1))

/-- **classify_changes = classifyChanges** up to the order of the changes. -/
theorem classify_changes_eq_model {W : Type} (ext : Ext W) {cont : Rs.Path → Option Nat}
    (hx : SameBytesAgrees ext.bisync cont) {sf df : List FileEntry} (hs : ScanOK sf) (hd : ScanOK df)
    (prior : Rs.HashMap Rs.Path (Option SyncState × Option SyncState)) (w : W) :
    ∃ cs, runM (classify_changes ext sf df prior) w = (.ok cs, w) ∧
      (cs.map (absChange cont)).Perm
        (Bisync.classifyChanges .repaired (absScan cont sf) (absScan cont df) (absPrior prior)) ∧
      (cs.map (·.path)).Nodup := by
  refine ⟨_, classify_changes_run ext hx sf df prior w, ?_, ?_⟩
  · rw [List.map_filterMap]
    unfold Bisync.classifyChanges
    have : (fun p => (genOne cont sf df prior p).map (absChange cont)) =
        Bisync.classifyOne .repaired (absScan cont sf) (absScan cont df) (absPrior prior) := by
      funext p; exact genOne_abs cont hs hd prior p
    rw [this]
    exact (genPaths_perm cont sf df prior).filterMap _
  · exact filterMap_genOne_paths_nodup cont sf df prior _ (nodup_genPaths sf df prior)

/-! ## the world of one run -/

/-- the content id of the bytes a path text names in `w` (`none`: no readable file there) -/
def contOf (src dst : Rs.Path) (w : World) : Rs.Path → Option Nat := fun p => (fileAt src dst w p).map (·.cid)

/-- a root is a finite map: no path twice; and every file has a name `conflict_filename` can work on -/
structure RootOK (r : Root) : Prop where
  nodup : (r.map (·.1)).Nodup
  names : ∀ p ∈ r.map (·.1), NameOK p

/-- both roots are such finite maps (the state table may be anything). Only the LEFT root's `names` are used below: a
    rename is named after `source.relative_path`, which `resolved_actions_ok` finds in the source scan; the right root's
    are asked for symmetry. -/
structure WorldOK (w : World) : Prop where
  left : RootOK w.left
  right : RootOK w.right

theorem scanEntries_keys (rootText : Rs.Path) (r : Root) :
    (scanEntries rootText r).map (·.relative_path) = r.map (·.1) := by
  simp [scanEntries, entryOf]

theorem scanOK_scanEntries (rootText : Rs.Path) {r : Root} (h : RootOK r) : ScanOK (scanEntries rootText r) := by
  unfold ScanOK; rw [scanEntries_keys]; exact h.nodup

theorem absScan_scanEntries {src dst : Rs.Path} (hr : RootsOK src dst) (w : World) (sd : Bisync.Side)
    (h : RootOK (root w sd)) :
    absScan (contOf src dst w) (scanEntries (rootText src dst sd) (root w sd)) = Bisync.scan (root w sd) := by
  unfold absScan scanEntries Bisync.scan
  rw [List.map_map]
  apply List.map_congr_left
  rintro ⟨k, f⟩ hm
  have hc : contOf src dst w (Generated.Rs.join (rootText src dst sd) k) = some f.cid := by
    simp [contOf, fileAt_join hr, Bisync.aget_of_mem_nodup h.nodup hm]
  simp [absEntry, entryOf, hc, File.entry]

theorem absRow_concRow (p : Bisync.Path) (sd : Bisync.Side) (r : Row) : absRow (concRow p sd r) = r := rfl

theorem absPrior_dbLoadAll (w : World) : absPrior (dbLoadAll w) = w.db.loadAll := by
  unfold absPrior dbLoadAll
  rw [List.map_map]
  conv => rhs; rw [← List.map_id w.db.loadAll]
  apply List.map_congr_left
  rintro ⟨k, a, b⟩ _
  cases a <;> cases b <;> rfl

/-! ## from the classifier's changes to executable actions -/

theorem get_mapOf_mem {fs : List FileEntry} (h : ScanOK fs) {p : Rs.Path} {e : FileEntry}
    (he : Generated.Rs.get (mapOf fs) p = some e) : p ∈ fs.map (·.relative_path) := by
  have hp := get_mapOf_path h he
  rw [get_mapOf h] at he
  exact hp ▸ List.mem_map_of_mem (List.mem_of_find?_eq_some he)

theorem changes_facts {cont : Rs.Path → Option Nat} {sf df : List FileEntry} (hs : ScanOK sf) (hd : ScanOK df)
    {prior : Rs.HashMap Rs.Path (Option SyncState × Option SyncState)} {l : List Rs.Path}
    {c : Generated.Bisync.Change} (hc : c ∈ l.filterMap (genOne cont sf df prior)) :
    PathsAgree c ∧ HasEntry c ∧ (∀ s, c.source_entry = some s → c.path ∈ sf.map (·.relative_path)) := by
  rw [List.mem_filterMap] at hc
  obtain ⟨p, -, hp⟩ := hc
  obtain ⟨h1, h2, h3, h4⟩ := genOne_some hp
  refine ⟨?_, h4, ?_⟩
  · intro e he
    rw [h1]
    rcases he with he | he
    · exact get_mapOf_path hs (h2 ▸ he)
    · exact get_mapOf_path hd (h3 ▸ he)
  · intro s hs'
    rw [h1]
    exact get_mapOf_mem hs (h2 ▸ hs')

/-- the actions `resolve_changes` makes of the classifier's changes can be executed by the model -/
theorem resolved_actions_ok {bis : Generated.Bisync.Ext} {stamp : Nat} (hst : StampAgrees bis stamp)
    {cont : Rs.Path → Option Nat} {sf df : List FileEntry} (hs : ScanOK sf) (hd : ScanOK df)
    (hnames : ∀ p ∈ sf.map (·.relative_path), NameOK p)
    {prior : Rs.HashMap Rs.Path (Option SyncState × Option SyncState)} {l : List Rs.Path}
    (st : ConflictResolution) (r : ResolvedChanges)
    (hr : resolve_changes bis (l.filterMap (genOne cont sf df prior)) st = .ok r) :
    ∀ a ∈ r.actions, ActionOK a := by
  intro a ha
  have hne : ∀ c ∈ l.filterMap (genOne cont sf df prior), ConflictHasEntry st c :=
    fun c hc _ _ => (changes_facts hs hd hc).2.1
  obtain ⟨c, hc, hf⟩ := resolve_changes_from hst _ st hne r hr a ha
  obtain ⟨hpa, -, hsrc⟩ := changes_facts hs hd hc
  cases a with
  | RenameConflict s d ts =>
    obtain ⟨h1, h2, rfl⟩ := hf
    refine ⟨?_, ?_, stamp, hst⟩
    · rw [hpa s (.inl h1), hpa d (.inr h2)]
    · rw [hpa s (.inl h1)]; exact hnames _ (hsrc s h1)
  | _ => trivial

section
variable {src dst : Rs.Path} (bis : Generated.Bisync.Ext)
  (cci : List Generated.Bisync.Change → Generated.Bisync.ConflictResolution → List ConflictInfo)

/-- the world a run starts from once `--clear-bisync-state` has been obeyed -/
def clearIf (b : Bool) (w : World) : World := if b then { w with db := [] } else w

theorem RootsOK.ne (hr : RootsOK src dst) : dst ≠ src := by
  intro e; subst e; exact hr.src_not_in_dst (List.prefix_refl _)

theorem scanner_new_eq (p : Rs.Path) : (modelExt src dst bis cci).Scanner_new p = p := rfl
theorem bisync_eq : (modelExt src dst bis cci).bisync = bis := rfl

theorem scanRoot_src (w : World) : scanRoot src dst src w = (.ok (scanEntries src w.left), w) := by
  simp [scanRoot]

theorem scanRoot_dst (hr : RootsOK src dst) (w : World) :
    scanRoot src dst dst w = (.ok (scanEntries dst w.right), w) := by
  simp [scanRoot, hr.ne]

theorem collect_eq : (modelExt src dst bis cci).collect_conflict_info = cci := rfl

/-- the order in which the translated `classify_changes` visits the paths of `w` -/
def genOrder (src dst : Rs.Path) (w : World) : List Bisync.Path :=
  genPaths (scanEntries src w.left) (scanEntries dst w.right) (dbLoadAll w)

/-- the path set `sync` hands to `update_state`, in the order the translated `HashSet` gives it -/
def genUpdPaths (src dst : Rs.Path) (w : World) : List Bisync.Path :=
  Generated.Rs.extend (Generated.Rs.collect (Generated.Rs.keys (dbLoadAll w)))
    (Generated.Rs.map (Generated.Rs.filter (Generated.Rs.chain (scanEntries src w.left) (scanEntries dst w.right))
      (fun e => !e.is_dir)) (fun e => e.relative_path))

theorem contOf_db (w : World) (db : Db) : contOf src dst { w with db := db } = contOf src dst w := rfl

theorem worldOK_db {w : World} (h : WorldOK w) (db : Db) : WorldOK { w with db := db } := ⟨h.left, h.right⟩

/-- the changes the translated classifier finds in `w`, abstracted, are the model's changes of `w` in that order -/
theorem genChanges_abs (hr : RootsOK src dst) {w : World} (hok : WorldOK w) :
    ((genOrder src dst w).filterMap (genOne (contOf src dst w) (scanEntries src w.left) (scanEntries dst w.right)
        (dbLoadAll w))).map (absChange (contOf src dst w)) = changesIn (genOrder src dst w) w := by
  rw [List.map_filterMap]
  unfold changesIn
  congr 1
  funext p
  rw [genOne_abs _ (scanOK_scanEntries src hok.left) (scanOK_scanEntries dst hok.right)]
  have h1 := absScan_scanEntries hr w .source hok.left
  have h2 := absScan_scanEntries hr w .dest hok.right
  simp only [rootText, root] at h1 h2
  rw [h1, h2, absPrior_dbLoadAll]

/-- the classifier's changes of `w` resolve, to the model's actions and conflict counts, and every action can be
    executed -/
theorem resolve_genChanges (hr : RootsOK src dst) {w : World} (hok : WorldOK w) {stamp : Nat}
    (hst : StampAgrees bis stamp) (st : ConflictResolution) :
    ∃ r, resolve_changes bis ((genOrder src dst w).filterMap (genOne (contOf src dst w)
        (scanEntries src w.left) (scanEntries dst w.right) (dbLoadAll w))) st = .ok r ∧
      r.actions.map (absAction (contOf src dst w)) =
        Bisync.resolveChanges (absStrategy st) stamp (changesIn (genOrder src dst w) w) ∧
      (r.conflicts_resolved, r.conflicts_renamed) =
        Bisync.conflictCounts (absStrategy st) stamp (changesIn (genOrder src dst w) w) ∧
      ∀ a ∈ r.actions, ActionOK a := by
  have hsf := scanOK_scanEntries src hok.left
  have hdf := scanOK_scanEntries dst hok.right
  have hfacts := fun c hc => changes_facts (cont := contOf src dst w) hsf hdf (prior := dbLoadAll w)
    (l := genOrder src dst w) (c := c) hc
  obtain ⟨r, hres, hacts, hcounts⟩ := resolve_changes_eq_model (cont := contOf src dst w) hst _ st
    (fun c hc _ _ => (hfacts c hc).2.1) (fun c hc => (hfacts c hc).1)
  rw [genChanges_abs hr hok] at hacts hcounts
  exact ⟨r, hres, hacts, hcounts, resolved_actions_ok hst hsf hdf
    (by rw [scanEntries_keys]; exact hok.left.names) st r hres⟩

/-- `--clear-bisync-state` on a real run: the same run without it from the world whose state table is empty -/
theorem sync_clear_state (eng : BisyncEngine) (opts : BisyncOptions) (hdry : opts.dry_run = false)
    (hc : opts.clear_state = true) (w : World) :
    runM (BisyncEngine.sync (modelExt src dst bis cci) eng src dst opts) w =
      runM (BisyncEngine.sync (modelExt src dst bis cci) eng src dst { opts with clear_state := false })
        { w with db := [] } := by
  unfold BisyncEngine.sync
  simp only [hdry, hc, Bool.false_eq_true, if_false, if_true, runM_bind, run_instant_now, run_open, runM_pure,
    run_db_clear_all, run_db_load_all]

/-- `sync_eq_syncIn` without `--clear-bisync-state` -/
theorem sync_eq_syncIn_aux (hr : RootsOK src dst) (eng : BisyncEngine) (opts : BisyncOptions)
    (hdry : opts.dry_run = false) (hc : opts.clear_state = false) (stamp : Nat) (w : World) (hok : WorldOK w)
    (hx : SameBytesAgrees bis (contOf src dst w)) (hst : StampAgrees bis stamp) :
    let r := syncIn (absStrategy opts.conflict_resolution) opts.max_delete_percent stamp
      (genOrder src dst w) (genUpdPaths src dst w) w
    if r.refused then
      runM (BisyncEngine.sync (modelExt src dst bis cci) eng src dst opts) w =
        (.error (.config Generated.Rs.opaqueMsg), w)
    else
      ∃ res, runM (BisyncEngine.sync (modelExt src dst bis cci) eng src dst opts) w = (.ok res, r.world) ∧
        res.errors = List.replicate r.errors.length Generated.Rs.opaqueMsg ∧
        res.stats = realStats w r.actions
          (Bisync.conflictCounts (absStrategy opts.conflict_resolution) stamp r.changes) := by
  unfold BisyncEngine.sync
  simp only [hdry, hc, Bool.false_eq_true, if_false, runM_bind, run_instant_now, run_open, runM_pure,
      run_db_load_all, run_scan, scanner_new_eq, scanRoot_src, scanRoot_dst hr,
      classify_changes_run (modelExt src dst bis cci) hx,
      check_deletion_limit_eq_model (contOf src dst w)]
  have hgo : genPaths (scanEntries src w.left) (scanEntries dst w.right) (dbLoadAll w) = genOrder src dst w := rfl
  have hgu : Generated.Rs.extend (Generated.Rs.collect (Generated.Rs.keys (dbLoadAll w)))
    (Generated.Rs.map (Generated.Rs.filter (Generated.Rs.chain (scanEntries src w.left) (scanEntries dst w.right))
      (fun e => !e.is_dir)) (fun e => e.relative_path)) = genUpdPaths src dst w := rfl
  rw [hgo, hgu, genChanges_abs hr hok]
  by_cases hlim : Bisync.deletionLimitExceeded (changesIn (genOrder src dst w) w) opts.max_delete_percent = true
  · rw [syncIn_refused hlim]
    simp only [hlim, if_true, runM_liftE_error]
  · rw [syncIn_accepted hlim]
    simp only [hlim, Bool.false_eq_true, if_false, runM_liftE_ok]
    obtain ⟨r, hres, hacts, hcounts, haok⟩ := resolve_genChanges bis hr hok hst opts.conflict_resolution
    simp only [bisync_eq, hres, runM_liftE_ok, execute_actions_eq_model bis cci hr (contOf src dst w) r haok w,
      hacts, update_state_eq_model bis cci hr, run_elapsed]
    rw [Bisync.updateStateRepaired_congr _ _ _ _ (failed_set _).2]
    refine ⟨_, rfl, ?_, ?_⟩
    · -- the two sides agree as they are written; a plain `rfl` unfolds the model's definitions before it compares
      with_reducible rfl
    · rw [← hcounts]
      exact realStats_duration _ _ _

/-- **`BisyncEngine::sync`, real run = the model's sync in the translation's iteration orders** — exactly, with no
    assumption on the conflict names. `w1` is the world once `--clear-bisync-state` has been obeyed; `r` is the model's
    sync of `w1` visiting the paths in the order the translated `HashSet`s give (`genOrder`, `genUpdPaths`: both
    permutations of the model's `allPaths`, `genOrder_perm`, `genUpdPaths_perm`). The run answers
    `Err(Config)` — leaving `w1` — exactly when the model refuses (deletion limit); otherwise it answers `Ok`, leaves
    EXACTLY the model's world (both roots and the state table as lists, clock not advanced), reports one error
    message per failed action of the model, and the statistics `realStats` of the model's action list. -/
theorem sync_eq_syncIn (hr : RootsOK src dst) (eng : BisyncEngine) (opts : BisyncOptions)
    (hdry : opts.dry_run = false) (stamp : Nat) (w : World) (hok : WorldOK w)
    (hx : SameBytesAgrees bis (contOf src dst w)) (hst : StampAgrees bis stamp) :
    let w1 := clearIf opts.clear_state w
    let r := syncIn (absStrategy opts.conflict_resolution) opts.max_delete_percent stamp
      (genOrder src dst w1) (genUpdPaths src dst w1) w1
    if r.refused then
      runM (BisyncEngine.sync (modelExt src dst bis cci) eng src dst opts) w =
        (.error (.config Generated.Rs.opaqueMsg), w1)
    else
      ∃ res, runM (BisyncEngine.sync (modelExt src dst bis cci) eng src dst opts) w = (.ok res, r.world) ∧
        res.errors = List.replicate r.errors.length Generated.Rs.opaqueMsg ∧
        res.stats = realStats w1 r.actions
          (Bisync.conflictCounts (absStrategy opts.conflict_resolution) stamp r.changes) := by
  cases hc : opts.clear_state
  · simp only [clearIf, Bool.false_eq_true, if_false]
    exact sync_eq_syncIn_aux bis cci hr eng opts hdry hc stamp w hok hx hst
  · simp only [clearIf, if_true]
    rw [sync_clear_state bis cci eng opts hdry hc w]
    exact sync_eq_syncIn_aux bis cci hr eng { opts with clear_state := false } hdry rfl stamp { w with db := [] }
      (worldOK_db hok []) hx hst
end

theorem classify_changes_pres {W : Type} (ext : Ext W) (sf df : List FileEntry)
    (prior : Rs.HashMap Rs.Path (Option SyncState × Option SyncState)) :
    Pres (classify_changes ext sf df prior) := by
  unfold classify_changes
  dsimp only
  refine Pres.bind (Pres.forIn _ _ fun _ _ => Pres.pure _) fun _ => ?_
  refine Pres.bind (Pres.forIn _ _ fun _ _ => Pres.pure _) fun _ => ?_
  refine Pres.bind (Pres.forIn _ _ fun _ _ => ?_) fun _ => Pres.pure _
  refine Pres.bind (Pres.liftE _) fun r => ?_
  cases r <;> exact Pres.pure _

/-- a dry run of `BisyncEngine::sync` from the point where the prior state is known -/
def dryTail {W : Type} (ext : Ext W) (source dest : Rs.Path) (opts : BisyncOptions) (start : Rs.Opaque)
    (prior : Rs.HashMap Rs.Path (Option SyncState × Option SyncState)) : Rs.M W BisyncResult := do
  let sf ← ext.scanner_scan (ext.Scanner_new source)
  let df ← ext.scanner_scan (ext.Scanner_new dest)
  let changes ← classify_changes ext sf df prior
  Generated.Rs.liftE (check_deletion_limit changes opts.max_delete_percent)
  let resolved ← Generated.Rs.liftE (resolve_changes ext.bisync changes opts.conflict_resolution)
  let d ← ext.instant_elapsed start
  pure { stats := { simulate_actions resolved with duration_ms := Generated.Rs.as_millis d },
         conflicts := ext.collect_conflict_info changes opts.conflict_resolution, errors := [] }

/-- with `dry_run = true` the run opens no state database for writing and executes nothing: what is left of
    `BisyncEngine::sync`, for any externs -/
theorem sync_dry {W : Type} (ext : Ext W) (eng : BisyncEngine) (source dest : Rs.Path) (opts : BisyncOptions)
    (hdry : opts.dry_run = true) :
    BisyncEngine.sync ext eng source dest opts = (do
      let start ← ext.std_time_Instant_now ()
      if opts.clear_state then dryTail ext source dest opts start []
      else
        match (← ext.BisyncStateDb_open_existing_read_only source dest) with
        | some db => ext.db_load_all db >>= dryTail ext source dest opts start
        | none => dryTail ext source dest opts start []) := by
  unfold BisyncEngine.sync
  cases opts.clear_state <;>
    simp only [hdry, if_true, if_false, Bool.false_eq_true, pure_bind] <;> rfl

theorem dryTail_pres {W : Type} (ext : Ext W) (hscan : ∀ r, Pres (ext.scanner_scan r))
    (hel : ∀ s, Pres (ext.instant_elapsed s)) {source dest : Rs.Path} {opts : BisyncOptions} {start : Rs.Opaque}
    {prior : Rs.HashMap Rs.Path (Option SyncState × Option SyncState)} :
    Pres (dryTail ext source dest opts start prior) := by
  unfold dryTail
  refine Pres.bind (hscan _) fun sf => ?_
  refine Pres.bind (hscan _) fun df => ?_
  refine Pres.bind (classify_changes_pres _ sf df prior) fun changes => ?_
  refine Pres.bind (Pres.liftE _) fun _ => ?_
  refine Pres.bind (Pres.liftE _) fun resolved => ?_
  exact Pres.bind (hel start) fun d => Pres.pure _

/-- a dry run changes nothing in ANY world whose five operations it calls change nothing -/
theorem sync_dry_pres {W : Type} (ext : Ext W) (hnow : ∀ u, Pres (ext.std_time_Instant_now u))
    (hopen : ∀ a b, Pres (ext.BisyncStateDb_open_existing_read_only a b)) (hload : ∀ h, Pres (ext.db_load_all h))
    (hscan : ∀ r, Pres (ext.scanner_scan r)) (hel : ∀ s, Pres (ext.instant_elapsed s))
    (eng : BisyncEngine) (source dest : Rs.Path) (opts : BisyncOptions) (hdry : opts.dry_run = true) :
    Pres (BisyncEngine.sync ext eng source dest opts) := by
  rw [sync_dry _ eng source dest opts hdry]
  refine Pres.bind (hnow ()) fun start => ?_
  split
  · exact dryTail_pres ext hscan hel
  · refine Pres.bind (hopen source dest) fun db => ?_
    cases db
    · exact dryTail_pres ext hscan hel
    · exact Pres.bind (hload _) fun prior => dryTail_pres ext hscan hel

section
variable {src dst : Rs.Path} (bis : Generated.Bisync.Ext)
  (cci : List Generated.Bisync.Change → Generated.Bisync.ConflictResolution → List ConflictInfo)

theorem pres_instant_now (u : Unit) : Pres ((modelExt src dst bis cci).std_time_Instant_now u) := fun _ => rfl
theorem pres_elapsed (h : Rs.Opaque) : Pres ((modelExt src dst bis cci).instant_elapsed h) := fun _ => rfl
theorem pres_open_ro (a b : Rs.Path) :
    Pres ((modelExt src dst bis cci).BisyncStateDb_open_existing_read_only a b) := fun _ => rfl
theorem pres_scan (r : Rs.Path) : Pres ((modelExt src dst bis cci).scanner_scan r) := by
  intro w
  rw [run_scan]
  unfold scanRoot
  split
  · rfl
  · split <;> rfl

/-- **a bisync dry run changes nothing** (the bisync half of C08): for EVERY option set with `dry_run = true`
    (including `clear_state`), every world, whatever the externs of the pure part answer, and whether the run
    succeeds or is refused, the world after the run is the world before it — roots, state table and clock. -/
theorem sync_dry_run_changes_nothing (eng : BisyncEngine) (opts : BisyncOptions) (hdry : opts.dry_run = true)
    (w : World) : (runM (BisyncEngine.sync (modelExt src dst bis cci) eng src dst opts) w).2 = w :=
  sync_dry_pres _ (pres_instant_now bis cci) (pres_open_ro bis cci) (fun _ _ => rfl) (pres_scan bis cci)
    (pres_elapsed bis cci) eng src dst opts hdry w

/-- the statistics a dry run announces for the (abstracted) action list `acts`: the counts of the constructors (a
    rename counts on both sides), the sizes of the entries summed (BOTH sizes for a rename), no duration -/
def dryStats (acts : List Action) (counts : Nat × Nat) : BisyncStats :=
  { files_synced_to_dest := modelCount .copyToDest acts + modelCount .rename acts
    files_synced_to_source := modelCount .copyToSource acts + modelCount .rename acts
    files_deleted_from_source := modelCount .deleteFromSource acts
    files_deleted_from_dest := modelCount .deleteFromDest acts
    conflicts_resolved := counts.1
    conflicts_renamed := counts.2
    bytes_transferred := (acts.map mActionBytes).sum
    duration_ms := 0 }

theorem simulate_actions_eq_dryStats (cont : Rs.Path → Option Nat) (r : ResolvedChanges) :
    simulate_actions r =
      dryStats (r.actions.map (absAction cont)) (r.conflicts_resolved, r.conflicts_renamed) :=
  simulate_actions_eq_abs cont r

theorem dryStats_duration (acts : List Action) (counts : Nat × Nat) :
    { dryStats acts counts with duration_ms := Generated.Rs.as_millis 0 } = dryStats acts counts := rfl

/-- the dry run from the point where the prior state is known, classifying `w`; the world it runs in may hold
    another state table (`--clear-bisync-state` classifies against an empty one and leaves the table alone) -/
theorem dryTail_run (hr : RootsOK src dst) (opts : BisyncOptions) (start : Rs.Opaque) (stamp : Nat) (w : World)
    (db0 : Db) (hok : WorldOK w) (hx : SameBytesAgrees bis (contOf src dst w)) (hst : StampAgrees bis stamp)
    (paths : List Bisync.Path) :
    let r := syncIn (absStrategy opts.conflict_resolution) opts.max_delete_percent stamp (genOrder src dst w) paths w
    if r.refused then
      runM (dryTail (modelExt src dst bis cci) src dst opts start (dbLoadAll w)) { w with db := db0 } =
        (.error (.config Generated.Rs.opaqueMsg), { w with db := db0 })
    else
      ∃ res, runM (dryTail (modelExt src dst bis cci) src dst opts start (dbLoadAll w)) { w with db := db0 } =
          (.ok res, { w with db := db0 }) ∧
        res.errors = [] ∧
        res.stats = dryStats r.actions
          (Bisync.conflictCounts (absStrategy opts.conflict_resolution) stamp r.changes) := by
  unfold dryTail
  simp only [runM_bind, run_scan, scanner_new_eq, scanRoot_src, scanRoot_dst hr,
    classify_changes_run (modelExt src dst bis cci) hx, check_deletion_limit_eq_model (contOf src dst w)]
  obtain ⟨r, hres, hacts, hcounts, -⟩ := resolve_genChanges bis hr hok hst opts.conflict_resolution
  rw [show genPaths (scanEntries src w.left) (scanEntries dst w.right) (dbLoadAll w) = genOrder src dst w from rfl,
    genChanges_abs hr hok]
  by_cases hlim : Bisync.deletionLimitExceeded (changesIn (genOrder src dst w) w) opts.max_delete_percent = true
  · rw [syncIn_refused hlim]
    simp only [hlim, if_true, runM_liftE_error]
  · rw [syncIn_accepted hlim]
    simp only [hlim, Bool.false_eq_true, if_false, runM_liftE_ok]
    simp only [bisync_eq, hres, runM_liftE_ok, run_elapsed]
    refine ⟨_, rfl, rfl, ?_⟩
    rw [simulate_actions_eq_dryStats (contOf src dst w) r, hacts, hcounts]
    exact dryStats_duration _ _

theorem dbLoadAll_nil (w : World) : dbLoadAll { w with db := [] } = [] := rfl

/-- **the dry run announces the real run.** With `dry_run = true` and any other options, the run leaves the world as
    it is, answers `Err(Config)` exactly when the real run with the same options would be refused, and otherwise
    `Ok` with no errors and the statistics `dryStats` — `simulate_actions` of what `resolve_changes` answers, in closed
    form — of exactly the action list `r.actions` the real run executes (`sync_eq_syncIn`, the same `r`; with
    `--clear-bisync-state` both classify against an empty prior state, but only the real run empties the table). -/
theorem sync_dry_run_eq_model (hr : RootsOK src dst) (eng : BisyncEngine) (opts : BisyncOptions)
    (hdry : opts.dry_run = true) (stamp : Nat) (w : World) (hok : WorldOK w)
    (hx : SameBytesAgrees bis (contOf src dst w)) (hst : StampAgrees bis stamp) :
    let w1 := clearIf opts.clear_state w
    let r := syncIn (absStrategy opts.conflict_resolution) opts.max_delete_percent stamp
      (genOrder src dst w1) (genUpdPaths src dst w1) w1
    if r.refused then
      runM (BisyncEngine.sync (modelExt src dst bis cci) eng src dst opts) w =
        (.error (.config Generated.Rs.opaqueMsg), w)
    else
      ∃ res, runM (BisyncEngine.sync (modelExt src dst bis cci) eng src dst opts) w = (.ok res, w) ∧
        res.errors = [] ∧
        res.stats = dryStats r.actions
          (Bisync.conflictCounts (absStrategy opts.conflict_resolution) stamp r.changes) := by
  rw [sync_dry _ eng src dst opts hdry, runM_bind, run_instant_now]
  cases opts.clear_state
  · simp only [Bool.false_eq_true, if_false, runM_bind, run_open_ro, run_db_load_all, clearIf]
    exact dryTail_run bis cci hr opts _ stamp w w.db hok hx hst _
  · exact dryTail_run bis cci hr opts _ stamp { w with db := [] } w.db (worldOK_db hok []) hx hst _
end

/-! ## the top: `BisyncEngine::sync` refines `Bisync.sync` -/

section
variable {src dst : Rs.Path}

/-- the translation visits exactly the model's `allPaths`, each once -/
theorem genOrder_perm (hr : RootsOK src dst) {w : World} (hok : WorldOK w) :
    (genOrder src dst w).Perm w.allPaths := by
  have h := genPaths_perm (contOf src dst w) (scanEntries src w.left) (scanEntries dst w.right) (dbLoadAll w)
  have h1 := absScan_scanEntries hr w .source hok.left
  have h2 := absScan_scanEntries hr w .dest hok.right
  simp only [rootText, root] at h1 h2
  rw [h1, h2, absPrior_dbLoadAll] at h
  exact h

/-- … and hands exactly `allPaths`, each once, to `update_state` -/
theorem genUpdPaths_perm (w : World) : (genUpdPaths src dst w).Perm w.allPaths := by
  have hk : Generated.Rs.keys (dbLoadAll w) = w.db.loadAll.map (·.1) := by
    simp [Generated.Rs.keys, dbLoadAll]
  have hf : (Generated.Rs.filter (Generated.Rs.chain (scanEntries src w.left) (scanEntries dst w.right))
      (fun e => !e.is_dir)) = scanEntries src w.left ++ scanEntries dst w.right := by
    simp only [Generated.Rs.filter, Generated.Rs.chain]
    rw [List.filter_eq_self]
    intro e he
    rcases List.mem_append.mp he with h | h <;>
    · simp only [scanEntries, List.mem_map] at h
      obtain ⟨kv, -, rfl⟩ := h
      rfl
  unfold genUpdPaths
  rw [hf, hk]
  rw [List.perm_ext_iff_of_nodup _ (Bisync.nodup_allPaths w)]
  · intro p
    rw [Generated.Rs.mem_extend, Bisync.mem_allPaths]
    simp only [Generated.Rs.collect, Generated.Rs.map, List.map_append, scanEntries_keys, List.mem_append,
      Bisync.loadAll_keys, Bisync.mem_dedup, Bisync.mem_db_paths, Bisync.aget_ne_none_iff]
    constructor
    · rintro (h | h | h)
      · exact .inr (.inr h)
      · exact .inl h
      · exact .inr (.inl h)
    · rintro (h | h | h)
      · exact .inr (.inl h)
      · exact .inr (.inr h)
      · exact .inl h
  · apply Generated.Rs.nodup_extend
    simp only [Generated.Rs.collect, Bisync.loadAll_keys]
    exact Bisync.nodup_dedup _

theorem modelCount_perm (k : ActionKind) {a b : List Action} (h : a.Perm b) : modelCount k a = modelCount k b :=
  h.countP_eq _

variable (bis : Generated.Bisync.Ext)
  (cci : List Generated.Bisync.Change → Generated.Bisync.ConflictResolution → List ConflictInfo)

/-- two worlds seen alike path by path hold the same roots and the same state table, as finite maps -/
theorem view_eq_iff (a b : World) :
    (∀ q, a.view q = b.view q) ↔
      (∀ q, aget q a.left = aget q b.left) ∧ (∀ q, aget q a.right = aget q b.right) ∧
        (∀ q sd, aget (q, sd) a.db = aget (q, sd) b.db) := by
  constructor
  · intro h
    refine ⟨fun q => congrArg Bisync.View.l (h q), fun q => congrArg Bisync.View.r (h q), fun q sd => ?_⟩
    cases sd
    · exact congrArg Bisync.View.rl (h q)
    · exact congrArg Bisync.View.rr (h q)
  · rintro ⟨h1, h2, h3⟩ q
    simp only [Bisync.World.view, h1, h2, h3]

/-- **`BisyncEngine::sync` refines `Bisync.sync Cfg.repaired`** (real run). When the conflict names of the run are
    fresh (`Bisync.Fresh`, the hypothesis of the model's own `sync_spec`, needed because the program visits the paths
    in `HashSet` order and the model in the order of `allPaths`): the run answers `Err(Config)` exactly when the model
    refuses; otherwise `Ok`, and the world it leaves is the model's world seen path by path — `World.view q` = the
    file at `q` in either root and the two state rows of `q`, i.e. both roots and the state table are equal as
    finite maps (`view_eq_iff`) — the clock is the one thing the engine does not advance (the model's `+ 1` is the
    time passing until the next event); no action fails on either side, and the returned counters are the counts
    of the model's actions and conflicts. -/
theorem sync_refines_model (hr : RootsOK src dst) (eng : BisyncEngine) (opts : BisyncOptions)
    (hdry : opts.dry_run = false) (stamp : Nat) (w : World) (hok : WorldOK w)
    (hx : SameBytesAgrees bis (contOf src dst w)) (hst : StampAgrees bis stamp)
    (hf : Bisync.Fresh (clearIf opts.clear_state w) stamp) :
    let w1 := clearIf opts.clear_state w
    let m := Bisync.sync .repaired (absStrategy opts.conflict_resolution) opts.max_delete_percent stamp w1
    if m.refused then
      runM (BisyncEngine.sync (modelExt src dst bis cci) eng src dst opts) w =
        (.error (.config Generated.Rs.opaqueMsg), w1)
    else
      ∃ res w', runM (BisyncEngine.sync (modelExt src dst bis cci) eng src dst opts) w = (.ok res, w') ∧
        (∀ q, w'.view q = m.world.view q) ∧ w'.clock = w.clock ∧ m.world.clock = w.clock + 1 ∧
        res.errors = [] ∧ m.errors = [] ∧
        res.stats.files_synced_to_dest = modelCount .copyToDest m.actions + modelCount .rename m.actions ∧
        res.stats.files_synced_to_source = modelCount .copyToSource m.actions + modelCount .rename m.actions ∧
        res.stats.files_deleted_from_source = modelCount .deleteFromSource m.actions ∧
        res.stats.files_deleted_from_dest = modelCount .deleteFromDest m.actions ∧
        (res.stats.conflicts_resolved, res.stats.conflicts_renamed) =
          Bisync.conflictCounts (absStrategy opts.conflict_resolution) stamp m.changes := by
  have hA := sync_eq_syncIn bis cci hr eng opts hdry stamp w hok hx hst
  dsimp only at hA ⊢
  have hok1 : WorldOK (clearIf opts.clear_state w) := by
    unfold clearIf; split
    · exact worldOK_db hok []
    · exact hok
  have hw1c : (clearIf opts.clear_state w).clock = w.clock := by
    unfold clearIf; split <;> rfl
  generalize clearIf opts.clear_state w = w1 at hA hf hok1 hw1c ⊢
  have hB := syncIn_eq_sync (absStrategy opts.conflict_resolution) opts.max_delete_percent stamp w1 hf
    (genOrder_perm hr hok1) (genUpdPaths_perm (src := src) (dst := dst) w1)
  dsimp only at hB
  obtain ⟨href, hview, hclk, hmclk, hcp, hap, hrerr, hmerr⟩ := hB
  rw [← href]
  split
  · rename_i h
    rw [if_pos h] at hA
    exact hA
  · rename_i h
    rw [if_neg h] at hA
    obtain ⟨res, hrun, herrs, hstats⟩ := hA
    refine ⟨res, _, hrun, hview, hclk.trans hw1c, hmclk.trans (by rw [hw1c]), ?_, hmerr, ?_⟩
    · rw [herrs, hrerr]; rfl
    · rw [hstats]
      simp only [realStats, syncIn_okActions hrerr, modelCount_perm _ hap, Bisync.conflictCounts_perm _ _ hcp]
      exact ⟨trivial, trivial, trivial, trivial, trivial⟩

end

/-! ## non-vacuity: the hypotheses hold together, and a concrete run -/

section Example

/-- for EVERY world, root texts and stamp there are externs of the pure part satisfying both hypotheses -/
theorem hyps_satisfiable (src dst : Rs.Path) (w : World) (stamp : Nat) :
    ∃ bis, SameBytesAgrees bis (contOf src dst w) ∧ StampAgrees bis stamp :=
  ⟨extOf (contOf src dst w) stamp, extOf_sameBytesAgrees _ _, extOf_stampAgrees _ _⟩

def exSrc : Rs.Path := "/l".toList
def exDst : Rs.Path := "/r".toList

/-- `f`: same size and mtime, different bytes on the two sides, no prior state (a create/create tie → both renamed);
    `g`: only on the left (copied to the right) -/
def exWorld : World :=
  { left := [("f".toList, ⟨1, 3, 5⟩), ("g".toList, ⟨2, 4, 6⟩)],
    right := [("f".toList, ⟨3, 3, 5⟩)],
    db := [], clock := 10 }

example : RootsOK exSrc exDst := by decide
example : Bisync.Fresh exWorld 17 := by decide
example : WorldOK exWorld :=
  ⟨⟨by decide, by simp [exWorld, NameOK]⟩, ⟨by decide, by simp [exWorld, NameOK]⟩⟩

def exExt : Ext World := modelExt exSrc exDst (extOf (contOf exSrc exDst exWorld) 17) (fun _ _ => [])

def exOpts : BisyncOptions :=
  { conflict_resolution := .Newer, max_delete_percent := 0, dry_run := false, clear_state := false }

/-- the translated engine, run on the instance by the kernel: the tie at `f` renames both files to their conflict
    names, `g` is copied to the right with the clock as its new mtime, both rows of `g` are stored, `f` has none;
    this is the world of the handwritten model (here even as lists), whose clock alone has ticked -/
example :
    let out := runM (BisyncEngine.sync exExt ⟨⟩ exSrc exDst exOpts) exWorld
    let m := Bisync.sync .repaired .newer 0 17 exWorld
    out.2.left = m.world.left ∧ out.2.right = m.world.right ∧ out.2.db = m.world.db ∧
      out.2.clock = 10 ∧ m.world.clock = 11 ∧
      out.2.left.map (·.1) = ["f.conflict-17-source".toList, "g".toList] ∧
      out.2.right = [("f.conflict-17-dest".toList, ⟨3, 3, 5⟩), ("g".toList, ⟨2, 4, 10⟩)] ∧
      out.1.toOption.map (fun r => (r.stats, r.errors)) = some (⟨2, 1, 0, 0, 0, 1, 4, 0⟩, []) := by
  decide

/-- the same run, dry: nothing changes, and the announced statistics are those of the real run except for the bytes —
    a dry run counts both sizes of a renamed pair (`simulate_actions`), a real run counts none
    (`execute_single_action` answers `Ok(0)` for a rename): 10 announced, 4 transferred -/
example :
    let out := runM (BisyncEngine.sync exExt ⟨⟩ exSrc exDst { exOpts with dry_run := true }) exWorld
    out.2.left = exWorld.left ∧ out.2.right = exWorld.right ∧ out.2.db = exWorld.db ∧
      out.1.toOption.map (fun r => (r.stats, r.errors)) = some (⟨2, 1, 0, 0, 0, 1, 10, 0⟩, []) := by
  decide

/-- `f` ties (both sides renamed) and `f.conflict-17-source` is already a file on the left -/
def exStale : World :=
  { left := [("f".toList, ⟨1, 3, 5⟩), ("f.conflict-17-source".toList, ⟨2, 4, 6⟩)],
    right := [("f".toList, ⟨3, 3, 5⟩)], db := [], clock := 10 }

example : ¬ Bisync.Fresh exStale 17 := by decide

/-- **the freshness hypothesis of `sync_refines_model` cannot be dropped**: when a conflict name the run will
    create already names a file, the outcome depends on the order in which the paths are visited — which the
    program leaves to a `HashSet`. In `exStale`: visited after `f`, the right side receives the bytes of the renamed
    `f` (content 1); visited before it, its own bytes (content 2). -/
example :
    let q := "f.conflict-17-source".toList
    let a := syncIn .newer 50 17 ["f".toList, q] ["f".toList, q] exStale
    let b := syncIn .newer 50 17 [q, "f".toList] [q, "f".toList] exStale
    (aget q a.world.right).map (·.cid) = some 1 ∧ (aget q b.world.right).map (·.cid) = some 2 := by
  decide

end Example

end SyModel.Props.GenBisyncEngine
