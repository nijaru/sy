/-
  GenSparseCopy — the translated sparse copiers of the local transport (`SyModel/Generated/Code/SparseCopy.lean`,
  regenerated on every run from src/transport/local.rs:14-170: `is_file_sparse`, `copy_sparse_file_seek`,
  `copy_sparse_file_blocks`, `copy_sparse_file`), run in the POSIX world `SWorld` of `Lemmas/GenSparseCopy.lean` PART 1
  on the trusted instance `sparseExt seekSupported`, do what the handwritten models say:

      is_file_sparse              ↦  Compress.isSparseLocal                      (Compress/Sparse.lean)
      copy_sparse_file_seek       ↦  Compress.localSeekOver .create  = source     (C14.sparse_local_seek, C01)
      copy_sparse_file_blocks     ↦  Compress.localBlocksOver .create = source     (C14.sparse_local_blocks, C01)
      copy_sparse_file            ↦  seek variant; block variant exactly on EINVAL
      the LOG of either run       —  proved here: seek: every intermediate state of the destination is a PREFIX of the
                                     source and `set_len` comes LAST; blocks: `set_len(final)` comes FIRST (the recorded
                                     finding C09/sparse-setlen-torn-accepted).  These are the facts the step lists
                                     `sparseSeekSteps` / `sparseBlocksSteps` of Engine/Steps.lean encode (`grow` steps,
                                     `set_len` last; `setLen` … `fill`); no theorem relates the log to those lists.

  Abstraction map.  Bytes: `Vec<u8>` is `List Nat` in the translated code and `Bytes = List UInt8` in the models; the
  theorems quantify over all model byte strings `content` and speak about the worlds whose source file holds
  `ofU8 content`.  The kernel's SEEK_DATA / SEEK_HOLE answers come from `SWorld.dataMap source`, constrained only by
  the contract `Compress.Covers content (dataMap source)` of C14 (extents inside the file; holes read as zeros) —
  extents may be unsorted, overlapping, adjacent or empty.  A run is `f (sparseExt b) source dest w :
  Except Rs.Err Nat × SWorld`; `runLog w w'` is what the run appended to the log, and the `after` field of a log line
  is the destination's content right after that system call — the states a kill can leave behind.

  Hypotheses, all explicit (satisfiability: the `example`s at the end):
    * `w.files source = some (ofU8 content)` — the source is a regular file;
    * `source ≠ dest` (DOMAIN RESTRICTION: handles refer to paths in `SWorld`; the code unlinks `dest` first);
    * `Covers content (w.dataMap source)` for the seek variant on a file system with SEEK_DATA (none for the blocks);
    * fuel theorems: any fuel function with `n < fuel n`.
  The prior content of the destination is arbitrary (absent, or any bytes).
-/
import SyModel.Lemmas.GenSparseCopy
import SyModel.Props.C14
set_option autoImplicit false
namespace SyModel.Props.GenSparseCopy
open SyModel SyModel.Generated SyModel.Generated.SparseCopy SyModel.Compress SyModel.SparseCopy
open SyModel.Data (upd_same upd_ne ofU8_inj)

/-- what a run from `w` to `w'` appended to the log -/
def runLog (w w' : SWorld) : List LogEntry := w'.log.drop w.log.length

def IsSetLen (e : LogEntry) : Prop := ∃ n, e.op = .setLen n

/-- every state of the destination recorded in `l` is "absent" or a PREFIX of the source — the step-level model's
    `file cid len _` ("holds the first `len` bytes of content `cid`") -/
def PrefixStates (content : Bytes) (l : List LogEntry) : Prop :=
  ∀ e ∈ l, e.after = none ∨ ∃ n, n ≤ content.length ∧ e.after = some (ofU8 (content.take n))

/-- in `w'` the path `dest` holds `out`, and no other path holds anything else than in `w` -/
def Copied (w w' : SWorld) (dest : Rs.Path) (out : List Nat) : Prop :=
  w'.files dest = some out ∧ ∀ q, q ≠ dest → w'.files q = w.files q

theorem copied_cw (w : SWorld) (src dst : Rs.Path) (ps pd : Nat) (out : List Nat) (err : Int) (lg : List LogEntry) :
    Copied w (cw w src dst ps pd out err lg) dst out :=
  ⟨upd_same _ _ _, fun _ hq => upd_ne _ _ hq⟩

theorem runLog_cw (w : SWorld) (src dst : Rs.Path) (ps pd : Nat) (out : List Nat) (err : Int) (l : List LogEntry) :
    runLog w (cw w src dst ps pd out err (w.log ++ l)) = l := by
  simp [runLog, cw]

/-! ### `is_file_sparse` -/

theorem is_file_sparse_eq_model (m : SMeta) : is_file_sparse m = isSparseLocal (m.blocks * 512) m.size := rfl

/-- a file is treated as sparse iff it is LARGER than 4096 bytes and its allocated size is below `size - 4096`
    (the subtraction cannot wrap under the first conjunct) -/
theorem is_file_sparse_iff (m : SMeta) :
    is_file_sparse m = true ↔ m.size > 4096 ∧ m.blocks * 512 < m.size - 4096 := by
  show (decide (m.size > 4096) && decide (m.blocks * 512 < m.size - 4096)) = true ↔ _
  rw [Bool.and_eq_true, decide_eq_true_eq, decide_eq_true_eq]

/-- … in particular a file of at most 4096 bytes is never treated as sparse (whatever `st_blocks` says) -/
theorem is_file_sparse_small (m : SMeta) (h : m.size ≤ 4096) : is_file_sparse m = false := by
  cases hs : is_file_sparse m with
  | false => rfl
  | true => have := (is_file_sparse_iff m).mp hs; omega

theorem consts_ok_sparse_threshold : Generated.SPARSE_THRESHOLD_LOCAL = 4096 ∧ SPARSE_THRESHOLD = 4096 ∧
    LOCAL_BLOCK = 4096 := by decide

/-! ### `copy_sparse_file_blocks` -/

section blocks
variable (b : Bool) (w : SWorld) (source dest : Rs.Path) (content : Bytes)
  (hsrc : w.files source = some (ofU8 content)) (hne : source ≠ dest)
include hsrc hne

/-- FUEL of the block copier: the translated loop `for _ in [0:file_size + 2]` ends through its own test — every fuel
    above the file size computes the very same result and world (each round advances `pos` by a non-empty block, so
    `file_size` rounds plus the exit round suffice; `+ 2` has one round of slack) -/
theorem copy_sparse_file_blocks_fuel_sufficient (fuel : Nat → Nat) (hfuel : content.length < fuel content.length) :
    blocksNF (sparseExt b) fuel source dest w = copy_sparse_file_blocks (sparseExt b) source dest w := by
  obtain ⟨ps, pd, ws, h, _⟩ := blocksNF_run w source dest content hsrc hne b
  rw [blocks_nf, h fuel hfuel, h (· + 2) (by omega)]

/-- the full statement about one run of the block copier, for ANY content and ANY prior destination, with or without
    SEEK_DATA support: `Ok(file_size)`; the destination holds the model's `localBlocksOver .create prior content`;
    no other file changed; the log of the run is `[unlink]? create · set_len(size) ↦ zeros · writes… · sync`, every
    write leaving a file of the final size -/
theorem copy_sparse_file_blocks_run (prior : Option Bytes) :
    ∃ w' ws,
      copy_sparse_file_blocks (sparseExt b) source dest w = (.ok content.length, w') ∧
      Copied w w' dest (ofU8 (localBlocksOver .create prior content)) ∧
      runLog w w' = preLog w dest ++ ⟨dest, .setLen content.length, some (zerosN content.length)⟩ :: ws ++
        [⟨dest, .sync, some (ofU8 content)⟩] ∧
      ∀ e ∈ ws, BlockWrite dest content.length e := by
  obtain ⟨ps, pd, ws, h, hws⟩ := blocksNF_run w source dest content hsrc hne b
  exact ⟨_, ws, by rw [blocks_nf]; exact h (· + 2) (by omega),
    by rw [show localBlocksOver .create prior content = content from C14.sparse_local_blocks content]
       exact copied_cw _ _ _ _ _ _ _ _,
    runLog_cw _ _ _ _ _ _ _ _, hws⟩

/-- C14.sparse_local_blocks / C14.sparse_local_over_prior about the TRANSLATED block copier: whatever the content
    (no assumption about the kernel) and whatever the destination held, it returns `Ok(file_size)` and the
    destination holds exactly the source bytes; all-hole and empty files included -/
theorem translated_sparse_local_blocks :
    ∃ w', copy_sparse_file_blocks (sparseExt b) source dest w = (.ok content.length, w') ∧
      Copied w w' dest (ofU8 content) := by
  obtain ⟨w', _, h1, h2, _⟩ := copy_sparse_file_blocks_run b w source dest content hsrc hne none
  refine ⟨w', h1, ?_⟩
  have : localBlocksOver .create none content = content := C14.sparse_local_blocks content
  rw [this] at h2; exact h2

/-- C09, ORDER: in the block copier the FIRST mutating operation after `create` is `set_len(file_size)`; it leaves a
    file of the final size that holds only zeros -/
theorem copy_sparse_file_blocks_setlen_first :
    ∃ w' rest, copy_sparse_file_blocks (sparseExt b) source dest w = (.ok content.length, w') ∧
      runLog w w' = preLog w dest ++ ⟨dest, .setLen content.length, some (zerosN content.length)⟩ :: rest ∧
      (preLog w dest).getLast? = some ⟨dest, .create, some []⟩ := by
  obtain ⟨w', ws, h1, _, h3, _⟩ := copy_sparse_file_blocks_run b w source dest content hsrc hne none
  refine ⟨w', ws ++ [⟨dest, .sync, some (ofU8 content)⟩], h1, by rw [h3]; simp, by simp [preLog]⟩

/-- … and from then on EVERY recorded state of the destination has the final size -/
theorem copy_sparse_file_blocks_sized_throughout :
    ∃ w' pre rest, copy_sparse_file_blocks (sparseExt b) source dest w = (.ok content.length, w') ∧
      runLog w w' = pre ++ rest ∧ pre = preLog w dest ∧
      ∀ e ∈ rest, ∃ c, e.after = some c ∧ c.length = content.length := by
  obtain ⟨w', ws, h1, _, h3, h4⟩ := copy_sparse_file_blocks_run b w source dest content hsrc hne none
  refine ⟨w', preLog w dest, _, h1, by rw [h3, List.append_assoc], rfl, ?_⟩
  intro e he
  simp only [List.cons_append, List.mem_cons, List.mem_append, List.not_mem_nil, or_false] at he
  rcases he with rfl | he | rfl
  · exact ⟨_, rfl, by simp [zerosN]⟩
  · obtain ⟨off, len, c, rfl, hc⟩ := h4 e he
    exact ⟨c, rfl, hc⟩
  · exact ⟨_, rfl, List.length_map _⟩

/-- THE RECORDED FINDING `C09/sparse-setlen-torn-accepted`, about the translated code: for every source with at least
    one non-zero byte the run of the block copier passes through a state in which the destination HAS THE FINAL SIZE
    but NOT the content (it is all zeros) — a kill there leaves a file that a size (+ mtime) comparison accepts -/
theorem copy_sparse_file_blocks_torn_state (i : Nat) (hi : at0 content i ≠ 0) :
    ∃ w' e c, copy_sparse_file_blocks (sparseExt b) source dest w = (.ok content.length, w') ∧
      e ∈ runLog w w' ∧ e.op = .setLen content.length ∧ e.after = some c ∧
      c.length = content.length ∧ c ≠ ofU8 content := by
  obtain ⟨w', ws, h1, _, h3, _⟩ := copy_sparse_file_blocks_run b w source dest content hsrc hne none
  refine ⟨w', ⟨dest, .setLen content.length, some (zerosN content.length)⟩, _, h1, by rw [h3]; simp, rfl, rfl,
    by simp [zerosN], ?_⟩
  intro h
  have hz : ofU8 (zeros content.length) = ofU8 content := by rw [ofU8_zeros]; exact h
  have := ofU8_inj.1 hz
  rw [← this, at0_zeros] at hi
  exact hi rfl

end blocks

/-! ### `copy_sparse_file_seek` on a file system with SEEK_DATA -/

section seek
variable (w : SWorld) (source dest : Rs.Path) (content : Bytes)
  (hsrc : w.files source = some (ofU8 content)) (hne : source ≠ dest) (hcov : Covers content (w.dataMap source))
include hsrc hne hcov

/-- FUEL of the seek copier: both translated loops `for _ in [0:file_size + 2]` end through their own exits — all fuel
    functions above the file size compute the very same result and world.  (Each outer round either breaks or moves
    `pos` past a NON-EMPTY extent: `hole_start > data_start` because `data_start` lies in data; each inner round either
    breaks or reads at least one byte.) -/
theorem copy_sparse_file_seek_fuel_sufficient (fo fi : Nat → Nat) (hfo : content.length < fo content.length)
    (hfi : content.length < fi content.length) :
    seekNF (sparseExt true) fo fi source dest w = copy_sparse_file_seek (sparseExt true) source dest w := by
  obtain ⟨ps, pd, err, ws, tail, h, _⟩ := seekNF_run w source dest content hsrc hne hcov
  rw [seek_nf, h fo fi hfo hfi, h (· + 2) (· + 2) (by omega) (by omega)]

/-- the full statement about one run of the seek copier under the SEEK_DATA contract, for ANY prior destination:
    `Ok(file_size)`; the destination holds the source bytes; no other file changed; the log of the run is
    `[unlink]? create · writes… · set_len(size) ↦ content` followed by `sync` — or by nothing on the all-hole exit
    (then there was no write either and the kernel reports no data inside the file); every write puts `len > 0` bytes
    at `off` and leaves EXACTLY the prefix `content.take (off + len)` -/
theorem copy_sparse_file_seek_run :
    ∃ w' ws tail,
      copy_sparse_file_seek (sparseExt true) source dest w = (.ok content.length, w') ∧
      Copied w w' dest (ofU8 content) ∧
      runLog w w' = preLog w dest ++ ws ++ [⟨dest, .setLen content.length, some (ofU8 content)⟩] ++ tail ∧
      (∀ e ∈ ws, SeekWrite dest content e) ∧
      ((tail = [] ∧ ws = [] ∧ ∀ i, isData (w.dataMap source) i = true → content.length ≤ i) ∨
       tail = [⟨dest, .sync, some (ofU8 content)⟩]) := by
  obtain ⟨ps, pd, err, ws, tail, h, hws, htail⟩ := seekNF_run w source dest content hsrc hne hcov
  exact ⟨_, ws, tail, by rw [seek_nf]; exact h (· + 2) (· + 2) (by omega) (by omega), copied_cw _ _ _ _ _ _ _ _,
    runLog_cw _ _ _ _ _ _ _ _, hws, htail⟩

/-- C14.sparse_local_seek / C14.sparse_local_over_prior (and C01's byte clause) about the TRANSLATED seek copier:
    under `Covers` it returns `Ok(file_size)` and the destination holds the model's
    `localSeekOver .create prior content regions` = the source bytes, whatever it held before -/
theorem translated_sparse_local_seek (prior : Option Bytes) :
    ∃ w', copy_sparse_file_seek (sparseExt true) source dest w = (.ok content.length, w') ∧
      Copied w w' dest (ofU8 (localSeekOver .create prior content (w.dataMap source))) ∧
      Copied w w' dest (ofU8 content) := by
  obtain ⟨w', _, _, h1, h2, _⟩ := copy_sparse_file_seek_run w source dest content hsrc hne hcov
  have : localSeekOver .create prior content (w.dataMap source) = content :=
    (C14.sparse_local_over_prior prior content _ hcov).1
  exact ⟨w', h1, by rw [this]; exact h2, h2⟩

/-- C09, ORDER: in the seek copier `set_len(file_size)` is the LAST mutating operation before `sync` (the last one at
    all on the all-hole exit), and NO earlier operation of the run is a `set_len` -/
theorem copy_sparse_file_seek_setlen_last :
    ∃ w' before tail, copy_sparse_file_seek (sparseExt true) source dest w = (.ok content.length, w') ∧
      runLog w w' = before ++ [⟨dest, .setLen content.length, some (ofU8 content)⟩] ++ tail ∧
      (tail = [] ∨ tail = [⟨dest, .sync, some (ofU8 content)⟩]) ∧
      ∀ e ∈ before, ¬ IsSetLen e := by
  obtain ⟨w', ws, tail, h1, _, h3, h4, h5⟩ := copy_sparse_file_seek_run w source dest content hsrc hne hcov
  refine ⟨w', preLog w dest ++ ws, tail, h1, h3, ?_, ?_⟩
  · rcases h5 with ⟨h, _⟩ | h
    · exact Or.inl h
    · exact Or.inr h
  · intro e he
    rcases List.mem_append.mp he with he | he
    · simp only [preLog, List.mem_append, List.mem_singleton] at he
      rcases he with he | rfl
      · split at he
        · simp only [List.mem_singleton] at he; subst he; rintro ⟨n, hn⟩; cases hn
        · simp at he
      · rintro ⟨n, hn⟩; cases hn
    · obtain ⟨off, len, _, _, rfl⟩ := h4 e he
      rintro ⟨n, hn⟩; cases hn

/-- C09, the invariant behind `no_torn_accepted` for this route: EVERY state of the destination a kill can leave
    behind is "absent" or a PREFIX of the source (empty after `create`, `content.take (off + len)` after a write, the
    whole content after `set_len`) — exactly the `unlink · openTrunc · grow… ` reading of `sparseSeekSteps` -/
theorem copy_sparse_file_seek_prefix_states :
    ∃ w', copy_sparse_file_seek (sparseExt true) source dest w = (.ok content.length, w') ∧
      PrefixStates content (runLog w w') := by
  obtain ⟨w', ws, tail, h1, _, h3, h4, h5⟩ := copy_sparse_file_seek_run w source dest content hsrc hne hcov
  refine ⟨w', h1, ?_⟩
  rw [h3]
  have hfull : ofU8 content = ofU8 (content.take content.length) := by rw [List.take_length]
  intro e he
  simp only [List.mem_append, List.mem_singleton] at he
  rcases he with ((he | he) | rfl) | he
  · simp only [preLog, List.mem_append, List.mem_singleton] at he
    rcases he with he | rfl
    · split at he
      · simp only [List.mem_singleton] at he; subst he; exact Or.inl rfl
      · simp at he
    · exact Or.inr ⟨0, by omega, rfl⟩
  · obtain ⟨off, len, _, hle, rfl⟩ := h4 e he
    exact Or.inr ⟨off + len, hle, rfl⟩
  · exact Or.inr ⟨content.length, Nat.le_refl _, congrArg some hfull⟩
  · rcases h5 with ⟨h, _⟩ | h
    · rw [h] at he; simp at he
    · rw [h] at he; simp only [List.mem_singleton] at he; subst he
      exact Or.inr ⟨content.length, Nat.le_refl _, congrArg some hfull⟩

/-- … hence THE FACT `C09.no_torn_accepted` NEEDS: a recorded state of the destination that has the FINAL SIZE holds
    the complete content — without any condition on where the last extent ends.  (When the last extent ends at EOF
    the final size is first reached by the last write of that extent, and then all data is in place; when a hole
    follows it, only `set_len` reaches the final size.  Before that the size is the end of the last write.) -/
theorem copy_sparse_file_seek_final_size_complete :
    ∃ w', copy_sparse_file_seek (sparseExt true) source dest w = (.ok content.length, w') ∧
      ∀ e ∈ runLog w w', ∀ c, e.after = some c → c.length = content.length → c = ofU8 content := by
  obtain ⟨w', h1, h2⟩ := copy_sparse_file_seek_prefix_states w source dest content hsrc hne hcov
  refine ⟨w', h1, ?_⟩
  intro e he c hc hlen
  rcases h2 e he with h | ⟨n, hn, h⟩
  · rw [h] at hc; cases hc
  · rw [h] at hc
    simp only [Option.some.injEq] at hc
    subst hc
    rw [List.length_map, List.length_take] at hlen
    have : n = content.length := by omega
    subst this
    rw [List.take_length]

omit hsrc hne hcov in
/-- the precise characterisation of the sizes: a write `(off, len)` leaves a file of size `off + len ≤ file_size`; it
    has the final size iff the write ends at EOF -/
theorem seek_write_size (e : LogEntry) (he : SeekWrite dest content e) :
    ∃ off len c, e.op = .write off len ∧ e.after = some c ∧ c.length = off + len ∧ off + len ≤ content.length ∧
      (c.length = content.length ↔ off + len = content.length) := by
  obtain ⟨off, len, _, hle, rfl⟩ := he
  refine ⟨off, len, _, rfl, rfl, ?_, hle, ?_⟩
  · rw [List.length_map, List.length_take]; omega
  · rw [List.length_map, List.length_take]; omega

end seek

/-! ### `copy_sparse_file`: seek variant, block variant exactly on EINVAL -/

/-- for EVERY instance: `copy_sparse_file` is the seek variant; exactly when that fails with an error whose
    `raw_os_error()` is `Some(EINVAL)` the block variant is run, in the world the failed attempt left; every other
    error is returned as it is -/
theorem copy_sparse_file_dispatch {W : Type} (ext : Ext W) (source dest : Rs.Path) (w : W) :
    copy_sparse_file ext source dest w =
      match copy_sparse_file_seek ext source dest w with
      | (.ok size, w') => (.ok size, w')
      | (.error e, w') =>
        if (ext.raw_os_error e == some EINVAL) = true then copy_sparse_file_blocks ext source dest w'
        else (.error e, w') := by
  unfold copy_sparse_file
  simp only [Rs.run_bind, run_capture]
  rcases copy_sparse_file_seek ext source dest w with ⟨r, w'⟩
  cases r with
  | ok v => rfl
  | error e =>
    simp only
    split <;> rfl

theorem copy_sparse_file_other_error_propagates {W : Type} (ext : Ext W) (source dest : Rs.Path) (w w' : W) (e : Rs.Err)
    (hrun : copy_sparse_file_seek ext source dest w = (.error e, w')) (hraw : ext.raw_os_error e ≠ some EINVAL) :
    copy_sparse_file ext source dest w = (.error e, w') := by
  rw [copy_sparse_file_dispatch, hrun]
  have : (ext.raw_os_error e == some EINVAL) = false := by simpa using hraw
  simp only [this, Bool.false_eq_true, if_false]

/-- … for instance a missing source: ENOENT from `File::open` is returned, nothing is touched, the block copier is not
    tried -/
theorem copy_sparse_file_missing_source (b : Bool) (w : SWorld) (source dest : Rs.Path) (h : w.files source = none) :
    copy_sparse_file (sparseExt b) source dest w = (.error .io, w) := by
  apply copy_sparse_file_other_error_propagates
  · rw [seek_nf]
    simp only [seekNF, prologue, Rs.run_bind, ext_open, openOp, h]
  · rw [ext_raw]; decide

section dispatch
variable (w : SWorld) (source dest : Rs.Path) (content : Bytes)
  (hsrc : w.files source = some (ofU8 content)) (hne : source ≠ dest)
include hsrc hne

/-- on a file system with SEEK_DATA (contract `Covers`) `copy_sparse_file` IS the seek variant: same result, same
    world, same log -/
theorem copy_sparse_file_supported (hcov : Covers content (w.dataMap source)) :
    copy_sparse_file (sparseExt true) source dest w = copy_sparse_file_seek (sparseExt true) source dest w := by
  obtain ⟨w', _, _, h1, _⟩ := copy_sparse_file_seek_run w source dest content hsrc hne hcov
  rw [copy_sparse_file_dispatch, h1]

/-- the world the failed seek attempt leaves on a file system without SEEK_DATA: destination created and empty -/
def afterProbe (w : SWorld) (source dest : Rs.Path) : SWorld :=
  cw w source dest 0 0 [] EINVAL (w.log ++ preLog w dest)

/-- on a file system WITHOUT SEEK_DATA the seek variant returns the EINVAL error after `[unlink]? create` … -/
theorem copy_sparse_file_seek_unsupported :
    copy_sparse_file_seek (sparseExt false) source dest w = (.error .other, afterProbe w source dest) ∧
    rawOsError .other = some EINVAL := by
  rw [seek_nf]
  exact ⟨seekNF_unsupported w source dest content hsrc hne _ _, rfl⟩

/-- … and `copy_sparse_file` IS the block variant run from there -/
theorem copy_sparse_file_unsupported :
    copy_sparse_file (sparseExt false) source dest w =
      copy_sparse_file_blocks (sparseExt false) source dest (afterProbe w source dest) := by
  rw [copy_sparse_file_dispatch, (copy_sparse_file_seek_unsupported w source dest content hsrc hne).1]
  rfl

theorem afterProbe_source : (afterProbe w source dest).files source = some (ofU8 content) := by
  simp only [afterProbe, cw, upd_eq]
  rw [upd_ne _ _ hne, hsrc]

/-- C14 / C01 for `copy_sparse_file` on a file system without SEEK_DATA, ANY content, any prior destination:
    `Ok(file_size)`, the destination holds the source bytes, nothing else changed; the log of the whole call is
    `[unlink]? create · unlink · create · set_len(size) ↦ zeros · writes… · sync` -/
theorem copy_sparse_file_unsupported_run :
    ∃ w' ws, copy_sparse_file (sparseExt false) source dest w = (.ok content.length, w') ∧
      Copied w w' dest (ofU8 content) ∧
      runLog w w' = preLog w dest ++ [⟨dest, .unlink, none⟩, ⟨dest, .create, some []⟩,
        ⟨dest, .setLen content.length, some (zerosN content.length)⟩] ++ ws ++ [⟨dest, .sync, some (ofU8 content)⟩] ∧
      ∀ e ∈ ws, BlockWrite dest content.length e := by
  obtain ⟨ps, pd, ws, h, hws⟩ := blocksNF_run (afterProbe w source dest) source dest content
    (afterProbe_source w source dest content hsrc hne) hne false
  have hrun := h (· + 2) (by omega)
  rw [← blocks_nf, ← copy_sparse_file_unsupported w source dest content hsrc hne] at hrun
  refine ⟨_, ws, hrun, ?_, ?_, hws⟩
  · refine ⟨upd_same _ _ _, fun q hq => ?_⟩
    show Data.upd (afterProbe w source dest).files dest _ q = _
    rw [upd_ne _ _ hq]
    exact upd_ne _ _ hq
  · have hpre : preLog (afterProbe w source dest) dest = [⟨dest, .unlink, none⟩, ⟨dest, .create, some []⟩] := by
      simp [preLog, afterProbe, cw]
    have hl : (afterProbe w source dest).log = w.log ++ preLog w dest := rfl
    simp only [runLog, cw, hpre, hl, List.append_assoc, List.drop_left']
    simp

end dispatch

/-! ### the hypotheses are satisfiable -/

/-- a world for `copy_sparse_file s d`: `s` holds a file with a leading hole, an unaligned data extent and a trailing
    hole (the layout of `C14.covers_example`), `d` holds `prior` (or does not exist) -/
def exampleWorld (prior : Option (List Nat)) : SWorld :=
  { files := fun p => if p = ['s'] then some (ofU8 [0, 0, 7, 8, 9, 0, 0]) else if p = ['d'] then prior else none,
    dataMap := fun p => if p = ['s'] then [{ offset := 1, length := 4 }] else [],
    blocks := fun _ => 8, opened := 0, handle := fun _ => none, errno := 0, log := [] }

example (prior : Option (List Nat)) :
    (exampleWorld prior).files ['s'] = some (ofU8 [0, 0, 7, 8, 9, 0, 0]) ∧ (['s'] : Rs.Path) ≠ ['d'] ∧
    Covers [0, 0, 7, 8, 9, 0, 0] ((exampleWorld prior).dataMap ['s']) :=
  ⟨by simp [exampleWorld], by decide, C14.covers_example⟩

/-- the all-hole layout: no extent at all (the `ENXIO` exit of the seek copier) -/
example (n : Nat) : Covers (zeros n) ([] : List Region) := C14.covers_all_hole n

/-- every content has a `Covers` witness (one extent over the whole file: what a file system that does not track holes
    reports), so the seek theorems are not vacuous for any file -/
theorem covers_whole (content : Bytes) : Covers content [{ offset := 0, length := content.length }] where
  inRange := by intro r hr; simp only [List.mem_singleton] at hr; subst hr; simp
  holesZero := by intro i hi _; exact ⟨_, List.mem_singleton.mpr rfl, by simp, by simpa using hi⟩

/-- sanity of the trusted `lseek` answers on the layout `hole [0,1) · data [1,5) · hole [5,7)`: SEEK_DATA from a hole is
    the start of the next extent, from inside data the offset itself, `none` (ENXIO) when only a hole follows;
    SEEK_HOLE is the end of the extent, the offset itself in a hole; adjacent extents merge and EOF counts as a hole -/
example : seekData [⟨1, 4⟩] 7 0 = some 1 ∧ seekData [⟨1, 4⟩] 7 3 = some 3 ∧ seekData [⟨1, 4⟩] 7 5 = none ∧
    seekHole [⟨1, 4⟩] 7 1 = 5 ∧ seekHole [⟨1, 4⟩] 7 0 = 0 ∧ seekHole [⟨1, 4⟩, ⟨5, 2⟩] 7 1 = 7 := by decide

/-- fuel functions above the file size exist: the translation's own `file_size + 2` -/
example (n : Nat) : n < (· + 2) n := by show n < n + 2; omega

/-- the finding's hypothesis: a file with a non-zero byte -/
example : at0 ([0, 0, 7, 8, 9, 0, 0] : Bytes) 2 ≠ 0 := by decide

/-- the hypothesis of `copy_sparse_file_missing_source` -/
example : (exampleWorld none).files ['x'] = none := by simp [exampleWorld]

/-- end to end on the concrete world, both kinds of file system, destination present before: the destination holds
    the source bytes afterwards -/
example : ∃ w', copy_sparse_file (sparseExt true) ['s'] ['d'] (exampleWorld (some [1, 2, 3])) = (.ok 7, w') ∧
    w'.files ['d'] = some (ofU8 [0, 0, 7, 8, 9, 0, 0]) := by
  have hs : (exampleWorld (some [1, 2, 3])).files ['s'] = some (ofU8 [0, 0, 7, 8, 9, 0, 0]) := by simp [exampleWorld]
  rw [copy_sparse_file_supported _ ['s'] ['d'] [0, 0, 7, 8, 9, 0, 0] hs (by decide) C14.covers_example]
  obtain ⟨w', h1, _, h2⟩ := translated_sparse_local_seek _ ['s'] ['d'] [0, 0, 7, 8, 9, 0, 0] hs (by decide)
    C14.covers_example none
  exact ⟨w', h1, h2.1⟩

example : ∃ w', copy_sparse_file (sparseExt false) ['s'] ['d'] (exampleWorld (some [1, 2, 3])) = (.ok 7, w') ∧
    w'.files ['d'] = some (ofU8 [0, 0, 7, 8, 9, 0, 0]) := by
  have hs : (exampleWorld (some [1, 2, 3])).files ['s'] = some (ofU8 [0, 0, 7, 8, 9, 0, 0]) := by simp [exampleWorld]
  obtain ⟨w', _, h1, h2, _⟩ := copy_sparse_file_unsupported_run _ ['s'] ['d'] [0, 0, 7, 8, 9, 0, 0] hs (by decide)
  exact ⟨w', h1, h2.1⟩

end SyModel.Props.GenSparseCopy
