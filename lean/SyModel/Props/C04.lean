/-
  C04 — Delta encoding reconstructs the new file exactly for every old/new pair.
-/
import SyModel.Lemmas.Adler
import SyModel.Lemmas.Delta
import SyModel.Lemmas.Stream
import SyModel.Generated.Consts
namespace SyModel.Props.C04
open SyModel SyModel.Delta

/-! ### side conditions on the constants extracted from the Rust source on this run -/

/-- the model's modulus is the code's `MOD_ADLER`. -/
theorem consts_ok_mod : Generated.MOD_ADLER = MOD := by decide

/-- `calculate_block_size` never exceeds the streaming `CHUNK_SIZE` (needed by `genStream_reconstructs_sy`). -/
theorem consts_ok_chunk : Generated.BLOCK_SIZE_MAX ≤ Generated.STREAM_CHUNK_SIZE := by decide

/-- the largest block size cannot wrap `n * old` in `u32` (needed by `adler_roll_window_sy`). -/
theorem consts_ok_adler : Generated.BLOCK_SIZE_MAX * 255 < 4294967296 := by decide

theorem consts_ok_block_min : 0 < Generated.BLOCK_SIZE_MIN := by decide

/-- After any number `k` of roll steps the rolling state equals the directly computed
    checksum state of the current window `d[k .. k+n)`. -/
theorem adler_roll_window (d : Bytes) (n k : Nat) (hn : 0 < n) (hov : n * 255 < 4294967296)
    (hk : k + n ≤ d.length) :
    (rollN n (Adler.ofBlock (d.take n)) d k).digest = hashBytes ((d.drop k).take n) := by
  rw [rollN_window n hn hov k d hk]; rfl

/-- … in particular for every block size sy can choose (`calculate_block_size` ≤ 128 KiB). -/
theorem adler_roll_window_sy (d : Bytes) (n k : Nat) (hn : 0 < n) (hmax : n ≤ Generated.BLOCK_SIZE_MAX)
    (hk : k + n ≤ d.length) :
    (rollN n (Adler.ofBlock (d.take n)) d k).digest = hashBytes ((d.drop k).take n) := by
  apply adler_roll_window d n k hn _ hk
  have h1 := consts_ok_adler
  have h2 : n * 255 ≤ Generated.BLOCK_SIZE_MAX * 255 := Nat.mul_le_mul_right 255 hmax
  exact Nat.lt_of_le_of_lt h2 h1

/-- No intermediate value of `roll` exceeds `u32`, given a state in range (upper bounds only: that no subtraction
    underflows either — which modelling it in `Nat` also needs — is `GenRolling.roll_no_wrap`). -/
theorem adler_no_wrap (n : Nat) (s : Adler) (old new : UInt8) (ha : s.a < MOD) (hb : s.b < MOD) :
    s.a + MOD * 2 - old.toNat + new.toNat < 4294967296 ∧
    s.b + MOD * 3 - wrap32 (wrap32 n * old.toNat) % MOD + (Adler.roll n s old new).a - 1 < 4294967296 ∧
    (Adler.roll n s old new).a < MOD ∧ (Adler.roll n s old new).b < MOD := by
  have hx : old.toNat < 256 := old.toNat_lt
  have hy : new.toNat < 256 := new.toNat_lt
  have h1 : wrap32 (wrap32 n * old.toNat) % MOD < MOD := Nat.mod_lt _ (by unfold MOD; omega)
  have h2 : (Adler.roll n s old new).a < MOD := Nat.mod_lt _ (by unfold MOD; omega)
  have h3 : (Adler.roll n s old new).b < MOD := Nat.mod_lt _ (by unfold MOD; omega)
  simp only [MOD] at *
  refine ⟨by omega, by omega, h2, h3⟩

/-- Every entry of `checksums` describes a real, in-range slice of `old`, block-aligned, of
    full size except possibly the last. -/
theorem checksums_cover {H} (strong : Bytes → H) (old : Bytes) (bs : Nat) :
    ∀ c ∈ checksums strong bs old, BlockOK strong old bs c :=
  checksums_ok strong old bs

/-- In-memory generator: applying the generated delta to `old` yields exactly `new`. -/
theorem genMem_reconstructs {H} [BEq H] (strong : Bytes → H) (old new : Bytes) (bs : Nat)
    (h : 0 < bs) (hc : NoCollision strong old new bs) :
    applyOps old (genMem strong (checksums strong bs old) bs new) = some new :=
  genMem_spec strong old new _ bs h (candidatesSound_of_noCollision strong old new bs hc)

/-- Streaming generator, for every window size `chunk ≥ bs`. -/
theorem genStream_reconstructs {H} [BEq H] (strong : Bytes → H) (old new : Bytes) (bs chunk : Nat)
    (h : 0 < bs) (hchunk : bs ≤ chunk) (hc : NoCollision strong old new bs) :
    ∃ ops, genStream strong (checksums strong bs old) bs chunk new = some ops ∧
      applyOps old ops = some new := by
  unfold genStream
  rw [dif_pos h]
  refine ⟨_, rfl, ?_⟩
  obtain ⟨inv, hhead⟩ := sinit_inv old new bs chunk h hchunk
  exact genStreamGo_spec strong old new _ bs chunk h hchunk
    (candidatesSound_of_noCollision strong old new bs hc) _ [] inv hhead

/-- … in particular with the code's `CHUNK_SIZE` and every block size `calculate_block_size` yields. -/
theorem genStream_reconstructs_sy {H} [BEq H] (strong : Bytes → H) (old new : Bytes) (bs : Nat)
    (h : 0 < bs) (hmax : bs ≤ Generated.BLOCK_SIZE_MAX) (hc : NoCollision strong old new bs) :
    ∃ ops, genStream strong (checksums strong bs old) bs Generated.STREAM_CHUNK_SIZE new = some ops ∧
      applyOps old ops = some new :=
  genStream_reconstructs strong old new bs _ h (Nat.le_trans hmax consts_ok_chunk) hc

/-- Copy operations only reference ranges inside `old` (both generators). -/
theorem copies_in_range_mem {H} [BEq H] (strong : Bytes → H) (old new : Bytes) (bs : Nat)
    (h : 0 < bs) (hc : NoCollision strong old new bs) :
    ∀ off sz, Op.copy off sz ∈ genMem strong (checksums strong bs old) bs new → sz = 0 ∨ off + sz ≤ old.length :=
  copies_in_range_of_apply old _ new (genMem_reconstructs strong old new bs h hc)

theorem copies_in_range_stream {H} [BEq H] (strong : Bytes → H) (old new : Bytes) (bs chunk : Nat)
    (h : 0 < bs) (hchunk : bs ≤ chunk) (hc : NoCollision strong old new bs) :
    ∀ ops, genStream strong (checksums strong bs old) bs chunk new = some ops →
      ∀ off sz, Op.copy off sz ∈ ops → sz = 0 ∨ off + sz ≤ old.length := by
  intro ops hops
  obtain ⟨ops', h1, h2⟩ := genStream_reconstructs strong old new bs chunk h hchunk hc
  rw [hops] at h1; cases h1
  exact copies_in_range_of_apply old _ new h2

/-! ### non-vacuity: the hypotheses are satisfiable on non-trivial inputs -/

theorem noCollision_id (old new : Bytes) (bs : Nat) : NoCollision (H := Bytes) id old new bs :=
  noCollision_of_injective id (fun _ _ h => h) old new bs

example : applyOps [1, 2, 3, 4, 5, 6, 7] (genMem (H := Bytes) id (checksums id 3 [1, 2, 3, 4, 5, 6, 7]) 3
    [9, 4, 5, 6, 1, 2, 3, 7, 7]) = some [9, 4, 5, 6, 1, 2, 3, 7, 7] :=
  genMem_reconstructs id _ _ 3 (by decide) (noCollision_id _ _ _)

end SyModel.Props.C04
