/-
  C01 — One-way sync makes every selected file byte-identical to its source (engine level).
  Property theorems only.  The byte-level transfer paths are proved separately; here file content
  is an opaque id and the statement is about the whole run `runF` (scan → filter → plan → guard →
  execute), for every configuration, fault plan, scan and prior destination.

  Hypotheses and what they exclude (definitions and examples in `Lemmas/EngineWF.lean`):
  * `UniqueRels scan` — the scanner never reports a relative path twice.
  * only with `--delete`: `ParentClosed scan` (a scan lists the directories above every entry) and
    `dst.get? [] = none` (the destination listing does not contain the root itself).  Without
    them a stale destination directory above a freshly written file would be planned for
    deletion and take the file with it.
  * only with `--hard-links`: `InoConsistent scan` (names of one inode carry the same data).
  Type conflicts need no hypothesis: a destination directory where the source has a file or
  link, a non-directory above a selected entry, or a non-directory where the source has a
  directory (`C01_dir_over_nondir_fails`: planned as a creation, sy commit 481828a) make the task
  fail, which `exit = 0` excludes.  A destination SYMLINK where the source has a directory is
  neither: it is replaced by a directory (planned as an update that comes before everything below it,
  sy commit 862af11), so `C01` covers that configuration with a real conclusion
  (`C02.dir_over_own_link_replaced`).
-/
import SyModel.Lemmas.EnginePost
namespace SyModel.Props.C01
open SyModel SyModel.Engine

/-- the destination node carries the source's data (xattrs only with `-X`); the same predicate as `Engine.Matches`
    (`Lemmas/EngineExec`), written out here so that the property reads on its own -/
def Carries (cfg : Cfg) (d m : FileMeta) : Prop :=
  d.content = m.content ∧ d.size = m.size ∧ d.mtime = m.mtime ∧
    d.xattrs = (if cfg.xattrs then m.xattrs else [])

/-- **The active comparison rule.**  A regular file is *skipped* exactly when the destination has
    a regular file there and: default — same size and mtimes less than 2 s apart (whole-second
    truncation, tolerance 1); `--checksum` — same content; `--size-only` — same size;
    `--ignore-times` — never. -/
theorem compare_rule_spec (cfg : Cfg) (m : FileMeta) (o : Option DNode) :
    planFileAct cfg m o = .skip ↔
      ∃ d, o = some (.file d) ∧
        match cfg.compare with
        | .default => m.size = d.size ∧ absDiff m.mtime d.mtime < 2000000000
        | .checksum => m.content = d.content
        | .sizeOnly => m.size = d.size
        | .ignoreTimes => False := by
  rw [planFileAct_skip_iff]
  unfold UpToDate
  cases cfg.compare <;> rfl

/-- **C01.**  If a (non-dry) run exits 0 then every selected entry is present with the right kind,
    and every file that was absent or differed under the comparison rule carries the source's
    content, size and mtime — whatever the destination contained before, under every fault plan. -/
theorem C01 (cfg : Cfg) (hnd : cfg.dryRun = false) (flt : Faults) (scan : List SEntry) (dst : Map DNode)
    (n : Nat) (hu : UniqueRels scan)
    (hdel : cfg.delete = true → ParentClosed scan ∧ dst.get? [] = none)
    (hino : cfg.hardlinks = true → InoConsistent scan)
    (hok : (runF cfg flt scan dst n).exit = 0) :
    ∀ e ∈ scanFilter cfg scan,
      -- a selected directory is a directory, whatever the destination contained before
      (e.kind = .dir → e.rel ≠ [] → (runF cfg flt scan dst n).dst.get? e.rel = some .dir) ∧
      -- a selected regular file is a regular file; transferred ones carry the source's data
      (∀ m k, e.kind = .file m k → ∃ d, (runF cfg flt scan dst n).dst.get? e.rel = some (.file d) ∧
        (planFileAct cfg m (dst.get? e.rel) ≠ .skip → Carries cfg d m)) ∧
      -- preserve: that symlink, with the source's text
      (∀ text tgt, e.kind = .symlink text tgt → cfg.links = .preserve →
        (runF cfg flt scan dst n).dst.get? e.rel = some (.symlink text)) ∧
      -- follow, file target: a regular file with the target's data
      (∀ text m, e.kind = .symlink text (.file m) → cfg.links = .follow →
        ∃ d, (runF cfg flt scan dst n).dst.get? e.rel = some (.file d) ∧
          (planFileAct cfg m (dst.get? e.rel) ≠ .skip → Carries cfg d m)) ∧
      -- skip mode, or follow with a directory/dangling target: nothing is done at that path
      (∀ text tgt, e.kind = .symlink text tgt →
        (cfg.links = .skip ∨ (cfg.links = .follow ∧ ∀ m, tgt ≠ .file m)) → ParentClosed scan →
        (runF cfg flt scan dst n).dst.get? e.rel = dst.get? e.rel) := by
  intro e he
  have ep := entryPost_of_exit_zero hnd flt scan dst n hu hdel hino he hok
  refine ⟨ep.dir, fun m k hk => ?_, ep.link_preserve, fun text m hk hl => ?_,
    fun text tgt hk hl hc => ?_⟩
  · obtain ⟨d, h1, _, h3, _⟩ := ep.file m k hk
    exact ⟨d, h1, h3⟩
  · obtain ⟨d, h1, _, h3, _⟩ := ep.link_follow text m hk hl
    exact ⟨d, h1, h3⟩
  · have hkd : e.kind ≠ .dir := by rw [hk]; simp
    rcases hl with hl | ⟨hl, hnf⟩
    · exact (ep.link_skip text tgt hk hl).eq hu hc (mem_of_mem_scanFilter he) hkd
    · exact (ep.link_follow_other text tgt hk hl hnf).eq hu hc (mem_of_mem_scanFilter he) hkd

/-- A file that the comparison rule skips is left exactly as it was. -/
theorem C01_skipped_untouched (cfg : Cfg) (hnd : cfg.dryRun = false) (flt : Faults) (scan : List SEntry)
    (dst : Map DNode) (n : Nat) (hu : UniqueRels scan)
    (hdel : cfg.delete = true → ParentClosed scan ∧ dst.get? [] = none)
    (hino : cfg.hardlinks = true → InoConsistent scan)
    (hok : (runF cfg flt scan dst n).exit = 0) (e : SEntry) (he : e ∈ scanFilter cfg scan)
    (m : FileMeta) (k : Nat) (hk : e.kind = .file m k) (hs : planFileAct cfg m (dst.get? e.rel) = .skip) :
    (runF cfg flt scan dst n).dst.get? e.rel = dst.get? e.rel := by
  obtain ⟨d, _, h2, _⟩ := (entryPost_of_exit_zero hnd flt scan dst n hu hdel hino he hok).file m k hk
  exact h2 hs

/-- **`-H`: transferred names of one source inode are names of one destination node.**  With
    `--hard-links`, after a run that exits 0, any two selected regular files with link count > 1
    and the same source inode that were both transferred (created *or updated*: an
    update of a later group member re-links it to the first member's destination, sy commit a68466f) hold the very
    same node — same data (which `C01` shows to be the source's) and same inode. -/
theorem C01_hardlink_members_share_node (cfg : Cfg) (hnd : cfg.dryRun = false) (hhl : cfg.hardlinks = true)
    (flt : Faults) (scan : List SEntry) (dst : Map DNode) (n : Nat) (hu : UniqueRels scan)
    (hdel : cfg.delete = true → ParentClosed scan ∧ dst.get? [] = none)
    (hok : (runF cfg flt scan dst n).exit = 0)
    (e e' : SEntry) (he : e ∈ scanFilter cfg scan) (he' : e' ∈ scanFilter cfg scan)
    (m m' : FileMeta) (k k' : Nat) (hk : e.kind = .file m k) (hk' : e'.kind = .file m' k')
    (h1 : 1 < k) (h1' : 1 < k') (hi : m.ino = m'.ino)
    (hs : planFileAct cfg m (dst.get? e.rel) ≠ .skip) (hs' : planFileAct cfg m' (dst.get? e'.rel) ≠ .skip) :
    (runF cfg flt scan dst n).dst.get? e.rel = (runF cfg flt scan dst n).dst.get? e'.rel := by
  rw [(runF_of_not_refused (runF_exit_zero hok).1).dst]
  exact run_share hnd flt scan dst n hu hdel hhl hk hk' h1 h1' hi hs hs'
    (taskOk_of_exit_zero hok (planEntry_mem_plan he)) (taskOk_of_exit_zero hok (planEntry_mem_plan he'))

/-- An existing destination directory at the path of a selected directory is kept (planned as
    `skip`); a destination symlink there is replaced by a directory (planned as `update`, sy commit 862af11);
    nothing else can be there after a run that exits 0. -/
theorem C01_existing_dir_node_kept (cfg : Cfg) (hnd : cfg.dryRun = false) (flt : Faults) (scan : List SEntry)
    (dst : Map DNode) (n : Nat) (hu : UniqueRels scan)
    (hdel : cfg.delete = true → ParentClosed scan ∧ dst.get? [] = none)
    (hino : cfg.hardlinks = true → InoConsistent scan)
    (hok : (runF cfg flt scan dst n).exit = 0) (e : SEntry) (he : e ∈ scanFilter cfg scan)
    (hk : e.kind = .dir) (hne : e.rel ≠ []) (hp : dst.get? e.rel ≠ none) :
    (dst.get? e.rel = some .dir ∧ (runF cfg flt scan dst n).dst.get? e.rel = dst.get? e.rel) ∨
    ((∃ s, dst.get? e.rel = some (.symlink s)) ∧ (runF cfg flt scan dst n).dst.get? e.rel = some .dir) := by
  have ep := entryPost_of_exit_zero hnd flt scan dst n hu hdel hino he hok
  rcases ep.dir_pre hk hne with h | h | h
  · exact absurd h hp
  · exact Or.inl ⟨h, by rw [ep.dir hk hne, h]⟩
  · exact Or.inr ⟨h, ep.dir hk hne⟩

/-- **A regular file where the source has a directory makes the run fail** (it is planned as a
    creation, `create_dir_all` hits the existing entry): the exit status is non-zero and, unless
    the run was refused by the deletion guard, the failed creation is in the error list — under
    every fault plan.  (A destination SYMLINK there is not a failure: it is replaced by a directory,
    `C01_existing_dir_node_kept`, `C02.dir_over_own_link_replaced` — hence the hypothesis `hvl`.) -/
theorem C01_dir_over_nondir_fails (cfg : Cfg) (hnd : cfg.dryRun = false) (flt : Faults) (scan : List SEntry)
    (dst : Map DNode) (n : Nat) (hu : UniqueRels scan)
    (hdel : cfg.delete = true → ParentClosed scan ∧ dst.get? [] = none)
    (hino : cfg.hardlinks = true → InoConsistent scan)
    (e : SEntry) (he : e ∈ scanFilter cfg scan) (hk : e.kind = .dir) (hne : e.rel ≠ [])
    (v : DNode) (hv : dst.get? e.rel = some v) (hvd : v ≠ .dir) (hvl : ∀ s, v ≠ .symlink s) :
    (runF cfg flt scan dst n).exit ≠ 0 ∧
    ((runF cfg flt scan dst n).refused = false → (Act.create, e.rel) ∈ (runF cfg flt scan dst n).errors) := by
  have hnd' : dst.get? e.rel ≠ some .dir := by rw [hv]; simpa using hvd
  have hpe : planEntry cfg dst e = ⟨.create, e.rel, .dir⟩ := by
    rw [planEntry_dir hk, hv]
    cases v with
    | dir => exact absurd rfl hvd
    | symlink s => exact absurd rfl (hvl s)
    | file m => rfl
  have notOk : ¬ TaskOk cfg flt (plan cfg scan dst) (initExec dst n) (planEntry cfg dst e) := by
    intro hok
    have ep := run_entry_post hnd flt scan dst n hu hdel hino hok
    rcases ep.dir_pre hk hne with h | h | ⟨s, h⟩
    · rw [hv] at h; cases h
    · exact hnd' h
    · rw [hv] at h; simp only [Option.some.injEq] at h; exact hvl s h
  refine ⟨fun h0 => notOk (taskOk_of_exit_zero h0 (planEntry_mem_plan he)), fun hr => ?_⟩
  have rep := runF_of_not_refused hr
  have hacc := task_accounted (cfg := cfg) (flt := flt) (plan cfg scan dst) (initExec dst n)
    (planEntry_mem_plan (dst := dst) he)
  rw [hpe] at hacc
  rcases hacc with h | h
  · exfalso
    apply notOk
    have hev : ((planEntry cfg dst e).act, e.rel) ∈ (runF cfg flt scan dst n).events := by
      rw [hpe, rep.events, List.mem_reverse]; exact h
    exact (event_entry hu he (planEntry_act_ne_delete _ _ _) hev).2.2
  · rw [rep.errors, List.mem_reverse]; exact h

def cxCfg : Cfg where
  delete := false
  force := false
  dryRun := false
  xattrs := false
  hardlinks := false
  threshold := 50
  links := .preserve
  compare := .default
  minSize := none
  maxSize := none
  maxErrors := 100
  tie := false

/-- source directory `d`, destination regular file `d`: the run fails with the creation of `d` in its error list -/
example :
    (run cxCfg [⟨["d"], .dir, 4096, false⟩] [(["d"], .file (exMeta 1 2 3 4))] 10).exit ≠ 0 ∧
    (Act.create, ["d"]) ∈ (run cxCfg [⟨["d"], .dir, 4096, false⟩] [(["d"], .file (exMeta 1 2 3 4))] 10).errors := by
  have h := C01_dir_over_nondir_fails cxCfg rfl noFaults [⟨["d"], .dir, 4096, false⟩]
    [(["d"], .file (exMeta 1 2 3 4))] 10 (by decide) (fun h => by cases h) (fun h => by cases h)
    ⟨["d"], .dir, 4096, false⟩ (by decide) rfl (by decide) (.file (exMeta 1 2 3 4)) (by decide) (by decide)
    (fun s => by simp)
  exact ⟨h.1, h.2 (by decide)⟩

/-- the destination is left as it was (the failed task changes nothing) -/
example : (run cxCfg [⟨["d"], .dir, 4096, false⟩] [(["d"], .file (exMeta 1 2 3 4))] 10).dst
    = [(["d"], .file (exMeta 1 2 3 4))] := by decide

def exCfg : Cfg where
  delete := true
  force := true
  dryRun := false
  xattrs := true
  hardlinks := true
  threshold := 50
  links := .preserve
  compare := .default
  minSize := none
  maxSize := none
  maxErrors := 100
  tie := false

/-- the report of the example run, evaluated once (the `create` of `d/h` is used in `C10Post`, the counters in `C03`) -/
theorem exRun_report : (run exCfg exScan exDst 1000).exit = 0 ∧
    (Act.create, ["d", "h"]) ∈ (run exCfg exScan exDst 1000).events ∧
    (run exCfg exScan exDst 1000).updated = 1 ∧ (run exCfg exScan exDst 1000).created = 3 ∧
    (run exCfg exScan exDst 1000).deleted = 2 := by decide

/-- all hypotheses of `C01` hold on the example tree (stale file `d/f`, extras `x/`, `x/y`, a hard
    link pair, a preserved symlink, an excluded file) and its conclusion is used: the stale `d/f`
    carries the source's data afterwards -/
example : ∃ d, (run exCfg exScan exDst 1000).dst.get? ["d", "f"] = some (.file d) ∧
    Carries exCfg d (exMeta 1 10 5000000000 3) := by
  obtain ⟨d, h1, h2⟩ := (C01 exCfg rfl noFaults exScan exDst 1000 exScan_uniqueRels
    exScan_delete_ok (fun _ => exScan_inoConsistent) exRun_report.1
    ⟨["d", "f"], .file (exMeta 1 10 5000000000 3) 1, 10, false⟩ (by decide)).2.1 _ _ rfl
  exact ⟨d, h1, h2 (by decide)⟩

/-- the second name of the hard-linked inode carries the data too -/
example : ∃ d, (run exCfg exScan exDst 1000).dst.get? ["d", "h"] = some (.file d) ∧
    Carries exCfg d (exMeta 2 20 7000000000 7) := by
  obtain ⟨d, h1, h2⟩ := (C01 exCfg rfl noFaults exScan exDst 1000 exScan_uniqueRels
    exScan_delete_ok (fun _ => exScan_inoConsistent) exRun_report.1
    ⟨["d", "h"], .file (exMeta 2 20 7000000000 7) 2, 20, false⟩ (by decide)).2.1 _ _ rfl
  exact ⟨d, h1, h2 (by decide)⟩

example : (run exCfg exScan exDst 1000).dst.get? ["l"] = some (.symlink "d/f") :=
  (C01 exCfg rfl noFaults exScan exDst 1000 exScan_uniqueRels
    exScan_delete_ok (fun _ => exScan_inoConsistent) exRun_report.1
    ⟨["l"], .symlink "d/f" (.file (exMeta 1 10 5000000000 3)), 3, false⟩ (by decide)).2.2.1 _ _ rfl rfl

/-- `-H` *update*: both names of inode 7 already exist in the destination as two unrelated stale
    files; `g` (first of the group) is rewritten, `d/h` is re-linked to it — it carries the
    source's data and is the same node as `g` -/
def dstH : Map DNode :=
  (["g"], .file (exMeta 0 20 1 201)) :: (["d", "h"], .file (exMeta 0 20 1 202)) :: exDst

example : (planEntry exCfg dstH ⟨["d", "h"], .file (exMeta 2 20 7000000000 7) 2, 20, false⟩).act = .update := by
  decide

theorem exRunH_exit : (run exCfg exScan dstH 1000).exit = 0 := by decide

theorem exRunH_dh : (⟨["d", "h"], .file (exMeta 2 20 7000000000 7) 2, 20, false⟩ : SEntry) ∈ scanFilter exCfg exScan := by
  decide

example : ∃ d, (run exCfg exScan dstH 1000).dst.get? ["d", "h"] = some (.file d) ∧
    Carries exCfg d (exMeta 2 20 7000000000 7) := by
  obtain ⟨d, h1, h2⟩ := (C01 exCfg rfl noFaults exScan dstH 1000 exScan_uniqueRels
    (fun _ => ⟨exScan_parentClosed, rfl⟩) (fun _ => exScan_inoConsistent) exRunH_exit _ exRunH_dh).2.1 _ _ rfl
  exact ⟨d, h1, h2 (by decide)⟩

example : (run exCfg exScan dstH 1000).dst.get? ["d", "h"] = (run exCfg exScan dstH 1000).dst.get? ["g"] :=
  C01_hardlink_members_share_node exCfg rfl rfl noFaults exScan dstH 1000 exScan_uniqueRels
    (fun _ => ⟨exScan_parentClosed, rfl⟩) exRunH_exit _ ⟨["g"], .file (exMeta 2 20 7000000000 7) 2, 20, false⟩
    exRunH_dh (by decide) _ _ 2 2 rfl rfl (by decide) (by decide) rfl (by decide) (by decide)

/-- the comparison rule on concrete data: 1.999…s apart is up to date, 2 s apart is not -/
example : planFileAct exCfg (exMeta 1 10 5000000000 3) (some (.file (exMeta 0 10 3000000001 9))) = .skip :=
  (compare_rule_spec _ _ _).2 ⟨_, rfl, by show _ ∧ _; decide⟩
example : planFileAct exCfg (exMeta 1 10 5000000000 3) (some (.file (exMeta 0 10 3000000000 9))) ≠ .skip := by
  decide

end SyModel.Props.C01
