/-
  C06 — Deletion: extras untouched without --delete, exact mirror with it (engine level).
  Property theorems only.
-/
import SyModel.Lemmas.EngineClosed
import SyModel.Engine.Bloom
namespace SyModel.Props.C06
open SyModel SyModel.Engine

/-- **Bloom branch = set branch.**  With a filter that has no false negatives on the source list
    (fastbloom's guarantee; `bloom` is otherwise arbitrary, so every false positive is covered) the
    Bloom-filter branch of `plan_deletions` plans exactly the deletions of the `HashSet` branch. -/
theorem bloom_eq_set (bloom : Path → Bool) (filtered scanned : List SEntry) (dst : Map DNode)
    (h : ∀ e ∈ filtered, bloom e.rel = true) :
    planDeletionsBloom bloom filtered scanned dst = planDeletions filtered scanned dst := by
  unfold planDeletionsBloom planDeletions
  congr 1
  apply List.filter_congr
  intro p _
  -- a path the filter calls "definitely not in the source" is in no source entry: no false negatives
  unfold bloomDeletes
  cases hb : bloom p with
  | true => simp
  | false =>
    simp only [Bool.not_false, ↓reduceIte]
    congr 2
    symm
    simp only [Bool.not_eq_true', List.any_eq_false, beq_iff_eq]
    intro e he hr
    have := h e he
    rw [hr, hb] at this; cases this

/-- **A path whose counterpart still exists in the source is never planned for deletion** —
    whether the source entry is excluded by a rule, size-filtered, below an excluded directory or
    selected; any filter, any size bound. -/
theorem counterpart_never_planned (cfg : Cfg) (scan : List SEntry) (dst : Map DNode) (e : SEntry)
    (he : e ∈ scan) : ∀ t ∈ plan cfg scan dst, t.act = .delete → t.rel ≠ e.rel := by
  intro t ht ha
  obtain ⟨p, rfl, _, _, hs, _⟩ := mem_planDeletions.1 (deletion_of_task ht ha).2
  exact fun h => hs e he h.symm

/-- **… and it is still present after the run**, under every fault plan that does not wipe that
    very path, provided it does not sit below a stale directory that is itself deleted.  (`hne`: the
    source root itself is never an entry, `NoRoot`; needed because a directory entry over a destination
    link first unlinks the link, sy commit 862af11 — at the root `create_dir_all` then has nothing to do.) -/
theorem counterpart_never_deleted (cfg : Cfg) (flt : Faults) (scan : List SEntry) (dst : Map DNode) (n : Nat)
    (e : SEntry) (_he : e ∈ scan) (hne : e.rel ≠ []) (hp : dst.get? e.rel ≠ none)
    (hstale : ∀ t ∈ plan cfg scan dst, t.act = .delete → isPrefix t.rel e.rel = false)
    (hflt : ∀ t ∈ plan cfg scan dst, t.rel = e.rel → flt t ≠ some none) :
    (runF cfg flt scan dst n).dst.get? e.rel ≠ none := by
  cases hr : (runF cfg flt scan dst n).refused with
  | true => rw [runF_of_refused hr]; exact hp
  | false =>
    rw [(runF_of_not_refused hr).dst]
    apply foldl_present cfg flt _ _ _ hne hp hstale
    intro t ht hrel
    unfold faultOf
    split
    · simp
    · exact hflt t ht hrel

/-- With a parent-closed scan no scanned path sits below a stale directory, so the proviso of
    `counterpart_never_deleted` holds by itself. -/
theorem counterpart_never_deleted_wf (cfg : Cfg) (flt : Faults) (scan : List SEntry) (dst : Map DNode) (n : Nat)
    (hc : ParentClosed scan) (hroot : dst.get? [] = none)
    (e : SEntry) (he : e ∈ scan) (hp : dst.get? e.rel ≠ none)
    (hflt : ∀ t ∈ plan cfg scan dst, t.rel = e.rel → flt t ≠ some none) :
    (runF cfg flt scan dst n).dst.get? e.rel ≠ none := by
  apply counterpart_never_deleted cfg flt scan dst n e he (fun h => hp (h ▸ hroot)) hp _ hflt
  exact fun t ht ha => deletion_not_above hc hroot (deletion_of_task ht ha).2 he

/-- **Without `--delete` extras are untouched.**  A destination path that is not a scanned source
    path holds the same node after the run, under every fault plan; the only thing that can
    happen to an *absent* non-source path is to be created as a parent directory of a selected
    entry. -/
theorem extras_untouched (cfg : Cfg) (hd : cfg.delete = false) (flt : Faults) (scan : List SEntry)
    (dst : Map DNode) (n : Nat) (p : Path) (hp : ∀ e ∈ scan, e.rel ≠ p) :
    (dst.get? p ≠ none → (runF cfg flt scan dst n).dst.get? p = dst.get? p) ∧
    ((runF cfg flt scan dst n).dst.get? p = dst.get? p ∨
      ((runF cfg flt scan dst n).dst.get? p = some .dir ∧
        ∃ e ∈ scanFilter cfg scan, isPrefix p e.rel = true ∧ p ≠ e.rel)) := by
  have main : (runF cfg flt scan dst n).dst.get? p = dst.get? p ∨
      (dst.get? p = none ∧ (runF cfg flt scan dst n).dst.get? p = some .dir ∧
        ∃ e ∈ scanFilter cfg scan, isPrefix p e.rel = true ∧ p ≠ e.rel) := by
    cases hr : (runF cfg flt scan dst n).refused with
    | true => rw [runF_of_refused hr]; exact Or.inl rfl
    | false =>
      rw [(runF_of_not_refused hr).dst, finalExec_eq]
      simp only [hd, Bool.false_eq_true, ↓reduceIte, List.foldl_nil]
      rcases entry_tasks_frame cfg flt scan dst (initExec dst n) p
        (fun e he => hp e (mem_of_mem_scanFilter he)) with h | ⟨a, b, _, c⟩
      · exact Or.inl h
      · exact Or.inr ⟨a, b, c⟩
  refine ⟨fun hpres => ?_, ?_⟩
  · rcases main with h | ⟨a, _⟩
    · exact h
    · exact absurd a hpres
  · rcases main with h | ⟨_, b, c⟩
    · exact Or.inl h
    · exact Or.inr ⟨b, c⟩

/-- **Exact mirror.**  With `--delete`, nothing filtered out, links preserved and exit status 0,
    the destination paths other than sy's own metadata files are exactly the scanned source
    paths. -/
theorem mirror (cfg : Cfg) (hnd : cfg.dryRun = false) (hd : cfg.delete = true) (hl : cfg.links = .preserve)
    (flt : Faults) (scan : List SEntry) (dst : Map DNode) (n : Nat)
    (hall : scanFilter cfg scan = scan) (hu : UniqueRels scan) (hc : ParentClosed scan) (hnr : NoRoot scan)
    (hroot : dst.get? [] = none) (hino : cfg.hardlinks = true → InoConsistent scan)
    (hok : (runF cfg flt scan dst n).exit = 0) (p : Path) (hown : p ∉ ownMetadata) :
    (runF cfg flt scan dst n).dst.get? p ≠ none ↔ ∃ e ∈ scan, e.rel = p := by
  constructor
  · intro h
    rcases result_paths_scanned hnd hd hc hok p h with h | h
    · exact h
    · exact absurd h hown
  · rintro ⟨e, he, rfl⟩
    have hes : e ∈ scanFilter cfg scan := by rw [hall]; exact he
    have ep := entryPost_of_exit_zero hnd flt scan dst n hu (fun _ => ⟨hc, hroot⟩) hino hes hok
    cases hk : e.kind with
    | dir => rw [ep.dir hk (hnr e he)]; simp
    | file m k => obtain ⟨d, h1, _⟩ := ep.file m k hk; rw [h1]; simp
    | symlink text tgt => rw [ep.link_preserve text tgt hk hl]; simp

/-- **Removing a stale directory together with its contents completes without spurious errors,
    in any order of the delete tasks**: every permutation `π` of any list of delete tasks `ds`,
    run from any state, adds no error; and on a parent-closed destination (a real tree) every
    order ends in the same destination — exactly the paths at or below a deleted path are gone. -/
theorem stale_dir_no_errors (cfg : Cfg) (hnd : cfg.dryRun = false) (ds π : List Task) (hperm : π.Perm ds)
    (hdel : ∀ t ∈ ds, t.act = .delete) (st : Exec) :
    (π.foldl (execTask cfg noFaults) st).b.errors = st.b.errors ∧
    (DstParentClosed st.w.dst → (∀ t ∈ ds, t.rel ≠ []) → ∀ x,
      (π.foldl (execTask cfg noFaults) st).w.dst.get? x =
        (if ds.any (fun t => isPrefix t.rel x) then none else st.w.dst.get? x) ∧
      (π.foldl (execTask cfg noFaults) st).w.dst.get? x = (ds.foldl (execTask cfg noFaults) st).w.dst.get? x) := by
  have hdelπ : ∀ t ∈ π, t.act = .delete := fun t ht => hdel t (hperm.mem_iff.1 ht)
  refine ⟨foldl_deletes_errors π st hdelπ, fun hc hne x => ?_⟩
  have hc' := (gclosed_iff _).2 hc
  have hany : π.any (fun t => isPrefix t.rel x) = ds.any (fun t => isPrefix t.rel x) := by
    rw [Bool.eq_iff_iff]
    simp only [List.any_eq_true]
    constructor <;> rintro ⟨t, ht, h⟩
    · exact ⟨t, hperm.mem_iff.1 ht, h⟩
    · exact ⟨t, hperm.mem_iff.2 ht, h⟩
  have h1 := foldl_deletes_get? hnd π st hdelπ (fun t ht => hne t (hperm.mem_iff.1 ht)) hc' x
  have h2 := foldl_deletes_get? hnd ds st hdel hne hc' x
  rw [hany] at h1
  exact ⟨h1, h1.trans h2.symm⟩

/-- the deletions planned by a run are delete tasks at non-root paths (so `stale_dir_no_errors`
    applies to them in every order) -/
theorem planned_deletions_ok (filtered scan : List SEntry) (dst : Map DNode) (hroot : dst.get? [] = none) :
    ∀ t ∈ planDeletions filtered scan dst, t.act = .delete ∧ t.rel ≠ [] := by
  intro t ht
  obtain ⟨p, rfl, hk, _⟩ := mem_planDeletions.1 ht
  refine ⟨rfl, ?_⟩
  intro h; simp only at h; subst h
  exact ((Map.mem_keys_iff dst []).1 hk) hroot

def exCfg : Cfg where
  delete := true
  force := true
  dryRun := false
  xattrs := true
  hardlinks := false
  threshold := 50
  links := .preserve
  compare := .default
  minSize := none
  maxSize := none
  maxErrors := 100
  tie := false

/-- the example tree without the excluded entry: nothing is filtered out -/
def scanAll : List SEntry := exScan.take 5

/-- a destination with sy's own metadata file and a nested stale directory -/
def dstStale : Map DNode :=
  [ ([".sy-state.json"], .file (exMeta 4 4 4 4)), (["d"], .dir), (["d", "f"], .file (exMeta 0 10 1000000000 100)),
    (["x"], .dir), (["x", "y"], .dir), (["x", "y", "z"], .file (exMeta 5 1 1 101)) ]

example : planDeletionsBloom (fun _ => true) scanAll scanAll dstStale = planDeletions scanAll scanAll dstStale :=
  bloom_eq_set _ _ _ _ (fun _ _ => rfl)
example : (planDeletions scanAll scanAll dstStale).map (·.rel) = [["x"], ["x", "y"], ["x", "y", "z"]] := by decide

/-- `big` is excluded by a rule, present in both trees: it survives `--delete` -/
example : (run exCfg exScan ((["big"], .file (exMeta 9 900 1 200)) :: dstStale) 1000).dst.get? ["big"] ≠ none :=
  counterpart_never_deleted_wf exCfg noFaults exScan _ 1000 exScan_parentClosed rfl
    ⟨["big"], .file (exMeta 9 900 1 8) 1, 900, true⟩ (by decide) (by decide) (fun _ _ _ => by simp [noFaults])

example : (run { exCfg with delete := false } exScan dstStale 1000).dst.get? ["x", "y", "z"]
    = dstStale.get? ["x", "y", "z"] :=
  (extras_untouched { exCfg with delete := false } rfl noFaults exScan dstStale 1000 ["x", "y", "z"] (by decide)).1
    (by decide)

example : (run exCfg scanAll dstStale 1000).dst.get? ["x", "y"] = none := by
  have h := mirror exCfg rfl rfl rfl noFaults scanAll dstStale 1000 (by decide)
    (exScan_uniqueRels.sublist (List.take_sublist 5 exScan)) (by decide) (fun e he => exScan_noRoot e (List.mem_of_mem_take he))
    rfl (fun h => by cases h) (by decide) ["x", "y"] (by decide)
  cases hg : (run exCfg scanAll dstStale 1000).dst.get? ["x", "y"] with
  | none => rfl
  | some v =>
    exfalso
    have : ∃ e ∈ scanAll, e.rel = ["x", "y"] := h.1 (by unfold run at hg; rw [hg]; simp)
    revert this; decide

/-- children first, parent last: a child that vanished with its parent counts as deleted, not as `NotFound` -/
example : ((planDeletions scanAll scanAll dstStale).reverse.foldl (execTask exCfg noFaults)
    (initExec dstStale 1)).b.errors = [] :=
  (stale_dir_no_errors exCfg rfl _ _ (List.reverse_perm _) (fun _ ht => planDeletions_act ht) _).1

theorem dstStale_parentClosed : DstParentClosed dstStale := by decide

example : DstParentClosed dstStale := dstStale_parentClosed

/-- … and in that order, too, the whole stale subtree is gone and nothing else -/
example : ((planDeletions scanAll scanAll dstStale).reverse.foldl (execTask exCfg noFaults)
      (initExec dstStale 1)).w.dst.get? ["x", "y", "z"] = none ∧
    ((planDeletions scanAll scanAll dstStale).reverse.foldl (execTask exCfg noFaults)
      (initExec dstStale 1)).w.dst.get? ["d", "f"] = dstStale.get? ["d", "f"] := by
  have h := (stale_dir_no_errors exCfg rfl _ _ (List.reverse_perm (planDeletions scanAll scanAll dstStale))
    (fun _ ht => planDeletions_act ht) (initExec dstStale 1)).2 dstStale_parentClosed
    (fun t ht => (planned_deletions_ok scanAll scanAll dstStale rfl t ht).2)
  exact ⟨(h _).1.trans (by decide), (h _).1.trans (by decide)⟩

end SyModel.Props.C06
