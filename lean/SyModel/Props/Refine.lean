/-
  Refine — the step-level model refines the entry-level engine model.

  Two handwritten models describe what one planned task does to the destination tree:
    * entry level, `SyModel/Engine/Model.lean`: `perform` / `execTask` / `run` on a finite map
      `Map DNode`, tasks run to completion (C01, C03, C06, C07, C08, C10, C17, C19);
    * step level, `SyModel/Engine/Steps.lean`: `stepsOfH … old task : List Step`, one `Step` per
      mutating system call, `applyAll` on worlds `Path → Option SNode` (C05, C09).
  This file connects them: `ofMap` (forget inode numbers and xattrs, which no step mentions) is a
  simulation from the entry level to the step level, task by task, run by run, and — through C05's
  main theorem — for every interleaving the semaphore admits.

  The refinement of one task and of a sequential run is proved in `SyModel/Lemmas/StepsRefine.lean` (`task_refines`,
  `tasks_run_refines`, with the hypotheses they are stated in); here it is restated, lifted to `run` and to every
  interleaving, and each hypothesis is shown to be needed.  Everything is for
  ALL configurations, thresholds, chunk sizes, suffixes, routes (`Hint`), destinations and tasks — by
  case analysis and induction, nothing is enumerated.

  The two models genuinely differ in four situations.  Each is excluded by a named hypothesis
  (`TaskFits`, `RunOK`) and shown on a concrete witness (`refines_counterexample_*`):
    * `enotdir`      a strict ancestor of the path is a file/symlink — the step level has no ENOTDIR;
    * `temp_in_use`  something exists at the working-file path — the known finding
                     `C05/user-file-named-like-temp`, seen from the other side;
    * `not_a_tree`   the destination map has an entry without its parents — not a file system;
    * `link_member`  hard-link group members under `-H` (`linkFile`/`relinkFile`) — outside the step level by
                     design (`isLinkTask`: creates AND updates of multiply-named files, C13); excluded by
                     `noLinkMember` / `NoLinkTasks`.
  An `update` that carries a directory is no difference: it is planned exactly for a destination link standing
  where the source has a directory (`plan_update_dir_link`, /repo fix 862af11), its step list is
  `unlinkIfSymlink p, create_dir_all p`, and both levels agree (`refines_update_dir_over_link`).  Outside the
  RUN-level statements is a replaced link WITH planned entries below it: the engine serialises the replacement
  before everything else (a barrier the free interleaving does not have); `PlanOK.tree` / `RunOK.parents`
  exclude it (`planOK_excludes_link_with_children`).
-/
import SyModel.Lemmas.StepsRefine
import SyModel.Props.C05
namespace SyModel.Props.Refine
open SyModel SyModel.Engine

/-- **Refinement of one task** (every task kind, every route).  Let `w` be the entry-level world
    the task finds and compile the task against the node it finds at its path
    (`old = w.dst.get? t.rel`).  Executing the WHOLE step list on the step-level view `ofMap w.dst`
    gives the step-level view of the destination the entry-level task leaves: `w'.dst` when
    `perform` succeeds, the unchanged `w.dst` when it fails (`taskDst`; this is what `execTask`
    keeps).  Covers: create / update of files on the full-copy, followed-link, in-place, sparse-seek,
    sparse-blocks and temp + rename routes (any `Hint`, with or without link breaking), directories,
    symlinks, payload-less tasks, delete of a file / link / tree / vanished path, skip, dry run;
    under `-H` also the first member of a link group.  Hypotheses: `TaskFits` (four fields, each
    excluding one genuine difference between the models — see there). -/
theorem task_refines (cfg : Cfg) (thr ch : Nat) (sfx : String) (h : Hint) (w : World) (t : Task)
    (hf : TaskFits cfg thr sfx h w t) :
    applyAll (stepsOfH cfg thr ch sfx h (w.dst.get? t.rel) t) (ofMap w.dst) = ofMap (taskDst cfg w t) :=
  Engine.task_refines ch hf

/-- the same for the default compilation `stepsOf` (block-delta route, no link breaking) -/
theorem task_refines_default (cfg : Cfg) (thr ch : Nat) (sfx : String) (w : World) (t : Task)
    (hf : TaskFits cfg thr sfx {} w t) :
    applyAll (stepsOf cfg thr ch sfx (w.dst.get? t.rel) t) (ofMap w.dst) = ofMap (taskDst cfg w t) :=
  Engine.task_refines ch hf

/-- a task that succeeds at the entry level: the steps produce exactly its destination -/
theorem task_refines_ok (cfg : Cfg) (thr ch : Nat) (sfx : String) (h : Hint) (w w' : World) (t : Task)
    (hf : TaskFits cfg thr sfx h w t) (hp : perform cfg w t = some w') :
    applyAll (stepsOfH cfg thr ch sfx h (w.dst.get? t.rel) t) (ofMap w.dst) = ofMap w'.dst := by
  rw [Engine.task_refines ch hf]; unfold taskDst; rw [hp]

/-- a task that fails at the entry level (type conflict: a directory where a file or link is to be
    written, a file or link where a directory is to be created): every one of its system calls
    fails or is a no-op, the destination is as before -/
theorem task_refines_failed (cfg : Cfg) (thr ch : Nat) (sfx : String) (h : Hint) (w : World) (t : Task)
    (hf : TaskFits cfg thr sfx h w t) (hp : perform cfg w t = none) :
    applyAll (stepsOfH cfg thr ch sfx h (w.dst.get? t.rel) t) (ofMap w.dst) = ofMap w.dst := by
  rw [Engine.task_refines ch hf]; unfold taskDst; rw [hp]

theorem execTask_dst (cfg : Cfg) (st : Exec) (t : Task) :
    (execTask cfg noFaults st t).w.dst = taskDst cfg st.w t := execTask_noFaults_dst cfg st t

/-- A delete task compiled against a destination in which its target still existed, run after the
    target went away with an ancestor directory: its `unlink` / `remove_dir_all` finds nothing, like
    the entry-level task (`NotFound` is tolerated, mod.rs:1171-1181). -/
theorem stale_delete_refines (cfg : Cfg) (thr ch : Nat) (sfx : String) (h : Hint) (w : World) (t : Task)
    (old : Option DNode) (hact : t.act = .delete)
    (hgone : ∀ x, isPrefix t.rel x = true → w.dst.get? x = none) :
    applyAll (stepsOfH cfg thr ch sfx h old t) (ofMap w.dst) = ofMap (taskDst cfg w t) :=
  delete_gone cfg thr ch sfx h hact hgone old

/-- **Refinement of a run, any task list.**  `taskLists` compiles every task against the INITIAL
    destination.  Under `RunOK` — the plan is laid out over a tree (`PlanOK`), temp paths are fresh
    (`TempFresh`), the initial destination is a tree (`Closed`), no planned write lies below a file
    or link (`parents`), no task goes through the hard-link protocol (`NoLinkTasks`) — the step
    lists executed one after the other, in task order, on `ofMap dst` yield `ofMap` of the
    destination of the fault-free entry-level run (the fold of `execTask`). -/
theorem tasks_run_refines (cfg : Cfg) (thr ch : Nat) (sfx : String) (hint : Task → Hint)
    (tasks : List Task) (dst : Map DNode) (nextIno : Nat) (h : RunOK cfg sfx tasks dst) :
    applyAll (taskLists cfg thr ch sfx hint dst tasks).flatten (ofMap dst) =
      ofMap (tasks.foldl (execTask cfg noFaults) (initExec dst nextIno)).w.dst :=
  Engine.tasks_run_refines ch h hint nextIno

/-- The planner emits an `update` that carries a directory only to replace a destination symlink standing where
    the source has a directory (/repo fix 862af11). -/
theorem plan_update_dir_link (cfg : Cfg) (scan : List SEntry) (dst : Map DNode) :
    ∀ t ∈ plan cfg scan dst, t.act = .update → t.payload = .dir → ∃ s, dst.get? t.rel = some (.symlink s) := by
  intro t ht hu hp
  rw [plan_eq] at ht
  rcases List.mem_append.mp ht with h | h
  · obtain ⟨e, _, rfl⟩ := List.mem_map.mp h
    rw [planEntry_rel]
    rcases planEntry_dir_act (cfg := cfg) (dst := dst) (planEntry_kind_of_payload_dir hp) with
      ⟨_, ha⟩ | ⟨hs, _⟩ | ⟨_, _, ha⟩
    · rw [ha] at hu; cases hu
    · exact hs
    · rw [ha] at hu; cases hu
  · split at h
    · rw [planDeletions_act h] at hu; cases hu
    · cases h

/-- **Refinement of `run`.**  For a planned run that the deletion guard does not refuse, the
    sequential step-level run ends in `ofMap` of `(run cfg scan dst n).dst`. -/
theorem run_refines (cfg : Cfg) (thr ch : Nat) (sfx : String) (hint : Task → Hint)
    (scan : List SEntry) (dst : Map DNode) (nextIno : Nat)
    (h : RunOK cfg sfx (plan cfg scan dst) dst) (hnr : (run cfg scan dst nextIno).refused = false) :
    applyAll (taskLists cfg thr ch sfx hint dst (plan cfg scan dst)).flatten (ofMap dst) =
      ofMap (run cfg scan dst nextIno).dst := by
  rcases runF_cases cfg noFaults scan dst nextIno with ⟨_, he⟩ | ⟨_, he⟩
  · rw [run, he] at hnr; cases hnr
  · rw [run, he]
    exact Engine.tasks_run_refines ch h hint nextIno

/-- A refused run executes no task at either level: the destination is unchanged (the step lists
    are never started, mod.rs:599-660). -/
theorem refused_run_unchanged (cfg : Cfg) (scan : List SEntry) (dst : Map DNode) (nextIno : Nat)
    (h : (run cfg scan dst nextIno).refused = true) : (run cfg scan dst nextIno).dst = dst := by
  rcases runF_cases cfg noFaults scan dst nextIno with ⟨_, he⟩ | ⟨_, he⟩
  · rw [run, he]
  · rw [run, he] at h; cases h

/-- **Every interleaving ends in the entry-level result** (any task list).  Combine
    `C05.interleave_eq_seq` with the run refinement: whatever interleaving `σ` of the tasks' step
    lists is executed, the final world is `ofMap` of the sequential entry-level run's destination. -/
theorem interleaving_refines (cfg : Cfg) (thr ch : Nat) (sfx : String) (hint : Task → Hint)
    (tasks : List Task) (dst : Map DNode) (nextIno : Nat) (h : RunOK cfg sfx tasks dst)
    (σ : List Step) (hσ : Interleaving (taskLists cfg thr ch sfx hint dst tasks) σ) :
    applyAll σ (ofMap dst) =
      ofMap (tasks.foldl (execTask cfg noFaults) (initExec dst nextIno)).w.dst := by
  rw [C05.interleave_eq_seq (taskLists_indep cfg thr ch h.plan h.fresh hint dst) hσ]
  exact Engine.tasks_run_refines ch h hint nextIno

/-- **Corollary of C05.**  For every worker count `j ≥ 1` and every run `σ` that a `j`-permit
    semaphore admits over the tasks of the plan: the final destination is the step-level view of
    the destination of the entry-level `run` — the object the theorems of C01, C03, C06, C07, C08,
    C10, C17 and C19 speak about — and no working file remains. -/
theorem C05_refines_run (cfg : Cfg) (thr ch : Nat) (sfx : String) (hint : Task → Hint)
    (scan : List SEntry) (dst : Map DNode) (nextIno : Nat)
    (h : RunOK cfg sfx (plan cfg scan dst) dst) (hnr : (run cfg scan dst nextIno).refused = false)
    (j : Nat) (hj : 1 ≤ j) (σ : List Step)
    (hσ : SemRun j (initSlots (taskLists cfg thr ch sfx hint dst (plan cfg scan dst))) σ) :
    applyAll σ (ofMap dst) = ofMap (run cfg scan dst nextIno).dst ∧ NoTemp (applyAll σ (ofMap dst)) := by
  obtain ⟨h1, h2⟩ := C05.C05 cfg thr ch sfx hint scan dst h.plan h.fresh j hj σ hσ
  exact ⟨by rw [h1]; exact run_refines cfg thr ch sfx hint scan dst nextIno h hnr, h2⟩

/-- Path by path: every admitted run — any worker count, any schedule — agrees with the entry-level
    result, inode-blind file metadata included (so any two admitted runs agree with each other). -/
theorem C05_runs_agree_on_entries (cfg : Cfg) (thr ch : Nat) (sfx : String) (hint : Task → Hint)
    (scan : List SEntry) (dst : Map DNode) (nextIno : Nat)
    (h : RunOK cfg sfx (plan cfg scan dst) dst) (hnr : (run cfg scan dst nextIno).refused = false)
    (j : Nat) (hj : 1 ≤ j) (σ : List Step)
    (hσ : SemRun j (initSlots (taskLists cfg thr ch sfx hint dst (plan cfg scan dst))) σ) (x : Path) :
    applyAll σ (ofMap dst) x = ((run cfg scan dst nextIno).dst.get? x).map embed := by
  rw [(C05_refines_run cfg thr ch sfx hint scan dst nextIno h hnr j hj σ hσ).1]; rfl

/-! ### where the two models differ (each hypothesis is needed) -/

def cfg0 : Cfg := C05.cfg0

def w0 (dst : Map DNode) : World := (initExec dst 100).w

/-- `Refine/enotdir` — `TaskFits.parents`.  Source: directory `d` with a file `d/x`; destination: a
    regular FILE `d`.  The planner emits `create d` (fails, fix 481828a) and `create d/x`.  Entry
    level: `create_dir_all(d)` fails, the task fails, nothing changes (this is what the kernel does:
    ENOTDIR).  Step level: `mkdir d` is the tolerated EEXIST and `open(d/x)` "succeeds" — a file below
    a file.  The step-level model has no ENOTDIR; C05/C09 are silent about such destinations. -/
theorem refines_counterexample_enotdir :
    let dst : Map DNode := [(["d"], .file ⟨7, 3, 4, [], 1⟩)]
    let t : Task := ⟨.create, ["d", "x"], .file ⟨1, 10, 200, [], 12⟩ 1⟩
    perform cfg0 (w0 dst) t = none ∧
    ofMap (taskDst cfg0 (w0 dst) t) ["d", "x"] = none ∧
    applyAll (stepsOf cfg0 5000 1000 ".sy.tmp" (dst.get? t.rel) t) (ofMap dst) ["d", "x"] =
      some (.file 1 10 200) ∧
    ¬ TaskFits cfg0 5000 ".sy.tmp" {} (w0 dst) t := by
  refine ⟨by decide, by decide, by decide, ?_⟩
  intro h
  have := h.parents (by decide) ["d"] (by decide)
  revert this; decide

/-- The same situation as a whole planned run — a REACHABLE input: the plan is `create d`,
    `create d/x`; `PlanOK`, `TempFresh`, `Closed`, `NoLinkTasks` all hold and the guard does not
    refuse, only `RunOK.parents` fails.  Both entry-level tasks fail and the destination keeps the
    file `d` alone (what the program does: two errors, exit 1); the sequential step-level run ends
    with a file `d/x` below the file `d`. -/
theorem run_refines_counterexample_enotdir :
    let scan : List SEntry := [⟨["d"], .dir, 0, false⟩, ⟨["d", "x"], .file ⟨1, 10, 200, [], 12⟩ 1, 10, false⟩]
    let dst : Map DNode := [(["d"], .file ⟨7, 3, 4, [], 1⟩)]
    (plan cfg0 scan dst).map (fun t => (t.act, t.rel)) = [(.create, ["d"]), (.create, ["d", "x"])] ∧
    PlanOK (plan cfg0 scan dst) ∧ TempFresh ".sy.tmp" (plan cfg0 scan dst) (ofMap dst) ∧ Closed dst ∧
    NoLinkTasks cfg0 (plan cfg0 scan dst) ∧ (run cfg0 scan dst 100).refused = false ∧
    (run cfg0 scan dst 100).errors = [(.create, ["d"]), (.create, ["d", "x"])] ∧
    ofMap (run cfg0 scan dst 100).dst ["d", "x"] = none ∧
    applyAll (taskLists cfg0 5000 1000 ".sy.tmp" (fun _ => {}) dst (plan cfg0 scan dst)).flatten (ofMap dst)
      ["d", "x"] = some (.file 1 10 200) := by
  intro scan dst
  refine ⟨by decide, ?_, ?_, ?_, ?_, by decide, by decide, by decide, by decide⟩
  · exact ⟨by decide, by decide, by decide⟩
  · exact ⟨by decide, by decide⟩
  · exact (closed_iff_parentClosed _).2 (by decide)
  · exact noLinkTasks_of_hardlinks_off _ rfl

/-- An `update` that carries a directory (/repo fix 862af11), over a destination symlink `d -> /outside`: the step
    list is `unlinkIfSymlink d`, `mkdir d`; `TaskFits` holds; both levels end with the directory `d` (the link's
    text is never used), and `task_refines` applies.  On an empty destination both levels create the directory
    as well. -/
theorem refines_update_dir_over_link :
    let dst : Map DNode := [(["d"], .symlink "/outside")]
    let t : Task := ⟨.update, ["d"], .dir⟩
    stepsOf cfg0 5000 1000 ".sy.tmp" (dst.get? t.rel) t = [Step.unlinkIfSymlink ["d"], Step.mkdir ["d"]] ∧
    TaskFits cfg0 5000 ".sy.tmp" {} (w0 dst) t ∧
    ofMap (taskDst cfg0 (w0 dst) t) ["d"] = some .dir ∧
    applyAll (stepsOf cfg0 5000 1000 ".sy.tmp" (dst.get? t.rel) t) (ofMap dst) = ofMap (taskDst cfg0 (w0 dst) t) ∧
    applyAll (stepsOf cfg0 5000 1000 ".sy.tmp" none t) (ofMap []) ["d"] = some .dir ∧
    ofMap (taskDst cfg0 (w0 []) t) ["d"] = some .dir := by
  intro dst t
  have hf : TaskFits cfg0 5000 ".sy.tmp" {} (w0 dst) t :=
    ⟨by decide, by decide, by decide, by intro _ m n h; cases h⟩
  exact ⟨by decide, hf, by decide, task_refines_default cfg0 5000 1000 _ (w0 dst) t hf, by decide, by decide⟩

/-- What the RUN-level statements still exclude: a replaced link with a planned entry below it.  The plan is
    `update d` (directory over the link), `create d/x`; the engine completes the first before it starts the second
    (barrier, src/sync/mod.rs), the free interleaving of `PlanOK` has no such barrier: `PlanOK.tree` fails (and so
    does `RunOK.parents`: `d/x` lies below a link of the initial destination).  The entry-level run — which runs
    tasks in plan order — succeeds: `dir_over_own_link_replaced` (Props/C02). -/
theorem planOK_excludes_link_with_children :
    let scan : List SEntry := [⟨["d"], .dir, 0, false⟩, ⟨["d", "x"], .file ⟨1, 10, 200, [], 12⟩ 1, 10, false⟩]
    let dst : Map DNode := [(["d"], .symlink "/outside")]
    (plan cfg0 scan dst).map (fun t => (t.act, t.rel)) = [(.update, ["d"]), (.create, ["d", "x"])] ∧
    ¬ PlanOK (plan cfg0 scan dst) ∧ (run cfg0 scan dst 100).exit = 0 ∧
    (run cfg0 scan dst 100).dst.get? ["d"] = some .dir ∧
    ((run cfg0 scan dst 100).dst.get? ["d", "x"]).map embed = some (.file 1 10 200) := by
  intro scan dst
  refine ⟨by decide, ?_, by decide, by decide, by decide⟩
  intro h
  have := h.tree ⟨.create, ["d", "x"], .file ⟨1, 10, 200, [], 12⟩ 1⟩ (by decide) ⟨.update, ["d"], .dir⟩ (by decide)
    (by decide) (by decide) (by decide) (by decide)
  revert this; decide

/-- `Refine/temp-in-use` — `TaskFits.tempFree`.  The user's own file `x.sy.tmp` next to a large `x`
    that is updated through temp + rename: the step level (and the program: finding
    `C05/user-file-named-like-temp`) truncates it and renames it away; the entry level, which has no
    working files, keeps it. -/
theorem refines_counterexample_temp_in_use :
    let dst : Map DNode := [(["x"], .file ⟨10, 6000, 5, [], 1⟩), (["x.sy.tmp"], .file ⟨77, 3, 4, [], 2⟩)]
    let t : Task := ⟨.update, ["x"], .file ⟨1, 7000, 50000000000, [], 0⟩ 1⟩
    ofMap (taskDst cfg0 (w0 dst) t) ["x.sy.tmp"] = some (.file 77 3 4) ∧
    applyAll (stepsOf cfg0 5000 1000 ".sy.tmp" (dst.get? t.rel) t) (ofMap dst) ["x.sy.tmp"] = none := by
  refine ⟨by decide, by decide⟩

/-- `Refine/not-a-tree` — `TaskFits.tree`.  A destination MAP may hold `a/f` without `a`; a file
    system cannot.  Updating the large `a/f` through temp + rename issues no `mkdir`, whereas the
    entry-level `writeFile` always runs `create_dir_all(parent)` and materialises `a`. -/
theorem refines_counterexample_not_a_tree :
    let dst : Map DNode := [(["a", "f"], .file ⟨10, 6000, 5, [], 1⟩)]
    let t : Task := ⟨.update, ["a", "f"], .file ⟨1, 7000, 50000000000, [], 0⟩ 1⟩
    ¬ Closed dst ∧
    ofMap (taskDst cfg0 (w0 dst) t) ["a"] = some .dir ∧
    applyAll (stepsOf cfg0 5000 1000 ".sy.tmp" (dst.get? t.rel) t) (ofMap dst) ["a"] = none := by
  refine ⟨?_, by decide, by decide⟩
  intro h
  have := h ["a", "f"] (by decide) ["a"] (by decide)
  revert this; decide

/-- `Refine/link-member` — `TaskFits.noLinkMember`.  Under `-H`, a later member of a source
    hard-link group is not written but linked to the first member's destination
    (`transfer_link_member` → `relinkFile`); the step lists know nothing of the link map (hard-link
    tasks — creates and updates alike — are outside the free interleaving by design: `isLinkTask`,
    C13; this task is one, so `taskLists` drops it and `stepsOf` is applied by hand here).  The first
    member's destination holds content 9, the task's source content is 1. -/
theorem refines_counterexample_link_member :
    let cfgH : Cfg := { cfg0 with hardlinks := true }
    let dst : Map DNode := [(["first"], .file ⟨9, 4, 44, [], 50⟩), (["second"], .file ⟨8, 3, 33, [], 51⟩)]
    let w : World := { dst := dst, linkMap := [(5, ["first"], 50)], nextIno := 100, bytes := 0 }
    let t : Task := ⟨.update, ["second"], .file ⟨1, 10, 200, [], 5⟩ 2⟩
    isLinkTask cfgH t = true ∧
    ofMap (taskDst cfgH w t) ["second"] = some (.file 9 4 44) ∧
    applyAll (stepsOf cfgH 5000 1000 ".sy.tmp" (dst.get? t.rel) t) (ofMap dst) ["second"] =
      some (.file 1 10 200) := by
  refine ⟨by decide, by decide, by decide⟩

/-! ### non-vacuity: the hypotheses hold on a small concrete plan and the conclusion is about it -/

namespace Example
open C05.Example

/-- the destination of C05's example: only the old large file `big` -/
theorem closed : Closed C05.Example.dst := (closed_iff_parentClosed _).2 (by decide)

/-- `RunOK` holds for C05's example plan: create `d`, `d/a`, `d/b`, update `big` (temp + rename) -/
theorem runOK : RunOK cfg0 Generated.TEMP_SUFFIX (plan cfg0 scan dst) dst :=
  ⟨C05.example_planOK, C05.example_tempFresh, closed, by decide, noLinkTasks_of_hardlinks_off _ rfl⟩

/-- the guard does not refuse it -/
theorem not_refused : (run cfg0 scan dst 100).refused = false := by decide

/-- `TaskFits` holds for the update of `big` on the initial destination (route: temp + rename) … -/
theorem fits_big : TaskFits cfg0 5000 Generated.TEMP_SUFFIX {} (w0 dst)
    ⟨.update, ["big"], .file ⟨3, 7000, 9000000000, [], 13⟩ 1⟩ where
  parents := by decide
  tree := by decide
  tempFree := by decide
  noLinkMember := by intro _ m n _ h; cases h

/-- … and for the creation of `d/a`, whose parent does not exist yet (full copy after `mkdir d`) -/
theorem fits_da : TaskFits cfg0 5000 Generated.TEMP_SUFFIX {} (w0 dst)
    ⟨.create, ["d", "a"], .file ⟨1, 2500, 100, [], 11⟩ 1⟩ where
  parents := by decide
  tree := by decide
  tempFree := by decide
  noLinkMember := by intro _ m n _ h; cases h

/-- `task_refines` applied: the seven system calls of `create d/a` yield the entry-level result,
    which holds `d` and the finished file -/
example :
    let t : Task := ⟨.create, ["d", "a"], .file ⟨1, 2500, 100, [], 11⟩ 1⟩
    applyAll (stepsOf cfg0 5000 1000 Generated.TEMP_SUFFIX (dst.get? t.rel) t) (ofMap dst) =
      ofMap (taskDst cfg0 (w0 dst) t) ∧
    (taskDst cfg0 (w0 dst) t).get? ["d"] = some .dir ∧
    ((taskDst cfg0 (w0 dst) t).get? ["d", "a"]).map embed = some (.file 1 2500 100) := by
  refine ⟨task_refines_default cfg0 5000 1000 _ (w0 dst) _ fits_da, by decide, by decide⟩

/-- a failing task (`TaskFits` holds, `perform` fails): a directory `big` where the source has a
    file — every call fails (EISDIR), the destination stays -/
example :
    let dst' : Map DNode := [(["big"], .dir)]
    let t : Task := ⟨.update, ["big"], .file ⟨3, 7000, 9000000000, [], 13⟩ 1⟩
    perform cfg0 (w0 dst') t = none ∧
    applyAll (stepsOf cfg0 5000 1000 Generated.TEMP_SUFFIX (dst'.get? t.rel) t) (ofMap dst') = ofMap dst' := by
  intro dst' t
  have hf : TaskFits cfg0 5000 Generated.TEMP_SUFFIX {} (w0 dst') t :=
    ⟨by decide, by decide, by decide, by intro _ m n _ h; cases h⟩
  exact ⟨by decide, task_refines_failed cfg0 5000 1000 _ {} (w0 dst') t hf (by decide)⟩

/-- `stale_delete_refines` is about a real situation: `old/x` planned for deletion after `old` -/
example :
    let dst' : Map DNode := [(["keep"], .dir)]
    let t : Task := ⟨.delete, ["old", "x"], .nothing⟩
    applyAll (stepsOfH cfg0 5000 1000 Generated.TEMP_SUFFIX {} (some (.file ⟨1, 2, 3, [], 4⟩)) t) (ofMap dst') =
      ofMap (taskDst cfg0 (w0 dst') t) := by
  intro dst' t
  refine stale_delete_refines cfg0 5000 1000 _ {} (w0 dst') t _ rfl ?_
  intro x hx
  have hne : x ≠ ["keep"] := by intro h; subst h; revert hx; decide
  simp [dst', w0, initExec, Map.get?_cons, Ne.symm hne]

/-- the conclusion of `C05_refines_run` on the example: every admitted interleaving, for every
    worker count, ends in the entry-level run's destination — which is the synced tree -/
example (j : Nat) (hj : 1 ≤ j) (σ : List Step) (hσ : SemRun j (initSlots lists) σ) :
    applyAll σ (ofMap dst) = ofMap (run cfg0 scan dst 100).dst ∧
    (run cfg0 scan dst 100).dst.get? ["d"] = some .dir ∧
    ((run cfg0 scan dst 100).dst.get? ["d", "a"]).map embed = some (.file 1 2500 100) ∧
    ((run cfg0 scan dst 100).dst.get? ["d", "b"]).map embed = some (.file 2 10 200) ∧
    ((run cfg0 scan dst 100).dst.get? ["big"]).map embed = some (.file 3 7000 9000000000) ∧
    (run cfg0 scan dst 100).dst.get? ["big.sy.tmp"] = none := by
  refine ⟨(C05_refines_run cfg0 5000 1000 Generated.TEMP_SUFFIX (fun _ => {}) scan dst 100 runOK
    not_refused j hj σ hσ).1, by decide, by decide, by decide, by decide, by decide⟩

def singleName (t : Task) : Bool :=
  match t.payload with
  | .file _ n => decide (n ≤ 1)
  | _ => true

/-- `NoLinkGroups` is not vacuous under `-H` either: a plan whose files all have one name -/
example : NoLinkGroups { cfg0 with hardlinks := true } (plan cfg0 scan dst) := by
  intro t ht m n hp _
  have : ∀ t ∈ plan cfg0 scan dst, singleName t = true := by decide
  have := this t ht
  unfold singleName at this
  rw [hp] at this; simpa using this

/-- `NoLinkTasks` under `-H` with a real link group in the source: both names are up to date at
    the destination (planned as `skip`), a third file is new.  `NoLinkGroups` fails here, `NoLinkTasks`
    holds — the second run of a `-H` sync is covered. -/
example :
    let cfgH : Cfg := { cfg0 with hardlinks := true }
    let scanH : List SEntry :=
      [⟨["l1"], .file ⟨5, 10, 200, [], 77⟩ 2, 10, false⟩, ⟨["l2"], .file ⟨5, 10, 200, [], 77⟩ 2, 10, false⟩,
       ⟨["new"], .file ⟨6, 3, 300, [], 78⟩ 1, 3, false⟩]
    let dstH : Map DNode := [(["l1"], .file ⟨5, 10, 200, [], 9⟩), (["l2"], .file ⟨5, 10, 200, [], 9⟩)]
    (plan cfgH scanH dstH).map (fun t => (t.act, t.rel)) = [(.skip, ["l1"]), (.skip, ["l2"]), (.create, ["new"])] ∧
    NoLinkTasks cfgH (plan cfgH scanH dstH) ∧ ¬ NoLinkGroups cfgH (plan cfgH scanH dstH) := by
  intro cfgH scanH dstH
  refine ⟨by decide, by unfold NoLinkTasks; decide, ?_⟩
  intro h
  have := h ⟨.skip, ["l1"], .file ⟨5, 10, 200, [], 77⟩ 2⟩ (by decide) _ _ rfl rfl
  omega

end Example

end SyModel.Props.Refine
