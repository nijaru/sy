/-
  The translated hard-link hand-off `Transferrer::transfer_link_member` (`SyModel/Generated/Code/LinkMember.lean`,
  regenerated on every run from /repo/src/sync/transfer.rs:115-260).  For ANY instance: the normal form, and the call
  sequences — the claim is always released, by the same Notify, by `notify_waiters`; registration before the re-check,
  await only after a re-check that saw the same `InProgress`; no link before `Completed` was seen, no removal unless
  `same_inode` answered "no"; errors surface.  On the sequential instance `seqExt` the function IS the entry-level step
  `linkMemberW` of Lemmas/GenTransfer.lean (what the model's `perform` does for a member of a source link group),
  which discharges the operation `transfer_link_member` that `extOf cfg` assumed; where the code and the model's
  `relinkFile` differ is stated too.  The simulation of the labelled transition system of C13 is
  Props/GenLinkMemberLts.lean.  `runM x w` = (result, world afterwards); `andThen r k` = "`Ok` leads on to `k`, `Err`
  ends the run there".
-/
import SyModel.Lemmas.GenLinkMember
import SyModel.Lemmas.GenLinkMemberTrace
import SyModel.Props.GenTransfer
namespace SyModel.Props.GenLinkMember
open SyModel SyModel.Generated SyModel.Generated.LinkMember SyModel.Lemmas.GenLinkMember
open SyModel.Lemmas.GenTransfer (runM runM_op)

section anyInstance
variable {W : Type} (ext : Ext W) (self : Transferrer) (source : FileEntry) (dest : Rs.Path) (inode : Nat) (upd : Bool)
  {w w1 w2 w3 w4 w5 w6 w7 : W}

/-- **Normal form.**  For every instance the translated function IS `ext.fuel` rounds of `round` — one read of the map
    under the lock, then the arm for what was read — followed by "return what the loop returned, or fail when the fuel
    ran out".  The worker carries nothing from one round to the next.  (Proved by unfolding both sides: moving, dropping
    or adding a statement in the Rust function changes the generated term and breaks this theorem.) -/
theorem transfer_link_member_eq :
    Transferrer.transfer_link_member ext self source dest inode upd = rounds ext self source dest inode upd ext.fuel :=
  transfer_link_member_rounds ext self source dest inode upd

/-- one round = ONE lock scope reading the entry, then the arm -/
theorem round_eq :
    round ext self source dest inode upd = (ext.map_get inode >>= dispatch ext self source dest inode upd) := rfl

theorem dispatch_eq (first : Rs.Path) (notify : Nat) :
    dispatch ext self source dest inode upd (some (.Completed first)) = linkArm ext self dest upd first ∧
    dispatch ext self source dest inode upd (some (.InProgress notify)) = waitArm ext inode notify ∧
    dispatch ext self source dest inode upd none = claimArm ext self source dest inode upd := ⟨rfl, rfl, rfl⟩

/-- the fuel ran out: `Err` (the Rust `loop` has no exit there) and nothing was called -/
theorem out_of_fuel (h : ext.fuel = 0) :
    runM (Transferrer.transfer_link_member ext self source dest inode upd) w = (.error .other, w) := by
  rw [transfer_link_member_eq, h]; rfl

theorem run_unfold (n : Nat) (h : ext.fuel = n + 1) :
    runM (Transferrer.transfer_link_member ext self source dest inode upd) w =
      andThen (runM (round ext self source dest inode upd) w) (afterRound ext self source dest inode upd n) := by
  rw [transfer_link_member_eq, h, rounds_succ]

/-- **The claim is ALWAYS released.**  A member that read no entry, created the Notify `notify`, won the double-check
    and inserted `InProgress(notify)`: whatever the copy block answers (`copied`), exactly one of
    `map_insert inode (Completed dest)` (block `Ok`) / `map_remove inode` (block `Err`) follows, then
    `notify_waiters` on the SAME `notify`, then the block's answer is the function's answer.  Any instance, any fuel ≥ 1.
    (False for `notify_one` in place of `notify_waiters`, for an error arm without the removal, for another Notify.) -/
theorem claim_always_released (n notify : Nat) (hfuel : ext.fuel = n + 1)
    (h0 : runM (ext.map_get inode) w = (.ok none, w1))
    (h1 : runM (ext.Notify_new ()) w1 = (.ok notify, w2))
    (h2 : runM (ext.map_contains inode) w2 = (.ok false, w3))
    (h3 : runM (ext.map_insert inode (.InProgress notify)) w3 = (.ok (), w4))
    (copied : Except Rs.Err TransferResult) (h4 : runM (copyBlock ext self source dest upd) w4 = (copied, w5)) :
    runM (Transferrer.transfer_link_member ext self source dest inode upd) w =
      match copied with
      | .ok result =>
        andThen (runM (ext.map_insert inode (.Completed dest)) w5) fun _ w6 =>
          andThen (runM (ext.notify_waiters notify) w6) fun _ w7 => (.ok (some result), w7)
      | .error e =>
        andThen (runM (ext.map_remove inode) w5) fun _ w6 =>
          andThen (runM (ext.notify_waiters notify) w6) fun _ w7 => (.error e, w7) := by
  rw [run_unfold ext self source dest inode upd n hfuel, round_run _ _ _ _ _ _ h0]
  simp only [dispatch, claimArm_run, h1, h2, h3, h4, andThen_ok, Bool.false_eq_true, ↓reduceIte]
  cases copied with
  | ok result => simp only [release_ok_run, andThen_assoc, andThen_ok, afterRound_finish]
  | error e => simp only [release_err_run, andThen_assoc, andThen_error]

/-- the copy block: the transfer (`sync_file_with_delta` for an update, `copy_file` for a creation), then
    `write_xattrs`, `write_acls`, `write_bsd_flags` in this order on `(source, dest)`; the first `Err` ends the block -/
theorem copy_block_sequence :
    runM (copyBlock ext self source dest upd) w =
      andThen (runM (if upd = true then ext.t_sync_file_with_delta self.transport source.path dest
                     else ext.transferrer_copy_file self source.path dest) w) fun result w1 =>
        andThen (runM (ext.write_xattrs self source dest) w1) fun _ w2 =>
          andThen (runM (ext.write_acls self source dest) w2) fun _ w3 =>
            andThen (runM (ext.write_bsd_flags self source dest) w3) fun _ w4 => (.ok result, w4) :=
  copyBlock_run ext self source dest upd

/-- **owner_failure_surfaces**, about the translated code: the copy block fails with `e`, the map operations and the
    notification go through ⇒ the function returns `Err(e)` — the SAME error — in the world after
    `map_remove inode; notify_waiters notify` (the release precedes the return). -/
theorem owner_failure_surfaces (n notify : Nat) (hfuel : ext.fuel = n + 1) (e : Rs.Err)
    (h0 : runM (ext.map_get inode) w = (.ok none, w1))
    (h1 : runM (ext.Notify_new ()) w1 = (.ok notify, w2))
    (h2 : runM (ext.map_contains inode) w2 = (.ok false, w3))
    (h3 : runM (ext.map_insert inode (.InProgress notify)) w3 = (.ok (), w4))
    (h4 : runM (copyBlock ext self source dest upd) w4 = (.error e, w5))
    (h5 : runM (ext.map_remove inode) w5 = (.ok (), w6))
    (h6 : runM (ext.notify_waiters notify) w6 = (.ok (), w7)) :
    runM (Transferrer.transfer_link_member ext self source dest inode upd) w = (.error e, w7) := by
  rw [claim_always_released ext self source dest inode upd n notify hfuel h0 h1 h2 h3 _ h4]
  simp only [h5, h6, andThen_ok]

/-- the owner's success: `Completed(dest)` — the OWN destination path — is inserted only after the block answered `Ok`,
    the waiters are woken, `Ok(Some(result))` with the block's result -/
theorem owner_success (n notify : Nat) (hfuel : ext.fuel = n + 1) (result : TransferResult)
    (h0 : runM (ext.map_get inode) w = (.ok none, w1))
    (h1 : runM (ext.Notify_new ()) w1 = (.ok notify, w2))
    (h2 : runM (ext.map_contains inode) w2 = (.ok false, w3))
    (h3 : runM (ext.map_insert inode (.InProgress notify)) w3 = (.ok (), w4))
    (h4 : runM (copyBlock ext self source dest upd) w4 = (.ok result, w5))
    (h5 : runM (ext.map_insert inode (.Completed dest)) w5 = (.ok (), w6))
    (h6 : runM (ext.notify_waiters notify) w6 = (.ok (), w7)) :
    runM (Transferrer.transfer_link_member ext self source dest inode upd) w = (.ok (some result), w7) := by
  rw [claim_always_released ext self source dest inode upd n notify hfuel h0 h1 h2 h3 _ h4]
  simp only [h5, h6, andThen_ok]

/-- the double-check (transfer.rs:198): `contains_key` answers "taken" ⇒ NOTHING is inserted, copied or notified; the
    member goes back to the top of the loop with one round less -/
theorem lost_claim_goes_round (n notify : Nat) (hfuel : ext.fuel = n + 1)
    (h0 : runM (ext.map_get inode) w = (.ok none, w1))
    (h1 : runM (ext.Notify_new ()) w1 = (.ok notify, w2))
    (h2 : runM (ext.map_contains inode) w2 = (.ok true, w3)) :
    runM (Transferrer.transfer_link_member ext self source dest inode upd) w =
      runM (rounds ext self source dest inode upd n) w3 := by
  rw [run_unfold ext self source dest inode upd n hfuel, round_run _ _ _ _ _ _ h0]
  simp only [dispatch, claimArm_run, h1, h2, andThen_ok, ↓reduceIte, afterRound_again]

/-- **The waiter's round** (the lost-wake-up fix f492f4d).  The map answered `InProgress(notify)`: FIRST the registration
    `notified notify` (its value `t` is the future), THEN the second read of the map; `await_notified t` — the only
    point where the worker yields — runs exactly when that second read STILL answers `InProgress` of the SAME Notify;
    in every case the member goes back to the top of the loop.  (False when the registration comes after the re-check,
    and when the await is unconditional.) -/
theorem waiter_registers_then_rechecks (n notify : Nat) (hfuel : ext.fuel = n + 1)
    (h0 : runM (ext.map_get inode) w = (.ok (some (.InProgress notify)), w1)) :
    runM (Transferrer.transfer_link_member ext self source dest inode upd) w =
      andThen (runM (ext.notified notify) w1) fun t w2 =>
        andThen (runM (ext.map_get inode) w2) fun st w3 =>
          if st = some (.InProgress notify) then
            andThen (runM (ext.await_notified t) w3) fun _ w4 => runM (rounds ext self source dest inode upd n) w4
          else runM (rounds ext self source dest inode upd n) w3 := by
  rw [run_unfold ext self source dest inode upd n hfuel, round_run _ _ _ _ _ _ h0]
  simp only [dispatch, waitArm_run, andThen_assoc]
  congr 1; funext t w2; congr 1; funext st w3
  split
  · simp only [andThen_assoc, andThen_ok, afterRound_again]
  · simp only [andThen_ok, afterRound_again]

/-- … in particular: a changed entry (completed, removed, or re-claimed by ANOTHER Notify) ⇒ no await at all -/
theorem waiter_does_not_await_after_change (n notify t : Nat) (hfuel : ext.fuel = n + 1) (st : Option InodeState)
    (h0 : runM (ext.map_get inode) w = (.ok (some (.InProgress notify)), w1))
    (h1 : runM (ext.notified notify) w1 = (.ok t, w2))
    (h2 : runM (ext.map_get inode) w2 = (.ok st, w3)) (hst : st ≠ some (.InProgress notify)) :
    runM (Transferrer.transfer_link_member ext self source dest inode upd) w =
      runM (rounds ext self source dest inode upd n) w3 := by
  rw [waiter_registers_then_rechecks ext self source dest inode upd n notify hfuel h0]
  simp only [h1, h2, andThen_ok, if_neg hst]

/-- **No link before `Completed`.**  A round whose read of the map did not answer `Completed` calls neither
    `create_hardlink` nor `remove` nor `same_inode`: replacing the three operations by ANY others leaves the round as it
    is.  (With `round_eq`: every `create_hardlink` of a run is preceded, in its own round, by a read that answered
    `Completed(first)`, and links to that very `first`: `link_after_completed`.) -/
theorem no_link_before_completed (st : Option InodeState) (h0 : runM (ext.map_get inode) w = (.ok st, w1))
    (hst : ∀ p, st ≠ some (.Completed p))
    (hl : Rs.Opaque → Rs.Path → Rs.Path → Rs.M W Unit) (rm : Rs.Opaque → Rs.Path → Bool → Rs.M W Unit)
    (sm : Transferrer → Rs.Path → Rs.Path → Rs.M W Bool) :
    runM (round { ext with t_create_hardlink := hl, t_remove := rm, same_inode := sm } self source dest inode upd) w =
      runM (round ext self source dest inode upd) w := by
  have h0' : runM (({ ext with t_create_hardlink := hl, t_remove := rm, same_inode := sm } : Ext W).map_get inode) w =
      (.ok st, w1) := h0
  rw [round_run _ _ _ _ _ _ h0, round_run _ _ _ _ _ _ h0']
  rcases st with _ | (nt | p)
  · rfl
  · rfl
  · exact absurd rfl (hst p)

/-- creation, the map answered `Completed(first)`: exactly one `create_hardlink(first, dest)`; `Ok` with the zero
    result, or the link's error -/
theorem link_after_completed (n : Nat) (hfuel : ext.fuel = n + 1) (first : Rs.Path)
    (h0 : runM (ext.map_get inode) w = (.ok (some (.Completed first)), w1)) :
    runM (Transferrer.transfer_link_member ext self source dest inode false) w =
      andThen (runM (ext.t_create_hardlink self.transport first dest) w1) fun _ w2 => (.ok (some zeroResult), w2) := by
  rw [run_unfold ext self source dest inode false n hfuel, round_run _ _ _ _ _ _ h0]
  simp only [dispatch, linkArm_create_run, andThen_assoc, andThen_ok, afterRound_finish]

/-- update, the map answered `Completed(first)`: `same_inode(first, dest)`; "yes" ⇒ `Ok`, NOTHING else is called (the old
    name stays); "no" ⇒ `remove(dest, false)` and then `create_hardlink(first, dest)`.  (False when the removal is
    executed before the test.) -/
theorem relink_only_when_other_inode (n : Nat) (hfuel : ext.fuel = n + 1) (first : Rs.Path)
    (h0 : runM (ext.map_get inode) w = (.ok (some (.Completed first)), w1)) :
    runM (Transferrer.transfer_link_member ext self source dest inode true) w =
      andThen (runM (ext.same_inode self first dest) w1) fun same w2 =>
        if same = true then (.ok (some zeroResult), w2)
        else andThen (runM (ext.t_remove self.transport dest false) w2) fun _ w3 =>
          andThen (runM (ext.t_create_hardlink self.transport first dest) w3) fun _ w4 => (.ok (some zeroResult), w4) := by
  rw [run_unfold ext self source dest inode true n hfuel, round_run _ _ _ _ _ _ h0]
  simp only [dispatch, linkArm_update_run, andThen_assoc]
  congr 1; funext same w2
  cases same <;> simp only [Bool.false_eq_true, ↓reduceIte, andThen_assoc, andThen_ok, afterRound_finish]

/-- creation: an error of `create_hardlink` is the function's error -/
theorem link_error_propagates (n : Nat) (hfuel : ext.fuel = n + 1) (first : Rs.Path) (e : Rs.Err)
    (h0 : runM (ext.map_get inode) w = (.ok (some (.Completed first)), w1))
    (h1 : runM (ext.t_create_hardlink self.transport first dest) w1 = (.error e, w2)) :
    runM (Transferrer.transfer_link_member ext self source dest inode false) w = (.error e, w2) := by
  rw [link_after_completed ext self source dest inode n hfuel first h0, h1]; rfl

/-- update: an error of `remove` is the function's error, and no link is attempted -/
theorem remove_error_propagates (n : Nat) (hfuel : ext.fuel = n + 1) (first : Rs.Path) (e : Rs.Err)
    (h0 : runM (ext.map_get inode) w = (.ok (some (.Completed first)), w1))
    (h1 : runM (ext.same_inode self first dest) w1 = (.ok false, w2))
    (h2 : runM (ext.t_remove self.transport dest false) w2 = (.error e, w3)) :
    runM (Transferrer.transfer_link_member ext self source dest inode true) w = (.error e, w3) := by
  rw [relink_only_when_other_inode ext self source dest inode n hfuel first h0, h1]
  simp only [andThen_ok, Bool.false_eq_true, ↓reduceIte, h2, andThen_error]

/-- update: an error of `create_hardlink` after the removal is the function's error -/
theorem relink_error_propagates (n : Nat) (hfuel : ext.fuel = n + 1) (first : Rs.Path) (e : Rs.Err)
    (h0 : runM (ext.map_get inode) w = (.ok (some (.Completed first)), w1))
    (h1 : runM (ext.same_inode self first dest) w1 = (.ok false, w2))
    (h2 : runM (ext.t_remove self.transport dest false) w2 = (.ok (), w3))
    (h3 : runM (ext.t_create_hardlink self.transport first dest) w3 = (.error e, w4)) :
    runM (Transferrer.transfer_link_member ext self source dest inode true) w = (.error e, w4) := by
  rw [relink_only_when_other_inode ext self source dest inode n hfuel first h0, h1]
  simp only [andThen_ok, Bool.false_eq_true, ↓reduceIte, h2, h3, andThen_error]

end anyInstance

section sequential
open SyModel.Engine SyModel.Lemmas.GenTransfer
variable (cfg : Cfg) (fuel : Nat) (same : XWorld → Rs.Path → Rs.Path → Bool)
  (cp : Transfer.Transferrer → Rs.Path → Rs.Path → Rs.M XWorld Transfer.TransferResult)
  (self : Transfer.Transferrer) (e : Transfer.FileEntry) (inode : Nat) (xw : XWorld) (k : Engine.Path)

/-- **BRIDGE, first member** (no group recorded for the inode; creation and update, success and failure): for every
    fuel ≥ 1 the translated hand-off run on `seqExt` — read nothing, claim, copy block, release — answers and leaves
    exactly what `linkMemberW` says: the file written with the entry's attributes and the path recorded as the group's
    first path, or `Err(io)` and the world as it was (claim released).  The world is as it was because the transfer is ONE
    step here (`atomicCopy`); with the translated `copy_file` inside, the parents of the path may have been created
    (`seq_first_create_translated_err`). -/
theorem first_member_eq_model (hk : CleanPath k) (hf : xw.w.linkMap.find? (·.1 == inode) = none) (upd : Bool) :
    runM (seqLinkMember cfg (fuel + 1) same (fun _ => atomicCopy cfg) self e (destOf xw.root k) inode upd) xw =
      xw.at (destOf xw.root k) (fun k => linkMemberW cfg xw e k inode upd) :=
  seq_first_gen cfg fuel same _ self e inode xw k hk hf upd (fun _ => by
    simp only [atomicCopy, extOf_t_copy_file, runM_op, at_destOf xw _ rfl k hk])

/-- **BRIDGE, later member of a creation** (a group is recorded): `Completed(first)` is read and the answer/world are
    the model's `linkFile` — success and failure. -/
theorem later_member_create_eq_model (hk : CleanPath k) (a b : Nat) (first : Engine.Path)
    (hf : xw.w.linkMap.find? (·.1 == inode) = some (a, first, b)) (hfc : CleanPath first) :
    runM (seqLinkMember cfg (fuel + 1) same cp self e (destOf xw.root k) inode false) xw =
      xw.at (destOf xw.root k) (fun k => linkMemberW cfg xw e k inode false) := by
  rw [seq_later_run cfg fuel same cp self e inode xw k hk a b first hf, at_destOf xw _ rfl k hk]
  simp only [Bool.false_eq_true, false_and, ↓reduceIte, hardlinkW, keyOf_destOf xw.root first hfc, linkMemberW, hf]
  cases linkFile xw.w k first <;> rfl

/-- **BRIDGE, later member of an update**, `same_inode` answered "no", the path holds a file or link: `remove` +
    `create_hardlink` is the model's `relinkFile` when that succeeds; when it fails the old name is ALREADY removed
    (`relink_failure_loses_old_name`). -/
theorem later_member_update_eq_model (hk : CleanPath k) (a b : Nat) (first : Engine.Path)
    (hf : xw.w.linkMap.find? (·.1 == inode) = some (a, first, b)) (hfc : CleanPath first)
    (hs : same xw (destOf xw.root first) (destOf xw.root k) = false) (hne : first ≠ k)
    (n : DNode) (hn : xw.w.dst.get? k = some n) (hnd : n ≠ .dir) (w' : World) (hr : relinkFile xw.w k first = some w') :
    runM (seqLinkMember cfg (fuel + 1) same cp self e (destOf xw.root k) inode true) xw =
      xw.at (destOf xw.root k) (fun k => linkMemberW cfg xw e k inode true) := by
  rw [seq_later_update_other cfg fuel same cp self e inode xw k hk a b first hf hfc hs hne n hn hnd, hr,
    at_destOf xw _ rfl k hk]
  simp only [linkMemberW, hf, ↓reduceIte, hr, Option.map_some, outcome_some]

/-- `same_inode` answers "yes": `Ok` and NOTHING is touched — while `relinkFile` rewrites the node at the path with the
    first path's node.  (In the per-path representation of `Engine.World` a write-through of the first member's update is
    not visible at the other names; the model's relink is what carries it over.  On a real file system the two names
    already show the same file.) -/
theorem same_inode_touches_nothing (hk : CleanPath k) (a b : Nat) (first : Engine.Path)
    (hf : xw.w.linkMap.find? (·.1 == inode) = some (a, first, b))
    (hs : same xw (destOf xw.root first) (destOf xw.root k) = true) :
    runM (seqLinkMember cfg (fuel + 1) same cp self e (destOf xw.root k) inode true) xw = (.ok (some linkResult), xw) := by
  rw [seq_later_run cfg fuel same cp self e inode xw k hk a b first hf, if_pos ⟨rfl, hs⟩]

/-- NOT ATOMIC: when the link cannot be made after the removal (an ancestor is not a directory, the first path holds no
    file), the call fails and the OLD NAME IS GONE — the model's `relinkFile` answers "failed, nothing changed". -/
theorem relink_failure_loses_old_name (hk : CleanPath k) (a b : Nat) (first : Engine.Path)
    (hf : xw.w.linkMap.find? (·.1 == inode) = some (a, first, b)) (hfc : CleanPath first)
    (hs : same xw (destOf xw.root first) (destOf xw.root k) = false) (hne : first ≠ k)
    (n : DNode) (hn : xw.w.dst.get? k = some n) (hnd : n ≠ .dir) (hr : relinkFile xw.w k first = none) :
    runM (seqLinkMember cfg (fuel + 1) same cp self e (destOf xw.root k) inode true) xw =
      (.error .io, { xw with w := { xw.w with dst := xw.w.dst.erase k } }) := by
  rw [seq_later_update_other cfg fuel same cp self e inode xw k hk a b first hf hfc hs hne n hn hnd, hr]

/-- an ABSENT destination (or a directory): `remove(dest, false)` fails and so does the call, nothing is touched — the
    model's `relinkFile` would create the link at an absent path.  (An update task is planned only for an existing
    destination entry.) -/
theorem relink_needs_existing_entry (hk : CleanPath k) (a b : Nat) (first : Engine.Path)
    (hf : xw.w.linkMap.find? (·.1 == inode) = some (a, first, b))
    (hs : same xw (destOf xw.root first) (destOf xw.root k) = false)
    (hn : xw.w.dst.get? k = some .dir ∨ xw.w.dst.get? k = none) :
    runM (seqLinkMember cfg (fuel + 1) same cp self e (destOf xw.root k) inode true) xw = (.error .io, xw) := by
  have hrm : removeW xw.w k false = none := by
    unfold removeW
    rcases hn with h | h <;> rw [h] <;> rfl
  rw [seq_later_run cfg fuel same cp self e inode xw k hk a b first hf, if_neg (by simp [hs])]
  simp only [↓reduceIte, hrm]

/-- **THE ASSUMPTION OF Props/GenTransfer.lean DISCHARGED.**  `extOfT cfg fuel same cp` is `extOf cfg` with its assumed
    one-step `transfer_link_member` REPLACED by the translated function run on `seqExt`.  On every world, for every member
    of a creation, the two operations are equal (for every fuel ≥ 1, every oracle). -/
theorem handoff_assumption_discharged_create (hk : CleanPath k) (hlc : LinkMapClean xw) :
    runM ((extOfT cfg (fuel + 1) same (fun _ => atomicCopy cfg)).transfer_link_member self e (destOf xw.root k) inode false) xw =
      runM ((extOf cfg).transfer_link_member self e (destOf xw.root k) inode false) xw := by
  rw [extOf_transfer_link_member, runM_op]
  show runM (seqLinkMember cfg (fuel + 1) same (fun _ => atomicCopy cfg) self e (destOf xw.root k) inode false) xw = _
  cases hf : xw.w.linkMap.find? (·.1 == inode) with
  | none => exact first_member_eq_model cfg fuel same self e inode xw k hk hf false
  | some x =>
    obtain ⟨a, first, b⟩ := x
    exact later_member_create_eq_model cfg fuel same _ self e inode xw k hk a b first hf (hlc _ (List.mem_of_find?_eq_some hf))

/-- … and for the first member of an update (any `copy_file`: it is not called) -/
theorem handoff_assumption_discharged_update_first (hk : CleanPath k)
    (hf : xw.w.linkMap.find? (·.1 == inode) = none) :
    runM ((extOfT cfg (fuel + 1) same cp).transfer_link_member self e (destOf xw.root k) inode true) xw =
      runM ((extOf cfg).transfer_link_member self e (destOf xw.root k) inode true) xw := by
  rw [extOf_transfer_link_member, runM_op]
  exact seq_first_gen cfg fuel same cp self e inode xw k hk hf true (fun h => by cases h)

/-- … and for a later member of an update under `RelinkOK` (`same_inode` says "no", the first path is another path, the
    destination holds a directory — both fail — or a file/link the model can replace). -/
theorem handoff_assumption_discharged_update_later (hk : CleanPath k) (hlc : LinkMapClean xw) (a b : Nat)
    (first : Engine.Path) (hf : xw.w.linkMap.find? (·.1 == inode) = some (a, first, b)) (hok : RelinkOK same xw k first) :
    runM ((extOfT cfg (fuel + 1) same cp).transfer_link_member self e (destOf xw.root k) inode true) xw =
      runM ((extOf cfg).transfer_link_member self e (destOf xw.root k) inode true) xw := by
  rw [extOf_transfer_link_member, runM_op, at_destOf xw _ rfl k hk]
  show runM (seqLinkMember cfg (fuel + 1) same cp self e (destOf xw.root k) inode true) xw = _
  obtain ⟨hs, hne, hnode⟩ := hok
  simp only [linkMemberW, hf, ↓reduceIte]
  rcases hnode with hd | ⟨n, hn, hnd, hsome⟩
  · rw [relink_needs_existing_entry cfg fuel same cp self e inode xw k hk a b first hf hs (Or.inl hd),
      relinkFile_dir hd]
    rfl
  · rw [seq_later_update_other cfg fuel same cp self e inode xw k hk a b first hf
      (hlc _ (List.mem_of_find?_eq_some hf)) hs hne n hn hnd]
    obtain ⟨w', hw'⟩ := Option.isSome_iff_exists.1 hsome
    simp only [hw', Option.map_some, outcome_some]

/-- **`create_eq_model` with the translated hand-off AND the translated `copy_file` inside.**  The translated `create`
    of unit Transfer, run on the instance whose `transfer_link_member` is the translated function of unit LinkMember on
    `seqExt` whose `copy_file` is the translated `Transferrer::copy_file` of unit Transfer on `extOf cfg`, agrees with the
    model's `perform` — same hypotheses as `Props.GenTransfer.create_eq_model`, plus `LinkMapClean`. -/
theorem create_eq_model_translated (ha : Agrees self cfg) (hk : CleanPath k) (hread : Readable cfg e)
    (hsrc : SrcFile xw e) (hino : HasInode cfg e) (hlc : LinkMapClean xw) :
    Agree xw k (runM (Transfer.Transferrer.create (extOfT cfg (fuel + 1) same (translatedCopy cfg)) self e (destOf xw.root k)) xw)
      (perform cfg xw.w (absTask cfg xw .create e k)) := by
  have base := SyModel.Props.GenTransfer.create_eq_model cfg self ha xw e k hk hread hsrc hino
  by_cases h : HandedOff self e
  · obtain ⟨hdry, hs, hd, hh, hn, hi⟩ := h
    obtain ⟨i, hi⟩ := Option.isSome_iff_exists.1 hi
    rw [(SyModel.Props.GenTransfer.hardlink_candidate_is_handed_off _ self e _ xw hdry hs hd hh hn i hi).1] at base ⊢
    rw [extOf_transfer_link_member, runM_op, at_destOf xw _ rfl k hk] at base
    show Agree xw k (runM (seqLinkMember cfg (fuel + 1) same (translatedCopy cfg) self e (destOf xw.root k) i false) xw) _
    cases hf : xw.w.linkMap.find? (·.1 == i) with
    | some x =>
      obtain ⟨a, first, b⟩ := x
      rw [later_member_create_eq_model cfg fuel same _ self e i xw k hk a b first hf (hlc _ (List.mem_of_find?_eq_some hf)),
        at_destOf xw _ rfl k hk]
      exact base
    | none =>
      cases hm : linkMemberW cfg xw e k i false with
      | some x =>
        obtain ⟨r, w'⟩ := x
        rw [seq_first_create_translated_ok cfg fuel same self e i xw k hk hf r w' hm]
        rw [hm] at base
        exact base
      | none =>
        rw [hm] at base
        obtain ⟨xw', h1, h2⟩ := seq_first_create_translated_err cfg fuel same self e i xw k hk hf hm
        rw [h1]
        -- `base` ties the model's `perform` to `linkMemberW`'s answer, which is "failed": `perform` fails too
        cases hp : perform cfg xw.w (absTask cfg xw .create e k) with
        | some w'' =>
          rw [hp] at base
          obtain ⟨r, hr⟩ := base
          simp [XWorld.outcome] at hr
        | none => exact ⟨xw', rfl, h2.elim Or.inl (fun h => Or.inr (Or.inl h))⟩
  · rw [extOfT, create_tlm_irrelevant _ _ self e _ h]
    exact base

/-- **`update_eq_model` with the translated hand-off inside**, under `RelinkOK` for a later member (nothing extra for the
    first member or outside the hand-off).  `RelinkOK` demands that `same_inode` answers "no": when it answers "yes" the
    code touches nothing while the model's `relinkFile` rewrites the node (`same_inode_touches_nothing`), and nothing is
    claimed. -/
theorem update_eq_model_translated (ha : Agrees self cfg) (hk : CleanPath k) (hread : Readable cfg e)
    (hsrc : SrcFile xw e) (hino : HasInode cfg e) (hlc : LinkMapClean xw)
    (hrel : ∀ i a first b, e.inode = some i → xw.w.linkMap.find? (·.1 == i) = some (a, first, b) →
      RelinkOK same xw k first) :
    Agree xw k (runM (Transfer.Transferrer.update (extOfT cfg (fuel + 1) same cp) self e (destOf xw.root k)) xw)
      (perform cfg xw.w (absTask cfg xw .update e k)) := by
  have base := SyModel.Props.GenTransfer.update_eq_model cfg self ha xw e k hk hread hsrc hino
  by_cases h : HandedOff self e
  · obtain ⟨hdry, hs, hd, hh, hn, hi⟩ := h
    obtain ⟨i, hi⟩ := Option.isSome_iff_exists.1 hi
    rw [(SyModel.Props.GenTransfer.hardlink_candidate_is_handed_off _ self e _ xw hdry hs hd hh hn i hi).2] at base ⊢
    cases hf : xw.w.linkMap.find? (·.1 == i) with
    | some x =>
      obtain ⟨a, first, b⟩ := x
      rw [handoff_assumption_discharged_update_later cfg fuel same cp self e i xw k hk hlc a b first hf (hrel i a first b hi hf)]
      exact base
    | none =>
      rw [handoff_assumption_discharged_update_first cfg fuel same cp self e i xw k hk hf]
      exact base
  · rw [extOfT, update_tlm_irrelevant _ _ self e _ h]
    exact base

end sequential

section examples
open SyModel.Engine SyModel.Lemmas.GenTransfer SyModel.Props.GenTransfer

/-- the hypotheses of the any-instance theorems are answers of operations; the tracing instance gives each of them -/
example : runM ((traceExt 1).map_get 3) {} = (.ok none, { log := [.get] }) := rfl
example : runM ((traceExt 1).map_get 3) { gets := [some (.InProgress 5)] } =
    (.ok (some (.InProgress 5)), { log := [.get] }) := rfl
example : runM ((traceExt 1).map_get 3) { gets := [some (.Completed ['f'])] } =
    (.ok (some (.Completed ['f'])), { log := [.get] }) := rfl
example : runM ((traceExt 1).Notify_new ()) {} = (.ok 7, { log := [.new] }) := rfl
example : runM ((traceExt 1).map_contains 3) {} = (.ok false, { log := [.contains] }) := rfl
example : runM ((traceExt 1).map_contains 3) { taken := true } = (.ok true, { log := [.contains], taken := true }) := rfl
example : runM ((traceExt 1).map_insert 3 (.InProgress 7)) {} = (.ok (), { log := [.insertInProgress 7] }) := rfl
example : runM ((traceExt 1).map_remove 3) {} = (.ok (), { log := [.remove] }) := rfl
example : runM ((traceExt 1).notify_waiters 7) {} = (.ok (), { log := [.notifyWaiters 7] }) := rfl
example : runM ((traceExt 1).notified 5) {} = (.ok 105, { log := [.notified 5] }) := rfl
example : runM ((traceExt 1).same_inode default ['f'] ['d']) {} = (.ok false, { log := [.sameInode] }) := rfl
example : runM ((traceExt 1).t_remove ⟨⟩ ['d'] false) {} = (.ok (), { log := [.tRemove] }) := rfl
example : runM ((traceExt 1).t_remove ⟨⟩ ['d'] false) { failRemove := true } =
    (.error .io, { log := [.tRemove], failRemove := true }) := rfl
example : runM ((traceExt 1).t_create_hardlink ⟨⟩ ['f'] ['d']) { failLink := true } =
    (.error .io, { log := [.link ['f']], failLink := true }) := rfl
example : (traceExt 1).fuel = 0 + 1 := rfl
example : (runM (copyBlock (traceExt 1) default default ['d'] false) { failCopy := true }).1 = .error .io := rfl
example : (runM (copyBlock (traceExt 1) default default ['d'] false) {}).1 = .ok default := rfl
example : ∀ p, (some (InodeState.InProgress 5)) ≠ some (.Completed p) := fun p h => by cases h

/-- two of the scripted runs of the GENERATED function (`Lemmas/GenLinkMemberTrace.lean`), restated: the owner's failure and
    the waiter whose re-check sees the completion — the two paths the repair of the hand-off is about (the claim is
    released, no await on a future that would never fire) -/
example : traced 3 false { failCopy := true } =
    ([.get, .new, .contains, .insertInProgress 7, .copy, .remove, .notifyWaiters 7], false) := trace_owner_failure
example : traced 3 false { gets := [some (.InProgress 5), some (.Completed ['f']), some (.Completed ['f'])] } =
    ([.get, .notified 5, .get, .get, .link ['f']], true) := trace_waiter_sees_completion

/-- the world of Props/GenTransfer.lean's examples with the group of inode 3 recorded at `a/old` -/
def exWorld2 : XWorld := { exWorld with w := { exWorld.w with linkMap := [(3, ["a", "old"], 4)] } }
/-- … and a stale file at `a/f` (another inode): the destination of an UPDATE of a later member -/
def exWorld3 : XWorld :=
  { exWorld2 with w := { exWorld2.w with dst := (["a", "f"], .file ⟨8, 1, 1, [], 6⟩) :: exWorld2.w.dst } }
def never : XWorld → Rs.Path → Rs.Path → Bool := fun _ _ _ => false

example : LinkMapClean exWorld := fun x hx => by simp [exWorld] at hx
example : LinkMapClean exWorld2 := fun x hx => by
  simp only [exWorld2, List.mem_singleton] at hx; subst hx; decide
example : CleanPath ["a", "old"] := by decide
example : exWorld.w.linkMap.find? (·.1 == 3) = none := rfl
example : exWorld2.w.linkMap.find? (·.1 == 3) = some (3, ["a", "old"], 4) := rfl
example : HandedOff exSelf exFile := ⟨rfl, rfl, rfl, rfl, by decide, rfl⟩
example : ¬ HandedOff exSelf exDir := fun h => by simpa [exDir] using h.2.2.1
example : RelinkOK never exWorld3 ["a", "f"] ["a", "old"] :=
  ⟨rfl, by decide, Or.inr ⟨.file ⟨8, 1, 1, [], 6⟩, by decide, by simp, by decide⟩⟩
example : exWorld3.w.dst.get? ["a", "f"] = some (.file ⟨8, 1, 1, [], 6⟩) := by decide
example : (relinkFile exWorld3.w ["a", "f"] ["a", "old"]).isSome = true := by decide
example : exWorld.w.dst.get? ["a", "x"] = none := by decide

/-- first member of a creation, through the translated hand-off: copied with the entry's attributes, recorded -/
example : (runM (seqLinkMember exCfg 1 never (fun _ => atomicCopy exCfg) exSelf exFile (destOf exWorld.root ["a", "f"]) 3 false)
    exWorld).2.w.linkMap = [(3, ["a", "f"], 7)] := by
  rw [first_member_eq_model exCfg 0 never exSelf exFile 3 exWorld ["a", "f"] (by decide) rfl false]; decide
/-- later member of a creation: a second name of the first path's inode -/
example : (runM (seqLinkMember exCfg 1 never (fun _ => atomicCopy exCfg) exSelf exFile (destOf exWorld2.root ["a", "g"]) 3 false)
    exWorld2).2.w.dst.get? ["a", "g"] = exWorld2.w.dst.get? ["a", "old"] := by
  rw [later_member_create_eq_model exCfg 0 never _ exSelf exFile 3 exWorld2 ["a", "g"] (by decide) 3 4 ["a", "old"] rfl
    (by decide)]; decide
/-- later member of an update: the stale file is replaced by a name of the first path's inode -/
example : (runM (seqLinkMember exCfg 1 never (fun _ => atomicCopy exCfg) exSelf exFile (destOf exWorld3.root ["a", "f"]) 3 true)
    exWorld3).2.w.dst.get? ["a", "f"] = exWorld3.w.dst.get? ["a", "old"] := by
  rw [seq_later_update_other exCfg 0 never _ exSelf exFile 3 exWorld3 ["a", "f"] (by decide) 3 4 ["a", "old"] rfl (by decide)
    rfl (by decide) (.file ⟨8, 1, 1, [], 6⟩) (by decide) (by simp)]
  decide
example : Agree exWorld ["a", "f"]
    (runM (Transfer.Transferrer.create (extOfT exCfg 1 never (translatedCopy exCfg)) exSelf exFile (destOf exWorld.root ["a", "f"])) exWorld)
    (perform exCfg exWorld.w (absTask exCfg exWorld .create exFile ["a", "f"])) :=
  create_eq_model_translated exCfg 0 never exSelf exFile exWorld ["a", "f"] ⟨rfl, rfl, rfl⟩ (by decide) (fun h => by cases h)
    (fun _ _ => ⟨_, rfl⟩) (fun _ _ _ _ => rfl) (fun x hx => by simp [exWorld] at hx)

end examples

end SyModel.Props.GenLinkMember
