/-
  C05 — Concurrent transfers never interfere: the outcome is independent of -j and scheduling.
  The property theorems; C09 and Refine also use `interleave_eq_seq`, `seq_is_interleaving`, `ofMap_noTemp` and the
  example plan (`cfg0`, `Example`, `example_planOK`, `example_tempFresh`); the model is `SyModel/Engine/Steps.lean`
  (one step per mutating system call, step lists of tasks, interleavings, the semaphore scheduler), helper lemmas
  live in `SyModel/Lemmas/Steps*.lean`.

  All theorems are for arbitrary task sets, destination worlds, chunk sizes, routes of the
  ≥-threshold update (`Hint`), worker counts and interleavings — by induction, nothing is enumerated.

  Status on the repaired tree (commit 0c4aecb, "append to the full file name"): `C05` holds under
  `PlanOK` (a plan over a tree) and `TempFresh` (temp paths are not planned paths, not ancestors of
  planned paths, and nothing exists there).  Under the naming of the pinned tree two same-stem
  siblings share one temp path and an update is lost (`tempOf_old_counterexample`).  Residual finding,
  any deterministic temp name: a user's file literally named `<x>.sy.tmp` next to an updated large `x` (`temp_user_file_counterexample`).
-/
import SyModel.Lemmas.StepsRun
import SyModel.Lemmas.EngineRun
import SyModel.Generated.Consts
namespace SyModel.Props.C05
open SyModel SyModel.Engine

/-- the suffix is not empty (so a temp path differs from its destination) -/
theorem consts_ok_suffix_nonempty : Generated.TEMP_SUFFIX ≠ "" := by decide
/-- the suffix contains no path separator (appending it keeps the file in the same directory) -/
theorem consts_ok_suffix_no_slash : Generated.TEMP_SUFFIX.toList.contains '/' = false := by decide
/-- the size gate of the block-delta path dominates the 4096-byte "too small" gate (local.rs:388) -/
theorem consts_ok_delta_threshold : 4096 ≤ Generated.DELTA_THRESHOLD := by decide
theorem consts_ok_block_size : 0 < Generated.LOCAL_BLOCK_SIZE := by decide

/-- Two independent steps — disjoint footprints, or the same `mkdir`, or two deletions — commute on
    EVERY world. -/
theorem commute_indep (s t : Step) (h : Indep s t) (w : SWorld) :
    s.apply (t.apply w) = t.apply (s.apply w) := Engine.commute_indep s t h w

/-- `mkdir` is idempotent (on an existing directory it is the tolerated EEXIST).  This is why the model issues
    the `create_dir_all(parent)` chain once for the two calls of `Transferrer::copy_file` and
    `LocalTransport::copy_file`. -/
theorem mkdir_idem (p : Path) (w : SWorld) :
    (Step.mkdir p).apply ((Step.mkdir p).apply w) = (Step.mkdir p).apply w := by
  funext x
  simp only [apply_mkdir, upd_apply]
  by_cases hx : x = p
  · subst hx; simp only [↓reduceIte]; cases w x <;> rfl
  · simp [hx]

/-- The pick-any-head definition of n-ary interleavings coincides with the binary shuffle lifted
    over the list of lists. -/
theorem interleaving_iff_shuffleN {α : Type} (ls : List (List α)) (σ : List α) :
    Interleaving ls σ ↔ ShuffleN ls σ := ⟨Interleaving.toShuffleN, ShuffleN.toInterleaving⟩

theorem interleaving_mem {ls : List (List Step)} {σ : List Step} (h : Interleaving ls σ) (s : Step) :
    s ∈ σ ↔ ∃ l ∈ ls, s ∈ l := h.toShuffleN.mem_iff s

/-- Pairwise independent step lists: EVERY interleaving yields the world of the sequential run
    (the lists one after the other, in task order). -/
theorem interleave_eq_seq {ls : List (List Step)} (hind : PairwiseIndep ls) {σ : List Step}
    (hσ : Interleaving ls σ) (w : SWorld) : applyAll σ w = applyAll ls.flatten w :=
  shuffleN_eq_seq hσ.toShuffleN hind w

/-- The fixed naming (append the suffix to the last component, `working_file_path`, temp_file.rs:35-42) is injective. -/
theorem tempOf_injective (sfx : String) (p q : Path) (h : tempOf sfx p = tempOf sfx q) : p = q :=
  tempOf_inj sfx h

/-- … and never yields the destination path itself. -/
theorem tempOf_ne_self (p : Path) (hp : p ≠ []) : tempOf Generated.TEMP_SUFFIX p ≠ p :=
  tempOf_ne _ consts_ok_suffix_nonempty hp

/-- the temp + rename section under the OLD naming `dest.with_extension("sy.tmp")` -/
def deltaStepsOld (p : Path) (m : FileMeta) : List Step :=
  [Step.createTemp (tempOfOld p) m.content, Step.rename (tempOfOld p) p m.content m.size m.mtime]

/-- `C05/temp-collision/same-stem-siblings` (fixed in /repo commit 0c4aecb).  The old naming maps
    `a.bin` and `a.dat` to the same temp path; with it two block-delta updates are NOT independent,
    and in the interleaving create₁ · create₂ · rename₁ · rename₂ one update is lost: `a.bin` keeps
    its old content although both tasks ran to the end (the sequential run updates both). -/
theorem tempOf_old_counterexample :
    tempOfOld ["a.bin"] = tempOfOld ["a.dat"] ∧ (["a.bin"] : Path) ≠ ["a.dat"] ∧
    let m₁ : FileMeta := ⟨1, 11000000, 50, [], 0⟩
    let m₂ : FileMeta := ⟨2, 11000000, 60, [], 0⟩
    let w : SWorld := upd (upd (fun _ => none) ["a.bin"] (some (.file 10 11000000 5)))
      ["a.dat"] (some (.file 20 11000000 6))
    let l₁ := deltaStepsOld ["a.bin"] m₁
    let l₂ := deltaStepsOld ["a.dat"] m₂
    ∃ σ, Interleaving [l₁, l₂] σ ∧
      applyAll σ w ["a.bin"] = some (.file 10 11000000 5) ∧              -- update lost
      applyAll (l₁ ++ l₂) w ["a.bin"] = some (.file 1 11000000 50) ∧      -- sequential run
      applyAll σ w ≠ applyAll (l₁ ++ l₂) w := by
  -- the shared temp path, computed once
  have h1 : tempOfOld ["a.bin"] = ["a.sy.tmp"] := by decide
  have h2 : tempOfOld ["a.dat"] = ["a.sy.tmp"] := by decide
  refine ⟨h1.trans h2.symm, by decide, ?_⟩
  intro m₁ m₂ w l₁ l₂
  have e1 : l₁ = [Step.createTemp ["a.sy.tmp"] 1, Step.rename ["a.sy.tmp"] ["a.bin"] 1 11000000 50] := by
    show deltaStepsOld _ _ = _
    rw [deltaStepsOld, h1]
  have e2 : l₂ = [Step.createTemp ["a.sy.tmp"] 2, Step.rename ["a.sy.tmp"] ["a.dat"] 2 11000000 60] := by
    show deltaStepsOld _ _ = _
    rw [deltaStepsOld, h2]
  rw [e1, e2]
  have hseq : applyAll ([Step.createTemp ["a.sy.tmp"] 1, Step.rename ["a.sy.tmp"] ["a.bin"] 1 11000000 50] ++
      [Step.createTemp ["a.sy.tmp"] 2, Step.rename ["a.sy.tmp"] ["a.dat"] 2 11000000 60]) w ["a.bin"] =
      some (.file 1 11000000 50) := by decide
  refine ⟨[.createTemp ["a.sy.tmp"] 1, .createTemp ["a.sy.tmp"] 2, .rename ["a.sy.tmp"] ["a.bin"] 1 11000000 50,
    .rename ["a.sy.tmp"] ["a.dat"] 2 11000000 60], ?_, by decide, hseq, ?_⟩
  · apply ShuffleN.toInterleaving
    exact .cons (.cons .nil Shuffle.nil_right) (.left (.right (.left (.right .nil))))
  · intro h
    have := congrFun h ["a.bin"]
    rw [hseq] at this
    revert this
    decide

/-- the injective naming keeps the two temp paths of the same scenario apart -/
example : tempOf Generated.TEMP_SUFFIX ["a.bin"] = ["a.bin.sy.tmp"] ∧
    tempOf Generated.TEMP_SUFFIX ["a.dat"] = ["a.dat.sy.tmp"] ∧
    tempOf Generated.TEMP_SUFFIX ["d", "x"] = ["d", "x.sy.tmp"] := by decide

/-- delete tasks of a plan target paths outside the scanned set (`plan_deletions` + the retain,
    strategy.rs:397-474, mod.rs:587-680) -/
theorem plan_deletes_outside_scan (cfg : Cfg) (scan : List SEntry) (dst : Map DNode) (d : Task)
    (hd : d ∈ plan cfg scan dst) (hdel : d.act = .delete) : ∀ e ∈ scan, e.rel ≠ d.rel := by
  rw [plan_eq] at hd
  rcases List.mem_append.mp hd with h | h
  · obtain ⟨e, _, rfl⟩ := List.mem_map.mp h
    exact absurd hdel (planEntry_act_ne_delete cfg dst e)
  · split at h
    · obtain ⟨p, rfl, _, _, hs, _⟩ := mem_planDeletions.mp h
      exact hs
    · cases h

/-- The step lists of the non-link tasks of `plan cfg scan dst` are pairwise independent, for every
    chunk size, threshold and route, provided the plan is laid out over a tree (`PlanOK`: unique
    relative paths; written files/links are not proper prefixes of other planned paths; delete
    targets are not above written paths) and the temp paths are fresh (`TempFresh`). -/
theorem plan_independent (cfg : Cfg) (thr ch : Nat) (sfx : String) (hint : Task → Hint)
    (scan : List SEntry) (dst : Map DNode) (w : SWorld)
    (hok : PlanOK (plan cfg scan dst)) (hfresh : TempFresh sfx (plan cfg scan dst) w) :
    PairwiseIndep (taskLists cfg thr ch sfx hint dst (plan cfg scan dst)) :=
  taskLists_indep cfg thr ch hok hfresh hint dst

/-- Whatever a `j`-permit semaphore admits is an interleaving of the task lists. -/
theorem sem_run_is_interleaving {j : Nat} {ls : List (List Step)} {σ : List Step}
    (h : SemRun j (initSlots ls) σ) : Interleaving ls σ := by
  have := h.interleaving
  rwa [initSlots_rests] at this

/-- Every worker count `j ≥ 1` admits at least the task-by-task run. -/
theorem sem_run_exists {j : Nat} (hj : 1 ≤ j) (ls : List (List Step)) :
    SemRun j (initSlots ls) ls.flatten := by
  simpa using sem_sequential hj ls [] (by simp)

/-- The concatenation in task order is itself an interleaving (so `interleave_eq_seq` is not about an empty set):
    it is the run a one-permit semaphore admits. -/
theorem seq_is_interleaving (ls : List (List Step)) : Interleaving ls ls.flatten :=
  sem_run_is_interleaving (sem_run_exists (Nat.le_refl 1) ls)

theorem ofMap_noTemp (dst : Map DNode) : NoTemp (ofMap dst) := by
  intro x c h
  unfold ofMap at h
  cases hg : dst.get? x with
  | none => simp [hg] at h
  | some n => cases n <;> simp [hg, embed] at h

/-- After a run in which every task completed — in any interleaving — no working file remains
    (given none existed before). -/
theorem no_working_file_left (cfg : Cfg) (thr ch : Nat) (sfx : String) (hint : Task → Hint)
    (tasks : List Task) (dst : Map DNode) (w : SWorld)
    (hind : PairwiseIndep (taskLists cfg thr ch sfx hint dst tasks)) (hw : NoTemp w)
    {σ : List Step} (hσ : Interleaving (taskLists cfg thr ch sfx hint dst tasks) σ) :
    NoTemp (applyAll σ w) :=
  fun x c => run_no_temp hind hσ w x (Or.inl (hw x)) c

/-- **C05.** For every worker count `j ≥ 1`, every run `σ` admitted by a `j`-permit semaphore over
    the non-link tasks of the plan: the final destination equals the one of the sequential run
    (task after task, in plan order), and no working file remains. -/
theorem C05 (cfg : Cfg) (thr ch : Nat) (sfx : String) (hint : Task → Hint)
    (scan : List SEntry) (dst : Map DNode)
    (hok : PlanOK (plan cfg scan dst)) (hfresh : TempFresh sfx (plan cfg scan dst) (ofMap dst))
    (j : Nat) (_hj : 1 ≤ j) (σ : List Step)
    (hσ : SemRun j (initSlots (taskLists cfg thr ch sfx hint dst (plan cfg scan dst))) σ) :
    applyAll σ (ofMap dst) =
        applyAll (taskLists cfg thr ch sfx hint dst (plan cfg scan dst)).flatten (ofMap dst) ∧
      NoTemp (applyAll σ (ofMap dst)) := by
  have hind := plan_independent cfg thr ch sfx hint scan dst (ofMap dst) hok hfresh
  have hI := sem_run_is_interleaving hσ
  exact ⟨interleave_eq_seq hind hI _,
    no_working_file_left cfg thr ch sfx hint _ dst _ hind (ofMap_noTemp dst) hI⟩

/-- Working files are never mistaken for anything else: under `TempFresh`, in every interleaving of
    a completed run, the temp path of every task that may use one ends as it began — empty.  (That no other
    task touches it is `temp_path_owned`.) -/
theorem temp_paths_end_empty (cfg : Cfg) (thr ch : Nat) (sfx : String) (hint : Task → Hint)
    (tasks : List Task) (dst : Map DNode) (w : SWorld) (hok : PlanOK tasks)
    (hfresh : TempFresh sfx tasks w) {σ : List Step}
    (hσ : Interleaving (taskLists cfg thr ch sfx hint dst tasks) σ) (t : Task) (ht : t ∈ tasks)
    (hm : t.mayDelta) : applyAll σ w (tempOf sfx t.rel) = none :=
  temp_path_final_none hok hfresh hσ ht hm

def cfg0 : Cfg :=
  { delete := false, force := false, dryRun := false, xattrs := false, hardlinks := false,
    threshold := 50, links := .preserve, compare := .default, minSize := none, maxSize := none,
    maxErrors := 0, tie := false }

/-- the model's `createTemp` step stands for TWO system calls of `sync_file_with_delta` since repo fix d0ec669:
    `let _ = fs::remove_file(&temp_dest)` and the creation of the working file.  On every world the pair acts like the single
    step (a directory at the working-file path survives both, anything else is replaced by the fresh working file), so the
    observed call `unlink(<x>.sy.tmp)` directly before the creation is a stutter of `createTemp` — which is how the steps
    stream reads it (`collapse` in tools/steps_stream.py). -/
theorem createTemp_absorbs_unlink (q : Path) (cid : Nat) (w : SWorld) :
    (Step.createTemp q cid).apply ((Step.unlink q).apply w) = (Step.createTemp q cid).apply w := by
  funext x
  simp only [Step.apply, Step.path, upd]
  by_cases hx : x = q
  · subst hx
    simp only [↓reduceIte]
    cases h : w x with
    | none => rfl
    | some n => cases n <;> rfl
  · simp [hx]

/-- `C05/user-file-named-like-temp` (known residual finding, any deterministic temp name).  The
    destination holds a large file `x` and the user's own file `x.sy.tmp`; the source has a newer `x`.
    The plan is the single block-delta update of `x`; `TempFresh` is violated (something exists at
    the temp path) and the run destroys the user's file: it is truncated by `createTemp` and
    renamed away — although no task of the plan names it and `--delete` is off. -/
theorem temp_user_file_counterexample :
    let scan : List SEntry := [⟨["x"], .file ⟨1, 7000, 50000000000, [], 0⟩ 1, 7000, false⟩]
    let dst : Map DNode := [(["x"], .file ⟨10, 6000, 5, [], 1⟩), (["x.sy.tmp"], .file ⟨77, 3, 4, [], 2⟩)]
    let tasks := plan cfg0 scan dst
    let ls := taskLists cfg0 5000 1000 Generated.TEMP_SUFFIX (fun _ => {}) dst tasks
    tasks = [⟨.update, ["x"], .file ⟨1, 7000, 50000000000, [], 0⟩ 1⟩] ∧
    ¬ TempFresh Generated.TEMP_SUFFIX tasks (ofMap dst) ∧
    ofMap dst ["x.sy.tmp"] = some (.file 77 3 4) ∧
    applyAll ls.flatten (ofMap dst) ["x.sy.tmp"] = none ∧
    applyAll ls.flatten (ofMap dst) ["x"] = some (.file 1 7000 50000000000) := by
  intro scan dst tasks ls
  refine ⟨by decide, ?_, by decide, by decide, by decide⟩
  intro h
  have := h.notExisting ⟨.update, ["x"], .file ⟨1, 7000, 50000000000, [], 0⟩ 1⟩ (by decide) (by decide)
  revert this
  decide

namespace Example
/-- source: directory `d` with two new files `d/a`, `d/b`, and a changed large file `big`;
    destination: only the old `big` (6000 bytes ≥ the example threshold 5000). -/
def scan : List SEntry :=
  [⟨["d"], .dir, 0, false⟩,
   ⟨["d", "a"], .file ⟨1, 2500, 100, [], 11⟩ 1, 2500, false⟩,
   ⟨["d", "b"], .file ⟨2, 10, 200, [], 12⟩ 1, 10, false⟩,
   ⟨["big"], .file ⟨3, 7000, 9000000000, [], 13⟩ 1, 7000, false⟩]
def dst : Map DNode := [(["big"], .file ⟨30, 6000, 5, [], 1⟩)]
def tasks : List Task := plan cfg0 scan dst
def lists : List (List Step) := taskLists cfg0 5000 1000 Generated.TEMP_SUFFIX (fun _ => {}) dst tasks

/-- four tasks: create `d`, create `d/a`, create `d/b`, update `big` -/
example : tasks.map (fun t => (t.act, t.rel)) =
    [(.create, ["d"]), (.create, ["d", "a"]), (.create, ["d", "b"]), (.update, ["big"])] := by decide

/-- their step lists: the shared `mkdir d`, chunked growth, and temp + rename for `big` -/
example : lists =
    [[.mkdir ["d"]],
     [.mkdir ["d"], .unlinkIfSymlink ["d", "a"], .openTrunc ["d", "a"] 1 0, .grow ["d", "a"] 1 1000,
      .grow ["d", "a"] 1 2000, .grow ["d", "a"] 1 2500, .utimens ["d", "a"] 100],
     [.mkdir ["d"], .unlinkIfSymlink ["d", "b"], .openTrunc ["d", "b"] 2 0, .grow ["d", "b"] 2 10,
      .utimens ["d", "b"] 200],
     [.unlinkIfSymlink ["big"], .createTemp ["big.sy.tmp"] 3,
      .rename ["big.sy.tmp"] ["big"] 3 7000 9000000000]] := by decide

end Example

theorem example_planOK : PlanOK Example.tasks := by
  refine ⟨by decide, by decide, by decide⟩

theorem example_tempFresh : TempFresh Generated.TEMP_SUFFIX Example.tasks (ofMap Example.dst) := by
  refine ⟨by decide, by decide⟩

namespace Example

/-- the hypotheses of `C05` are satisfiable and its conclusion is about a real run: the final
    world of every admitted interleaving is the synced tree -/
example (j : Nat) (hj : 1 ≤ j) (σ : List Step) (hσ : SemRun j (initSlots lists) σ) :
    applyAll σ (ofMap dst) ["d"] = some .dir ∧
    applyAll σ (ofMap dst) ["d", "a"] = some (.file 1 2500 100) ∧
    applyAll σ (ofMap dst) ["d", "b"] = some (.file 2 10 200) ∧
    applyAll σ (ofMap dst) ["big"] = some (.file 3 7000 9000000000) ∧
    applyAll σ (ofMap dst) ["big.sy.tmp"] = none := by
  have h := (C05 cfg0 5000 1000 Generated.TEMP_SUFFIX (fun _ => {}) scan dst example_planOK example_tempFresh j hj σ hσ).1
  have e : taskLists cfg0 5000 1000 Generated.TEMP_SUFFIX (fun _ => {}) dst (plan cfg0 scan dst) = lists := rfl
  rw [e] at h
  rw [h]
  decide

/-- a genuinely interleaved run admitted with two permits (the two file creations overlap and the
    shared `mkdir d` is issued three times) -/
example : SemRun 2 (initSlots [[Step.mkdir ["d"]], [.mkdir ["d"], .openTrunc ["d", "a"] 1 0],
      [.mkdir ["d"], .openTrunc ["d", "b"] 2 0]])
    [.mkdir ["d"], .mkdir ["d"], .mkdir ["d"], .openTrunc ["d", "b"] 2 0, .openTrunc ["d", "a"] 1 0] := by
  refine .acquire (pre := []) (post := initSlots [[.mkdir ["d"], .openTrunc ["d", "a"] 1 0],
      [.mkdir ["d"], .openTrunc ["d", "b"] 2 0]]) (l := [.mkdir ["d"]]) rfl rfl (by decide) ?_
  refine .exec (pre := []) (l := []) rfl rfl ?_
  refine .acquire (pre := [⟨true, []⟩]) (post := initSlots [[.mkdir ["d"], .openTrunc ["d", "b"] 2 0]])
    (l := [.mkdir ["d"], .openTrunc ["d", "a"] 1 0]) rfl rfl (by decide) ?_
  refine .acquire (pre := [⟨true, []⟩, ⟨true, [.mkdir ["d"], .openTrunc ["d", "a"] 1 0]⟩]) (post := [])
    (l := [.mkdir ["d"], .openTrunc ["d", "b"] 2 0]) rfl rfl (by decide) ?_
  refine .exec (pre := [⟨true, []⟩]) (l := [.openTrunc ["d", "a"] 1 0]) rfl rfl ?_
  refine .exec (pre := [⟨true, []⟩, ⟨true, [.openTrunc ["d", "a"] 1 0]⟩]) (post := [])
    (l := [.openTrunc ["d", "b"] 2 0]) rfl rfl ?_
  refine .exec (pre := [⟨true, []⟩, ⟨true, [.openTrunc ["d", "a"] 1 0]⟩]) (post := []) (l := []) rfl rfl ?_
  refine .exec (pre := [⟨true, []⟩]) (l := []) rfl rfl ?_
  exact .done (by decide)

/-- with one permit the third task cannot start while the second is running -/
example : ¬ (running [⟨true, []⟩, ⟨true, [Step.mkdir ["d"]]⟩, ⟨false, [Step.mkdir ["d"]]⟩] < 1) := by decide

/-- `Indep` is not trivially true: a write to `x` and a delete of `x` are not independent -/
example : ¬ Indep (.openTrunc ["x"] 1 0) (.unlink ["x"]) := by
  intro h
  rcases h with h | ⟨p, h, _⟩ | ⟨h, _⟩
  · exact h ["x"] (by decide)
  · cases h
  · cases h
end Example

end SyModel.Props.C05
