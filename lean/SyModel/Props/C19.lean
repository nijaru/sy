/-
  C19 — The machine-readable report is well-formed and truthful.
  Property theorems only (first part: counters, accounting of failures, log sink).
-/
import SyModel.Lemmas.Engine
import SyModel.Generated.Consts
namespace SyModel.Props.C19
open SyModel SyModel.Engine

/-- `main.rs` configures the tracing subscriber with `.with_writer(std::io::stderr)`: log text
    never shares stdout with the JSON objects (regenerated from source each run). -/
theorem consts_ok_log_sink : Generated.LOG_WRITER_IS_STDERR = true := by decide

/-- failed operations are emitted as `error` events before the summary (regenerated) -/
theorem consts_ok_error_events : Generated.EMITS_ERROR_EVENTS = true := by decide

/-- The summary counters equal the number of events of each kind, for every run. -/
theorem counters_eq_events (cfg : Cfg) (flt : Faults) (scan : List SEntry) (dst : Map DNode) (n : Nat) :
    (runF cfg flt scan dst n).created = countAct .create (runF cfg flt scan dst n).events ∧
    (runF cfg flt scan dst n).updated = countAct .update (runF cfg flt scan dst n).events ∧
    (runF cfg flt scan dst n).skipped = countAct .skip (runF cfg flt scan dst n).events ∧
    (runF cfg flt scan dst n).deleted = countAct .delete (runF cfg flt scan dst n).events := by
  rcases runF_cases cfg flt scan dst n with ⟨_, he⟩ | ⟨_, he⟩ <;> rw [he]
  · exact ⟨rfl, rfl, rfl, rfl⟩
  · have inv := foldl_execTask_bookInv cfg flt (plan cfg scan dst) (initExec dst n) (initExec_bookInv dst n)
    have hrev : ∀ a (l : List (Act × Path)), countAct a l.reverse = countAct a l := by
      intro a l; simp [countAct, List.filter_reverse]
    simp only [hrev]
    exact ⟨inv.c, inv.u, inv.s, inv.d⟩

/-- The report accounts for the whole plan: action events and errors together are as many as the planned tasks
    (each task adds exactly one record, `execTask_events`; that each task's own record is there is
    `task_accounted`) — a failed file is never simply missing from the stream. -/
theorem failures_reported (cfg : Cfg) (flt : Faults) (scan : List SEntry) (dst : Map DNode) (n : Nat)
    (h : (runF cfg flt scan dst n).refused = false) :
    (runF cfg flt scan dst n).events.length + (runF cfg flt scan dst n).errors.length
      = (runF cfg flt scan dst n).tasks.length := by
  rcases runF_cases cfg flt scan dst n with ⟨_, he⟩ | ⟨_, he⟩ <;> rw [he] at h ⊢
  · cases h
  · simp only [List.length_reverse]
    exact (foldl_execTask_accounted cfg flt (plan cfg scan dst) (initExec dst n)).trans (Nat.zero_add _)

/-- A dry run that is not refused reports every planned task as an event, in plan order (that it reports no error
    is `C08.dry_run_no_errors`). -/
theorem dry_run_reports_plan (cfg : Cfg) (flt : Faults) (scan : List SEntry) (dst : Map DNode) (n : Nat)
    (hd : cfg.dryRun = true) (h : (runF cfg flt scan dst n).refused = false) :
    (runF cfg flt scan dst n).events = (plan cfg scan dst).map fun t => (t.act, t.rel) := by
  rcases runF_cases cfg flt scan dst n with ⟨_, he⟩ | ⟨_, he⟩ <;> rw [he] at h ⊢
  · cases h
  · unfold finalExec
    simp only [foldl_execTask_dry_events cfg flt hd, initExec, List.append_nil, List.reverse_reverse]

end SyModel.Props.C19
