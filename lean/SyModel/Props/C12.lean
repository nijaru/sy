/-
  C12 — Bidirectional sync is a correct three-way merge across any history.
  Property theorems, and one evaluated record of the example history (`hEx_report`) that the examples project; helper
  lemmas live in `SyModel/Lemmas/Bisync*.lean`.

  Histories: any list over {create, modify+size, modify keeping size, delete, touch, nothing}
  × {left, right} interleaved with `sync strategy maxDelete stamp`, from any two initial trees
  with no sync state. `Cfg.repaired` = /repo with `fix-bisync-state.diff` and
  `fix-bisync-content-equal.diff`; on `Cfg.pinned` (the tree as shipped) the invariant, the propagation statement and
  `only_two_sided_conflict` are false; the witnesses are proved below.

  `paired_state` assumes `FreshRun`: every sync of the history meets fresh conflict names (`Fresh`, see Props/C11;
  otherwise a rename can overwrite a version). `paired_after_sync` and `one_sided_propagates_*` assume `Fresh` and
  that the deletion limit did not refuse the sync they speak of; `only_two_sided_conflict` and `idle_sync_noop`
  need neither.
-/
import SyModel.Lemmas.BisyncHistory
namespace SyModel.Props.C12
open SyModel SyModel.Bisync

/-- **paired_state** — the invariant carried along every history: the state rows of a path
    are exactly the actual metadata of the two versions agreed at the last sync (both rows or
    none), agreed versions hold one content, and whatever a side holds that is not its agreed
    version is strictly younger than every recorded mtime. -/
theorem paired_state (h : List Event) (t : Trace) (hinit : t.Init) (hfresh : FreshRun .repaired h t) :
    Inv (run .repaired h t) :=
  inv_run h t (inv_init hinit) hfresh

/-- … read right after a completed sync: every path present on both sides has both rows, with
    the sides' actual metadata, and holds one content; every other path has no row. -/
theorem paired_after_sync (h : List Event) (t : Trace) (hinit : t.Init) (hfresh : FreshRun .repaired h t)
    (strat : Strategy) (md stamp : Nat) (hf : Fresh (run .repaired h t).w stamp)
    (hnr : (sync .repaired strat md stamp (run .repaired h t).w).refused = false) (p : Path) :
    match aget p (sync .repaired strat md stamp (run .repaired h t).w).world.left,
          aget p (sync .repaired strat md stamp (run .repaired h t).w).world.right with
    | some l, some r =>
      (sync .repaired strat md stamp (run .repaired h t).w).world.rows p = (some l.meta, some r.meta) ∧
        l.content = r.content
    | _, _ => (sync .repaired strat md stamp (run .repaired h t).w).world.rows p = (none, none) := by
  exact (sync_postSync strat md stamp _ (paired_state h t hinit hfresh).consistent hf hnr).paired p

/-- **one_sided_propagates (left).** A creation, modification (with or without size change),
    touch or deletion made on the left only since the last sync reaches the right, under every
    strategy: afterwards both sides hold the left's current version — in particular nothing
    when the left deleted the file (no resurrection), and the edit when it edited (no revert). -/
theorem one_sided_propagates_left (t : Trace) (hi : Inv t) (p : Path)
    (hL : t.changedL p) (hR : ¬ t.changedR p)
    (strat : Strategy) (md stamp : Nat) (hf : Fresh t.w stamp)
    (hnr : (sync .repaired strat md stamp t.w).refused = false) :
    (aget p (sync .repaired strat md stamp t.w).world.left).map File.content =
        (aget p t.w.left).map File.content ∧
    (aget p (sync .repaired strat md stamp t.w).world.right).map File.content =
        (aget p t.w.left).map File.content := by
  have hl := (hi.chg_left p).mpr hL
  have ht := merge_table strat stamp p (t.w.view p) (hi.consistent.1 p)
  rw [hl, Bool.eq_false_iff.mpr (mt (hi.chg_right p).mp hR)] at ht
  obtain ⟨_, _, _, hw⟩ := ht
  -- the left prevails: the right receives the left's file, or its absence
  have hv := (sync_spec .repaired rfl strat md stamp t.w hf hnr).1.own p (mem_allPaths_of_chg (.inl hl))
  rw [stepView_eq, hw] at hv
  refine ⟨congrArg (·.l.map File.content) hv, (congrArg (·.r.map File.content) hv).trans ?_⟩
  show ((aget p t.w.left).map (restamp t.w.clock)).map File.content = _
  cases aget p t.w.left <;> rfl

/-- **one_sided_propagates (right)** — the mirror image. -/
theorem one_sided_propagates_right (t : Trace) (hi : Inv t) (p : Path)
    (hL : ¬ t.changedL p) (hR : t.changedR p)
    (strat : Strategy) (md stamp : Nat) (hf : Fresh t.w stamp)
    (hnr : (sync .repaired strat md stamp t.w).refused = false) :
    (aget p (sync .repaired strat md stamp t.w).world.left).map File.content =
        (aget p t.w.right).map File.content ∧
    (aget p (sync .repaired strat md stamp t.w).world.right).map File.content =
        (aget p t.w.right).map File.content := by
  have hr := (hi.chg_right p).mpr hR
  have ht := merge_table strat stamp p (t.w.view p) (hi.consistent.1 p)
  rw [hr, Bool.eq_false_iff.mpr (mt (hi.chg_left p).mp hL)] at ht
  obtain ⟨_, _, _, hw⟩ := ht
  have hv := (sync_spec .repaired rfl strat md stamp t.w hf hnr).1.own p (mem_allPaths_of_chg (.inr hr))
  rw [stepView_eq, hw] at hv
  refine ⟨(congrArg (·.l.map File.content) hv).trans ?_, congrArg (·.r.map File.content) hv⟩
  show ((aget p t.w.right).map (restamp t.w.clock)).map File.content = _
  cases aget p t.w.right <;> rfl

/-- **only_two_sided_conflict.** A path is classified as a conflict (modified-both,
    create/create or modify/delete — the only verdicts handed to the strategy) only if it
    changed on BOTH sides since the last sync. -/
theorem only_two_sided_conflict (t : Trace) (hi : Inv t) (p : Path) (ct : ChangeType)
    (hct : t.w.ctypeAt .repaired p = some ct) (hconf : ct.isConflict = true) :
    t.changedL p ∧ t.changedR p := by
  have ht := merge_table .newer 0 p (t.w.view p) (hi.consistent.1 p)
  rw [show (t.w.view p).ctype .repaired = some ct from hct] at ht
  rw [← hi.chg_left, ← hi.chg_right]
  -- a row of the merge table with an unchanged side answers no conflict
  cases hl : chg (t.w.view p).l (t.w.view p).rl <;> cases hr : chg (t.w.view p).r (t.w.view p).rr <;>
    rw [hl, hr] at ht
  · exact nomatch ht.1
  · obtain ⟨_, e, hn, _⟩ := ht; cases e; rw [hconf] at hn; cases hn
  · obtain ⟨_, e, hn, _⟩ := ht; cases e; rw [hconf] at hn; cases hn
  · exact ⟨rfl, rfl⟩

/-- **idle_sync_noop.** When neither side changed anything since the last sync (which, in
    particular, left no pending conflict copies), the sync performs no action under any
    strategy and any deletion limit: it is not refused, reports no error, and leaves both roots
    and every state row as they were. -/
theorem idle_sync_noop (t : Trace) (hi : Inv t) (hidle : ∀ p, ¬ t.changedL p ∧ ¬ t.changedR p)
    (strat : Strategy) (md stamp : Nat) :
    (sync .repaired strat md stamp t.w).actions = [] ∧
    (sync .repaired strat md stamp t.w).refused = false ∧
    (sync .repaired strat md stamp t.w).errors = [] ∧
    (sync .repaired strat md stamp t.w).world.left = t.w.left ∧
    (sync .repaired strat md stamp t.w).world.right = t.w.right ∧
    ∀ p, (sync .repaired strat md stamp t.w).world.rows p = t.w.rows p := by
  have hsync : ∀ p, Synced (t.w.view p) := by
    intro p
    obtain ⟨h1, h2⟩ := hidle p
    unfold Trace.changedL at h1
    unfold Trace.changedR at h2
    simp only [ne_eq, Decidable.not_not] at h1 h2
    have hrows := hi.rows p
    have hview : t.w.view p = ⟨aget p t.w.left, aget p t.w.right, (t.w.rows p).1, (t.w.rows p).2⟩ := rfl
    rw [hview, hrows, h1, h2]
    cases ha : t.agreed p with
    | none => simp [Synced]
    | some ab => obtain ⟨a, b⟩ := ab; simp [Synced, hi.agree p a b ha]
  exact synced_sync_noop hsync strat md stamp

/-! ### the pinned tree falsifies the invariant, the propagation statement and `only_two_sided_conflict` -/

def f : Path := ['f']

/-- observed run A8 of the table in DESIGN.md: create `f` on the left, sync, delete it on the left, sync. -/
def hA8 (strat : Strategy) : List Event :=
  [.edit .source f (.create 6), .sync strat 0 100, .edit .source f .delete]

/-- observed run A16 of that table: create `f` on the left, sync, edit it on the left only (size change), sync. -/
def hA16 (strat : Strategy) : List Event :=
  [.edit .source f (.create 6), .sync strat 0 100, .edit .source f .modSize]

/-- after the first sync of the shipped code only the copied-TO side has a row, holding the
    mtime of the file copied FROM: `paired_state` is false on the pinned tree. -/
theorem paired_state_counterexample_one_row_per_copy :
    Trace.empty.Init ∧ FreshRun .pinned (hA8 .newer) .empty ∧
    (run .pinned (hA8 .newer) .empty).w.rows f = (none, some ⟨1, 6⟩) ∧
    ¬ Inv (run .pinned (hA8 .newer) .empty) := by
  refine ⟨⟨rfl, rfl, rfl, by decide, ?_⟩, by decide, by decide, ?_⟩
  · intro p g h; simp [Trace.empty, aget] at h
  · intro hi
    have := hi.consistent.1 f
    revert this; decide

/-- Signature `C12/resurrect-after-one-sided-delete`: the left deleted `f`, the right did not
    touch it, and the next sync of the shipped code copies `f` back to the left. -/
theorem one_sided_propagates_counterexample_resurrect_after_one_sided_delete :
    let t := run .pinned (hA8 .newer) .empty
    t.changedL f ∧ ¬ t.changedR f ∧ Fresh t.w 101 ∧ (sync .pinned .newer 0 101 t.w).refused = false ∧
    aget f t.w.left = none ∧
    (aget f (sync .pinned .newer 0 101 t.w).world.left).map File.content = some (1, 6) := by
  refine ⟨by decide, by decide, by decide, by decide, by decide, by decide⟩

/-- Signature `C12/one-sided-edit-reverted-by-strategy`: the left edited `f` (version 3), the
    right did not touch it; under `--conflict-resolve dest` the shipped code classifies this as
    a create/create conflict and overwrites the edit with the old version; version 3 then
    exists nowhere. -/
theorem one_sided_propagates_counterexample_one_sided_edit_reverted_by_strategy :
    let t := run .pinned (hA16 .dest) .empty
    t.changedL f ∧ ¬ t.changedR f ∧ Fresh t.w 101 ∧ (sync .pinned .dest 0 101 t.w).refused = false ∧
    t.w.ctypeAt .pinned f = some .createCreate ∧
    (aget f t.w.left).map File.content = some (3, 7) ∧
    (aget f (sync .pinned .dest 0 101 t.w).world.left).map File.content = some (1, 6) ∧
    (aget f (sync .pinned .dest 0 101 t.w).world.right).map File.content = some (1, 6) := by
  refine ⟨by decide, by decide, by decide, by decide, by decide, by decide, by decide, by decide⟩

/-- the same two histories on the repaired code. -/
example : aget f (run .repaired (hA8 .newer ++ [.sync .newer 0 101]) .empty).w.left = none ∧
    aget f (run .repaired (hA8 .newer ++ [.sync .newer 0 101]) .empty).w.right = none := by decide
example : (aget f (run .repaired (hA16 .dest ++ [.sync .dest 0 101]) .empty).w.right).map File.content = some (3, 7) := by
  decide

/-! ### what counts as "changed": an observation, not a finding

`changedL/changedR` compare the whole file version — content, size AND mtime — with the agreed
one, so a `touch` (one of the edit events of the property's alphabet) is a change of that side.
The code agrees (`is_modified`: mtime strictly newer). Consequence, on the repaired code too:
an edit on the left plus a mere touch on the right is a two-sided change, is classified
`ModifiedBoth`, and `newer` lets the touched (old) content win. The property text does not say
whether a touched side is "changed"; the harness counts these cases under
`observation.touch-only-side-in-conflict` and never reports them. -/

def hTouch : List Event :=
  [.edit .dest f (.create 3), .sync .newer 0 100, .edit .source f .modSize, .edit .dest f .touch]

example : (run .repaired hTouch .empty).changedL f ∧ (run .repaired hTouch .empty).changedR f ∧
    (run .repaired hTouch .empty).w.ctypeAt .repaired f = some .modifiedBoth ∧
    (aget f (sync .repaired .newer 0 104 (run .repaired hTouch .empty).w).world.left).map File.content = some (1, 3) := by
  decide

/-! ### non-vacuity -/

/-- a history that exercises creation on both sides, a conflict, a rename, propagation of the
    conflict copies, a one-sided edit and a one-sided delete. -/
def hEx : List Event :=
  [.edit .source f (.create 3), .edit .dest f (.create 3), .sync .rename 0 100, .sync .newer 0 101,
   .edit .source ['g'] (.create 4), .sync .larger 50 102, .edit .dest ['g'] .modSame, .sync .dest 0 103,
   .edit .source ['g'] .delete]

example : Trace.empty.Init := ⟨rfl, rfl, rfl, by decide, by intro p g h; simp [Trace.empty, aget] at h⟩

/-- what the examples below say of the end of `hEx`, of the whole run's stamps and of its idle prefix, evaluated
    together (the two other examples are evaluated on their own): the conflict names (whose text comes from
    `String` literals in `Side.str` and `conflictPrefix`, dear to decode) and the prefixes of the run are computed
    once instead of once per example. -/
theorem hEx_report : FreshRun .repaired hEx .empty ∧
    ((run .repaired hEx .empty).changedL ['g'] ∧ ¬ (run .repaired hEx .empty).changedR ['g']) ∧
    Fresh (run .repaired hEx .empty).w 104 ∧
    (sync .repaired .newer 50 104 (run .repaired hEx .empty).w).refused = true ∧
    ∀ p ∈ (run .repaired (hEx.take 4) .empty).w.allPaths,
      ¬ (run .repaired (hEx.take 4) .empty).changedL p ∧ ¬ (run .repaired (hEx.take 4) .empty).changedR p := by
  decide

example : FreshRun .repaired hEx .empty := hEx_report.1
/-- at the end of `hEx`: `g` changed on the left only … -/
example : (run .repaired hEx .empty).changedL ['g'] ∧ ¬ (run .repaired hEx .empty).changedR ['g'] := hEx_report.2.1
example : Fresh (run .repaired hEx .empty).w 104 := hEx_report.2.2.1
example : (sync .repaired .newer 0 104 (run .repaired hEx .empty).w).refused = false := by decide
/-- … with the default limit the same sync IS refused (1 deletion out of 1 change > 50 %): the
    hypothesis `refused = false` is a real one. -/
example : (sync .repaired .newer 50 104 (run .repaired hEx .empty).w).refused = true := hEx_report.2.2.2.1
/-- a conflict verdict is reachable (both sides created `f`). -/
example : (run .repaired (hEx.take 2) .empty).w.ctypeAt .repaired f = some .createCreate := by decide
/-- an idle state is reachable with files present. -/
example : ∀ p ∈ (run .repaired (hEx.take 4) .empty).w.allPaths,
    ¬ (run .repaired (hEx.take 4) .empty).changedL p ∧ ¬ (run .repaired (hEx.take 4) .empty).changedR p :=
  hEx_report.2.2.2.2

end SyModel.Props.C12
