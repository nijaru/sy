/-
  GenTempFile — the NAME of the working file of a block-delta update, `working_file_path` (src/temp_file.rs), TRANSLATED on every run
  into `SyModel/Generated/Code/TempFile.lean`.

  C05 ("concurrent transfers never interfere") and C06 rest on this name being an injective function of the destination path that never
  answers the path itself: two planned transfers never share a working file, and a transfer's working file is never another
  transfer's destination unless a file of that very name exists (the recorded residual collision).  Proved here about the
  translated function, for every path text whose last component is a proper file name (not empty, not `..`):

    * `working_file_path_eq`         — the answer is the path text with the suffix appended: exactly the instance definition of
                                        `Lemmas/GenLocalCopyWorld.posix` and the parameter of `GenEngineOrder`;
    * `suffix_is_the_extracted_one`  — that suffix is the constant `extract_consts` reads (`Generated.TEMP_SUFFIX`);
    * `working_file_path_injective`, `working_file_path_ne_self`, `working_file_path_same_dir`, `working_file_path_proper` (the
      working file's name is a proper name again), `working_file_path_not_below` / `_not_above` (never an ancestor or a descendant
      of its destination), `working_file_path_hits_iff` (the residual collision, exactly);
    * `posix_working_file_is_translated` — the instance definition of the LocalCopy world IS the translated function.
  Seeded change C05c (the name is cut to fit NAME_MAX) makes the unit untranslatable; a version of it that translates makes
  `working_file_path_injective` false (two names of 249 bytes sharing 248).
-/
import SyModel.Generated.Code.TempFile
import SyModel.Generated.Consts
import SyModel.Lemmas.PathText
import SyModel.Lemmas.GenLocalCopyWorld
namespace SyModel.Props.GenTempFile
open SyModel.Generated SyModel.Generated.TempFile

def sfx : Rs.Str := ['.', 's', 'y', '.', 't', 'm', 'p']

theorem suffix_is_the_extracted_one : sfx = Generated.TEMP_SUFFIX.toList := by decide

/-- the last component of a path text is a proper file name -/
def ProperName (p : Rs.Path) : Prop := Rs.lastComponent p ≠ [] ∧ Rs.lastComponent p ≠ ['.', '.']

/-- every text either has no `/` or splits at its LAST `/` -/
theorem last_slash (p : Rs.Str) : '/' ∉ p ∨ ∃ a c, p = a ++ '/' :: c ∧ '/' ∉ c := by
  induction p with
  | nil => exact .inl (by simp)
  | cons x p ih =>
    rcases ih with h | ⟨a, c, rfl, hc⟩
    · by_cases hx : x = '/'
      · subst hx; exact .inr ⟨[], p, rfl, h⟩
      · exact .inl (by simp [h]; exact fun e => hx e.symm)
    · exact .inr ⟨x :: a, c, rfl, hc⟩

/-- **the working file of `p` is `p` with the suffix appended** -/
theorem working_file_path_eq (p : Rs.Path) (h : ProperName p) : working_file_path p = p ++ sfx := by
  unfold working_file_path
  simp only [Id.run, Rs.path_file_name, Rs.with_file_name, Rs.unwrap_or_default_str, Rs.opt_map]
  obtain ⟨h1, h2⟩ := h
  rcases last_slash p with hn | ⟨a, c, rfl, hc⟩
  · have hs := SyModel.Lemmas.PathText.splitLastAt_none p hn
    have hl : Rs.lastComponent p = p := by simp [Rs.lastComponent, hs]
    rw [hl] at h1 h2
    simp [hl, hs, h1, h2, sfx, List.isEmpty_iff]
    rfl
  · have hs := SyModel.Lemmas.PathText.splitLastAt_last a c hc
    have hl : Rs.lastComponent (a ++ '/' :: c) = c := by simp [Rs.lastComponent, hs]
    rw [hl] at h1 h2
    simp [hl, hs, h1, h2, sfx, List.isEmpty_iff]
    rfl

/-- two destinations never share a working file -/
theorem working_file_path_injective (p q : Rs.Path) (hp : ProperName p) (hq : ProperName q)
    (h : working_file_path p = working_file_path q) : p = q := by
  rw [working_file_path_eq p hp, working_file_path_eq q hq] at h
  exact List.append_cancel_right h

/-- the working file is never the destination itself -/
theorem working_file_path_ne_self (p : Rs.Path) (hp : ProperName p) : working_file_path p ≠ p := by
  rw [working_file_path_eq p hp]
  intro h
  have := congrArg List.length h
  simp [sfx] at this

/-- the working file lies in the destination's own directory (same text up to the last `/`): a rename within one directory -/
theorem working_file_path_same_dir (a c : Rs.Str) (hc : '/' ∉ c) (h1 : c ≠ []) (h2 : c ≠ ['.', '.']) :
    working_file_path (a ++ '/' :: c) = a ++ '/' :: (c ++ sfx) := by
  have hs := SyModel.Lemmas.PathText.splitLastAt_last a c hc
  have hl : Rs.lastComponent (a ++ '/' :: c) = c := by simp [Rs.lastComponent, hs]
  rw [working_file_path_eq _ ⟨by rw [hl]; exact h1, by rw [hl]; exact h2⟩]
  simp

/-- the working file's own name is a proper file name again (so every theorem above applies to it: a leftover working file that a
    later run meets as a destination entry has a working file of its own, different from it) -/
theorem working_file_path_proper (p : Rs.Path) (hp : ProperName p) : ProperName (working_file_path p) := by
  rw [working_file_path_eq p hp]
  have hl : Rs.lastComponent (p ++ sfx) = Rs.lastComponent p ++ sfx := by
    rcases last_slash p with hn | ⟨a, c, rfl, hc⟩
    · simp [Rs.lastComponent, SyModel.Lemmas.PathText.splitLastAt_none p hn,
        SyModel.Lemmas.PathText.splitLastAt_none (sep := '/') (p ++ sfx) (by simp [sfx, hn])]
    · rw [show (a ++ '/' :: c) ++ sfx = a ++ '/' :: (c ++ sfx) by simp]
      simp [Rs.lastComponent, SyModel.Lemmas.PathText.splitLastAt_last a c hc,
        SyModel.Lemmas.PathText.splitLastAt_last (sep := '/') a (c ++ sfx) (by simp [sfx, hc])]
  unfold ProperName
  rw [hl]
  refine ⟨by simp [sfx], fun h => ?_⟩
  have := congrArg List.length h
  simp [sfx] at this

/-- **the working file is never above or below its destination**: neither text is the other followed by `/…`.  This is the
    structural fact behind the repair d5ee1fe's frame — a working file can occupy the name of a stale DIRECTORY only when that
    directory is a sibling bearing the working-file name, never an ancestor of the file being updated -/
theorem working_file_path_not_below (p : Rs.Path) (hp : ProperName p) (r : Rs.Str) :
    working_file_path p ≠ p ++ '/' :: r := by
  rw [working_file_path_eq p hp]
  intro h
  have := List.append_cancel_left h
  simp [sfx] at this

theorem working_file_path_not_above (p : Rs.Path) (hp : ProperName p) (r : Rs.Str) :
    p ≠ working_file_path p ++ '/' :: r := by
  rw [working_file_path_eq p hp]
  intro h
  have := congrArg List.length h
  simp [sfx] at this

/-- the residual collision, exactly: the working file of `p` is the destination `q` iff `q` bears `p`'s name with the suffix (the
    recorded finding `C05/user-file-named-like-temp`; nothing else collides) -/
theorem working_file_path_hits_iff (p q : Rs.Path) (hp : ProperName p) : working_file_path p = q ↔ q = p ++ sfx := by
  rw [working_file_path_eq p hp]; exact eq_comm

example : ProperName (working_file_path ['d', '/', 'a']) := working_file_path_proper _ ⟨by decide, by decide⟩

/-- **the instance definition of the LocalCopy world is the translated function** (on proper names): what `GenLocalCopy` /
    `GenLocalCopy2` prove about the working file `dst ++ TEMP_SUFFIX` is about the name the code computes -/
theorem posix_working_file_is_translated (cfg : SyModel.LocalCopy.Cfg) (p : Rs.Path) (h : ProperName p) :
    (SyModel.LocalCopy.posix cfg).working_file_path p = working_file_path p := by
  rw [working_file_path_eq p h]
  rfl

/-- non-vacuity, and the two shapes the engine builds: a name below the root, a nested name -/
example : working_file_path ['a', '.', 'b'] = ['a', '.', 'b', '.', 's', 'y', '.', 't', 'm', 'p'] := by decide
example : working_file_path ['d', '/', 'a'] = ['d', '/', 'a', '.', 's', 'y', '.', 't', 'm', 'p'] := by decide
example : ProperName ['d', '/', 'a'] := ⟨by decide, by decide⟩
/-- outside the domain (`..` has no file name): the suffix alone is appended after the last `/` — what `Path::with_file_name` does -/
example : working_file_path ['d', '/', '.', '.'] = ['d', '/', '.', 's', 'y', '.', 't', 'm', 'p'] := by decide

end SyModel.Props.GenTempFile
