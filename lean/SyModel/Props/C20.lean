/-
  C20 — Watch mode eventually propagates every change; it terminates cleanly on SIGINT.

  Property theorems only; the model is `SyModel/Watch/Loop.lean` (src/sync/watch.rs:37-121,
  src/main.rs:489-500), helper lemmas are in `SyModel/Lemmas/Watch*.lean`.  Line numbers here are,
  as in the model file, those of the snapshot `a076c37` of /repo.

  All statements quantify over *every* schedule (`List Input`): arbitrary interleavings of
  source edits / watcher events, passage of time, SIGINTs and moves of the loop thread —
  before, during and after syncs.  "Bounded time" is a bound in loop iterations (`nSteps`: the `step`
  inputs of the schedule; a sync that fails, `fail`, is an extra move that is not counted);
  inotify delivery, wall-clock time and the scheduler are outside the model (DESIGN §6 C20).

  Three defects are kept visible as counterexample theorems — the first in the order of the
  snapshot (`Cfg.pinned`), the other two in the repaired order (`Cfg.sy`), i.e. in the current code:
  * `…_counterexample_pinned`: with the snapshot's order (initial sync, *then* `watcher.watch`) a
    change made while the initial sync runs is lost — repaired in /repo by commit `fbc3639`
    (watcher armed first); all other theorems are about the repaired order, which
    `consts_ok_arm_first` ties to the source on every run.
  * `counterexample_same_size`: an edit that keeps the size and lands within the mtime
    tolerance is invisible to the comparison rule; the loop does sync, the destination never
    changes.  Known finding `C20/same-size-edit-within-tolerance`; the full-strength statement
    `FullConvergence` is refuted, `converges_after_quiescence` (= `…_partial`) is proved under
    the hypothesis `Hcmp`.
  * `never_exits_counterexample_initial_sync_error`: a source entry that vanishes under the
    *initial* sync makes that sync fail and `?` ends the process (status 1).  Known finding
    `C20/watch-exited-early/during-initial-sync` (a race on the real binary, not deterministic);
    `never_exits_partial` covers the complement, `failed_sync_recovers` the same failure inside
    the loop (recovered).
-/
import SyModel.Lemmas.WatchConverge
import SyModel.Lemmas.WatchLimits
import SyModel.Generated.Consts
namespace SyModel.Props.C20
open SyModel SyModel.Watch

/-! ### side conditions on what the Rust source says on this run -/

/-- debounce (main.rs:495), receive timeout (watch.rs:73), select sleep (watch.rs:67) and the
    mtime tolerance (strategy.rs:50) are the model's constants. -/
theorem consts_ok_watch :
    Generated.WATCH_DEBOUNCE_MS = Cfg.sy.debounce ∧
    Generated.WATCH_RECV_TIMEOUT_MS = Cfg.sy.recvTimeout ∧
    Generated.WATCH_SELECT_SLEEP_MS = Cfg.sy.selectSleep ∧
    Generated.MTIME_TOLERANCE_S = Cfg.sy.tolerance := by decide

/-- the code arms the watcher before it starts the initial sync (the order the theorems assume) -/
theorem consts_ok_arm_first : Generated.WATCH_ARM_FIRST = Cfg.sy.armFirst := by decide

/-- `should_sync_event` keeps exactly the kinds the model keeps (watch.rs:116) -/
theorem consts_ok_kept (k : Kind) : k.kept = true ↔ k.rust ∈ Generated.WATCH_KEPT_KINDS := by
  cases k <;> simp [Kind.kept, Kind.rust, Generated.WATCH_KEPT_KINDS]

/-- a receive timeout takes time (needed by the iteration bound) -/
theorem consts_ok_recv_pos : 0 < Cfg.sy.recvTimeout := by decide

/-! ### no event is lost -/

/-- An event delivered while the watcher is armed is appended to the channel. -/
theorem event_enqueued (c : Cfg) (s : State) (k : Kind) (e : Option Ver) (ha : s.armed = true) :
    (apply c s (.event k e)).queue = s.queue ++ [k] := by
  rw [apply_event, if_pos ha]

/-- **Eventually in `pending`.**  From the top of the loop, as long as no SIGINT arrives (`NoSigint`;
    a `fail` input, which there would act as an uncounted `step`, is excluded with it), the
    first `queue.length` iterations receive exactly the queued events — every relevant one
    lands in `pending`, in order — whatever else is delivered or however much time passes
    meanwhile; no sync starts (and nothing is cleared) before they are all received. -/
theorem no_event_lost_eventually (c : Cfg) (s : State) (hp : s.phase = .loop) (hsig : s.sig = false)
    (is : List Input) (hns : NoSigint is) (hn : nSteps is = s.queue.length) :
    (run c s is).pending = s.pending ++ s.queue.filter Kind.kept ∧ (run c s is).syncs = s.syncs := by
  exact receive_prefix c is s s.queue [] hns hp hsig (List.append_nil _).symm hn

/-- **…or queued before a later sync started.**  In every reachable state of the repaired
    order, for every schedule whatsoever: if the source differs from the snapshot of the most
    recently started sync, then a relevant event is still in the channel, or `pending` is
    non-empty at the top of the loop (so it can only be cleared by a sync that *starts* later and
    therefore works from a snapshot at least as new) — unless the initial sync is still ahead
    or the process has exited.  `pending.clear()` never drops the only trace of a change — not
    even after a sync that failed because the source changed under it (`admissible`: source changes
    come with a kept event, syncs fail only when the source changed during them). -/
theorem no_event_lost (c : Cfg) (hfix : c.armFirst = true) (v0 d0 : Ver) (is : List Input)
    (hf : admissible c (init v0 d0) is = true) :
    (run c (init v0 d0) is).phase = .done ∨ Covered (run c (init v0 d0) is) := by
  rcases invD_run c hfix is (init v0 d0) hf (Or.inr (inv_init c v0 d0)) with h | h
  · exact Or.inl h
  · exact Or.inr h.covered

/-- `pending` only ever grows by received events; it is emptied exactly by the completion of a
    sync (`pending_changes.clear()`, watch.rs:98) and by its creation when the loop is entered. -/
theorem pending_cleared_only_by_sync_end (c : Cfg) (s : State) (i : Input) :
    (apply c s i).pending = s.pending ∨ (∃ k, k.kept = true ∧ (apply c s i).pending = s.pending ++ [k]) ∨
      ((i = .step ∨ i = .fail) ∧ (s.phase = .sync ∨ s.phase = .postInit) ∧ (apply c s i).pending = []) := by
  cases i with
  | step => exact (step_pending c s).imp_right (Or.imp_right fun h => ⟨Or.inl rfl, h⟩)
  | fail => exact (failMove_pending c s).imp_right (Or.imp_right fun h => ⟨Or.inr rfl, h⟩)
  | event k e => left; rw [apply_event]
  | tick δ => exact Or.inl rfl
  | sigint => exact Or.inl (signal_cases s (P := fun s' => s'.pending = s.pending) (fun _ => rfl) (fun _ _ => rfl) (fun _ _ => rfl))

/-! ### a sync starts within a bounded number of iterations -/

/-- With `q` events queued and quiescence from now on (only time passes), a sync starts within
    `q + ⌈debounce / recv-timeout⌉ + 1` loop iterations: all queued events are received first
    (the channel is empty and `pending` holds every relevant one), and the sync works from the
    current source.  `hls` is the clause `time` of `Inv` (true in every reachable state); without it
    `now − lastSync` truncates. -/
theorem sync_after_quiescence (c : Cfg) (hr : 0 < c.recvTimeout) (s : State)
    (hp : s.phase = .loop) (hsig : s.sig = false) (hls : s.lastSync ≤ s.now)
    (hwork : s.pending ≠ [] ∨ ∃ k ∈ s.queue, k.kept = true)
    (is : List Input) (hq : Quiescent is)
    (hn : s.queue.length + ceilDiv c.debounce c.recvTimeout + 1 ≤ nSteps is) :
    ∃ pre post, is = pre ++ post ∧
      nSteps pre ≤ s.queue.length + ceilDiv c.debounce c.recvTimeout + 1 ∧
      (run c s pre).phase = .sync ∧ (run c s pre).queue = [] ∧ (run c s pre).snap = s.src ∧
      (run c s pre).pending = s.pending ++ s.queue.filter Kind.kept ∧
      (run c s pre).syncs = s.syncs + 1 := by
  have hmul := ceilDiv_mul_ge c.debounce c.recvTimeout hr
  obtain ⟨pre, post, now', h1, h2, h3⟩ :=
    reach_sync c is s (ceilDiv c.debounce c.recvTimeout) hq hp hsig (work_outstanding hwork)
      (by rw [Nat.succ_mul]; omega) hn
  refine ⟨pre, post, h1, h2, ?_⟩
  rw [h3]
  exact ⟨rfl, rfl, rfl, rfl, rfl⟩

/-- …with sy's constants: at most `q + 6` iterations (500 ms / 100 ms). -/
theorem sync_after_quiescence_sy (s : State)
    (hp : s.phase = .loop) (hsig : s.sig = false) (hls : s.lastSync ≤ s.now)
    (hwork : s.pending ≠ [] ∨ ∃ k ∈ s.queue, k.kept = true)
    (is : List Input) (hq : Quiescent is) (hn : s.queue.length + 6 ≤ nSteps is) :
    ∃ pre post, is = pre ++ post ∧ nSteps pre ≤ s.queue.length + 6 ∧
      (run Cfg.sy s pre).phase = .sync ∧ (run Cfg.sy s pre).queue = [] ∧
      (run Cfg.sy s pre).snap = s.src :=
  have hc : ceilDiv Cfg.sy.debounce Cfg.sy.recvTimeout = 5 := by decide
  have ⟨pre, post, h1, h2, h3, h4, h5, _, _⟩ :=
    sync_after_quiescence Cfg.sy consts_ok_recv_pos s hp hsig hls hwork is hq (by rw [hc]; exact hn)
  ⟨pre, post, h1, by rw [hc] at h2; exact h2, h3, h4, h5⟩

/-! ### convergence -/

/-- **Convergence after quiescence** (the `_partial` theorem: everything except edits the
    comparison rule cannot see).  In any state satisfying the invariant of the repaired order —
    at any program point: before / during the initial sync, at the top of the loop, during a
    sync — with no SIGINT pending: if the last edit is visible to the comparison rule (`hcmp`),
    then after `queue.length + ⌈debounce / recv-timeout⌉ + 6` loop iterations of quiescence the
    destination equals the source, and stays so. -/
theorem converges_after_quiescence (c : Cfg) (hfix : c.armFirst = true) (hr : 0 < c.recvTimeout)
    (s : State) (hinv : Inv c s) (hnd : s.phase ≠ .done) (hsig : s.sig = false)
    (hcmp : Hcmp c s) (is : List Input) (hq : Quiescent is) (hn : convergeBound c s ≤ nSteps is) :
    (run c s is).dst = s.src ∧ (run c s is).src = s.src := by
  have h := settles_after_quiescence c hfix hr s hinv hnd hsig is hq hn
  rwa [target_of_hcmp hcmp] at h

/-- `converges_after_quiescence` once more, under the name the known-findings convention gives the
    proved complement of a finding (`<property>_partial`, DESIGN §7): the finding
    `C20/same-size-edit-within-tolerance` and the evidence for C20 refer to it by this name -/
theorem converges_after_quiescence_partial (c : Cfg) (hfix : c.armFirst = true) (hr : 0 < c.recvTimeout)
    (s : State) (hinv : Inv c s) (hnd : s.phase ≠ .done) (hsig : s.sig = false)
    (hcmp : Hcmp c s) (is : List Input) (hq : Quiescent is) (hn : convergeBound c s ≤ nSteps is) :
    (run c s is).dst = s.src ∧ (run c s is).src = s.src :=
  converges_after_quiescence c hfix hr s hinv hnd hsig hcmp is hq hn

/-- The same for every state reachable from the start of `watch()` under any schedule whose
    source changes come with a kept event (the `notify` assumption) and whose syncs fail only when
    the source changed under them (`admissible`): changes made before, during or after a running
    sync — including the initial one, including syncs that failed over them — are all propagated. -/
theorem converges_after_quiescence_reachable (c : Cfg) (hfix : c.armFirst = true)
    (hr : 0 < c.recvTimeout) (v0 d0 : Ver) (hist : List Input) (hf : admissible c (init v0 d0) hist = true)
    (hnd : (run c (init v0 d0) hist).phase ≠ .done) (hsig : (run c (init v0 d0) hist).sig = false)
    (hcmp : Hcmp c (run c (init v0 d0) hist)) (is : List Input) (hq : Quiescent is)
    (hn : convergeBound c (run c (init v0 d0) hist) ≤ nSteps is) :
    (run c (init v0 d0) (hist ++ is)).dst = (run c (init v0 d0) hist).src := by
  rw [run_append]
  rcases invD_run c hfix hist (init v0 d0) hf (Or.inr (inv_init c v0 d0)) with h | h
  · exact absurd h hnd
  · exact (converges_after_quiescence c hfix hr _ h hnd hsig hcmp is hq hn).1

/-- The full-strength statement: convergence without the visibility hypothesis. -/
def FullConvergence (c : Cfg) : Prop :=
  ∀ (v0 d0 : Ver) (hist : List Input), admissible c (init v0 d0) hist = true →
    (run c (init v0 d0) hist).phase ≠ .done → (run c (init v0 d0) hist).sig = false →
    ∃ n, ∀ is, Quiescent is → n ≤ nSteps is →
      (run c (init v0 d0) (hist ++ is)).dst = (run c (init v0 d0) hist).src

/-! ### SIGINT -/

/-- **SIGINT ends the loop at the next iteration boundary.**  In every reachable state, after
    a SIGINT the process is gone after at most two further moves of the loop thread (the
    completion of a running sync, then the `select!`), whatever else happens meanwhile —
    immediately if tokio's handler is not installed yet. -/
theorem sigint_exits (c : Cfg) (v0 d0 : Ver) (hist is : List Input) (hn : 2 ≤ nSteps is) :
    (run c (init v0 d0) (hist ++ .sigint :: is)).phase = .done := by
  rw [run_append, run_cons]
  exact signal_exits c _ (handlerOK_run c hist (init v0 d0) nofun) is hn

/-- A SIGINT caught by the loop leads to the clean exit path (`break`, `Ok(())`, status 0). -/
theorem sigint_exits_clean (c : Cfg) (s : State) (hp : s.phase = .loop) (hsig : s.sig = true) :
    (step c s).1.phase = .done ∧ (step c s).1.exit = some .sigint ∧ (step c s).2 = .exitSigint := by
  simp [step, hp, hsig]

/-! ### the recorded defects: (a) in the snapshot's order `Cfg.pinned`, (b) in the current code `Cfg.sy`; (c), also in the
    current code, follows in the next section -/

def v0 : Ver := { id := 0, size := 10, mtime := 100000000000 }
/-- empty destination -/
def d0 : Ver := { id := 99, size := 0, mtime := 0 }
/-- a change the comparison rule sees (new size) -/
def v1 : Ver := { id := 1, size := 20, mtime := 105000000000 }
/-- same size, mtime 1 s later: inside the tolerance (`as_secs() = 1 ≤ 1`) -/
def v1same : Ver := { id := 2, size := 10, mtime := 101000000000 }

/-- pinned order: the initial sync starts, a file changes, the sync ends, the watcher is armed,
    the loop is entered -/
def pinnedHistory : List Input :=
  [.step, .event .create (some v1), .step, .step, .step]

/-- the state the pinned order is in after `pinnedHistory` -/
def pinnedAfter : State :=
  { phase := .loop, pending := [], lastSync := 0, queue := [], now := 0, src := v1, dst := v0,
    snap := v0, armed := true, handler := true, sig := false, exit := none, syncs := 1, ok := true }

theorem pinnedAfter_eq : run Cfg.pinned (init v0 d0) pinnedHistory = pinnedAfter := by decide

/-- **Defect (a), pinned order.**  The change made during the initial sync is visible to the
    comparison rule (`Hcmp` holds) and yet it is never propagated: no event was queued, the
    loop idles forever.  `no_event_lost` fails (`¬ Covered`). -/
theorem no_event_lost_counterexample_pinned :
    admissible Cfg.pinned (init v0 d0) pinnedHistory = true ∧
    ¬ Covered (run Cfg.pinned (init v0 d0) pinnedHistory) ∧
    (run Cfg.pinned (init v0 d0) pinnedHistory).phase = .loop := by
  refine ⟨by decide, ?_, by decide⟩
  rw [pinnedAfter_eq]
  simp [Covered, pinnedAfter, v0, v1]

/-- …and no amount of quiescence helps: the destination stays what it was, however long the loop runs. -/
theorem converges_after_quiescence_counterexample_pinned :
    Hcmp Cfg.pinned (run Cfg.pinned (init v0 d0) pinnedHistory) ∧
    ∀ is, Quiescent is →
      (run Cfg.pinned (init v0 d0) (pinnedHistory ++ is)).dst = v0 ∧
      (run Cfg.pinned (init v0 d0) (pinnedHistory ++ is)).src = v1 := by
  refine ⟨by rw [pinnedAfter_eq]; decide, fun is hq => ?_⟩
  rw [run_append, pinnedAfter_eq]
  obtain ⟨δ, h⟩ := idle_run Cfg.pinned is hq pinnedAfter rfl rfl rfl rfl
  rw [h]
  exact ⟨rfl, rfl⟩

/-- the same history in the repaired order: arm, start the initial sync, the file changes, … -/
def fixedHistory : List Input :=
  [.step, .step, .event .create (some v1), .step, .step]

/-- In the repaired order the change made during the initial sync is propagated (`fixedHistory`
    is `pinnedHistory` with the arming first; instance of `converges_after_quiescence_reachable`). -/
theorem pinned_history_repaired (is : List Input) (hq : Quiescent is) (hn : 12 ≤ nSteps is) :
    (run Cfg.sy (init v0 d0) (fixedHistory ++ is)).dst = v1 := by
  have h := converges_after_quiescence_reachable Cfg.sy rfl (by decide) v0 d0 fixedHistory
    (by decide) (by decide) (by decide) (by decide) is hq (Nat.le_trans (by decide) hn)
  rw [h]; decide

/-- the loop is running and in sync; then a same-size edit within the tolerance -/
def sameSizeHistory : List Input :=
  [.step, .step, .step, .step, .event .modify (some v1same)]

/-- the state after `sameSizeHistory` -/
def sameSizeAfter : State :=
  { phase := .loop, pending := [], lastSync := 0, queue := [.modify], now := 0, src := v1same,
    dst := v0, snap := v0, armed := true, handler := true, sig := false, exit := none, syncs := 1,
    ok := true }

theorem sameSizeAfter_eq : run Cfg.sy (init v0 d0) sameSizeHistory = sameSizeAfter := by decide

/-- **Defect (b), known finding `C20/same-size-edit-within-tolerance`.**  In the repaired
    order: the event is kept, a sync does start (`syncs` grows), and the destination still
    never becomes equal to the source — the comparison rule skips the entry. -/
theorem counterexample_same_size :
    needsUpdate Cfg.sy v1same v0 = false ∧
    (∀ is, Quiescent is →
      (run Cfg.sy (init v0 d0) (sameSizeHistory ++ is)).dst = v0 ∧
      (run Cfg.sy (init v0 d0) (sameSizeHistory ++ is)).src = v1same) ∧
    (∀ is, Quiescent is → 7 ≤ nSteps is →
      2 ≤ (run Cfg.sy (init v0 d0) (sameSizeHistory ++ is)).syncs) := by
  refine ⟨by decide, fun is hq => ?_, fun is hq hn => ?_⟩
  · rw [run_append, sameSizeAfter_eq]
    exact fixed_run Cfg.sy v1same v0 (by decide) is hq sameSizeAfter ⟨rfl, rfl, rfl, Or.inl rfl⟩
  · rw [run_append, sameSizeAfter_eq]
    have hc : ceilDiv Cfg.sy.debounce Cfg.sy.recvTimeout = 5 := by decide
    obtain ⟨pre, post, h1, _, _, _, _, _, h7⟩ :=
      sync_after_quiescence Cfg.sy consts_ok_recv_pos sameSizeAfter rfl rfl (Nat.le_refl _)
        (Or.inr ⟨.modify, by decide, rfl⟩) is hq (by rw [hc]; exact hn)
    subst h1
    rw [run_append]
    have := syncs_mono Cfg.sy post (run Cfg.sy sameSizeAfter pre)
    rw [h7] at this
    exact this

/-- hence the full-strength statement is false on the current (repaired) code -/
theorem converges_after_quiescence_counterexample_same_size : ¬ FullConvergence Cfg.sy := by
  intro hfull
  obtain ⟨n, hn⟩ := hfull v0 d0 sameSizeHistory (by decide) (by decide) (by decide)
  have hq := quiescent_replicate n
  have hs := nSteps_replicate n
  have h1 := hn _ hq (by omega)
  have h2 := (counterexample_same_size.2.1 _ hq).1
  rw [h2] at h1
  revert h1; decide

/-! ### syncs that fail because the source changed under them -/

def v2 : Ver := { id := 3, size := 30, mtime := 108000000000 }

/-- the loop is running; a change is received and, the debounce having elapsed, a sync starts;
    the source changes again under that sync (a file vanishes) and the sync fails -/
def failedSyncHistory : List Input :=
  [.step, .step, .step, .step, .event .create (some v1), .step, .tick 400, .step,
   .event .remove (some v2), .fail]

/-- **A failed sync inside the loop is recovered.**  `pending` was cleared after the failure
    (watch.rs:98), but the event of the change that made the sync fail is still queued, so a
    further sync follows and the destination converges (instance of
    `converges_after_quiescence_reachable`; the H4 traces show the same on the real binary). -/
theorem failed_sync_recovers (is : List Input) (hq : Quiescent is) (hn : 12 ≤ nSteps is) :
    (run Cfg.sy (init v0 d0) failedSyncHistory).ok = false ∧
    (run Cfg.sy (init v0 d0) failedSyncHistory).pending = [] ∧
    (run Cfg.sy (init v0 d0) (failedSyncHistory ++ is)).dst = v2 := by
  refine ⟨by decide, by decide, ?_⟩
  have h := converges_after_quiescence_reachable Cfg.sy rfl (by decide) v0 d0 failedSyncHistory
    (by decide) (by decide) (by decide) (by decide) is hq (Nat.le_trans (by decide) hn)
  rw [h]; decide

/-- the initial sync is running, a source entry vanishes under it, the sync fails -/
def initialErrorHistory : List Input :=
  [.step, .step, .event .remove (some v1), .fail]

/-- "unless it is told to stop, `sy --watch` keeps running" -/
def NeverExitsByItself (c : Cfg) : Prop :=
  ∀ (v0 d0 : Ver) (hist : List Input), admissible c (init v0 d0) hist = true →
    (∀ i ∈ hist, i ≠ .sigint) → (run c (init v0 d0) hist).phase ≠ .done

/-- **Defect (c), finding `C20/watch-exited-early/during-initial-sync`.**  When the source changes
    under the *initial* sync and that sync fails, the error is propagated with `?` (watch.rs:40):
    `watch()` returns, the process exits with status 1 although nobody asked it to stop, and the
    change is never propagated.  (The same failure of a later sync is only printed.) -/
theorem never_exits_counterexample_initial_sync_error :
    admissible Cfg.sy (init v0 d0) initialErrorHistory = true ∧
    (run Cfg.sy (init v0 d0) initialErrorHistory).exit = some .error ∧
    (∀ is, (run Cfg.sy (init v0 d0) (initialErrorHistory ++ is)).dst = d0 ∧
           (run Cfg.sy (init v0 d0) (initialErrorHistory ++ is)).phase = .done) ∧
    ¬ NeverExitsByItself Cfg.sy := by
  refine ⟨by decide, by decide, fun is => ?_, fun h => ?_⟩
  · rw [run_append]
    have hd : (run Cfg.sy (init v0 d0) initialErrorHistory).phase = .done := by decide
    obtain ⟨h1, h2, _⟩ := run_done Cfg.sy is _ hd
    refine ⟨?_, h1⟩
    rw [h2]; decide
  · exact h v0 d0 initialErrorHistory (by decide) (by decide) (by decide)

/-- The complement: as long as no sync fails, only a SIGINT ends `watch()` — for every schedule. -/
theorem never_exits_partial (c : Cfg) (v0 d0 : Ver) (hist : List Input)
    (h : ∀ i ∈ hist, i ≠ .sigint ∧ i ≠ .fail) : (run c (init v0 d0) hist).phase ≠ .done :=
  (no_exit_run c hist h (init v0 d0) rfl nofun).1

/-! ### non-vacuity: every hypothesis is satisfiable on non-trivial states -/

/-- a running loop with two queued events (one relevant), a non-empty `pending`, 300 ms after the
    last sync, the source already ahead of the destination -/
def sEx : State :=
  { phase := .loop, pending := [.modify], lastSync := 1000, queue := [.access, .create], now := 1300,
    src := v1, dst := v0, snap := v0, armed := true, handler := true, sig := false, exit := none,
    syncs := 1, ok := true }

example : Inv Cfg.sy sEx :=
  ⟨Or.inr (Or.inr (Or.inl ⟨.create, by decide, rfl⟩)), fun _ => rfl, fun _ _ => Or.inl rfl,
   by decide, fun h => by rcases h with h | h | h <;> cases h⟩
example : Hcmp Cfg.sy sEx := ⟨by decide, fun h => by rcases h with h | h <;> cases h⟩
example : sEx.pending ≠ [] ∨ ∃ k ∈ sEx.queue, k.kept = true := Or.inl (by decide)
example : sEx.lastSync ≤ sEx.now := by decide
example : Quiescent [.step, .tick 40, .step, .step, .step, .tick 7, .step] := by decide
example : NoSigint [.step, .event .modify (some v1), .tick 3, .step] := by decide
example : admissible Cfg.sy (init v0 d0) fixedHistory = true := by decide
example : Cfg.sy.armFirst = true := rfl
example : admissible Cfg.sy (init v0 d0) failedSyncHistory = true := by decide
example : ∀ i ∈ fixedHistory, i ≠ Input.sigint ∧ i ≠ Input.fail := by decide
/-- the conclusion of `converges_after_quiescence` on `sEx`, computed by the model: after
    `convergeBound = 13` iterations the destination is the source -/
example : convergeBound Cfg.sy sEx = 13 ∧
    (run Cfg.sy sEx (List.replicate 13 .step)).dst = v1 := by decide
/-- reachable states satisfy `Inv` (so the hypothesis of `converges_after_quiescence` is met by
    every run, not only by hand-made states) -/
example : Inv Cfg.sy (run Cfg.sy (init v0 d0) fixedHistory) := by
  rcases invD_run Cfg.sy rfl fixedHistory (init v0 d0) (by decide) (Or.inr (inv_init _ _ _)) with h | h
  · exact absurd h (by decide)
  · exact h
/-- `sigint_exits` on a concrete history: SIGINT at the top of the loop (the first further move already exits) -/
example : (run Cfg.sy (init v0 d0) (fixedHistory ++ .sigint :: [.step, .tick 5, .step])).exit = some .sigint := by
  decide
/-- SIGINT before the handler is installed kills the process -/
example : (run Cfg.sy (init v0 d0) [.step, .step, .sigint]).exit = some .killed := by decide

end SyModel.Props.C20
