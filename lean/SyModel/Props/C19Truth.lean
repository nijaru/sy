/-
  C19 — The machine-readable report is truthful (second part: events vs. the destination diff).
  Property theorems only.  Everything here holds under every fault plan: a failed or faulted
  task produces an error record, never an action event.
-/
import SyModel.Lemmas.EngineEvents
import SyModel.Lemmas.EngineFilter
namespace SyModel.Props.C19Truth
open SyModel SyModel.Engine

/-- **Events are truthful** (real, i.e. non-dry, runs).
    * a `create` event for `p`: `p` did not exist before and exists afterwards;
    * an `update` event for `p`: `p` existed before and exists afterwards;
    * a `delete` event for `p`: `p` existed before and does not exist afterwards;
    * a `skip` event for `p`: the node at `p` is what it was (`Unchanged`: the one exception is an
      absent path that became a directory because a selected entry lives below it — impossible
      for a parent-closed scan, see `skip_event_unchanged`).
    The proof makes no use of `hk`: a key that the destination lists twice is deleted by two equal tasks, which a fault plan
    hits or spares together (`delete_ok_absent`). -/
theorem events_truthful (cfg : Cfg) (hnd : cfg.dryRun = false) (flt : Faults) (scan : List SEntry)
    (dst : Map DNode) (n : Nat) (hu : UniqueRels scan) (hnr : NoRoot scan) (hk : dst.keys.Nodup)
    (hdel : cfg.delete = true → ParentClosed scan ∧ dst.get? [] = none)
    (hino : cfg.hardlinks = true → InoConsistent scan) (p : Path) :
    ((Act.create, p) ∈ (runF cfg flt scan dst n).events →
      dst.get? p = none ∧ (runF cfg flt scan dst n).dst.get? p ≠ none) ∧
    ((Act.update, p) ∈ (runF cfg flt scan dst n).events →
      dst.get? p ≠ none ∧ (runF cfg flt scan dst n).dst.get? p ≠ none) ∧
    ((Act.delete, p) ∈ (runF cfg flt scan dst n).events →
      dst.get? p ≠ none ∧ (runF cfg flt scan dst n).dst.get? p = none) ∧
    ((Act.skip, p) ∈ (runF cfg flt scan dst n).events →
      ∃ e ∈ scanFilter cfg scan, e.rel = p ∧ Unchanged cfg scan dst e ((runF cfg flt scan dst n).dst.get? p)) := by
  -- create and update share the argument
  have cu : ∀ a, (a = .create ∨ a = .update) → (a, p) ∈ (runF cfg flt scan dst n).events →
      ∃ e ∈ scanFilter cfg scan, e.rel = p ∧ (planEntry cfg dst e).act = a ∧
        (runF cfg flt scan dst n).dst.get? p ≠ none ∧
        (e.kind = .dir → dst.get? p = none ∨ dst.get? p = some .dir ∨ ∃ s, dst.get? p = some (.symlink s)) := by
    intro a ha hev
    obtain ⟨hr, t, ht, hok, hact, hrel⟩ := event_task hev
    have hnd' : t.act ≠ .delete := by rw [hact]; rcases ha with h | h <;> rw [h] <;> simp
    have hns : t.act ≠ .skip := by rw [hact]; rcases ha with h | h <;> rw [h] <;> simp
    obtain ⟨e, he, rfl⟩ := entry_of_task ht hnd'
    rw [planEntry_rel] at hrel
    have tp := run_task_post hnd flt scan dst n hu hdel hino hok
    have hne : (planEntry cfg dst e).rel ≠ [] := by rw [planEntry_rel]; exact hnr e (mem_of_mem_scanFilter he)
    refine ⟨e, he, hrel, hact, ?_, fun hkd => ?_⟩
    · rw [(runF_of_not_refused hr).dst, ← hrel]
      exact taskPost_present tp hns (planEntry_payload_of_cu hns) hne
    · have := tp.dir_pre hns (planEntry_payload_dir hkd) hne
      rw [planEntry_rel, hrel] at this
      rcases this with h | h | ⟨_, h⟩
      · exact Or.inl h
      · exact Or.inr (Or.inl h)
      · exact Or.inr (Or.inr h)
  refine ⟨fun hev => ?_, fun hev => ?_, fun hev => ?_, fun hev => ?_⟩
  · obtain ⟨e, _, hrel, hact, hres, hdir⟩ := cu .create (Or.inl rfl) hev
    refine ⟨?_, hres⟩
    by_cases hkd : e.kind = .dir
    · -- a directory already there is planned as `skip`, a link there as `update` — not `create`
      rcases planEntry_dir_act (cfg := cfg) (dst := dst) hkd with ⟨_, h'⟩ | ⟨_, h'⟩ | ⟨hnd', hnl', _⟩
      · rw [h'] at hact; cases hact
      · rw [h'] at hact; cases hact
      · rcases hdir hkd with h | h | ⟨s, h⟩
        · exact h
        · exact absurd (hrel ▸ h) hnd'
        · exact absurd (hrel ▸ h) (hnl' s)
    · exact hrel ▸ planEntry_create_none hkd hact
  · obtain ⟨e, _, hrel, hact, hres, _⟩ := cu .update (Or.inr rfl) hev
    exact ⟨hrel ▸ planEntry_update_some hact, hres⟩
  · obtain ⟨hr, t, ht, hok, hact, hrel⟩ := event_task hev
    obtain ⟨_, htd⟩ := deletion_of_task ht hact
    obtain ⟨q, rfl, hq, _⟩ := mem_planDeletions.1 htd
    simp only at hrel; subst hrel
    refine ⟨(Map.mem_keys_iff dst q).1 hq, ?_⟩
    rw [(runF_of_not_refused hr).dst]
    exact delete_ok_absent hnd rfl hok
  · obtain ⟨hr, t, ht, hok, hact, hrel⟩ := event_task hev
    obtain ⟨e, he, rfl⟩ := entry_of_task ht (by rw [hact]; simp)
    rw [planEntry_rel] at hrel
    refine ⟨e, he, hrel, ?_⟩
    have tp := run_task_post hnd flt scan dst n hu hdel hino hok
    rw [(runF_of_not_refused hr).dst, ← hrel]
    exact unchanged_of_taskPost tp (Or.inl hact)

/-- With a parent-closed scan a `skip` event means exactly "unchanged" — for every kind of entry. -/
theorem skip_event_unchanged (cfg : Cfg) (hnd : cfg.dryRun = false) (flt : Faults) (scan : List SEntry)
    (dst : Map DNode) (n : Nat) (hu : UniqueRels scan) (hnr : NoRoot scan) (hk : dst.keys.Nodup)
    (hc : ParentClosed scan) (hroot : cfg.delete = true → dst.get? [] = none)
    (hino : cfg.hardlinks = true → InoConsistent scan) (p : Path)
    (hev : (Act.skip, p) ∈ (runF cfg flt scan dst n).events) :
    (runF cfg flt scan dst n).dst.get? p = dst.get? p := by
  obtain ⟨e, he, hrel, hun⟩ :=
    (events_truthful cfg hnd flt scan dst n hu hnr hk (fun h => ⟨hc, hroot h⟩) hino p).2.2.2 hev
  subst hrel
  by_cases hkd : e.kind = .dir
  · -- a directory is skipped only when something exists at its path
    rcases hun with h | ⟨hnone, _⟩
    · exact h
    · -- absent before: then the plan was `create`, whose event is not `skip`
      have hcr : (planEntry cfg dst e).act = .create := by
        rw [planEntry_dir hkd, hnone]
      have := (event_entry hu he (by simp) hev).2.1
      rw [hcr] at this; cases this
  · exact hun.eq hu hc (mem_of_mem_scanFilter he) hkd

/-- **Every change is reported.**  If the node at `p` differs before and after the run then the
    report contains — as an action event or as an error record — a delete at or above `p`, or a
    create/update at or below `p` (a parent directory made on the way to a created entry). -/
theorem changes_reported (cfg : Cfg) (flt : Faults) (scan : List SEntry) (dst : Map DNode) (n : Nat) (p : Path)
    (hch : (runF cfg flt scan dst n).dst.get? p ≠ dst.get? p) :
    ∃ a q, ((a, q) ∈ (runF cfg flt scan dst n).events ∨ (a, q) ∈ (runF cfg flt scan dst n).errors) ∧
      ((a = .delete ∧ isPrefix q p = true) ∨ (a ≠ .delete ∧ a ≠ .skip ∧ isPrefix p q = true)) := by
  cases hr : (runF cfg flt scan dst n).refused with
  | true => rw [runF_of_refused hr] at hch; exact absurd rfl hch
  | false =>
    have rep := runF_of_not_refused hr
    rw [rep.dst] at hch
    obtain ⟨t, ht, hcov⟩ := changed_covered cfg flt _ _ p hch
    refine ⟨t.act, t.rel, ?_, hcov⟩
    rw [rep.events, rep.errors, List.mem_reverse, List.mem_reverse]
    exact task_accounted _ _ ht

/-- … so in a run without errors every change has an action event. -/
theorem changes_have_events (cfg : Cfg) (flt : Faults) (scan : List SEntry) (dst : Map DNode) (n : Nat) (p : Path)
    (hne : (runF cfg flt scan dst n).errors = [])
    (hch : (runF cfg flt scan dst n).dst.get? p ≠ dst.get? p) :
    ∃ a q, (a, q) ∈ (runF cfg flt scan dst n).events ∧
      ((a = .delete ∧ isPrefix q p = true) ∨ (a ≠ .delete ∧ a ≠ .skip ∧ isPrefix p q = true)) := by
  obtain ⟨a, q, h | h, hc⟩ := changes_reported cfg flt scan dst n p hch
  · exact ⟨a, q, h, hc⟩
  · rw [hne] at h; cases h

/-- **… path for path.**  When the scan lists parents before children (what the walker
    guarantees) and nothing failed, every changed path has an action event for *that very path*,
    or vanished with a stale directory whose deletion is reported: no destination change is
    implicit. -/
theorem changes_have_own_events (cfg : Cfg) (flt : Faults) (scan : List SEntry) (dst : Map DNode) (n : Nat)
    (hu : UniqueRels scan) (hpf : ParentsFirst scan) (p : Path) (hp0 : p ≠ [])
    (hne : (runF cfg flt scan dst n).errors = [])
    (hch : (runF cfg flt scan dst n).dst.get? p ≠ dst.get? p) :
    (∃ a, (a, p) ∈ (runF cfg flt scan dst n).events) ∨
    (∃ q, (Act.delete, q) ∈ (runF cfg flt scan dst n).events ∧ isPrefix q p = true ∧ q ≠ p) := by
  obtain ⟨a, q, hev, hc⟩ := changes_have_events cfg flt scan dst n p hne hch
  rcases hc with ⟨ha, hq⟩ | ⟨hnd, _, hq⟩
  · by_cases hqp : q = p
    · exact Or.inl ⟨a, hqp ▸ hev⟩
    · exact Or.inr ⟨q, ha ▸ hev, hq, hqp⟩
  · by_cases hqp : p = q
    · exact Or.inl ⟨a, hqp ▸ hev⟩
    · left
      obtain ⟨hr, t, ht, _, hact, hrel⟩ := event_task hev
      obtain ⟨e, he, rfl⟩ := entry_of_task ht (by rw [hact]; exact hnd)
      rw [planEntry_rel] at hrel
      obtain ⟨d, hd, hdr, _⟩ := selected_ancestors_selected hu hpf he
        (mem_ancestors.2 ⟨hp0, hrel ▸ hq, hrel ▸ hqp⟩)
      have rep := runF_of_not_refused hr
      have hacc := task_accounted (cfg := cfg) (flt := flt) (plan cfg scan dst) (initExec dst n)
        (planEntry_mem_plan (dst := dst) hd)
      rw [planEntry_rel, hdr] at hacc
      rcases hacc with h | h
      · exact ⟨_, by rw [rep.events, List.mem_reverse]; exact h⟩
      · exfalso
        rw [rep.errors] at hne
        have : (finalExec cfg flt scan dst n).b.errors = [] := by simpa using hne
        unfold finalExec at this
        rw [this] at h; cases h

def exCfg : Cfg where
  delete := true
  force := true
  dryRun := false
  xattrs := true
  hardlinks := false
  threshold := 50
  links := .preserve
  compare := .default
  minSize := none
  maxSize := none
  maxErrors := 100
  tie := false

theorem exDst_nodup : exDst.keys.Nodup := by decide

example : exDst.keys.Nodup := exDst_nodup

/-- the report of the example run, evaluated once -/
theorem exRun_report : (runF exCfg noFaults exScan exDst 1000).events =
      [(.skip, ["d"]), (.update, ["d", "f"]), (.create, ["l"]), (.create, ["g"]), (.create, ["d", "h"]),
        (.delete, ["x"]), (.delete, ["x", "y"])] ∧
    (runF exCfg noFaults exScan exDst 1000).errors = [] := by decide

example : exDst.get? ["l"] = none ∧ (run exCfg exScan exDst 1000).dst.get? ["l"] ≠ none :=
  (events_truthful exCfg rfl noFaults exScan exDst 1000 exScan_uniqueRels exScan_noRoot exDst_nodup
    exScan_delete_ok (fun h => by cases h) ["l"]).1 (by rw [exRun_report.1]; decide)

theorem exRun_xy : (runF exCfg noFaults exScan exDst 1000).dst.get? ["x", "y"] = none :=
  ((events_truthful exCfg rfl noFaults exScan exDst 1000 exScan_uniqueRels exScan_noRoot exDst_nodup
    exScan_delete_ok (fun h => by cases h) ["x", "y"]).2.2.1 (by rw [exRun_report.1]; decide)).2

example : (run exCfg exScan exDst 1000).dst.get? ["x", "y"] = none := exRun_xy

example : (run exCfg exScan exDst 1000).dst.get? ["d"] = exDst.get? ["d"] :=
  skip_event_unchanged exCfg rfl noFaults exScan exDst 1000 exScan_uniqueRels exScan_noRoot exDst_nodup exScan_parentClosed
    (fun _ => exDst_root) (fun h => by cases h) ["d"] (by rw [exRun_report.1]; decide)

example : ∃ a q, (a, q) ∈ (run exCfg exScan exDst 1000).events ∧
    ((a = .delete ∧ isPrefix q ["x", "y"] = true) ∨ (a ≠ .delete ∧ a ≠ .skip ∧ isPrefix ["x", "y"] q = true)) :=
  changes_have_events exCfg noFaults exScan exDst 1000 ["x", "y"] exRun_report.2 (by rw [exRun_xy]; decide)

example : (∃ a, (a, ["x", "y"]) ∈ (run exCfg exScan exDst 1000).events) ∨
    (∃ q, (Act.delete, q) ∈ (run exCfg exScan exDst 1000).events ∧ isPrefix q ["x", "y"] = true ∧ q ≠ ["x", "y"]) :=
  changes_have_own_events exCfg noFaults exScan exDst 1000 exScan_uniqueRels exScan_parentsFirst ["x", "y"] (by decide)
    exRun_report.2 (by rw [exRun_xy]; decide)

end SyModel.Props.C19Truth
