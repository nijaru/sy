/-
  GenEngineResume — how `SyncEngine::sync` (src/sync/mod.rs) treats the resume state file `.sy-state.json`, TRANSLATED on
  every run into `SyModel/Generated/Code/EngineResume.lean` as two effectful fragments:

    * `load_resume_state`    — `let resume_state = if self.resume && !self.dry_run { match ResumeState::load(destination)? … }`
    * `cleanup_resume_state` — the `if let Ok(mut state_guard) = resume_state.lock() { … }` block at the end of a run.

  `ResumeState::load` (which DELETES a corrupt file), `ResumeState::delete`, `is_compatible_with` and `progress` are
  operations of `Ext`.

    * C08 (dry run changes nothing), for ANY instance of them: in a dry run, or with resume off, NO operation is performed
      and the answer is `None` (`dry_run_touches_nothing`, `dry_run_ignores_operations`); with `None` the clean-up performs
      no operation either (`cleanup_none_touches_nothing`, `dry_run_resume_handling_changes_nothing`).
    * C18, on the call-logging instance `logExt` (kernel evaluation of its Boolean cases): the state file is deleted at
      load time only when it is incompatible (`load_deletes_only_incompatible`), and the clean-up deletes only when a load
      finds a file (`cleanup_calls`).
  The state VALUE (which files it lists as completed) is never consulted by the planner (sy's commit a87222e): that is a
  statement about the planning loop (`Generated/Code/EnginePlan.lean` has no `completed` test) — see DESIGN §12.8.
-/
import SyModel.Generated.Code.EngineResume
import SyModel.Lemmas.RsMonad
namespace SyModel.Props.GenEngineResume
open SyModel.Generated SyModel.Generated.EngineResume

def runM {W α : Type} (x : Rs.M W α) (w : W) : Except Rs.Err α × W := x.run.run w

/-- **C08**: with `--dry-run`, or with resume off, the fragment performs NO operation — for ANY instance, whatever the
    operations would do — and answers `None`: no state is loaded, nothing is deleted. -/
theorem dry_run_touches_nothing {W : Type} (ext : Ext W) (self : SyncEngine) (s d : Rs.Path) (fl : Rs.Opaque)
    (files : List Rs.Opaque) (h : self.dry_run = true ∨ self.resume = false) (w : W) :
    runM (load_resume_state ext self s d fl files) w = (.ok none, w) := by
  unfold load_resume_state
  have hc : (self.resume && !self.dry_run) = false := by
    rcases h with h | h <;> simp [h]
  simp only [hc, Bool.false_eq_true, ↓reduceIte]
  rfl

/-- the answer of `load_resume_state` does not depend on ANY operation when the run is a dry run: two instances give the
    same computation (extensional form of the theorem above) -/
theorem dry_run_ignores_operations {W : Type} (ext ext' : Ext W) (self : SyncEngine) (s d : Rs.Path) (fl : Rs.Opaque)
    (files : List Rs.Opaque) (h : self.dry_run = true) :
    load_resume_state ext self s d fl files = load_resume_state ext' self s d fl files := by
  unfold load_resume_state
  have hc : (self.resume && !self.dry_run) = false := by simp [h]
  simp only [hc, Bool.false_eq_true, ↓reduceIte]

/-- with no state in memory (`None`: every dry run, every run with resume off) the clean-up performs no operation -/
theorem cleanup_none_touches_nothing {W : Type} (ext : Ext W) (d : Rs.Path) (w : W) :
    runM (cleanup_resume_state ext none d) w = (.ok (), w) := by
  unfold cleanup_resume_state
  simp only [lockOk, Rs.is_some, Option.isSome_none, Bool.false_eq_true, ↓reduceIte]
  rfl

/-- composition: a dry run neither loads, nor deletes at load time, nor deletes at clean-up — the two fragments in sequence
    leave every world as it was, for ANY instance -/
theorem dry_run_resume_handling_changes_nothing {W : Type} (ext : Ext W) (self : SyncEngine) (s d : Rs.Path)
    (fl : Rs.Opaque) (files : List Rs.Opaque) (h : self.dry_run = true) (w : W) :
    runM (do let st ← load_resume_state ext self s d fl files; cleanup_resume_state ext st d) w = (.ok (), w) :=
  (Rs.run_bind_ok (dry_run_touches_nothing ext self s d fl files (Or.inl h) w)).trans (cleanup_none_touches_nothing ext d w)

/-- a call-logging world: which operations ran, in order -/
inductive Call | load | delete | compat | progress
  deriving DecidableEq, Repr

/-- an instance that logs every call; `file` = is there a (valid) state file, `ok` = is it compatible -/
def logExt (file ok : Bool) : Ext (List Call) where
  ResumeState_load _ := fun w => pure ((.ok (if file then some ⟨⟩ else none)), w ++ [.load])
  ResumeState_delete _ := fun w => pure ((.ok ()), w ++ [.delete])
  ResumeState_new _ _ _ _ := ⟨⟩
  is_compatible_with _ _ := fun w => pure ((.ok ok), w ++ [.compat])
  progress _ := fun w => pure ((.ok (0, 0)), w ++ [.progress])

/-- **C18**: in a real run with resume on, the state file is deleted at load time exactly when a file is there and it
    is NOT compatible with the run's flags; a compatible one is kept (and only read) -/
theorem load_deletes_only_incompatible (file ok quiet : Bool) (s d : Rs.Path) (fl : Rs.Opaque) (files : List Rs.Opaque) :
    (runM (load_resume_state (logExt file ok) ⟨true, false, quiet⟩ s d fl files) []).2 =
      if file then (if ok then [.load, .compat, .progress] else [.load, .compat, .delete]) else [.load] := by
  cases file <;> cases ok <;> cases quiet <;> rfl

/-- the clean-up with a state in memory: one load, and a delete exactly when the load finds a file -/
theorem cleanup_calls (file ok : Bool) (d : Rs.Path) :
    (runM (cleanup_resume_state (logExt file ok) (some ⟨⟩) d) []).2 = if file then [.load, .delete] else [.load] := by
  cases file <;> cases ok <;> rfl

/-- non-vacuity of the dry-run theorem's hypothesis: the instance that would delete on every call is never called -/
example : (runM (load_resume_state (logExt true false) ⟨true, true, false⟩ [] [] ⟨⟩ []) []).2 = [] := rfl

end SyModel.Props.GenEngineResume
