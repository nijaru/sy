/-
  GenMainExit — the two exit-status decisions of `main` (src/main.rs), TRANSLATED on every run into
  `SyModel/Generated/Code/MainExit.lean` as fragments of the 750-line `main`:

    * `verify_exit_code`  — `let exit_code = if !result.errors.is_empty() { 2 } else if … { 1 } else { 0 }` of the
      `--verify-only` arm, followed in the source by `std::process::exit(exit_code)`;
    * `sync_failed`       — the condition of the LAST `if` of `main` that mentions `stats`
      (`!stats.errors.is_empty() || stats.verification_failures > 0`), whose body is `anyhow::bail!(…)`: `main` then
      returns `Err`, which the Rust runtime turns into exit status 1.

  They are proved equal, for all inputs, to what the handwritten models say: `Engine.exitCode` (C15) and the `exit` field
  of `Engine.runF` (C10: the model's verification failures are error records, so the model's test is "no error record").
  A change of either decision in `main.rs` (a dropped clause, `>`→`>=`, swapped codes) changes the generated definition and
  breaks a theorem below.  Trusted: the translator's fragment selection (`let:exit_code`, `iflast:stats`) — that the
  fragments are what decides the process status is read off the source (`std::process::exit(exit_code)` / `bail!`) and is
  validated on every run by the binary-level streams (exit status compared per case).
-/
import SyModel.Generated.Code.MainExit
import SyModel.Engine.Verify
import SyModel.Engine.Model
import SyModel.Lemmas.VerifyExit
import SyModel.Lemmas.RsMap
namespace SyModel.Props.GenMainExit
open SyModel SyModel.Engine SyModel.Generated SyModel.Generated.MainExit

/-- the view of a model result: one opaque token per list element (the decisions only test emptiness) -/
def viewOf (r : VResult) : VerificationResultView :=
  { errors := r.errors.map (fun _ => ⟨⟩), files_mismatched := r.mismatched.map (fun _ => ⟨⟩),
    files_only_in_source := r.onlySrc.map (fun _ => ⟨⟩), files_only_in_dest := r.onlyDst.map (fun _ => ⟨⟩) }

private theorem is_empty_map {α β : Type} (l : List α) (f : α → β) : Rs.is_empty (l.map f) = l.isEmpty := by
  rw [Rs.is_empty_eq, List.isEmpty_map]

/-- **the translated `--verify-only` exit code is the model's `exitCode`** (C15), for every result -/
theorem verify_exit_code_eq_model (r : VResult) : verify_exit_code (viewOf r) = exitCode r := by
  unfold verify_exit_code exitCode viewOf
  simp only [is_empty_map]

theorem is_empty_iff {α : Type} (l : List α) : Rs.is_empty l = true ↔ l = [] := by
  rw [Rs.is_empty_eq, List.isEmpty_iff]

/-- the code is 0 exactly when all four lists are empty (the decision is the model's: `exitTable_zero`) … -/
theorem verify_exit_code_zero_iff (v : VerificationResultView) :
    verify_exit_code v = 0 ↔ v.errors = [] ∧ v.files_mismatched = [] ∧ v.files_only_in_source = [] ∧ v.files_only_in_dest = [] := by
  unfold verify_exit_code
  rw [exitTable_zero]
  simp only [is_empty_iff]

/-- … 2 exactly when a file could not be read … -/
theorem verify_exit_code_two_iff (v : VerificationResultView) : verify_exit_code v = 2 ↔ v.errors ≠ [] := by
  unfold verify_exit_code
  rw [exitTable_two, ← Bool.not_eq_true, is_empty_iff]

/-- … and never above 2 -/
theorem verify_exit_code_le_two (v : VerificationResultView) : verify_exit_code v ≤ 2 :=
  exitTable_le _ _ _ _

/-- the TRANSLATED exit decision answers 0 on the model's result exactly when the model's `exitCode` does (what that
    means for the two trees is `C15.verify_exit_zero_iff`) -/
theorem translated_verify_exit_zero_iff (c : VCfg) (src dst : List VEntry) :
    verify_exit_code (viewOf (verify c src dst)) = 0 ↔ exitCode (verify c src dst) = 0 := by
  rw [verify_exit_code_eq_model]

/-- **the translated failure test of a sync run**: it fires iff an operation failed or a verification failed -/
theorem sync_failed_iff (s : StatsView) : sync_failed s = true ↔ s.errors ≠ [] ∨ 0 < s.verification_failures := by
  unfold sync_failed
  rw [Bool.or_eq_true, Bool.not_eq_true', decide_eq_true_iff, Ne, ← is_empty_iff, Bool.not_eq_true]

/-- exit status 0 (no `bail!`) means: no failed operation AND no failed verification (C10 "truthfully reported") -/
theorem sync_ok_clean (s : StatsView) (h : sync_failed s = false) : s.errors = [] ∧ s.verification_failures = 0 := by
  have hn : ¬(s.errors ≠ [] ∨ 0 < s.verification_failures) := fun hh =>
    Bool.false_ne_true (h.symm.trans ((sync_failed_iff s).mpr hh))
  exact ⟨Classical.not_not.mp fun h1 => hn (.inl h1), Nat.eq_zero_of_not_pos fun h2 => hn (.inr h2)⟩

/-- the statistics view of a model run: its error records (a failed verification is an error record in the model) -/
def statsOf (r : Result) : StatsView := { errors := r.errors.map (fun _ => ⟨⟩), verification_failures := 0 }

/-- **the model's exit status is the translated decision** applied to the model's error list (C10), for every
    configuration, fault plan, scan and destination — refused runs (mass-deletion guard) exit 1 before the decision -/
theorem model_exit_eq_translated (cfg : Cfg) (flt : Faults) (scan : List SEntry) (dst : Map DNode) (n : Nat)
    (hr : (runF cfg flt scan dst n).refused = false) :
    (runF cfg flt scan dst n).exit = if sync_failed (statsOf (runF cfg flt scan dst n)) then 1 else 0 := by
  by_cases hg : guardRefuses cfg ((plan cfg scan dst).filter (·.act == .delete)).length (destCount dst) = true
  · simp [runF, hg] at hr
  · simp only [runF, hg, statsOf, sync_failed, is_empty_map]
    cases (List.foldl (execTask cfg flt) (initExec dst n) (plan cfg scan dst)).b.errors <;> simp

/-- non-vacuity: a result with one mismatch exits 1, one with an unreadable file 2, a clean one 0; a run with one failed
    verification and no error record fails -/
example : verify_exit_code ⟨[], [⟨⟩], [], []⟩ = 1 ∧ verify_exit_code ⟨[⟨⟩], [⟨⟩], [], []⟩ = 2 ∧ verify_exit_code ⟨[], [], [], []⟩ = 0
    ∧ sync_failed ⟨[], 1⟩ = true ∧ sync_failed ⟨[], 0⟩ = false := by decide

end SyModel.Props.GenMainExit
