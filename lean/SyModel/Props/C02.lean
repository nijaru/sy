/-
  C02 — Sync never modifies the source tree or anything outside the destination.
  Property theorems only.
-/
import SyModel.Engine.Escape
import SyModel.Lemmas.EngineFilter
import SyModel.Props.C01
import SyModel.Generated.Consts
namespace SyModel.Props.C02
open SyModel SyModel.Engine

/-- the policy the current source implements (flags regenerated from the Rust source each run) -/
def currentPolicy : Policy :=
  ⟨Generated.COPY_REMOVES_DEST_SYMLINK == 2, Generated.UPDATE_ROUTES_SYMLINKS_TO_HANDLER,
   Generated.CREATE_SYMLINK_REPLACES_ENTRY, Generated.PLANNER_FORCES_UPDATE_OVER_DEST_LINK⟩

/-- both copy entry points remove a destination symlink first, `update` handles link sources,
    `create_symlink` replaces, and the planner never accepts a link as an up-to-date file -/
theorem consts_ok_policy : currentPolicy = Policy.repaired := by decide

/-- **Every write of every task lands inside the destination root**, whatever the destination
    contains (links to the source, to the outside, dangling, chained: any resolver), for every
    configuration — under the repaired policy. -/
theorem steps_write_inside (res : Resolver) (cfg : Cfg) (dst : Map DNode) (t : Task) :
    ∀ r ∈ writeFootprint Policy.repaired res cfg dst t, r.region = .dst := by
  intro r hr
  unfold writeFootprint at hr
  split at hr
  · cases hr                                                          -- dry run: nothing is written
  · split at hr
    · cases hr                                                        -- skip
    · simp at hr; rw [hr]                                             -- delete: the path itself
    · cases hr                                                        -- nothing to transfer
    · simp only [List.mem_map] at hr; obtain ⟨_, _, rfl⟩ := hr; rfl   -- directory: the path and its ancestors
    · -- symlink: the repaired policy replaces the entry, so again only the path and its ancestors
      simp only [Policy.repaired, Bool.and_self, ↓reduceIte, List.mem_map] at hr
      obtain ⟨_, _, rfl⟩ := hr; rfl
    · -- file: the repaired policy removes a link at the path first, so the copy lands on the path itself
      simp only [Policy.repaired, ↓reduceIte, List.mem_append, List.mem_map, List.mem_singleton] at hr
      rcases hr with ⟨_, _, rfl⟩ | rfl <;> rfl

/-- … in particular for the policy regenerated from the current source. -/
theorem steps_write_inside_current (res : Resolver) (cfg : Cfg) (dst : Map DNode) (t : Task) :
    ∀ r ∈ writeFootprint currentPolicy res cfg dst t, r.region = .dst := by
  rw [consts_ok_policy]; exact steps_write_inside res cfg dst t

/-- all writes of a whole run -/
def runFootprint (pol : Policy) (res : Resolver) (cfg : Cfg) (flt : Faults) (tasks : List Task) (st : Exec) : List Ref :=
  match tasks with
  | [] => []
  | t :: ts => writeFootprint pol res cfg st.w.dst t ++ runFootprint pol res cfg flt ts (execTask cfg flt st t)

/-- **C02, one run**: every location written during a run — evaluated against the destination as
    it is when each task starts, so links placed earlier in the same run are covered — lies in
    the destination. -/
theorem run_writes_inside (res : Resolver) (cfg : Cfg) (flt : Faults) (tasks : List Task) (st : Exec) :
    ∀ r ∈ runFootprint Policy.repaired res cfg flt tasks st, r.region = .dst := by
  induction tasks generalizing st with
  | nil => intro r hr; cases hr
  | cons t ts ih =>
    intro r hr
    simp only [runFootprint, List.mem_append] at hr
    rcases hr with h | h
    · exact steps_write_inside res cfg st.w.dst t r h
    · exact ih _ r h

/-- all writes of a history of runs, each run on the destination the one before left.  `n + 1000000` is the next run's
    inode counter: arbitrary, `C02` holds for any -/
def historyFootprint (pol : Policy) (res : Resolver) : List (Cfg × Faults × List SEntry) → Map DNode → Nat → List Ref
  | [], _, _ => []
  | (cfg, flt, scan) :: rest, dst, n =>
    runFootprint pol res cfg flt (plan cfg scan dst) (initExec dst n) ++
      historyFootprint pol res rest (runF cfg flt scan dst n).dst (n + 1000000)

/-- **C02, any history**: for any sequence of k ≥ 0 runs with any flag sets over any sequence of
    source scans (repeated runs over an already synced destination included), nothing outside the
    destination is written.  (That a dry run writes nothing at all is `dry_run_writes_nothing`.) -/
theorem C02 (res : Resolver) (h : List (Cfg × Faults × List SEntry)) (dst : Map DNode) (n : Nat) :
    ∀ r ∈ historyFootprint Policy.repaired res h dst n, r.region = .dst := by
  induction h generalizing dst n with
  | nil => intro r hr; cases hr
  | cons x rest ih =>
    obtain ⟨cfg, flt, scan⟩ := x
    intro r hr
    simp only [historyFootprint, List.mem_append] at hr
    rcases hr with h1 | h2
    · exact run_writes_inside res cfg flt _ _ r h1
    · exact ih _ _ r h2

theorem dry_run_writes_nothing (pol : Policy) (res : Resolver) (cfg : Cfg) (hd : cfg.dryRun = true) (flt : Faults)
    (tasks : List Task) (st : Exec) : runFootprint pol res cfg flt tasks st = [] := by
  induction tasks generalizing st with
  | nil => rfl
  | cons t ts ih => simp [runFootprint, writeFootprint, hd, ih]

/-! ### a destination link standing where the source has a directory is replaced, never followed (sy commit 862af11) -/

/-- **No task enters a link's target.**  On the PLAN: for every planned task `t` and every proper (non-root) prefix `q`
    of its path, if the destination holds a symlink at `q` then the plan contains the replacement of that link by a
    directory — the task `update q` with a directory payload — and it comes BEFORE `t`.  So the only planned paths
    below a destination link are below a link that the same plan replaces first; nothing is ever compared with, or
    written into, what a link points to.  Hypotheses: the scan lists parents first and no path twice (what a walk
    yields), the destination listing is a tree (`DstParentClosed`: nothing is listed BELOW a link — links are not
    resolved by the listing). -/
theorem link_target_never_entered (cfg : Cfg) (scan : List SEntry) (dst : Map DNode)
    (hu : UniqueRels scan) (hpf : ParentsFirst scan) (hc : DstParentClosed dst) :
    ∀ t ∈ plan cfg scan dst, ∀ q, q ≠ [] → isPrefix q t.rel = true → q ≠ t.rel →
      ∀ s, dst.get? q = some (.symlink s) →
        ∃ pre post, plan cfg scan dst = pre ++ t :: post ∧ (⟨.update, q, .dir⟩ : Task) ∈ pre := by
  intro t ht q hq0 hqp hqne s hs
  by_cases hdel : t.act = .delete
  · -- a planned deletion is a listed destination path: its ancestors are directories, not links
    exfalso
    obtain ⟨_, htd⟩ := deletion_of_task ht hdel
    obtain ⟨p, rfl, hk, _⟩ := mem_planDeletions.1 htd
    have := hc p hk q (mem_ancestors.2 ⟨hq0, hqp, hqne⟩)
    rw [hs] at this; cases this
  · obtain ⟨e, he, rfl⟩ := entry_of_task ht hdel
    rw [planEntry_rel] at hqp hqne
    obtain ⟨d, A, B, hsplit, hdr, hdk, heB⟩ :=
      selected_ancestor_before hu hpf he (mem_ancestors.2 ⟨hq0, hqp, hqne⟩)
    obtain ⟨B1, B2, hB⟩ := List.append_of_mem heB
    have hpd : planEntry cfg dst d = ⟨.update, q, .dir⟩ := by
      rw [planEntry_dir hdk, hdr, hs]
    refine ⟨A.map (planEntry cfg dst) ++ planEntry cfg dst d :: B1.map (planEntry cfg dst),
      B2.map (planEntry cfg dst) ++ (if cfg.delete then planDeletions (scanFilter cfg scan) scan dst else []), ?_, ?_⟩
    · rw [plan_eq, hsplit, hB]; simp
    · rw [hpd]; simp

/-- **C01's postcondition WITHOUT excluding this configuration.**  If the destination holds a symlink at the path of
    a selected source directory `d` (an earlier run placed it when the source entry was still a link), then after a
    (non-dry) run that exits 0 — under EVERY fault plan — that path is a directory, the replacement is in the report as
    an `update`, and every selected entry below it exists with the source's data: directories as directories, regular
    files (and followed links to files) with the source's content, size and mtime, preserved links with the source's
    text.  Nothing below the link existed in the destination listing (`DstParentClosed`), so every file below it is
    transferred, whatever the comparison rule. -/
theorem dir_over_own_link_replaced_faults (cfg : Cfg) (hnd : cfg.dryRun = false) (flt : Faults) (scan : List SEntry)
    (dst : Map DNode) (n : Nat) (hu : UniqueRels scan)
    (hdel : cfg.delete = true → ParentClosed scan ∧ dst.get? [] = none)
    (hino : cfg.hardlinks = true → InoConsistent scan) (hc : DstParentClosed dst)
    (d : SEntry) (hd : d ∈ scanFilter cfg scan) (hk : d.kind = .dir) (hne : d.rel ≠ [])
    (s : String) (hl : dst.get? d.rel = some (.symlink s))
    (hok : (runF cfg flt scan dst n).exit = 0) :
    (runF cfg flt scan dst n).dst.get? d.rel = some .dir ∧
    (Act.update, d.rel) ∈ (runF cfg flt scan dst n).events ∧
    ∀ e ∈ scanFilter cfg scan, isPrefix d.rel e.rel = true → e.rel ≠ d.rel →
      dst.get? e.rel = none ∧
      (e.kind = .dir → (runF cfg flt scan dst n).dst.get? e.rel = some .dir) ∧
      (∀ m k, e.kind = .file m k → ∃ f, (runF cfg flt scan dst n).dst.get? e.rel = some (.file f) ∧
        C01.Carries cfg f m) ∧
      (∀ text tgt, e.kind = .symlink text tgt → cfg.links = .preserve →
        (runF cfg flt scan dst n).dst.get? e.rel = some (.symlink text)) ∧
      (∀ text m, e.kind = .symlink text (.file m) → cfg.links = .follow →
        ∃ f, (runF cfg flt scan dst n).dst.get? e.rel = some (.file f) ∧ C01.Carries cfg f m) := by
  have hC := C01.C01 cfg hnd flt scan dst n hu hdel hino hok
  refine ⟨(hC d hd).1 hk hne, ?_, fun e he hp hner => ?_⟩
  · -- the replacement completed: its event is in the report
    have hr := (runF_exit_zero hok).1
    have hact : (planEntry cfg dst d).act = .update := by
      rw [planEntry_dir hk, hl]
    rw [← hact]
    exact (event_iff_taskOk hu hd hr).2 (taskOk_of_exit_zero hok (planEntry_mem_plan hd))
  · -- nothing is listed below a link
    have habs : dst.get? e.rel = none := by
      cases hg : dst.get? e.rel with
      | none => rfl
      | some v =>
        have := hc.anc (by rw [hg]; simp) hne hp (Ne.symm hner)
        rw [hl] at this; cases this
    obtain ⟨h1, h2, h3, h4, _⟩ := hC e he
    have hne0 : e.rel ≠ [] := fun h0 => hne (isPrefix_nil_right (h0 ▸ hp))
    refine ⟨habs, fun hk' => h1 hk' hne0, fun m k hk' => ?_, h3, fun text m hk' hl' => ?_⟩
    · obtain ⟨f, hf, hcar⟩ := h2 m k hk'
      exact ⟨f, hf, hcar (by rw [habs]; simp [planFileAct])⟩
    · obtain ⟨f, hf, hcar⟩ := h4 text m hk' hl'
      exact ⟨f, hf, hcar (by rw [habs]; simp [planFileAct])⟩

/-- … in particular for every fault-free run of the model (`run`). -/
theorem dir_over_own_link_replaced (cfg : Cfg) (hnd : cfg.dryRun = false) (scan : List SEntry)
    (dst : Map DNode) (n : Nat) (hu : UniqueRels scan)
    (hdel : cfg.delete = true → ParentClosed scan ∧ dst.get? [] = none)
    (hino : cfg.hardlinks = true → InoConsistent scan) (hc : DstParentClosed dst)
    (d : SEntry) (hd : d ∈ scanFilter cfg scan) (hk : d.kind = .dir) (hne : d.rel ≠ [])
    (s : String) (hl : dst.get? d.rel = some (.symlink s))
    (hok : (run cfg scan dst n).exit = 0) :
    (run cfg scan dst n).dst.get? d.rel = some .dir ∧
    (Act.update, d.rel) ∈ (run cfg scan dst n).events ∧
    ∀ e ∈ scanFilter cfg scan, isPrefix d.rel e.rel = true → e.rel ≠ d.rel →
      dst.get? e.rel = none ∧
      (e.kind = .dir → (run cfg scan dst n).dst.get? e.rel = some .dir) ∧
      (∀ m k, e.kind = .file m k → ∃ f, (run cfg scan dst n).dst.get? e.rel = some (.file f) ∧
        C01.Carries cfg f m) ∧
      (∀ text tgt, e.kind = .symlink text tgt → cfg.links = .preserve →
        (run cfg scan dst n).dst.get? e.rel = some (.symlink text)) ∧
      (∀ text m, e.kind = .symlink text (.file m) → cfg.links = .follow →
        ∃ f, (run cfg scan dst n).dst.get? e.rel = some (.file f) ∧ C01.Carries cfg f m) :=
  dir_over_own_link_replaced_faults cfg hnd noFaults scan dst n hu hdel hino hc d hd hk hne s hl hok

/-! #### non-vacuity: the configuration of the differential check (tools: `model862_diff.py`) -/

/-- source `a.txt`, `d/`, `d/f.txt`, `d/keep.txt`; destination `a.txt` (up to date) and the link `d -> ../outside` -/
def lnkScan : List SEntry :=
  [ ⟨["a.txt"], .file (exMeta 1 2 5000000000 11) 1, 2, false⟩,
    ⟨["d"], .dir, 4096, false⟩,
    ⟨["d", "f.txt"], .file (exMeta 2 2 6000000000 12) 1, 2, false⟩,
    ⟨["d", "keep.txt"], .file (exMeta 3 5 7000000000 13) 1, 5, false⟩ ]

def lnkDst : Map DNode := [ (["a.txt"], .file (exMeta 1 2 5000000000 90)), (["d"], .symlink "../outside") ]

def lnkCfg : Cfg := { C01.cxCfg with xattrs := true }

theorem lnkScan_uniqueRels : UniqueRels lnkScan := by decide
theorem lnkScan_parentsFirst : ParentsFirst lnkScan := by decide
theorem lnkDst_parentClosed : DstParentClosed lnkDst := by decide
theorem lnkRun_exit : (run lnkCfg lnkScan lnkDst 100).exit = 0 := by decide

example : UniqueRels lnkScan := lnkScan_uniqueRels
example : ParentsFirst lnkScan := lnkScan_parentsFirst
example : DstParentClosed lnkDst := lnkDst_parentClosed
example : (run lnkCfg lnkScan lnkDst 100).exit = 0 := lnkRun_exit

/-- the plan: skip `a.txt`, REPLACE `d` (update), create both files below it -/
example : (plan lnkCfg lnkScan lnkDst).map (fun t => (t.act, t.rel)) =
    [(.skip, ["a.txt"]), (.update, ["d"]), (.create, ["d", "f.txt"]), (.create, ["d", "keep.txt"])] := by decide

/-- `link_target_never_entered` applied: `d/keep.txt` lies below the link `d`, and the replacement of `d` precedes it -/
example : ∃ pre post, plan lnkCfg lnkScan lnkDst = pre ++ (⟨.create, ["d", "keep.txt"],
    .file (exMeta 3 5 7000000000 13) 1⟩ : Task) :: post ∧ (⟨.update, ["d"], .dir⟩ : Task) ∈ pre :=
  link_target_never_entered lnkCfg lnkScan lnkDst lnkScan_uniqueRels lnkScan_parentsFirst lnkDst_parentClosed _ (by decide) ["d"]
    (by decide) (by decide) (by decide) "../outside" rfl

/-- `dir_over_own_link_replaced` applied: `d` is a directory afterwards and `d/keep.txt` carries the source's data -/
example : (run lnkCfg lnkScan lnkDst 100).dst.get? ["d"] = some .dir ∧
    ∃ f, (run lnkCfg lnkScan lnkDst 100).dst.get? ["d", "keep.txt"] = some (.file f) ∧
      C01.Carries lnkCfg f (exMeta 3 5 7000000000 13) := by
  have h := dir_over_own_link_replaced lnkCfg rfl lnkScan lnkDst 100 lnkScan_uniqueRels (fun h => by cases h)
    (fun h => by cases h) lnkDst_parentClosed ⟨["d"], .dir, 4096, false⟩ (by decide) rfl (by decide) "../outside" rfl
    lnkRun_exit
  exact ⟨h.1, (h.2.2 ⟨["d", "keep.txt"], .file (exMeta 3 5 7000000000 13) 1, 5, false⟩ (by decide) (by decide)
    (by decide)).2.2.1 _ _ rfl⟩

/-- the hypothesis `DstParentClosed` is not trivially true: a listing with an entry below a link is not a tree -/
example : ¬ DstParentClosed [(["d"], .symlink "x"), (["d", "f"], .dir)] := by decide

/-! ### under `Policy.pinned` a copy writes through a link the run itself preserved (`Policy.repaired`: sy commit 0eacf0e) -/

/-- Run 2 of DESIGN Appendix A1: the destination holds the preserved absolute link
    `abs_link -> <src>/data.txt`; the source link is planned for update (its size is compared with
    the *target's*), and under the pinned policy the copy opens the link's target: the source file. -/
theorem own_links_written_through_counterexample_pinned :
    let res : Resolver := fun _ t => if t = "/src/data.txt" then some ⟨.src, ["data.txt"]⟩ else none
    let dst : Map DNode := [(["abs_link"], .symlink "/src/data.txt")]
    let t : Task := ⟨.update, ["abs_link"], .symlink "/src/data.txt"⟩
    let cfg : Cfg := { delete := false, force := false, dryRun := false, xattrs := false, hardlinks := false,
                       threshold := 50, links := .preserve, compare := .default, minSize := none,
                       maxSize := none, maxErrors := 100, tie := false }
    (⟨.src, ["data.txt"]⟩ : Ref) ∈ writeFootprint Policy.pinned res cfg dst t := by
  decide

/-- … and the same task under the repaired policy stays inside. -/
example :
    let res : Resolver := fun _ t => if t = "/src/data.txt" then some ⟨.src, ["data.txt"]⟩ else none
    let dst : Map DNode := [(["abs_link"], .symlink "/src/data.txt")]
    let t : Task := ⟨.update, ["abs_link"], .symlink "/src/data.txt"⟩
    let cfg : Cfg := { delete := false, force := false, dryRun := false, xattrs := false, hardlinks := false,
                       threshold := 50, links := .preserve, compare := .default, minSize := none,
                       maxSize := none, maxErrors := 100, tie := false }
    writeFootprint Policy.repaired res cfg dst t = [⟨.dst, ["abs_link"]⟩] := by
  decide

end SyModel.Props.C02
