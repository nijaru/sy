/-
  C03 — A completed sync is a fixed point: re-running changes nothing (engine level).
  Property theorems only.

  Hypotheses (see `Lemmas/EngineWF.lean`): `UniqueRels scan`, `NoRoot scan` (the source root is not
  itself an entry — otherwise the root "directory" would be re-created on every run); with
  `--delete` additionally `ParentClosed scan` and `dst.get? [] = none` (without parent-closedness
  the implicitly created parents of the first run would be deleted by the second); with
  `--hard-links` `InoConsistent scan`.  `C03_ignore_times` additionally assumes the prior
  destination is a real tree (`DstParentClosed dst`).
-/
import SyModel.Lemmas.EngineClosed
import SyModel.Props.C01
namespace SyModel.Props.C03
open SyModel SyModel.Engine

/-- Data written by a transfer is recognised as up to date by every comparison rule except
    `--ignore-times`. -/
theorem transferred_file_up_to_date (cfg : Cfg) (hcmp : cfg.compare ≠ .ignoreTimes) (m d : FileMeta)
    (hc : d.content = m.content) (hs : d.size = m.size) (ht : d.mtime = m.mtime)
    (hx : d.xattrs = (if cfg.xattrs then m.xattrs else [])) :
    planFileAct cfg m (some (.file d)) = .skip :=
  (planFileAct_skip_iff _ _ _).2 ⟨d, rfl, upToDate_of_matches ⟨hc, hs, ht, hx⟩ hcmp⟩

/-- A preserved symlink with the source's text is up to date (every comparison rule). -/
theorem preserved_link_up_to_date (cfg : Cfg) (hl : cfg.links = .preserve) (dst' : Map DNode) (e : SEntry)
    (text : String) (tgt : LinkTarget) (hk : e.kind = .symlink text tgt)
    (h : dst'.get? e.rel = some (.symlink text)) : (planEntry cfg dst' e).act = .skip := by
  unfold planEntry; simp [hk, hl, h]

/-- **Every transfer path leaves the entry in a state that the next comparison recognises as up
    to date**: after a run under any fault plan, every selected entry whose action was reported
    as done (files, directories, links in every mode) is planned as `skip` against the result. -/
theorem up_to_date_after_transfer (cfg : Cfg) (hnd : cfg.dryRun = false) (hcmp : cfg.compare ≠ .ignoreTimes)
    (flt : Faults) (scan : List SEntry) (dst : Map DNode) (n : Nat) (hu : UniqueRels scan) (hnr : NoRoot scan)
    (hdel : cfg.delete = true → ParentClosed scan ∧ dst.get? [] = none)
    (hino : cfg.hardlinks = true → InoConsistent scan)
    (e : SEntry) (he : e ∈ scanFilter cfg scan)
    (hev : ((planEntry cfg dst e).act, e.rel) ∈ (runF cfg flt scan dst n).events) :
    (planEntry cfg (runF cfg flt scan dst n).dst e).act = .skip :=
  planEntry_skip_of_entryPost hcmp (fun _ => hnr e (mem_of_mem_scanFilter he))
    (entryPost_of_event hnd flt scan dst n hu hdel hino he hev)

/-- **C03.**  Re-running the same command on the result of a clean run creates, updates and
    deletes nothing, transfers zero bytes, reports only skips, exits 0 and leaves the destination
    literally unchanged — for every flag set except `--ignore-times`, including `--delete`,
    `--hard-links`, every link mode, filters and size bounds. -/
theorem C03 (cfg : Cfg) (hnd : cfg.dryRun = false) (hcmp : cfg.compare ≠ .ignoreTimes)
    (scan : List SEntry) (dst : Map DNode) (n n' : Nat) (hu : UniqueRels scan) (hnr : NoRoot scan)
    (hdel : cfg.delete = true → ParentClosed scan ∧ dst.get? [] = none)
    (hino : cfg.hardlinks = true → InoConsistent scan)
    (h1 : (run cfg scan dst n).exit = 0) :
    (run cfg scan (run cfg scan dst n).dst n').created = 0 ∧
    (run cfg scan (run cfg scan dst n).dst n').updated = 0 ∧
    (run cfg scan (run cfg scan dst n).dst n').deleted = 0 ∧
    (run cfg scan (run cfg scan dst n).dst n').bytes = 0 ∧
    (run cfg scan (run cfg scan dst n).dst n').dst = (run cfg scan dst n).dst ∧
    (∀ ev ∈ (run cfg scan (run cfg scan dst n).dst n').events, ev.1 = .skip) ∧
    (run cfg scan (run cfg scan dst n).dst n').errors = [] ∧
    (run cfg scan (run cfg scan dst n).dst n').exit = 0 := by
  unfold run at h1
  have hs := replan_all_skip hnd hcmp hu hnr hdel hino h1
  obtain ⟨_, a, b, c, d, e, f, g, h⟩ :=
    run_all_skip (flt := noFaults) (n := n') hs
  unfold run
  exact ⟨b, c, d, e, a, h, f, g⟩

/-- **C03, `--ignore-times` (and every other mode).**  The second run leaves the node at every
    path exactly as it is — kind, content id, size, mtime, xattrs, link text and inode (a file
    rewritten in place keeps its inode; with `-H` a later member of a link group is re-linked to
    the node it already is a name of) — creates and deletes nothing and does not fail; only the
    `updated`/`bytes` counters are non-zero, by definition of the flag.  The destination is
    compared path by path (`get?`): the association list itself is reordered by the rewrites. -/
theorem C03_ignore_times (cfg : Cfg) (hnd : cfg.dryRun = false)
    (scan : List SEntry) (dst : Map DNode) (n n' : Nat) (hu : UniqueRels scan) (hnr : NoRoot scan)
    (hdel : cfg.delete = true → ParentClosed scan ∧ dst.get? [] = none)
    (hino : cfg.hardlinks = true → InoConsistent scan) (hc : DstParentClosed dst)
    (h1 : (run cfg scan dst n).exit = 0) :
    (∀ p, (run cfg scan (run cfg scan dst n).dst n').dst.get? p = (run cfg scan dst n).dst.get? p) ∧
    (run cfg scan (run cfg scan dst n).dst n').created = 0 ∧
    (run cfg scan (run cfg scan dst n).dst n').deleted = 0 ∧
    (run cfg scan (run cfg scan dst n).dst n').errors = [] ∧
    (run cfg scan (run cfg scan dst n).dst n').exit = 0 :=
  rerun_content_unchanged hnd hu hnr hdel hino ((gclosed_iff dst).2 hc) h1

/-- **C03 for every k-th re-run** (`iterRun … k` is the k-th run; `ns k` its inode counter):
    every run after a clean first one is a no-op on the same destination. -/
theorem C03_iter (cfg : Cfg) (hnd : cfg.dryRun = false) (hcmp : cfg.compare ≠ .ignoreTimes)
    (scan : List SEntry) (dst : Map DNode) (ns : Nat → Nat) (hu : UniqueRels scan) (hnr : NoRoot scan)
    (hdel : cfg.delete = true → ParentClosed scan ∧ dst.get? [] = none)
    (hino : cfg.hardlinks = true → InoConsistent scan)
    (h1 : (iterRun cfg scan dst ns 0).exit = 0) (k : Nat) :
    (iterRun cfg scan dst ns (k + 1)).created = 0 ∧ (iterRun cfg scan dst ns (k + 1)).updated = 0 ∧
    (iterRun cfg scan dst ns (k + 1)).deleted = 0 ∧ (iterRun cfg scan dst ns (k + 1)).bytes = 0 ∧
    (iterRun cfg scan dst ns (k + 1)).dst = (iterRun cfg scan dst ns 0).dst ∧
    (iterRun cfg scan dst ns (k + 1)).exit = 0 := by
  have base := C03 cfg hnd hcmp scan dst (ns 0) 
  induction k with
  | zero =>
    obtain ⟨a, b, c, d, e, _, _, g⟩ := base (ns 1) hu hnr hdel hino h1
    exact ⟨a, b, c, d, e, g⟩
  | succ k ih =>
    have hd : (iterRun cfg scan dst ns (k + 1)).dst = (run cfg scan dst (ns 0)).dst := ih.2.2.2.2.1
    show (run cfg scan (iterRun cfg scan dst ns (k + 1)).dst (ns (k + 1 + 1))).created = 0 ∧ _
    simp only [iterRun] at hd ⊢
    rw [hd]
    obtain ⟨a, b, c, d, e, _, _, g⟩ := base (ns (k + 1 + 1)) hu hnr hdel hino h1
    exact ⟨a, b, c, d, e, g⟩

/-- **Every k-th re-run, every comparison mode (including `--ignore-times`)**, on a destination that
    was a real tree: each run exits 0, creates and deletes nothing, and leaves the node at every
    path as the first run left it. -/
theorem C03_iter_ignore_times (cfg : Cfg) (hnd : cfg.dryRun = false)
    (scan : List SEntry) (dst : Map DNode) (ns : Nat → Nat) (hu : UniqueRels scan) (hnr : NoRoot scan)
    (hdel : cfg.delete = true → ParentClosed scan ∧ dst.get? [] = none)
    (hino : cfg.hardlinks = true → InoConsistent scan) (hc : DstParentClosed dst)
    (h1 : (iterRun cfg scan dst ns 0).exit = 0) (k : Nat) :
    (iterRun cfg scan dst ns (k + 1)).exit = 0 ∧ (iterRun cfg scan dst ns (k + 1)).created = 0 ∧
    (iterRun cfg scan dst ns (k + 1)).deleted = 0 ∧ (iterRun cfg scan dst ns (k + 1)).errors = [] ∧
    ∀ p, (iterRun cfg scan dst ns (k + 1)).dst.get? p = (iterRun cfg scan dst ns 0).dst.get? p := by
  obtain ⟨a, b, c⟩ := iterRun_stable hnd ns hu hnr hdel hino ((gclosed_iff dst).2 hc) h1 (k + 1)
  obtain ⟨c1, c2, c3⟩ := c (by omega)
  exact ⟨a, c1, c2, c3, b⟩

-- the example tree of `EngineWF` (stale file, extras, hard-link pair, link); the flags are those of `C01.exCfg`, so the
-- first run's report is `C01.exRun_report`

def exCfg : Cfg where
  delete := true
  force := true
  dryRun := false
  xattrs := true
  hardlinks := true
  threshold := 50
  links := .preserve
  compare := .default
  minSize := none
  maxSize := none
  maxErrors := 100
  tie := false

/-- the first run does real work (1 update, 3 creates, 2 deletes) … -/
example : (run exCfg exScan exDst 1000).updated = 1 ∧ (run exCfg exScan exDst 1000).created = 3 ∧
    (run exCfg exScan exDst 1000).deleted = 2 := C01.exRun_report.2.2

/-- … and the hypotheses of `C03` hold, so the second run is a no-op -/
example : (run exCfg exScan (run exCfg exScan exDst 1000).dst 2000).updated = 0 ∧
    (run exCfg exScan (run exCfg exScan exDst 1000).dst 2000).dst = (run exCfg exScan exDst 1000).dst := by
  have h := C03 exCfg rfl (by decide) exScan exDst 1000 2000 exScan_uniqueRels exScan_noRoot
    exScan_delete_ok (fun _ => exScan_inoConsistent) C01.exRun_report.1
  exact ⟨h.2.1, h.2.2.2.2.1⟩

example : (iterRun exCfg exScan exDst (fun k => 1000 * (k + 1)) 7).dst = (run exCfg exScan exDst 1000).dst :=
  (C03_iter exCfg rfl (by decide) exScan exDst (fun k => 1000 * (k + 1)) exScan_uniqueRels exScan_noRoot
    exScan_delete_ok (fun _ => exScan_inoConsistent) C01.exRun_report.1 6).2.2.2.2.1

/-- the same under `--ignore-times`: the first run exits 0 and the second does rewrite (so the statement below is
    not vacuous) -/
theorem exRunI_report : (run { exCfg with compare := .ignoreTimes } exScan exDst 1000).exit = 0 ∧
    (run { exCfg with compare := .ignoreTimes } exScan
      (run { exCfg with compare := .ignoreTimes } exScan exDst 1000).dst 2000).updated = 3 := by decide

example : ∀ p, (run { exCfg with compare := .ignoreTimes } exScan
      (run { exCfg with compare := .ignoreTimes } exScan exDst 1000).dst 2000).dst.get? p =
    (run { exCfg with compare := .ignoreTimes } exScan exDst 1000).dst.get? p :=
  (C03_ignore_times _ rfl exScan exDst 1000 2000 exScan_uniqueRels exScan_noRoot
    exScan_delete_ok (fun _ => exScan_inoConsistent) exDst_parentClosed exRunI_report.1).1

example : (run { exCfg with compare := .ignoreTimes } exScan
      (run { exCfg with compare := .ignoreTimes } exScan exDst 1000).dst 2000).updated = 3 := exRunI_report.2

end SyModel.Props.C03
