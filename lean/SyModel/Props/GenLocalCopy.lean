/-
  GenLocalCopy — bridge for the translated unit `LocalCopy` (`SyModel/Generated/Code/LocalCopy.lean`, translated
  from src/transport/local.rs: `LocalTransport::copy_file`, `LocalTransport::sync_file_with_delta`,
  `remove_if_symlink`, `break_unshared_hard_link`).

  The translated code is run in the POSIX-level world `LocalCopy.LWorld` with the trusted instance `LocalCopy.posix cfg`
  (`Lemmas/GenLocalCopyWorld.lean`).  What is proved here, for ALL worlds that satisfy the stated hypotheses:

    * `sync_inplace_postcondition` (C01; cf. C03): on the in-place rebuild route `sync_file_with_delta` succeeds; the NAME
      `dest` is a fresh regular file whose bytes are the source's, whose mtime is the source's, without xattrs; the working
      file does not exist; the source and every other name/inode are untouched; the returned counters are those of the
      handwritten model `Transfer.rebuildInPlace LOCAL_BLOCK_SIZE` (`Props.C01Bytes`);
    * `sync_inplace_log` / `sync_inplace_order` (C05, C09): the exact log of mutating system calls of that route, and the
      order facts the crash proofs rely on (nothing touches `dest` before the single `rename`, the mtime is set on the
      working file before it, nothing follows it, the only other name written is `working_file_path dest`);
      `sync_inplace_steps`: the log, abstracted, IS `Engine.deltaSteps` (`createTemp`, `rename`);
    * `sync_inplace_temp_symlink_safe` (C02; cf. C17): a symlink at the working-file path is unlinked, never written through —
      its target inode is untouched (fix d0ec669); `fs_copy_through_link_truncates` shows that the instance DOES write
      through a trailing symlink (so the statement is not vacuous);
    * non-vacuity: `exW`, a world with a 10 MiB destination that satisfies every hypothesis.

  Abstraction: bytes are `List Nat` in the world and `Bytes = List UInt8` in the model, related by `ofU8`.
-/
import SyModel.Lemmas.GenLocalCopyFile
import SyModel.Lemmas.GenLocalCopyInPlace
import SyModel.Props.C01Bytes
import SyModel.Engine.Steps
set_option autoImplicit false
namespace SyModel.Props.GenLocalCopy
open SyModel SyModel.Generated.LocalCopy SyModel.Transfer SyModel.LocalCopy
open SyModel.Generated.Rs (wp_of_run run_of_wp wp_bind_run wp_ite_pos wp_mono)
open SyModel.Data (upd_same upd_ne)

/-! ### the loop of the translation and the handwritten model -/

theorem inPlaceGo_eq_model (S D : Bytes) :
    inPlaceGo (fun _ => 65536) S D 0 (ipInit S) = rebuildInPlaceLoop LOCAL_BLOCK_SIZE S D := by
  show rebuildInPlaceK (fun _ => 65536) S D = rebuildInPlaceK (chunkAt BUF_CAP LOCAL_BLOCK_SIZE) S D
  rw [rebuildInPlaceK_eq, rebuildInPlaceK_eq, cmpBlocks_production]

theorem inPlaceGo_temp (S D : Bytes) : (rebuildInPlaceLoop LOCAL_BLOCK_SIZE S D).temp = S :=
  C01Bytes.blockCompare_inplace LOCAL_BLOCK_SIZE (by decide) S D

/-- the hypotheses under which `sync_file_with_delta` takes the in-place rebuild route -/
structure InPlaceRoute (cfg : LocalCopy.Cfg) (D : Bytes) (ld : Nat) : Prop where
  /-- the destination passes the size gates -/
  big : 10485760 ≤ D.length
  notSparse : cfg.sparse = false
  /-- the change-ratio gate answers "delta" or fails -/
  ratio : cfg.ratio ≠ some false
  /-- the COW strategy is not selected: no reflinks, or another file system, or the destination has hard links -/
  noCow : (cfg.cow && cfg.sameFs && !decide (1 < ld)) = false
  /-- not paranoid mode (with `verify_on_write` the route fails: the read-back is a `read_exact` on the write-only descriptor of the working
      file, EBADF in `readExactAct`) -/
  noVerify : cfg.verifyOnWrite = false

/-- the no-fault case of `sync_inplace_run`, the translation's loop replaced by the model's `rebuildInPlaceLoop`; every
    in-place theorem below projects it -/
theorem sync_inplace_eval (cfg : LocalCopy.Cfg) (self : LocalTransport) (w : LWorld) (src dst : Generated.Rs.Path) (is id : Nat) (S D : Bytes)
    (ms md : Nat) (xs xd : List Generated.Rs.Str) (ls ld : Nat) (h : UpdPre w src dst is id S D ms md xs xd ls ld)
    (hr : InPlaceRoute cfg D ld) :
    ∃ w', LocalTransport.sync_file_with_delta (posix cfg) self src dst w =
      (.ok (TransferResult.with_delta (rebuildInPlaceLoop LOCAL_BLOCK_SIZE S D).offset
          (rebuildInPlaceLoop LOCAL_BLOCK_SIZE S D).changed (rebuildInPlaceLoop LOCAL_BLOCK_SIZE S D).literal), w') ∧
      TempDone w dst is id ⟨ofU8 S, ms, xs, ls⟩ ⟨ofU8 D, md, xd, ld⟩ (rebuildInPlaceLoop LOCAL_BLOCK_SIZE S D).temp
        ([Op.create (dst ++ TEMP_SUFFIX) w.nextIno, Op.setLen w.nextIno S.length] ++
          (wsOf (rebuildInPlaceLoop LOCAL_BLOCK_SIZE S D)).map (fun x => Op.write w.nextIno x.1 x.2) ++
          [Op.utime (dst ++ TEMP_SUFFIX) w.nextIno ms, Op.rename (dst ++ TEMP_SUFFIX) dst]) w' ∧
      w'.fault = none := by
  obtain ⟨hbig, hsp, hr, hcow, hv⟩ := hr
  obtain ⟨hnf, hsrc, hisrc, hdst, hidst, hne, htmp, hfresh, hng⟩ := h
  rcases w with ⟨nm, ino, ni, hs, nh, g, lg, now, F⟩
  simp only [TempOK] at hnf hsrc hisrc hdst hidst hfresh hng htmp
  subst hnf hng
  rw [← inPlaceGo_eq_model]
  obtain ⟨w', hrun, hd, hf⟩ := run_of_wp (wp_mono
    (sync_inplace_run cfg self none src dst is id S D ms md xs xd ls ld hsrc hisrc hdst hidst hne htmp hfresh (Or.inl rfl)
      hbig hsp hr hcow hv) (fun _ _ h => h) (fun _ _ h => h.1 rfl))
  exact ⟨w', hrun, hd, hf.mpr rfl⟩

/-! ### C01 (cf. C03): the postcondition of the in-place rebuild route -/

/-- **Postcondition.**  For every world in which `src` is a regular file holding `S` (mtime `ms`) and `dst` is a regular
    file of at least 10 MiB holding ANY bytes `D` (shorter, longer, equal; any mtime, any stale xattrs `xd`), on the
    in-place rebuild route and without a fault, `sync_file_with_delta` returns `Ok` and
    * the name `dst` refers to a FRESH inode holding exactly `S`, with mtime `ms`, no xattr, one link;
    * the working file `dst.sy.tmp` does not exist, no guard is left armed;
    * the source inode is untouched; the old destination inode keeps its bytes (it only lost the name);
    * `bytes_written = |S|`, `delta_operations` / `literal_bytes` are the model's counters
      (`rebuildInPlace LOCAL_BLOCK_SIZE S D`, characterised by `C01Bytes.changed_blocks_spec`). -/
theorem sync_inplace_postcondition (cfg : LocalCopy.Cfg) (self : LocalTransport) (w : LWorld) (src dst : Generated.Rs.Path) (is id : Nat)
    (S D : Bytes) (ms md : Nat) (xs xd : List Generated.Rs.Str) (ls ld : Nat) (h : UpdPre w src dst is id S D ms md xs xd ls ld)
    (hr : InPlaceRoute cfg D ld) :
    ∃ w', LocalTransport.sync_file_with_delta (posix cfg) self src dst w =
      (.ok { bytes_written := S.length, delta_operations := some (rebuildInPlace LOCAL_BLOCK_SIZE S D).2.1,
             literal_bytes := some (rebuildInPlace LOCAL_BLOCK_SIZE S D).2.2, transferred_bytes := none,
             compression_used := false }, w') ∧
      w'.names dst = some (.file w.nextIno) ∧
      w'.inodes w.nextIno = some ⟨ofU8 S, ms, [], 1⟩ ∧
      w'.names (dst ++ TEMP_SUFFIX) = none ∧ w'.guards = [] ∧
      w'.names src = some (.file is) ∧ w'.inodes is = some ⟨ofU8 S, ms, xs, ls⟩ ∧
      w'.inodes id = some ⟨ofU8 D, md, xd, ld - 1⟩ := by
  obtain ⟨w', hrun, ⟨hn, ht, hnames, hino, his, hid, _, _, hg⟩, _⟩ := sync_inplace_eval cfg self w src dst is id S D ms md xs xd ls ld h hr
  refine ⟨w', ?_, hn, ?_, ht, hg, ?_, his, hid⟩
  · rw [hrun, (C01Bytes.blockCompare_bytes_written LOCAL_BLOCK_SIZE (by decide) S D).1]
    rfl
  · rw [hino, inPlaceGo_temp]
  · have hsd : src ≠ dst := by intro e; have := h.hsrc; rw [e, h.hdst] at this; exact h.ne (by cases this; rfl)
    rw [hnames src hsd (h.htmp.ne h.hsrc).symm, h.hsrc]

/-! ### C05 / C09: the log of the route and its order -/

/-- the exact sequence of mutating system calls of the route: (the unlink of a symlink at the working-file path, if
    any,) `create tmp`, `ftruncate`, one `pwrite` per 64 KiB block of the source in file order, `utimensat tmp`,
    `rename tmp dest` — nothing else, nothing after the rename -/
theorem sync_inplace_log (cfg : LocalCopy.Cfg) (self : LocalTransport) (w : LWorld) (src dst : Generated.Rs.Path) (is id : Nat)
    (S D : Bytes) (ms md : Nat) (xs xd : List Generated.Rs.Str) (ls ld : Nat) (h : UpdPre w src dst is id S D ms md xs xd ls ld)
    (hr : InPlaceRoute cfg D ld) :
    (LocalTransport.sync_file_with_delta (posix cfg) self src dst w).2.log =
      (unlinkSym w (dst ++ TEMP_SUFFIX)).log ++
        ([Op.create (dst ++ TEMP_SUFFIX) w.nextIno, Op.setLen w.nextIno S.length] ++
          (wsOf (rebuildInPlaceLoop LOCAL_BLOCK_SIZE S D)).map (fun x => Op.write w.nextIno x.1 x.2) ++
          [Op.utime (dst ++ TEMP_SUFFIX) w.nextIno ms, Op.rename (dst ++ TEMP_SUFFIX) dst]) := by
  obtain ⟨w', hrun, hd, _⟩ := sync_inplace_eval cfg self w src dst is id S D ms md xs xd ls ld h hr
  rw [hrun]
  exact hd.log

/-- a log entry names, or writes the inode of, the final path `p` (inode `i` before the call) -/
def touchesDest (p : Generated.Rs.Path) (i : Nat) : Op → Bool
  | .mkdir q => q == p
  | .unlink q => q == p
  | .create q _ => q == p
  | .truncate j => j == i
  | .write j _ _ => j == i
  | .setLen j _ => j == i
  | .utime q j _ => q == p || j == i
  | .xattrRemove j _ => j == i
  | .rename q q' => q == p || q' == p

/-- clearing the working-file path (`unlinkSym`) appends nothing that touches the destination -/
theorem unlinkSym_log_untouched (w : LWorld) (dst : Generated.Rs.Path) (id : Nat) (htd : dst ++ TEMP_SUFFIX ≠ dst) :
    ∃ u, (unlinkSym w (dst ++ TEMP_SUFFIX)).log = w.log ++ u ∧ ∀ o ∈ u, touchesDest dst id o = false := by
  unfold unlinkSym
  split
  · exact ⟨[.unlink (dst ++ TEMP_SUFFIX)], rfl, by intro o ho; simp at ho; subst ho; simp [touchesDest, htd]⟩
  · exact ⟨[], by simp, by simp⟩

/-- **Order facts (C09).**  The operations the call appends to the log are `pre ++ [utime tmp, rename tmp dest]` where no
    operation of `pre` names `dest` or touches the inode `dest` referred to; the mtime is set on the WORKING file
    immediately before the rename; the rename is the last operation. -/
theorem sync_inplace_order (cfg : LocalCopy.Cfg) (self : LocalTransport) (w : LWorld) (src dst : Generated.Rs.Path) (is id : Nat)
    (S D : Bytes) (ms md : Nat) (xs xd : List Generated.Rs.Str) (ls ld : Nat) (h : UpdPre w src dst is id S D ms md xs xd ls ld)
    (hr : InPlaceRoute cfg D ld) :
    ∃ pre, (LocalTransport.sync_file_with_delta (posix cfg) self src dst w).2.log =
        w.log ++ pre ++ [Op.utime (dst ++ TEMP_SUFFIX) w.nextIno ms, Op.rename (dst ++ TEMP_SUFFIX) dst] ∧
      ∀ o ∈ pre, touchesDest dst id o = false := by
  have hlog := sync_inplace_log cfg self w src dst is id S D ms md xs xd ls ld h hr
  have htd := h.htmp.ne h.hdst
  have hid : w.nextIno ≠ id := by have := h.fresh.2; omega
  obtain ⟨u, hu, hu2⟩ := unlinkSym_log_untouched w dst id htd
  refine ⟨u ++ ([Op.create (dst ++ TEMP_SUFFIX) w.nextIno, Op.setLen w.nextIno S.length] ++
      (wsOf (rebuildInPlaceLoop LOCAL_BLOCK_SIZE S D)).map (fun x => Op.write w.nextIno x.1 x.2)), ?_, ?_⟩
  · rw [hlog, hu]; simp [List.append_assoc]
  · intro o ho
    simp only [List.mem_append, List.mem_cons, List.mem_map, List.not_mem_nil, or_false] at ho
    rcases ho with ho | (ho | ho) | ⟨x, _, ho⟩
    · exact hu2 o ho
    · subst ho; simp [touchesDest, htd]
    · subst ho; simp [touchesDest, hid]
    · subst ho; simp [touchesDest, hid]

/-- abstraction of a POSIX-level log to the step language of `Engine.Steps`: operations on the working file's own inode
    (`ftruncate`, `pwrite`, `utimensat`) are internal to the step `createTemp` … `rename` (the step model gives a working
    file no bytes until it is renamed); the rename carries content id, size and mtime -/
def absLog (pathOf : Generated.Rs.Path → Engine.Path) (tmp : Generated.Rs.Path) (cid size mtime : Nat) : List Op → List Engine.Step
  | [] => []
  | .create q _ :: t => (if q = tmp then [Engine.Step.createTemp (pathOf q) cid] else []) ++ absLog pathOf tmp cid size mtime t
  | .rename q p :: t => Engine.Step.rename (pathOf q) (pathOf p) cid size mtime :: absLog pathOf tmp cid size mtime t
  | .unlink q :: t => Engine.Step.unlink (pathOf q) :: absLog pathOf tmp cid size mtime t
  | _ :: t => absLog pathOf tmp cid size mtime t

theorem absLog_append (pathOf : Generated.Rs.Path → Engine.Path) (tmp : Generated.Rs.Path) (cid size mtime : Nat) (a b : List Op) :
    absLog pathOf tmp cid size mtime (a ++ b) = absLog pathOf tmp cid size mtime a ++ absLog pathOf tmp cid size mtime b := by
  induction a with
  | nil => rfl
  | cons o t ih => cases o <;> simp [absLog, ih, List.append_assoc]

theorem absLog_writes (pathOf : Generated.Rs.Path → Engine.Path) (tmp : Generated.Rs.Path) (cid size mtime i : Nat) (l : List (Nat × List Nat)) :
    absLog pathOf tmp cid size mtime (l.map (fun x => Op.write i x.1 x.2)) = [] := by
  induction l with
  | nil => rfl
  | cons x t ih => simp [absLog, ih]

/-- **Step language (C05, C09).**  When the working-file path is free, the operations the call appends to the log,
    abstracted, are exactly the step list `Engine.deltaSteps` gives the temp+rename route: `createTemp tmp`,
    `rename tmp dest`.  (The data fields of the `rename` step — content id, size, mtime — are parameters of the abstraction:
    that the renamed inode holds the source's bytes and mtime is `sync_inplace_postcondition`, that the mtime was put on the
    working file BEFORE the rename is `sync_inplace_order`.) -/
theorem sync_inplace_steps (cfg : LocalCopy.Cfg) (self : LocalTransport) (w : LWorld) (src dst : Generated.Rs.Path) (is id : Nat)
    (S D : Bytes) (ms md : Nat) (xs xd : List Generated.Rs.Str) (ls ld : Nat) (h : UpdPre w src dst is id S D ms md xs xd ls ld)
    (hr : InPlaceRoute cfg D ld) (hfree : w.names (dst ++ TEMP_SUFFIX) = none)
    (pathOf : Generated.Rs.Path → Engine.Path) (suffix : String) (hsuf : pathOf (dst ++ TEMP_SUFFIX) = Engine.tempOf suffix (pathOf dst))
    (m : Engine.FileMeta) :
    ∃ ops, (LocalTransport.sync_file_with_delta (posix cfg) self src dst w).2.log = w.log ++ ops ∧
      absLog pathOf (dst ++ TEMP_SUFFIX) m.content m.size m.mtime ops = Engine.deltaSteps suffix (pathOf dst) m := by
  have hlog := sync_inplace_log cfg self w src dst is id S D ms md xs xd ls ld h hr
  rw [unlinkSym_of_none w _ hfree] at hlog
  refine ⟨_, hlog, ?_⟩
  rw [absLog_append, absLog_append, absLog_writes]
  simp [absLog, Engine.deltaSteps, hsuf]

/-! ### C02 (cf. C17): never through a link -/

/-- **A symlink at the working-file path is never written through** (fix d0ec669).  If `dst.sy.tmp` is a symlink to
    some other file `outside` (inode `io`), the call unlinks the link first: afterwards the name `outside` and its inode
    are exactly what they were, and `dst` is a regular file holding the source's bytes. -/
theorem sync_inplace_temp_symlink_safe (cfg : LocalCopy.Cfg) (self : LocalTransport) (w : LWorld) (src dst outside : Generated.Rs.Path)
    (is id io : Nat) (S D : Bytes) (ms md : Nat) (xs xd : List Generated.Rs.Str) (ls ld : Nat)
    (h : UpdPre w src dst is id S D ms md xs xd ls ld) (hr : InPlaceRoute cfg D ld)
    (hlink : w.names (dst ++ TEMP_SUFFIX) = some (.symlink outside)) (hout : w.names outside = some (.file io))
    (hio : io < w.nextIno) (hne : io ≠ id) :
    ∃ w', (LocalTransport.sync_file_with_delta (posix cfg) self src dst w).2 = w' ∧
      w'.names outside = some (.file io) ∧ w'.inodes io = w.inodes io ∧
      w'.names dst = some (.file w.nextIno) ∧ w'.inodes w.nextIno = some ⟨ofU8 S, ms, [], 1⟩ ∧
      w'.names (dst ++ TEMP_SUFFIX) = none := by
  obtain ⟨w', hrun, ⟨hn, ht, hnames, hnew, _, _, hino, _, _⟩, _⟩ := sync_inplace_eval cfg self w src dst is id S D ms md xs xd ls ld h hr
  have hod : outside ≠ dst := by intro e; rw [e, h.hdst] at hout; cases hout; exact hne rfl
  have hot : outside ≠ dst ++ TEMP_SUFFIX := by intro e; rw [e, hlink] at hout; cases hout
  refine ⟨w', by rw [hrun], ?_, ?_, hn, by rw [hnew, inPlaceGo_temp], ht⟩
  · rw [hnames outside hod hot, hout]
  · exact hino io (by omega) hne

/-- **Never through a destination link (C02; cf. C17).**  `dst` is a symlink to ANYTHING — the source file itself
    (`t = src`), a file outside the destination, or nothing (dangling) — and a bare name in the current directory.  After
    `sync_file_with_delta`: the call succeeds; the NAME `dst` refers to a fresh regular file holding the source's bytes
    and mtime; every inode that existed before the call — in particular the link's target — is byte-identical (same
    record); every other name, in particular the target's, is unchanged; the operations performed are exactly
    `unlink dst`, `create dst` (a NEW inode), one write into the new inode, `utimensat dst` (reaching the new inode):
    no truncate / write / utime / xattr operation on an inode that existed before (truncation of nothing comes first,
    `set_file_mtime` is last).  (`cfg.copyXattrs = false`: Linux `fs::copy`.) -/
theorem sync_symlink_dest_never_through (cfg : LocalCopy.Cfg) (self : LocalTransport) (w : LWorld) (src dst t : Generated.Rs.Path)
    (is : Nat) (ns : Inode) (hnf : w.fault = none) (hsrc : w.names src = some (.file is)) (hisrc : w.inodes is = some ns)
    (hdst : w.names dst = some (.symlink t)) (hfresh : is < w.nextIno) (hpar : Generated.Rs.parent dst = some [])
    (hx : cfg.copyXattrs = false) :
    ∃ w', LocalTransport.sync_file_with_delta (posix cfg) self src dst w = (.ok (TransferResult.new ns.bytes.length), w') ∧
      w'.names dst = some (.file w.nextIno) ∧ w'.inodes w.nextIno = some ⟨ns.bytes, ns.mtime, [], 1⟩ ∧
      (∀ p, p ≠ dst → w'.names p = w.names p) ∧ (∀ i, i ≠ w.nextIno → w'.inodes i = w.inodes i) ∧
      w'.inodes is = some ns ∧
      w'.log = w.log ++ [Op.unlink dst, Op.create dst w.nextIno, Op.write w.nextIno 0 ns.bytes, Op.utime dst w.nextIno ns.mtime] := by
  rcases w with ⟨nm, ino, ni, hs, nh, g, lg, now, F⟩
  simp only at hnf hsrc hisrc hdst hfresh
  subst hnf
  have hsd : src ≠ dst := by intro e; rw [e, hdst] at hsrc; cases hsrc
  have hu := unlinkSym_of_symlink ⟨nm, ino, ni, hs, nh, g, lg, now, none⟩ dst t hdst
  refine run_of_wp ?_
  unfold LocalTransport.sync_file_with_delta
  refine wp_bind_run (remove_if_symlink_run cfg dst) ?_
  rw [hu]
  refine wp_bind_run (exists_free cfg self dst (upd_same _ _ _)) ?_
  refine wp_ite_pos (by decide) ?_
  refine wp_of_run (copy_file_fresh_run cfg self _ _ _ _ _ _ _ _ src dst is ns ((upd_ne _ _ hsd).trans hsrc) hisrc
    (Or.inl (upd_same _ _ _)) hfresh hpar hx) ?_
  rw [unlinkSym_of_none _ dst (upd_same _ _ _)]
  refine ⟨rfl, upd_same _ _ _, upd_same _ _ _, fun p hp => (upd_ne _ _ hp).trans (upd_ne _ _ hp), fun i hi => upd_ne _ _ hi, (upd_ne _ _ (Nat.ne_of_lt hfresh)).trans hisrc, ?_⟩
  show lg ++ _ ++ _ = _
  simp

-- `t` is arbitrary: the source itself, an outside file, a dangling name; here `t := src`
example (cfg : LocalCopy.Cfg) (self : LocalTransport) (w : LWorld) (src dst : Generated.Rs.Path) (is : Nat) (ns : Inode)
    (hnf : w.fault = none) (hsrc : w.names src = some (.file is)) (hisrc : w.inodes is = some ns)
    (hdst : w.names dst = some (.symlink src)) (hfresh : is < w.nextIno) (hpar : Generated.Rs.parent dst = some [])
    (hx : cfg.copyXattrs = false) :
    ∃ w', (LocalTransport.sync_file_with_delta (posix cfg) self src dst w).2 = w' ∧ w'.inodes is = some ns ∧
      w'.names src = some (.file is) := by
  obtain ⟨w', h1, _, _, h4, _, h6, _⟩ := sync_symlink_dest_never_through cfg self w src dst src is ns hnf hsrc hisrc hdst hfresh hpar hx
  have hsd : src ≠ dst := by intro e; rw [e, hdst] at hsrc; cases hsrc
  exact ⟨w', by rw [h1], h6, by rw [h4 src hsd, hsrc]⟩

/-! ### the instance does write through links: the statements above are not vacuous -/

/-- a two-name world: `d` is a symlink to `s`, `s` is a regular file (inode 0) holding `[1, 2, 3]` -/
def linkW : LWorld :=
  { names := fun p => if p = ['d'] then some (.symlink ['s']) else if p = ['s'] then some (.file 0) else none,
    inodes := fun i => if i = 0 then some ⟨[1, 2, 3], 7, [], 1⟩ else none,
    nextIno := 1, handles := fun _ => none, nextHandle := 0, guards := [], log := [], now := 9, fault := none }

def plainCfg : LocalCopy.Cfg := { sparse := false, ratio := some true, cow := false, sameFs := true, verifyOnWrite := false, copyXattrs := false }

/-- **Counterexample (what `remove_if_symlink` is for).**  `fs::copy(s, d)` with `d` a symlink to `s` itself opens the
    TARGET with `O_TRUNC`: the source file is emptied and 0 bytes are copied — the defect `C02` of the pinned tree. -/
theorem fs_copy_through_link_truncates :
    ∃ w', (posix plainCfg).fs_copy ['s'] ['d'] linkW = (.ok 0, w') ∧
      (w'.inodes 0).map (·.bytes) = some [] ∧ w'.names ['d'] = some (.symlink ['s']) ∧
      w'.log = [Op.truncate 0, Op.write 0 0 []] := by
  refine ⟨_, rfl, rfl, rfl, rfl⟩

/-- … while after `remove_if_symlink` the same copy creates a fresh file at the name and leaves the old target alone -/
theorem fs_copy_after_remove_if_symlink :
    ∃ w1 w', remove_if_symlink (posix plainCfg) ['d'] linkW = (.ok (), w1) ∧
      (posix plainCfg).fs_copy ['s'] ['d'] w1 = (.ok 3, w') ∧
      (w'.inodes 0).map (·.bytes) = some [1, 2, 3] ∧ w'.names ['d'] = some (.file 1) ∧
      (w'.inodes 1).map (·.bytes) = some [1, 2, 3] ∧
      w'.log = [Op.unlink ['d'], Op.create ['d'] 1, Op.write 1 0 [1, 2, 3]] := by
  refine ⟨_, _, rfl, rfl, rfl, rfl, rfl, rfl⟩

/-! ### non-vacuity of the hypotheses -/

/-- a world with a 10 MiB destination: `s` (inode 0, 3 bytes), `d` (inode 1, 10 MiB of zeros, a stale xattr, an old
    mtime), the working-file name free -/
def exW : LWorld :=
  { names := fun p => if p = ['s'] then some (.file 0) else if p = ['d'] then some (.file 1) else none,
    inodes := fun i => if i = 0 then some ⟨ofU8 [1, 2, 3], 7, [], 1⟩
                       else if i = 1 then some ⟨ofU8 (List.replicate 10485760 0), 5, [['u']], 1⟩ else none,
    nextIno := 2, handles := fun _ => none, nextHandle := 0, guards := [], log := [], now := 9, fault := none }

theorem exW_pre : UpdPre exW ['s'] ['d'] 0 1 [1, 2, 3] (List.replicate 10485760 0) 7 5 [] [['u']] 1 1 :=
  { nf := rfl, hsrc := rfl, hisrc := rfl, hdst := rfl, hidst := rfl, ne := by decide,
    htmp := Or.inl rfl, fresh := by decide, noguards := rfl }

theorem exW_route : InPlaceRoute plainCfg (List.replicate 10485760 0) 1 :=
  { big := by rw [List.length_replicate]; exact Nat.le_refl _, notSparse := rfl, ratio := by decide, noCow := rfl, noVerify := rfl }

/-- the same world with a symlink at the working-file path; its target `o` is a second name of the source's inode -/
def exWLink : LWorld :=
  { exW with names := fun p => if p = ['d'] ++ TEMP_SUFFIX then some (.symlink ['o']) else if p = ['o'] then some (.file 0) else exW.names p }

example : TempOK exWLink (['d'] ++ TEMP_SUFFIX) := Or.inr ⟨['o'], rfl⟩

-- the hypotheses of `sync_symlink_dest_never_through` hold in `linkW` (`d` → `s`, the source itself)
example : linkW.fault = none ∧ linkW.names ['s'] = some (.file 0) ∧ linkW.names ['d'] = some (.symlink ['s']) ∧
    0 < linkW.nextIno ∧ Generated.Rs.parent ['d'] = some [] ∧ plainCfg.copyXattrs = false := by decide

/-- the postcondition instantiated: the 3-byte source replaces the 10 MiB destination -/
example : ∃ w', LocalTransport.sync_file_with_delta (posix plainCfg) default ['s'] ['d'] exW =
      (.ok { bytes_written := 3, delta_operations := some (rebuildInPlace LOCAL_BLOCK_SIZE [1, 2, 3] (List.replicate 10485760 0)).2.1,
             literal_bytes := some (rebuildInPlace LOCAL_BLOCK_SIZE [1, 2, 3] (List.replicate 10485760 0)).2.2,
             transferred_bytes := none, compression_used := false }, w') ∧
      w'.names ['d'] = some (.file 2) ∧ w'.inodes 2 = some ⟨ofU8 [1, 2, 3], 7, [], 1⟩ := by
  obtain ⟨w', h1, h2, h3, _⟩ := sync_inplace_postcondition plainCfg default exW ['s'] ['d'] 0 1 [1, 2, 3]
    (List.replicate 10485760 0) 7 5 [] [['u']] 1 1 exW_pre exW_route
  exact ⟨w', h1, h2, h3⟩

end SyModel.Props.GenLocalCopy
