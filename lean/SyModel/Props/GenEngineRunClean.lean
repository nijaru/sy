/-
  GenEngineRunClean — the capstone `GenEngineRun.seqEngine_eq_model` with its restriction `FailClean` DISCHARGED from
  structural hypotheses about the input.

  `RunHyp` (Props/GenEngineRun.lean) carries `failClean : FailClean cfg (initExec dst n) (plan cfg scan dst)` — "every
  failed Create/Update of the model's run leaves no residue" — proved there for dry runs and for runs without any
  error.  Here it follows (`failClean_of_closed_dst`, Lemmas/GenEngineRunClean) from `UniqueRels (scanFilter cfg scan)`
  (already a clause of `RunHyp`) and `DstParentClosed dst` (every strict ancestor of a listed destination path is a
  listed DIRECTORY), for every configuration — `-H`, `--delete`, `--dry-run`, any link mode, any comparison mode — and
  for runs with any number of failing tasks.  `ParentsFirst` is not needed for it (it stays in the hypotheses: the
  planning stage uses it).  `RunHypS` is `RunHyp` with `closed` in place of `failClean` and `nothingBelowLinks`; the
  destination a run leaves is parent-closed again (`structural_dst_closed`); `closed_needed`, `unique_needed` are
  kernel-checked witnesses that neither hypothesis can be dropped; `exFailHyp` … : a run with THREE failing tasks.
-/
import SyModel.Lemmas.GenEngineRunClean
import SyModel.Props.GenEngineRun
namespace SyModel.Props.GenEngineRunClean
open SyModel SyModel.Engine SyModel.Generated SyModel.GenEngineTask SyModel.Lemmas.GenEngineRun
open SyModel.Lemmas.GenEnginePlan (NothingBelowLinks)
open SyModel.Props.GenEngineRun
open SyModel.Lemmas.GenEngineRunClean

/-- **`FailClean` from structural hypotheses**: no path twice in the filtered scan, parent-closed destination -/
theorem failClean_structural (cfg : Cfg) (scan : List SEntry) (dst : Map DNode) (n : Nat)
    (hu : UniqueRels (scanFilter cfg scan)) (hc : DstParentClosed dst) :
    FailClean cfg (initExec dst n) (plan cfg scan dst) :=
  failClean_of_closed_dst cfg scan dst n hu hc

/-- **the failure causes of the model's `perform` without a fault plan, complete**: a task fails only outside a dry run,
    only as a Create / Update, and only because (1) a strict ancestor of its path is a file or a link, (2) a directory
    stands where a file / link / hard link goes, (3) a file stands where a directory goes, (4) a link stands where a
    directory is to be CREATED, (5) `-H`: `link()` onto an existing name, (6) `-H`: the group's first member is no
    regular file -/
theorem failCauses_complete {cfg : Cfg} {w : World} {t : Task} (h : perform cfg w t = none) :
    cfg.dryRun = false ∧ (t.act = .create ∨ t.act = .update) ∧ FailCause cfg w t :=
  perform_none_cause h

/-- a parent-closed destination lists nothing below a symlink node -/
theorem nothingBelowLinks_of_closed {dst : Map DNode} (hc : DstParentClosed dst) : NothingBelowLinks dst := by
  intro link q s hl hne hp hq
  apply Classical.byContradiction
  intro hn
  have := (gclosed_iff dst).2 hc q hn link hne hp (Ne.symm hq)
  rw [hl] at this
  cases this

/-- **the hypotheses of the capstone, structural version**: `RunHyp` with the clauses `failClean` and
    `nothingBelowLinks` replaced by `closed` (each remaining clause as documented at `RunHyp`) -/
structure RunHypS (cfg : Cfg) (I : RunIn) (ew : EWorld) (scan : List SEntry) (dst : Map DNode) (n : Nat) : Prop where
  init : ew.xw.w = { dst := dst, linkMap := [], nextIno := n, bytes := 0 }
  logEmpty : ew.log = []
  tie : cfg.tie = false
  modeNone : I.mode = .None
  filtered : I.files.map (absS ew.xw) = scanFilter cfg scan
  scannedRels : I.scanned.map SyModel.Lemmas.GenPlannerFx.compsOf = scan.map (·.rel)
  files : ∀ f ∈ I.files, FileOK cfg ew I.view f
  cleanKeys : ∀ k ∈ dst.keys, SyModel.Lemmas.GenPlannerFx.CleanPath k
  unique : UniqueRels (scanFilter cfg scan)
  parentsFirst : ParentsFirst (scanFilter cfg scan)
  /-- the destination map is the listing of a tree: every strict ancestor of a listed path is a listed DIRECTORY
      (`DstParentClosed` of Lemmas/EngineWF; decidable) — in particular nothing is listed below a link or a file -/
  closed : DstParentClosed dst

theorem RunHypS.toRunHyp {cfg : Cfg} {I : RunIn} {ew : EWorld} {scan : List SEntry} {dst : Map DNode} {n : Nat}
    (H : RunHypS cfg I ew scan dst n) : RunHyp cfg I ew scan dst n where
  init := H.init
  logEmpty := H.logEmpty
  tie := H.tie
  modeNone := H.modeNone
  filtered := H.filtered
  scannedRels := H.scannedRels
  files := H.files
  cleanKeys := H.cleanKeys
  unique := H.unique
  parentsFirst := H.parentsFirst
  nothingBelowLinks := nothingBelowLinks_of_closed H.closed
  failClean := failClean_of_closed_dst cfg scan dst n H.unique H.closed

theorem RunHypS.of_runHyp {cfg : Cfg} {I : RunIn} {ew : EWorld} {scan : List SEntry} {dst : Map DNode} {n : Nat}
    (H : RunHyp cfg I ew scan dst n) (hc : DstParentClosed dst) : RunHypS cfg I ew scan dst n :=
  ⟨H.init, H.logEmpty, H.tie, H.modeNone, H.filtered, H.scannedRels, H.files, H.cleanKeys, H.unique, H.parentsFirst, hc⟩

section capstone
variable {cfg : Cfg} {I : RunIn} {ew : EWorld} {scan : List SEntry} {dst : Map DNode} {n : Nat}

/-- **THE CAPSTONE, `FailClean` discharged.**  Under the structural hypotheses the sequential composition of the
    translated pieces answers, and the abstraction of what it answers IS the model's fault-free run — whether or not
    tasks fail. -/
theorem seqEngine_eq_model_structural (H : RunHypS cfg I ew scan dst n) :
    ∃ o, seqEngine cfg I ew = some o ∧ absOut cfg ew o = run cfg scan dst n :=
  seqEngine_eq_model H.toRunHyp

/-- the model's run keeps a parent-closed destination parent-closed (refused or not, errors or not) -/
theorem run_dst_closed (cfg : Cfg) (scan : List SEntry) (dst : Map DNode) (n : Nat) (hc : DstParentClosed dst) :
    DstParentClosed (run cfg scan dst n).dst := by
  rw [← gclosed_iff] at hc ⊢
  unfold run runF
  simp only []
  split
  · exact hc
  · exact foldl_noFaults_closed cfg _ _ hc

/-- **the structural hypothesis is re-established**: the destination tree the translated composition leaves is
    parent-closed again -/
theorem structural_dst_closed (H : RunHypS cfg I ew scan dst n) :
    ∃ o, seqEngine cfg I ew = some o ∧ DstParentClosed o.world.xw.w.dst := by
  obtain ⟨o, ho, heq⟩ := seqEngine_eq_model_structural H
  refine ⟨o, ho, ?_⟩
  have := run_dst_closed cfg scan dst n H.closed
  rw [← heq] at this
  exact this

/-- C10 on the raw output, structural hypotheses: exit status 0 means not refused and no error record -/
theorem structural_exit_zero_no_error_records (H : RunHypS cfg I ew scan dst n) :
    ∃ o, seqEngine cfg I ew = some o ∧ (o.exit = 0 → o.refused = false ∧ o.stats.errors = []) :=
  translated_exit_zero_no_error_records H.toRunHyp

end capstone

section witnesses

/-- `closed` is needed: the destination of `GenEngineRun.left_residue_witness` (`p/k` listed, `p` not) is not
    parent-closed, `FailClean` fails there, and the translated `run_task` really leaves `p` behind -/
theorem closed_needed :
    ¬ DstParentClosed exBadDst ∧ ¬ FailClean { exCfg with delete := false } (initExec exBadDst 0) [exBadTask] :=
  ⟨by decide, failClean_fails_witness⟩

/-- a scan that lists `k` twice: as a symlink and as a directory -/
def exTwiceScan : List SEntry := [⟨["k"], .symlink "t" .dangling, 1, false⟩, ⟨["k"], .dir, 0, false⟩]

/-- `unique` is needed for `FailClean` AS DEFINED: with `k` scanned twice the second task — the creation of a directory,
    planned against the empty destination — meets the symlink the first one made and fails; `NoResidue` (whose second
    clause is the over-approximation `Left` of the Transfer bridge) does not hold -/
theorem unique_needed :
    DstParentClosed ([] : Map DNode) ∧ ¬ UniqueRels (scanFilter { exCfg with delete := false } exTwiceScan) ∧
      ¬ FailClean { exCfg with delete := false } (initExec [] 0) (plan { exCfg with delete := false } exTwiceScan []) := by
  decide

end witnesses

section examples

/-- `--delete --force-delete`, preserve links, default comparison -/
def exCfgF : Cfg := { exCfg with force := true }

/-- the source: the files `a`, `c`, the directory `sub` with the file `sub/b` -/
def exFilesF : List EnginePlan.FileEntry :=
  [exEntry "a" 3 5000000000 false, exEntry "c" 2 7 false, exEntry "sub" 0 0 true, exEntry "sub/b" 1 1000000000 false]

/-- the destination: `a` is a DIRECTORY (holding `a/x`), `sub` is a FILE — a parent-closed listing -/
def exDstF : Map DNode := [(["a"], .dir), (["a", "x"], .file ⟨9, 1, 1, [], 2⟩), (["sub"], .file ⟨5, 1, 1, [], 3⟩)]

def exEWF : EWorld :=
  { xw := { root := "d".toList, w := { dst := exDstF, linkMap := [], nextIno := 100, bytes := 0 },
            src := fun p => if p = "s/a".toList then .file ⟨7, 3, 5000000000, [], 10⟩
                            else if p = "s/c".toList then .file ⟨6, 2, 7, [], 12⟩
                            else if p = "s/sub/b".toList then .file ⟨8, 1, 1000000000, [], 11⟩
                            else if p = "s/sub".toList then .dir else .dangling,
            valId := fun _ => 0 },
    log := [] }

def exInF : RunIn :=
  { files := exFilesF, scanned := ["a".toList, "c".toList, "sub".toList, "sub/b".toList],
    view := { through := fun _ => .dangling, dirInfo := fun _ => (4096, 0), srcRoot := "s".toList }, mode := .None }

def exScanF : List SEntry := exFilesF.map (absS exEWF.xw)

theorem exFileOKF (cfg : Cfg) : ∀ f ∈ exInF.files, FileOK cfg exEWF exInF.view f := by
  intro f hf
  simp only [exInF, exFilesF, List.mem_cons, List.not_mem_nil, or_false] at hf
  rcases hf with rfl | rfl | rfl | rfl
  · exact .of_plain (by decide) rfl (by decide) (fun _ => ⟨_, rfl, rfl, rfl⟩) rfl
  · exact .of_plain (by decide) rfl (by decide) (fun _ => ⟨_, rfl, rfl, rfl⟩) rfl
  · exact .of_plain (by decide) rfl (by decide) (fun h => by cases h) rfl
  · exact .of_plain (by decide) rfl (by decide) (fun _ => ⟨_, rfl, rfl, rfl⟩) rfl

/-- **`RunHypS` is satisfiable on a run with failing tasks** — no clause about failures is assumed -/
theorem exFailHyp : RunHypS exCfgF exInF exEWF exScanF exDstF 100 where
  init := rfl
  logEmpty := rfl
  tie := rfl
  modeNone := rfl
  filtered := by decide
  scannedRels := by decide
  files := exFileOKF _
  cleanKeys := by decide
  unique := by decide
  parentsFirst := by decide
  closed := by decide

/-- the model's run of the example DOES record errors: the update of `a` (a directory is in the way), the creation of
    the directory `sub` (a file is in the way), the creation of `sub/b` (the file `sub` is on the way) — so neither
    `failClean_of_no_errors` nor `failClean_of_dry_run` applies -/
example : ((plan exCfgF exScanF exDstF).foldl (execTask exCfgF noFaults) (initExec exDstF 100)).b.errors.reverse =
    [(.update, ["a"]), (.create, ["sub"]), (.create, ["sub", "b"])] := by decide

/-- … each of them with its cause -/
example : perform exCfgF (initExec exDstF 100).w ⟨.update, ["a"], .file ⟨7, 3, 5000000000, [], 10⟩ 1⟩ = none ∧
    perform exCfgF (initExec exDstF 100).w ⟨.create, ["sub"], .dir⟩ = none ∧
    perform exCfgF (initExec exDstF 100).w ⟨.create, ["sub", "b"], .file ⟨8, 1, 1000000000, [], 11⟩ 1⟩ = none := by
  decide

/-- `FailClean` of that run, BY THE THEOREM -/
example : FailClean exCfgF (initExec exDstF 100) (plan exCfgF exScanF exDstF) :=
  failClean_structural exCfgF exScanF exDstF 100 exFailHyp.unique exFailHyp.closed

/-- **the capstone on the failing example**: the composition answers, exits 1, reports exactly the three errors, still
    creates `c` and deletes `a/x`; `a` and `sub` stay what they were — the values are the MODEL's, transported through
    `seqEngine_eq_model_structural` -/
theorem exFail_values : ∃ o, seqEngine exCfgF exInF exEWF = some o ∧
    (absOut exCfgF exEWF o).refused = false ∧ (absOut exCfgF exEWF o).exit = 1 ∧
    (absOut exCfgF exEWF o).errors = [(.update, ["a"]), (.create, ["sub"]), (.create, ["sub", "b"])] ∧
    (absOut exCfgF exEWF o).events = [(.create, ["c"]), (.delete, ["a", "x"])] ∧
    (absOut exCfgF exEWF o).dst.keys = [["c"], ["a"], ["sub"]] := by
  obtain ⟨o, ho, heq⟩ := seqEngine_eq_model_structural exFailHyp
  refine ⟨o, ho, ?_⟩
  rw [heq]
  decide

/-- … and the destination it leaves is parent-closed again -/
example : ∃ o, seqEngine exCfgF exInF exEWF = some o ∧ DstParentClosed o.world.xw.w.dst :=
  structural_dst_closed exFailHyp

/-- **THE COMPOSITION, RUN BY THE KERNEL, on the failing example**: every translated unit evaluated — four planning
    rounds, `plan_deletions` + `retain`, five task bodies through the translated executors (three of them answer `Err`),
    the exit decision: exit 1, `c` created, `a/x` deleted, three error records, two events, NO residue -/
theorem exFail_result : viewOut (seqEngine exCfgF exInF exEWF) =
    some ⟨false, 1, [["c"], ["a"], ["sub"]], 1, 0, 0, 1, 3, 2⟩ := by decide

/-- `-H`, no `--delete` -/
def exCfgH : Cfg := { exCfg with delete := false, hardlinks := true }

/-- two names `g1`, `g2` of one inode (9), and a third one `g3` -/
def exScanH : List SEntry :=
  [⟨["g1"], .file ⟨1, 1, 1, [], 9⟩ 3, 1, false⟩, ⟨["g2"], .file ⟨1, 1, 1, [], 9⟩ 3, 1, false⟩,
   ⟨["g3"], .file ⟨1, 1, 1, [], 9⟩ 3, 1, false⟩]

/-- `g2` is a directory in the destination -/
def exDstH : Map DNode := [(["g2"], .dir)]

/-- the re-link of `g2` fails (a directory is in the way) while `g1` is written and `g3` is linked to it -/
example : ((plan exCfgH exScanH exDstH).foldl (execTask exCfgH noFaults) (initExec exDstH 0)).b.errors =
    [(.update, ["g2"])] ∧
    ((plan exCfgH exScanH exDstH).foldl (execTask exCfgH noFaults) (initExec exDstH 0)).w.dst.keys =
      [["g3"], ["g1"], ["g2"]] := by decide

example : FailClean exCfgH (initExec exDstH 0) (plan exCfgH exScanH exDstH) :=
  failClean_structural exCfgH exScanH exDstH 0 (by decide) (by decide)

end examples

end SyModel.Props.GenEngineRunClean
