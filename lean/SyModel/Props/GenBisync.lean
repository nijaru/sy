/-
  GenBisync — the TRANSLATED bisync code (`SyModel.Generated.Bisync`, translated by tools/rs2lean.py from
  /repo/src/bisync/classifier.rs and resolver.rs) computes the same functions as the HANDWRITTEN
  model (`SyModel.Bisync.Classifier`, `SyModel.Bisync.Resolver`, with `Cfg.repaired`) the property theorems
  C11 / C12 are about.

  Abstraction maps (generated type → model type; fields the model does not have are dropped):
    `absEntry cont`   FileEntry → Entry      (size, modified ↦ mtime, is_dir ↦ isDir, content := cont e.path)
    `absRow`          SyncState → Row        (mtime, size)
    `absChangeType`   ChangeType → ChangeType        (bijection, inverse `concChangeType`)
    `absStrategy`     ConflictResolution → Strategy  (bijection)
    `absChange cont`  Change → Change
    `absStamp`        the decimal text of the conflict timestamp ↦ the number
    `absActionAt cont p` / `absAction cont`   SyncAction → Action — the model keeps the relative path next to
        the entry; `absActionAt` takes it from outside (`p`), `absAction` takes it from where the executor
        takes it (bisync/engine.rs:316-318: `entry.relative_path`, for a rename `source.relative_path`).

  Hypotheses about the externs: `SameBytesAgrees ext cont` — `cont p` is the content id of the bytes at `p`
  (`none`: not a readable file); `same_bytes p q` is `Ok(ids equal)` when both are readable and an `Err`
  otherwise (classifier.rs `same_bytes`: `File::open(..)?`, `read(..)?`); `StampAgrees ext stamp` — the text
  `generate_conflict_timestamp` returns is the decimal representation of `stamp`.

  Also (second half of the file): `action_path`, `simulate_actions` of bisync/engine.rs and `conflict_filename` of
  resolver.rs (on the domain `ConflictDomain`).

  Every bridge theorem names the generated definition; a semantic change of the Rust functions
  changes the generated file and breaks the proofs below.
-/
import SyModel.Generated.Code.Bisync
import SyModel.Generated.Consts
import SyModel.Lemmas.RsMonad
import SyModel.Lemmas.GenBisync
import SyModel.Lemmas.ListRel

namespace SyModel.Props.GenBisync
open SyModel
open SyModel.Generated (Rs.Path Rs.Str Rs.Err)
open SyModel.Generated.Bisync (Ext FileEntry SyncState ConflictResolution SyncAction ResolvedChanges
  is_modified content_equal classify_single_path resolve_by_mtime resolve_by_size resolve_conflict
  resolve_changes)

def absEntry (cont : Rs.Path → Option Nat) (e : FileEntry) : Bisync.Entry :=
  { size := e.size, mtime := e.modified, isDir := e.is_dir, content := cont e.path }

def absRow (r : SyncState) : Bisync.Row := { mtime := r.mtime, size := r.size }

def absChangeType : Generated.Bisync.ChangeType → Bisync.ChangeType
  | .NewInSource => .newInSource
  | .NewInDest => .newInDest
  | .ModifiedInSource => .modifiedInSource
  | .ModifiedInDest => .modifiedInDest
  | .DeletedFromSource => .deletedFromSource
  | .DeletedFromDest => .deletedFromDest
  | .ModifiedBoth => .modifiedBoth
  | .CreateCreateConflict => .createCreate
  | .ModifyDeleteConflict => .modifyDelete

def concChangeType : Bisync.ChangeType → Generated.Bisync.ChangeType
  | .newInSource => .NewInSource
  | .newInDest => .NewInDest
  | .modifiedInSource => .ModifiedInSource
  | .modifiedInDest => .ModifiedInDest
  | .deletedFromSource => .DeletedFromSource
  | .deletedFromDest => .DeletedFromDest
  | .modifiedBoth => .ModifiedBoth
  | .createCreate => .CreateCreateConflict
  | .modifyDelete => .ModifyDeleteConflict

theorem absChangeType_concChangeType (ct : Bisync.ChangeType) : absChangeType (concChangeType ct) = ct := by
  cases ct <;> rfl

theorem concChangeType_absChangeType (ct : Generated.Bisync.ChangeType) :
    concChangeType (absChangeType ct) = ct := by
  cases ct <;> rfl

def absStrategy : ConflictResolution → Bisync.Strategy
  | .Newer => .newer
  | .Larger => .larger
  | .Smaller => .smaller
  | .Source => .source
  | .Dest => .dest
  | .Rename => .rename

def absChange (cont : Rs.Path → Option Nat) (c : Generated.Bisync.Change) : Bisync.Change :=
  { path := c.path, ctype := absChangeType c.change_type,
    s := c.source_entry.map (absEntry cont), d := c.dest_entry.map (absEntry cont) }

/-- `format!("{}", secs)` read back -/
def absStamp (ts : Rs.Str) : Nat := Nat.ofDigitChars 10 ts 0

/-- the model's action for a generated action whose relative path is `p` -/
def absActionAt (cont : Rs.Path → Option Nat) (p : Bisync.Path) : SyncAction → Bisync.Action
  | .CopyToSource e => .copyToSource p (absEntry cont e)
  | .CopyToDest e => .copyToDest p (absEntry cont e)
  | .DeleteFromSource q => .deleteFromSource q
  | .DeleteFromDest q => .deleteFromDest q
  | .RenameConflict s d ts => .renameConflict p (absEntry cont s) (absEntry cont d) (absStamp ts)

theorem absActionAt_isRename (cont : Rs.Path → Option Nat) (p : Rs.Path) (a : SyncAction) :
    (absActionAt cont p a).isRename = (match a with | .RenameConflict _ _ _ => true | _ => false) := by
  cases a <;> rfl

/-- `action_path` of bisync/engine.rs:314-320, by hand (`action_path_eq`) -/
def actionPath : SyncAction → Bisync.Path
  | .CopyToSource e | .CopyToDest e => e.relative_path
  | .DeleteFromSource q | .DeleteFromDest q => q
  | .RenameConflict s _ _ => s.relative_path

/-- the model's action, relative path as the executor reads it -/
def absAction (cont : Rs.Path → Option Nat) (a : SyncAction) : Bisync.Action :=
  absActionAt cont (actionPath a) a

/-- what `same_bytes` is assumed to do, in the model's vocabulary (used by the classifier theorems) -/
structure SameBytesAgrees (ext : Ext) (cont : Rs.Path → Option Nat) : Prop where
  /-- both files readable: `Ok(bytes equal)` -/
  readable : ∀ p q a b, cont p = some a → cont q = some b → ext.same_bytes p q = .ok (a == b)
  /-- a file that cannot be opened or read: `Err` -/
  unreadable : ∀ p q, cont p = none ∨ cont q = none → ∃ e, ext.same_bytes p q = .error e

/-- the conflict timestamp is the decimal text of `stamp` (`format!("{}", now.as_secs())`, resolver.rs:226-232;
    used by the resolver theorems). `Ext` makes it a constant of the run, as the model's `stamp` is: a run that
    crosses a second boundary between two renames is outside both. -/
def StampAgrees (ext : Ext) (stamp : Nat) : Prop :=
  ext.generate_conflict_timestamp () = Nat.toDigits 10 stamp

theorem absStamp_toDigits (n : Nat) : absStamp (Nat.toDigits 10 n) = n := Nat.ofDigitChars_ten_toDigits

theorem StampAgrees.absStamp_eq {ext stamp} (h : StampAgrees ext stamp) :
    absStamp (ext.generate_conflict_timestamp ()) = stamp := by
  rw [h]; exact absStamp_toDigits stamp

/-- externs built from an assignment of content ids and a stamp (they satisfy both hypotheses:
    `extOf_sameBytesAgrees`, `extOf_stampAgrees`) -/
def extOf (cont : Rs.Path → Option Nat) (stamp : Nat) : Ext where
  same_bytes p q := match cont p, cont q with
    | some a, some b => .ok (a == b)
    | _, _ => .error .io
  generate_conflict_timestamp _ := Nat.toDigits 10 stamp

theorem extOf_sameBytesAgrees (cont : Rs.Path → Option Nat) (stamp : Nat) :
    SameBytesAgrees (extOf cont stamp) cont where
  readable p q a b hp hq := by simp [extOf, hp, hq]
  unreadable p q h := by
    refine ⟨.io, ?_⟩
    rcases h with h | h <;> simp only [extOf, h]
    cases cont p <;> rfl

theorem extOf_stampAgrees (cont : Rs.Path → Option Nat) (stamp : Nat) : StampAgrees (extOf cont stamp) stamp := rfl

example : ∃ ext, SameBytesAgrees ext
      (fun p => if p = ['a'] then some 1 else if p = ['b'] then some 2 else none) ∧ StampAgrees ext 1727654400 :=
  ⟨_, extOf_sameBytesAgrees _ _, extOf_stampAgrees _ _⟩

/-- a change of the classifier names at least one entry (`classify_single_path_has_entry` below) -/
def HasEntry (c : Generated.Bisync.Change) : Prop := c.source_entry.isSome ∨ c.dest_entry.isSome

/-- the entries of a change are the scanner's entries for the change's path: `classify_changes`
    (classifier.rs:44-53, 64-65) looks both up in maps keyed by `relative_path` -/
def PathsAgree (c : Generated.Bisync.Change) : Prop :=
  ∀ e, c.source_entry = some e ∨ c.dest_entry = some e → e.relative_path = c.path

/-! ## classifier.rs -/

theorem is_modified_eq_model (cont : Rs.Path → Option Nat) (e : FileEntry) (r : SyncState) :
    is_modified e r = Bisync.isModified (absEntry cont e) (absRow r) := by
  simp only [is_modified, Bisync.isModified, absEntry, absRow, Id.run, pure]
  by_cases h : e.size = r.size <;> simp [h]

theorem content_equal_eq_model {ext cont} (hx : SameBytesAgrees ext cont) (s d : FileEntry) :
    content_equal ext s d = .ok (Bisync.contentEqual .repaired (absEntry cont s) (absEntry cont d)) := by
  simp only [content_equal, Bisync.contentEqual, Bisync.Cfg.repaired, absEntry, pure, Except.pure]
  by_cases h : s.size = d.size
  · simp only [h, bne_self_eq_false, Bool.false_eq_true, if_false, ne_eq, not_true_eq_false, if_true]
    congr 1
    cases hp : cont s.path with
    | none =>
      obtain ⟨e, he⟩ := hx.unreadable s.path d.path (.inl hp)
      simp [he, Generated.Rs.UnwrapOr.unwrap_or]
    | some a =>
      cases hq : cont d.path with
      | none =>
        obtain ⟨e, he⟩ := hx.unreadable s.path d.path (.inr hq)
        simp [he, Generated.Rs.UnwrapOr.unwrap_or]
      | some b =>
        simp [hx.readable _ _ _ _ hp hq, Generated.Rs.UnwrapOr.unwrap_or]
  · simp [h]

/-- **classify_single_path = classifySingle.** For all arguments the call succeeds; it reports "no change"
    exactly when the model does, and otherwise the change carries the given path and entries and its
    `change_type` is the model's (`concChangeType`, the inverse of `absChangeType`). -/
theorem classify_single_path_eq {ext cont} (hx : SameBytesAgrees ext cont) (path : Rs.Path)
    (s d : Option FileEntry) (ps pd : Option SyncState) :
    classify_single_path ext path s d ps pd =
      .ok ((Bisync.classifySingle .repaired (s.map (absEntry cont)) (d.map (absEntry cont))
              (ps.map absRow) (pd.map absRow)).map fun ct =>
            { path := path, change_type := concChangeType ct, source_entry := s, dest_entry := d }) := by
  unfold classify_single_path Bisync.classifySingle
  simp only [content_equal_eq_model hx, is_modified_eq_model cont]
  have hdir : ∀ o : Option FileEntry, ((o.map (absEntry cont)).map (·.isDir)).getD false =
      (match o with | some e => e.is_dir | none => false) := by
    intro o; cases o <;> rfl
  rw [hdir, hdir]
  generalize (_ || _) = dir
  cases dir
  case true => rfl
  -- arm by arm the two sides are the same decision tree over `isModified` and `contentEqual`
  rcases s with _ | s <;> rcases d with _ | d <;> rcases ps with _ | ps <;> rcases pd with _ | pd <;>
    dsimp only [Option.map_some, Option.map_none]
  case some.some.some.some =>
    cases Bisync.isModified (absEntry cont s) (absRow ps) <;>
      cases Bisync.isModified (absEntry cont d) (absRow pd) <;>
      cases Bisync.contentEqual .repaired (absEntry cont s) (absEntry cont d) <;> rfl
  case some.some.some.none =>
    cases Bisync.isModified (absEntry cont s) (absRow ps) <;>
      cases Bisync.contentEqual .repaired (absEntry cont s) (absEntry cont d) <;> rfl
  case some.some.none.some =>
    cases Bisync.isModified (absEntry cont d) (absRow pd) <;>
      cases Bisync.contentEqual .repaired (absEntry cont s) (absEntry cont d) <;> rfl
  case some.some.none.none =>
    cases Bisync.contentEqual .repaired (absEntry cont s) (absEntry cont d) <;> rfl
  case some.none.some.some =>
    cases Bisync.isModified (absEntry cont s) (absRow ps) <;> rfl
  case none.some.some.some =>
    cases Bisync.isModified (absEntry cont d) (absRow pd) <;> rfl
  all_goals rfl

/-- in the shape of the model's `classifyOne`: the abstraction of the result is the model's change. -/
theorem classify_single_path_eq_classifyOne {ext cont} (hx : SameBytesAgrees ext cont) (path : Rs.Path)
    (s d : Option FileEntry) (ps pd : Option SyncState) :
    (classify_single_path ext path s d ps pd).map (Option.map (absChange cont)) =
      .ok ((Bisync.classifySingle .repaired (s.map (absEntry cont)) (d.map (absEntry cont))
              (ps.map absRow) (pd.map absRow)).map fun ct =>
            ⟨path, ct, s.map (absEntry cont), d.map (absEntry cont)⟩) := by
  rw [classify_single_path_eq hx]
  cases Bisync.classifySingle .repaired (s.map (absEntry cont)) (d.map (absEntry cont))
      (ps.map absRow) (pd.map absRow) <;> simp [Except.map, absChange, absChangeType_concChangeType]

/-- the classifier never emits a change without an entry (the domain of `resolve_conflict`'s `unwrap`s). -/
theorem classify_single_path_has_entry {ext cont} (hx : SameBytesAgrees ext cont) (path : Rs.Path)
    (s d : Option FileEntry) (ps pd : Option SyncState) (c : Generated.Bisync.Change)
    (h : classify_single_path ext path s d ps pd = .ok (some c)) : HasEntry c := by
  rw [classify_single_path_eq hx] at h
  cases hm : Bisync.classifySingle .repaired (s.map (absEntry cont)) (d.map (absEntry cont))
      (ps.map absRow) (pd.map absRow) <;> rw [hm] at h <;> cases h
  cases s <;> cases d <;> simp [HasEntry]
  cases ps <;> cases pd <;> simp [Bisync.classifySingle] at hm

/-! ## resolver.rs -/

/-- the strategy names of the command line (`valid_strategies`, src/cli.rs → `BISYNC_STRATEGIES`), each with
    the model strategy of the same name, in the order of `enum ConflictResolution` -/
def strategyTable : List (List Char × Bisync.Strategy) :=
  (Generated.BISYNC_STRATEGIES.map String.toList).zip [.newer, .larger, .smaller, .source, .dest, .rename]

def strategyOfName (name : List Char) : Option Bisync.Strategy :=
  (strategyTable.find? (·.1 == name)).map (·.2)

theorem strategyTable_eq : strategyTable =
    [(['n', 'e', 'w', 'e', 'r'], .newer), (['l', 'a', 'r', 'g', 'e', 'r'], .larger),
     (['s', 'm', 'a', 'l', 'l', 'e', 'r'], .smaller), (['s', 'o', 'u', 'r', 'c', 'e'], .source),
     (['d', 'e', 's', 't'], .dest), (['r', 'e', 'n', 'a', 'm', 'e'], .rename)] := by decide

/-- **from_str.** The model has no parser; the bridge is to the table of names: `from_str` lower-cases its
    argument and answers the strategy the table gives, `None` for any text not in the table. -/
theorem from_str_eq_model (s : Rs.Str) :
    (ConflictResolution.from_str s).map absStrategy = strategyOfName (Generated.Rs.to_lowercase s) := by
  unfold ConflictResolution.from_str strategyOfName
  rw [strategyTable_eq,
    show Generated.Rs.as_str (Generated.Rs.to_lowercase s) = Generated.Rs.to_lowercase s from rfl]
  generalize Generated.Rs.to_lowercase s = t
  -- one goal per name of the generated `match` (closed by evaluation) and the default arm, where `t` is none of the six
  split <;> first | rfl | skip
  rename_i h1 h2 h3 h4 h5 h6
  have key : ∀ l : List Char, (t = l → False) → (l == t) = false := by
    intro l h
    exact beq_eq_false_iff_ne.mpr fun e => h e.symm
  simp only [List.find?_cons, List.find?_nil, key _ h1, key _ h2, key _ h3, key _ h4, key _ h5, key _ h6,
    Option.map_none]

/-- `from_str` accepts exactly the names the command line lists as valid (case-insensitively). -/
theorem from_str_isSome_iff (s : Rs.Str) :
    (ConflictResolution.from_str s).isSome ↔
      Generated.Rs.to_lowercase s ∈ Generated.BISYNC_STRATEGIES.map String.toList := by
  have h := congrArg Option.isSome (from_str_eq_model s)
  rw [Option.isSome_map] at h
  rw [h, strategyOfName, Option.isSome_map, List.find?_isSome]
  have hm : Generated.BISYNC_STRATEGIES.map String.toList = strategyTable.map (·.1) :=
    (List.map_fst_zip (by decide)).symm
  rw [hm, List.mem_map]
  constructor
  · rintro ⟨x, hx, he⟩; exact ⟨x, hx, by simpa using he⟩
  · rintro ⟨x, hx, he⟩; exact ⟨x, hx, by simpa using he⟩

/-- `absStrategy` is onto: every model strategy has a name `from_str` maps to it. -/
theorem from_str_onto (m : Bisync.Strategy) :
    ∃ name ∈ Generated.BISYNC_STRATEGIES, (ConflictResolution.from_str name.toList).map absStrategy = some m := by
  cases m
  · exact ⟨"newer", by decide, by decide⟩
  · exact ⟨"larger", by decide, by decide⟩
  · exact ⟨"smaller", by decide, by decide⟩
  · exact ⟨"source", by decide, by decide⟩
  · exact ⟨"dest", by decide, by decide⟩
  · exact ⟨"rename", by decide, by decide⟩

/-- where the parts of an action come from: the entries are the change's own entries (source entry copied to
    dest, dest entry copied to source), a deleted path is the change's path, the timestamp of a rename is the
    text `generate_conflict_timestamp` answers -/
def FromChange (ext : Ext) (c : Generated.Bisync.Change) : SyncAction → Prop
  | .CopyToSource e => c.dest_entry = some e
  | .CopyToDest e => c.source_entry = some e
  | .DeleteFromSource q | .DeleteFromDest q => q = c.path
  | .RenameConflict s d ts =>
    c.source_entry = some s ∧ c.dest_entry = some d ∧ ts = ext.generate_conflict_timestamp ()

/-- the shape `resolve_by_mtime` and `resolve_by_size` share when both entries exist: the source wins, or the
    destination wins, or — a tie — both are renamed. `hx` only names the number the timestamp text stands for: every
    `ext` has one (`rfl`), and under `StampAgrees ext stamp` it is `stamp` (`StampAgrees.absStamp_eq`). -/
theorem resolve_tie_spec {ext : Ext} {cont stamp} (hx : absStamp (ext.generate_conflict_timestamp ()) = stamp)
    (ct : Generated.Bisync.ChangeType)
    (s d : FileEntry) (p : Rs.Path) {b1 b2 : Bool} {c1 c2 : Prop} [Decidable c1] [Decidable c2]
    (h1 : b1 = true ↔ c1) (h2 : b2 = true ↔ c2) :
    ∃ a, (if b1 = true then Except.ok (SyncAction.CopyToDest s)
          else if b2 = true then Except.ok (SyncAction.CopyToSource d)
          else Except.ok (SyncAction.RenameConflict s d (ext.generate_conflict_timestamp ()))) =
        (Except.ok a : Except Rs.Err SyncAction) ∧
      FromChange ext ⟨p, ct, some s, some d⟩ a ∧
      absActionAt cont p a =
        if c1 then .copyToDest p (absEntry cont s)
        else if c2 then .copyToSource p (absEntry cont d)
        else .renameConflict p (absEntry cont s) (absEntry cont d) stamp := by
  simp only [← h1, ← h2]
  cases b1
  · cases b2
    · exact ⟨_, rfl, ⟨rfl, rfl, rfl⟩, congrArg _ hx⟩
    · exact ⟨_, rfl, rfl, rfl⟩
  · exact ⟨_, rfl, rfl, rfl⟩

/-- **resolve_by_mtime = resolveByMtime**: never fails; its action is made of the given entries and path and
    abstracts to the model's action -/
theorem resolve_by_mtime_spec {ext cont stamp} (hx : absStamp (ext.generate_conflict_timestamp ()) = stamp)
    (ct : Generated.Bisync.ChangeType)
    (s d : Option FileEntry) (p : Rs.Path) :
    ∃ a, resolve_by_mtime ext s d p = .ok a ∧ FromChange ext ⟨p, ct, s, d⟩ a ∧
      absActionAt cont p a =
        Bisync.resolveByMtime p (s.map (absEntry cont)) (d.map (absEntry cont)) stamp := by
  rcases s with _ | s <;> rcases d with _ | d
  case some.some => exact resolve_tie_spec hx ct s d p decide_eq_true_iff decide_eq_true_iff
  all_goals exact ⟨_, rfl, rfl, rfl⟩

theorem resolve_by_size_spec {ext cont stamp} (hx : absStamp (ext.generate_conflict_timestamp ()) = stamp)
    (ct : Generated.Bisync.ChangeType)
    (s d : Option FileEntry) (p : Rs.Path) (preferSmaller : Bool) :
    ∃ a, resolve_by_size ext s d p preferSmaller = .ok a ∧ FromChange ext ⟨p, ct, s, d⟩ a ∧
      absActionAt cont p a =
        Bisync.resolveBySize p (s.map (absEntry cont)) (d.map (absEntry cont)) preferSmaller stamp := by
  rcases s with _ | s <;> rcases d with _ | d
  case some.some => exact resolve_tie_spec hx ct s d p Iff.rfl bne_iff_ne
  all_goals exact ⟨_, rfl, rfl, rfl⟩

/-- **resolve_conflict = resolveConflict**: never fails; its action is made of the change's own parts and abstracts
    to the model's action. `hne`: with the `Rename` strategy the change names an entry — the Rust code `unwrap`s `dest`
    when `source` is `None` (resolver.rs:152-154) and would panic on a change with neither; the translation's
    `Rs.unwrap` would answer a default entry there, the model `deleteFromSource`. The classifier never produces
    such a change (`classify_single_path_has_entry`). -/
theorem resolve_conflict_spec {ext cont stamp} (hx : absStamp (ext.generate_conflict_timestamp ()) = stamp)
    (c : Generated.Bisync.Change) (st : ConflictResolution) (hne : st = .Rename → HasEntry c) :
    ∃ a, resolve_conflict ext c st = .ok a ∧ FromChange ext c a ∧
      absActionAt cont c.path a =
        Bisync.resolveConflict (absStrategy st) c.path (c.source_entry.map (absEntry cont))
          (c.dest_entry.map (absEntry cont)) stamp := by
  obtain ⟨p, ct, s, d⟩ := c
  cases st
  · exact resolve_by_mtime_spec hx ct s d p
  · exact resolve_by_size_spec hx ct s d p false
  · exact resolve_by_size_spec hx ct s d p true
  · cases s <;> exact ⟨_, rfl, rfl, rfl⟩
  · cases d <;> exact ⟨_, rfl, rfl, rfl⟩
  · rcases s with _ | s <;> rcases d with _ | d
    · exact absurd (hne rfl) (by simp [HasEntry])
    · exact ⟨_, rfl, rfl, rfl⟩
    · exact ⟨_, rfl, rfl, rfl⟩
    · exact ⟨_, rfl, ⟨rfl, rfl, rfl⟩, congrArg _ hx⟩

/-- the action `resolve_conflict` answers is made of the change's own entries and path, for ANY `ext` (no `StampAgrees`) -/
theorem resolve_conflict_from_change (ext : Ext) (c : Generated.Bisync.Change) (st : ConflictResolution)
    (hne : st = .Rename → HasEntry c) (a : SyncAction) (h : resolve_conflict ext c st = .ok a) :
    FromChange ext c a := by
  obtain ⟨a', ha', hf, -⟩ := resolve_conflict_spec (cont := fun _ => none) rfl c st hne
  rw [h] at ha'
  cases ha'
  exact hf

/-- the hypothesis `hne` of `resolve_conflict_spec` cannot be dropped: on a change without entries the
    translated code answers `CopyToSource (default entry)` (where the Rust code panics), the model
    `deleteFromSource`. -/
theorem resolve_conflict_rename_without_entry_differs (ext : Ext) (cont : Rs.Path → Option Nat) (stamp : Nat)
    (p : Rs.Path) (ct : Generated.Bisync.ChangeType) :
    (resolve_conflict ext ⟨p, ct, none, none⟩ .Rename).map (absActionAt cont p) ≠
      .ok (Bisync.resolveConflict .rename p none none stamp) := by
  simp [resolve_conflict, Bisync.resolveConflict, Except.map, absActionAt, Generated.Rs.is_some]

/-! ### the loop of `resolve_changes` -/

/-- what a run of the loop over the changes `cs` adds to the three accumulators, on the model's side:
    the pushed actions correspond one to one (`Q`) to the model's `resolveChanges`, the two counters grow by
    the model's `conflictCounts`. -/
def RunRel (Q : SyncAction → Bisync.Action → Prop) (cont : Rs.Path → Option Nat) (st : Bisync.Strategy)
    (stamp : Nat) (cs : List Generated.Bisync.Change) (r r' : ResolvedChanges) : Prop :=
  ∃ acts, r'.actions = r.actions ++ acts ∧
    ListRel Q acts (Bisync.resolveChanges st stamp (cs.map (absChange cont))) ∧
    r'.conflicts_resolved = r.conflicts_resolved + (Bisync.conflictCounts st stamp (cs.map (absChange cont))).1 ∧
    r'.conflicts_renamed = r.conflicts_renamed + (Bisync.conflictCounts st stamp (cs.map (absChange cont))).2

theorem RunRel.nil {Q cont st stamp} (r : ResolvedChanges) : RunRel Q cont st stamp [] r r :=
  ⟨[], by simp, .nil, by simp [Bisync.conflictCounts], by simp [Bisync.conflictCounts]⟩

theorem RunRel.cons {Q cont st stamp c cs} {r r' r'' : ResolvedChanges}
    (h1 : RunRel Q cont st stamp [c] r r') (h2 : RunRel Q cont st stamp cs r' r'') :
    RunRel Q cont st stamp (c :: cs) r r'' := by
  obtain ⟨a1, ha1, hq1, hn1, hm1⟩ := h1
  obtain ⟨a2, ha2, hq2, hn2, hm2⟩ := h2
  refine ⟨a1 ++ a2, by rw [ha2, ha1, List.append_assoc], ?_, ?_, ?_⟩
  · have : Bisync.resolveChanges st stamp ((c :: cs).map (absChange cont)) =
        Bisync.resolveChanges st stamp ([c].map (absChange cont)) ++
          Bisync.resolveChanges st stamp (cs.map (absChange cont)) := by
      simp only [Bisync.resolveChanges, List.map_cons, List.map_nil, ← List.filterMap_append,
        List.singleton_append]
    rw [this]
    exact hq1.append hq2
  · simp only [List.map_cons, List.map_nil] at hn1 ⊢
    rw [conflictCounts_cons, hn2, hn1]; omega
  · simp only [List.map_cons, List.map_nil] at hm1 ⊢
    rw [conflictCounts_cons, hm2, hm1]; omega

theorem RunRel.single_skip {Q cont st stamp c} (r : ResolvedChanges)
    (h1 : Bisync.resolveOne st stamp (absChange cont c) = none)
    (h2 : (absChangeType c.change_type).isConflict = false) : RunRel Q cont st stamp [c] r r :=
  ⟨[], by simp, by simp [Bisync.resolveChanges, h1, ListRel.nil],
    by simp [Bisync.conflictCounts, absChange, h2], by simp [Bisync.conflictCounts, absChange, h2]⟩

theorem RunRel.single_push {Q cont st stamp c} (acts : List SyncAction) (k1 k2 : Nat) (a : SyncAction)
    (m : Bisync.Action) (n1 n2 : Nat)
    (h1 : Bisync.resolveOne st stamp (absChange cont c) = some m) (hq : Q a m)
    (hn : Bisync.conflictCounts st stamp [absChange cont c] = (n1, n2)) :
    RunRel Q cont st stamp [c] ⟨acts, k1, k2⟩ ⟨acts ++ [a], k1 + n1, k2 + n2⟩ :=
  ⟨[a], rfl, by simp [Bisync.resolveChanges, h1, ListRel.cons hq .nil], by simp [hn], by simp [hn]⟩

theorem RunRel.single_conflict {Q cont st stamp} {c : Generated.Bisync.Change} (acts : List SyncAction)
    (k1 k2 : Nat) (a : SyncAction) (m : Bisync.Action)
    (hc : (absChangeType c.change_type).isConflict = true)
    (hm : Bisync.resolveConflict st c.path (c.source_entry.map (absEntry cont))
      (c.dest_entry.map (absEntry cont)) stamp = m) (hq : Q a m) :
    RunRel Q cont st stamp [c] ⟨acts, k1, k2⟩
      (bif m.isRename then ⟨acts ++ [a], k1, k2 + 1⟩ else ⟨acts ++ [a], k1 + 1, k2⟩) := by
  subst hm
  have h1 : Bisync.resolveOne st stamp (absChange cont c) = some (Bisync.resolveConflict st c.path
      (c.source_entry.map (absEntry cont)) (c.dest_entry.map (absEntry cont)) stamp) := by
    obtain ⟨p, ct, s, d⟩ := c
    cases ct <;> first | rfl | cases hc
  have hn := conflictCounts_conflict st stamp (absChange cont c) hc
  revert hn
  dsimp only [absChange]
  cases (Bisync.resolveConflict st c.path (c.source_entry.map (absEntry cont))
      (c.dest_entry.map (absEntry cont)) stamp).isRename <;> intro hn
  · exact RunRel.single_push _ _ _ _ _ 1 0 h1 hq hn
  · exact RunRel.single_push _ _ _ _ _ 0 1 h1 hq hn

/-- the part of the domain of `resolve_changes` that matters: with the `Rename` strategy a conflict names an
    entry (see `resolve_conflict_spec`) -/
def ConflictHasEntry (st : ConflictResolution) (c : Generated.Bisync.Change) : Prop :=
  st = .Rename → (absChangeType c.change_type).isConflict = true → HasEntry c

/-- the loop of `resolve_changes`, for any relation `Q` that holds between an action made of a change's own
    parts and its abstraction at the change's path. -/
theorem resolve_changes_run {ext cont stamp} (hx : StampAgrees ext stamp) (st : ConflictResolution)
    (Q : SyncAction → Bisync.Action → Prop) (P : Generated.Bisync.Change → Prop)
    (hP : ∀ c, P c → ConflictHasEntry st c)
    (hQ : ∀ c a, P c → FromChange ext c a → Q a (absActionAt cont c.path a))
    (cs : List Generated.Bisync.Change) (hcs : ∀ c ∈ cs, P c) :
    ∃ r, resolve_changes ext cs st = .ok r ∧ RunRel Q cont (absStrategy st) stamp cs ⟨[], 0, 0⟩ r := by
  unfold resolve_changes
  dsimp only
  refine forIn_run P (RunRel Q cont (absStrategy st) stamp) (fun _ => RunRel.nil _)
    (fun _ _ _ _ _ => RunRel.cons) _ _ ?_ cs _ _ rfl hcs
  intro c s hPc
  obtain ⟨acts, k1, k2⟩ := s
  have hq := fun a => hQ c a hPc
  have hne := hP c hPc
  obtain ⟨p, ct, se, de⟩ := c
  cases ct
  case NewInSource | ModifiedInSource =>
    cases se
    · exact ⟨_, rfl, RunRel.single_skip _ rfl rfl⟩
    · exact ⟨_, rfl, RunRel.single_push _ _ _ _ _ 0 0 rfl (hq _ rfl) rfl⟩
  case NewInDest | ModifiedInDest =>
    cases de
    · exact ⟨_, rfl, RunRel.single_skip _ rfl rfl⟩
    · exact ⟨_, rfl, RunRel.single_push _ _ _ _ _ 0 0 rfl (hq _ rfl) rfl⟩
  case DeletedFromSource | DeletedFromDest =>
    exact ⟨_, rfl, RunRel.single_push _ _ _ _ _ 0 0 rfl (hq _ rfl) rfl⟩
  all_goals
    obtain ⟨a, ha, hf, hm⟩ := resolve_conflict_spec (cont := cont) hx.absStamp_eq _ st (fun h => hne h rfl)
    dsimp only at ha ⊢
    rw [ha]
    cases a <;> exact ⟨_, rfl, RunRel.single_conflict _ _ _ _ _ rfl hm.symm (hq _ hf)⟩

/-- **resolve_changes = resolveChanges + conflictCounts.** For every list of changes whose entries are the
    entries found at the change's path (`PathsAgree`: how `classify_changes` builds them) and whose conflicts
    name an entry when the strategy is `Rename` (`ConflictHasEntry`: `classify_single_path_has_entry`), the call
    succeeds, the actions — each read the way the executor reads it (`absAction`) — are exactly the model's
    action list, and the two counters are the model's `conflictCounts`. -/
theorem resolve_changes_eq_model {ext cont stamp} (hx : StampAgrees ext stamp)
    (cs : List Generated.Bisync.Change) (st : ConflictResolution)
    (hne : ∀ c ∈ cs, ConflictHasEntry st c) (hpa : ∀ c ∈ cs, PathsAgree c) :
    ∃ r, resolve_changes ext cs st = .ok r ∧
      r.actions.map (absAction cont) =
        Bisync.resolveChanges (absStrategy st) stamp (cs.map (absChange cont)) ∧
      (r.conflicts_resolved, r.conflicts_renamed) =
        Bisync.conflictCounts (absStrategy st) stamp (cs.map (absChange cont)) := by
  obtain ⟨r, hr, acts, ha, hq, hn, hm⟩ :=
    resolve_changes_run (cont := cont) hx st (fun a m => absAction cont a = m)
      (fun c => ConflictHasEntry st c ∧ PathsAgree c) (fun _ h => h.1)
      (by
        rintro c a ⟨-, hp⟩ hf
        cases a with
        | CopyToSource e => simp only [absAction, actionPath, hp e (.inr hf)]
        | CopyToDest e => simp only [absAction, actionPath, hp e (.inl hf)]
        | DeleteFromSource q => rfl
        | DeleteFromDest q => rfl
        | RenameConflict s d ts => simp only [absAction, actionPath, hp s (.inl hf.1)])
      cs (fun c hc => ⟨hne c hc, hpa c hc⟩)
  refine ⟨r, hr, ?_, ?_⟩
  · rw [ha]; exact (hq.map_eq (h := id) fun _ _ _ _ h => h).trans (List.map_id _)
  · rw [hn, hm]; simp

/-- the same without `PathsAgree`: the model's action list is the generated one, action by action, up to the
    relative path the model writes next to a copied entry (which the generated action does not carry: it
    is inside the entry). -/
theorem resolve_changes_refines_model {ext cont stamp} (hx : StampAgrees ext stamp)
    (cs : List Generated.Bisync.Change) (st : ConflictResolution)
    (hne : ∀ c ∈ cs, ConflictHasEntry st c) :
    ∃ r, resolve_changes ext cs st = .ok r ∧
      ListRel (fun a m => absActionAt cont m.path a = m) r.actions
        (Bisync.resolveChanges (absStrategy st) stamp (cs.map (absChange cont))) ∧
      (r.conflicts_resolved, r.conflicts_renamed) =
        Bisync.conflictCounts (absStrategy st) stamp (cs.map (absChange cont)) := by
  obtain ⟨r, hr, acts, ha, hq, hn, hm⟩ :=
    resolve_changes_run (cont := cont) hx st (fun a m => absActionAt cont m.path a = m)
      (fun c => ConflictHasEntry st c) (fun _ h => h)
      (by intro c a _ _; cases a <;> rfl)
      cs hne
  refine ⟨r, hr, ?_, ?_⟩
  · rw [ha]; exact hq
  · rw [hn, hm]; simp

theorem resolve_changes_from {ext stamp} (hx : StampAgrees ext stamp)
    (cs : List Generated.Bisync.Change) (st : ConflictResolution)
    (hne : ∀ c ∈ cs, ConflictHasEntry st c) (r : ResolvedChanges) (hr : resolve_changes ext cs st = .ok r) :
    ∀ a ∈ r.actions, ∃ c ∈ cs, FromChange ext c a := by
  obtain ⟨r', hr', acts, ha, hq, -, -⟩ :=
    resolve_changes_run (cont := fun _ => none) hx st (fun a _ => ∃ c ∈ cs, FromChange ext c a)
      (fun c => c ∈ cs ∧ ConflictHasEntry st c) (fun _ h => h.2) (fun c a h hf => ⟨c, h.1, hf⟩)
      cs (fun c hc => ⟨hc, hne c hc⟩)
  rw [hr] at hr'
  cases hr'
  rw [ha]
  exact fun a ha => let ⟨_, _, h⟩ := hq.forall_left a ha; h

/-- `resolve_changes` never fails on the classifier's output (and on nothing else it is called with). -/
theorem resolve_changes_ok {ext stamp} (hx : StampAgrees ext stamp)
    (cs : List Generated.Bisync.Change) (st : ConflictResolution)
    (hne : ∀ c ∈ cs, ConflictHasEntry st c) : ∃ r, resolve_changes ext cs st = .ok r :=
  let ⟨r, hr, _⟩ := resolve_changes_refines_model (cont := fun _ => none) hx cs st hne
  ⟨r, hr⟩

/-! ## non-vacuity: the theorems' hypotheses hold together on a concrete run -/

section Example
def exCont : Rs.Path → Option Nat := fun p => if p = "/l/f".toList then some 1 else if p = "/r/f".toList then some 2 else none
def exS : FileEntry := { (default : FileEntry) with path := "/l/f".toList, relative_path := "f".toList, size := 3, modified := 5 }
def exD : FileEntry := { (default : FileEntry) with path := "/r/f".toList, relative_path := "f".toList, size := 3, modified := 5 }

/-- equal size, equal mtime, different bytes, no prior state: a create/create conflict, resolved (tie) by
    renaming both — computed by the generated code under `extOf`, and the model says the same. -/
example :
    classify_single_path (extOf exCont 1700000000) "f".toList (some exS) (some exD) none none =
      .ok (some ⟨"f".toList, .CreateCreateConflict, some exS, some exD⟩) := by rfl

example :
    resolve_changes (extOf exCont 1700000000) [⟨"f".toList, .CreateCreateConflict, some exS, some exD⟩] .Newer =
      .ok ⟨[.RenameConflict exS exD "1700000000".toList], 0, 1⟩ := by rfl

example : PathsAgree ⟨"f".toList, .CreateCreateConflict, some exS, some exD⟩ := by
  intro e h; rcases h with h | h <;> cases h <;> rfl
end Example

/-! ## engine.rs `action_path`, resolver.rs `conflict_filename`, engine.rs `simulate_actions` -/

section EngineFns
open SyModel.Generated.Bisync (action_path conflict_filename simulate_actions BisyncStats)

/-- **action_path = actionPath**: the handwritten copy `actionPath` this file's `absAction` reads the relative
    path with is the translated `action_path` of bisync/engine.rs. -/
theorem action_path_eq (a : SyncAction) : action_path a = actionPath a := by
  cases a <;> rfl

/-- `absAction` in terms of the translated function only -/
theorem absAction_eq_at_action_path (cont : Rs.Path → Option Nat) (a : SyncAction) :
    absAction cont a = absActionAt cont (action_path a) a := by
  rw [action_path_eq]; rfl

/-- The domain on which the translated `conflict_filename` (over the Prelude's `Rs.parent`, `Rs.file_stem`,
    `Rs.extension`, `Rs.join`) and the model's `conflictName` are the same function:
      * the path text is not empty and does not end in `/` — i.e. its last component is not empty (the doc
        comment of `Bisync.conflictName`: "last component is a non-empty name"). The executor only calls
        `conflict_filename(root.join(relative_path), ..)` for the `relative_path` of a scanned regular file
        (bisync/engine.rs:355-359), which has a file name;
      * it is not a direct child `/name` of the file-system root (`head = '/'` → another `/` follows).
        Relative paths satisfy this trivially (`ConflictDomain.of_relative`), and so does `root/rel` for every
        non-empty `root` (`conflict_filename_join_eq_model`). On `/name` the two DIFFER — see
        `conflict_filename_root_child_differs`: the model is right there, the Prelude's `Rs.parent` is not
        (std: `Path::new("/x").parent() = Some("/")`; `Rs.parent` answers `some []`, its stated domain
        being relative paths). -/
def ConflictDomain (orig : Rs.Path) : Prop :=
  orig ≠ [] ∧ orig.getLast? ≠ some '/' ∧ (orig.head? = some '/' → '/' ∈ orig.tail)

instance (orig : Rs.Path) : Decidable (ConflictDomain orig) := by unfold ConflictDomain; infer_instance

example : ConflictDomain "docs/report.final.txt".toList := by decide
example : ConflictDomain "/home/u/src/docs/.profile".toList := by decide
example : ¬ ConflictDomain "/x".toList := by decide
example : ¬ ConflictDomain "docs/".toList := by decide

theorem ConflictDomain.of_relative {orig : Rs.Path} (hne : orig ≠ []) (hlast : orig.getLast? ≠ some '/')
    (hrel : orig.head? ≠ some '/') : ConflictDomain orig :=
  ⟨hne, hlast, fun h => absurd h hrel⟩

theorem ConflictDomain.lastComponent_ne_nil {orig : Rs.Path} (h : ConflictDomain orig) :
    Generated.Rs.lastComponent orig ≠ [] := by
  obtain ⟨hne, hlast, -⟩ := h
  unfold Generated.Rs.lastComponent
  rw [splitLastAt_eq_splitLast]
  cases hs : Bisync.splitLast '/' orig with
  | none => exact hne
  | some pn =>
    obtain ⟨par, nm⟩ := pn
    have := (Lemmas.PathText.splitLastAt_some hs).1
    intro hnm
    simp only at hnm
    subst hnm
    apply hlast
    rw [this]; simp

theorem stem_ext_eq_model (p : Rs.Path) (h : Generated.Rs.lastComponent p ≠ []) :
    Generated.Rs.file_stem p = some (Bisync.stemExt (Generated.Rs.lastComponent p)).1 ∧
      Generated.Rs.extension p = (Bisync.stemExt (Generated.Rs.lastComponent p)).2 := by
  unfold Generated.Rs.file_stem Generated.Rs.extension Bisync.stemExt
  simp only [splitLastAt_eq_splitLast]
  generalize Generated.Rs.lastComponent p = n at h ⊢
  have : n.isEmpty = false := by cases n <;> simp_all
  simp only [this]
  by_cases hdd : n = ['.', '.']
  · simp [hdd]
  · simp only [hdd, if_false, Bool.false_eq_true, Bool.false_or, decide_false]
    cases Bisync.splitLast '.' n with
    | none => exact ⟨rfl, rfl⟩
    | some ba => obtain ⟨b, a⟩ := ba; cases b <;> simp

/-- **the fallback `unwrap_or("file")` is dead on the domain**: the option `conflict_filename` unwraps
    (`original.file_stem().and_then(|s| s.to_str())`, resolver.rs:237) is always `some`, namely the model's stem. -/
theorem conflict_filename_stem_fallback_dead (orig : Rs.Path) (h : ConflictDomain orig) :
    Generated.Rs.and_then (Generated.Rs.file_stem orig) (fun s => Generated.Rs.to_str s) =
      some (Bisync.stemExt (Generated.Rs.lastComponent orig)).1 := by
  rw [(stem_ext_eq_model orig h.lastComponent_ne_nil).1]; rfl

/-- **conflict_filename = conflictName** on `ConflictDomain`, for every stamp and side: the timestamp text is
    the decimal representation of the model's `stamp` (`StampAgrees`), the side word the model's `Side.str`
    (the two literals `"source"`, `"dest"` of bisync/engine.rs:358-359). -/
theorem conflict_filename_eq_model (orig : Rs.Path) (h : ConflictDomain orig) (stamp : Nat)
    (side : Bisync.Side) :
    conflict_filename orig (Nat.toDigits 10 stamp) side.str = Bisync.conflictName orig stamp side := by
  have hstem := conflict_filename_stem_fallback_dead orig h
  have hext := (stem_ext_eq_model orig h.lastComponent_ne_nil).2
  obtain ⟨hne, hlast, hroot⟩ := h
  unfold conflict_filename Bisync.conflictName Bisync.conflictPrefix Bisync.conflictSuffix
  rw [hstem]
  simp only [hext, Generated.Rs.and_then, Generated.Rs.to_str, Generated.Rs.ToStr.to_str]
  unfold Generated.Rs.parent Generated.Rs.lastComponent
  simp only [splitLastAt_eq_splitLast]
  cases hs : Bisync.splitLast '/' orig with
  | none =>
    have : orig.isEmpty = false := by cases orig <;> simp_all
    simp only [this]
    cases (Bisync.stemExt orig).2 <;>
      simp [Generated.Rs.join, Generated.Rs.concat, Generated.Rs.display, Generated.Rs.Display.display,
        Generated.Rs.unwrap_or, Generated.Rs.UnwrapOr.unwrap_or, Id.run] <;> rfl
  | some pn =>
    obtain ⟨par, nm⟩ := pn
    obtain ⟨hsp, hnot⟩ := Lemmas.PathText.splitLastAt_some hs
    have hpar : par.isEmpty = false := by
      cases par with
      | nil =>
        exfalso
        rw [List.nil_append] at hsp
        subst hsp
        exact hnot (hroot rfl)
      | cons _ _ => rfl
    cases (Bisync.stemExt nm).2 <;>
      simp [hpar, Generated.Rs.join, Generated.Rs.concat, Generated.Rs.display, Generated.Rs.Display.display,
        Generated.Rs.unwrap_or, Generated.Rs.UnwrapOr.unwrap_or, Id.run] <;> rfl

theorem conflict_filename_eq_model_of_stamp {ext : Ext} {stamp : Nat} (hx : StampAgrees ext stamp)
    (orig : Rs.Path) (h : ConflictDomain orig) (side : Bisync.Side) :
    conflict_filename orig (ext.generate_conflict_timestamp ()) side.str =
      Bisync.conflictName orig stamp side := by
  rw [hx]; exact conflict_filename_eq_model orig h stamp side

/-- **as the executor calls it.** The executor applies `conflict_filename` to `root.join(relative_path)`
    (bisync/engine.rs:355-359), the model's executor `conflictName` to the relative path (Bisync/Exec.lean).
    For every non-empty root text and every relative path with a non-empty last component the two commute with
    `join`: the code's conflict path is the root joined with the model's conflict name. No hypothesis on
    `root ++ "/" ++ rel` being relative is needed. -/
theorem conflict_filename_join_eq_model (root rel : Rs.Path) (hroot : root ≠ []) (hne : rel ≠ [])
    (hlast : rel.getLast? ≠ some '/') (stamp : Nat) (side : Bisync.Side) :
    conflict_filename (Generated.Rs.join root rel) (Nat.toDigits 10 stamp) side.str =
      Generated.Rs.join root (Bisync.conflictName rel stamp side) := by
  rw [Lemmas.PathText.join_of_ne hroot, Lemmas.PathText.join_of_ne hroot, ← conflictName_under_root]
  apply conflict_filename_eq_model
  refine ⟨by simp, ?_, ?_⟩
  · cases rel with
    | nil => exact absurd rfl hne
    | cons x xs => simpa [List.getLast?_append, List.getLast?_cons_cons] using hlast
  · intro _
    cases root with
    | nil => exact absurd rfl hroot
    | cons r rs => simp

/-- the third clause of `ConflictDomain` cannot be dropped: on a direct child of `/` the translated code (over
    the Prelude's `Rs.parent`, which answers `some []` for `/x.txt`, and `Rs.join [] n = n`) loses the leading `/`;
    the model keeps it, and so does the program (`Path::new("/x.txt").parent() = Some("/")`, and
    `Path::new("/").join("x.conflict-17-source.txt") = "/x.conflict-17-source.txt"`). -/
theorem conflict_filename_root_child_differs :
    conflict_filename "/x.txt".toList (Nat.toDigits 10 17) Bisync.Side.source.str =
        "x.conflict-17-source.txt".toList ∧
    Bisync.conflictName "/x.txt".toList 17 .source = "/x.conflict-17-source.txt".toList := by decide

/-- the first two clauses cannot be dropped either: with an empty last component the translated code takes the
    `"file"` fallback, the model an empty stem. (std: `""` and `"/"` have no file name — `file.conflict-17-dest`, as
    the translated code says; `"d/"` has the file name `d` — `d.conflict-17-dest`, which neither side says: the
    Prelude's `lastComponent` and the model's `splitLast` do not drop a trailing `/`.) -/
theorem conflict_filename_empty_name_differs :
    conflict_filename "d/".toList (Nat.toDigits 10 17) Bisync.Side.dest.str = "d/file.conflict-17-dest".toList ∧
    Bisync.conflictName "d/".toList 17 .dest = "d/.conflict-17-dest".toList ∧
    conflict_filename [] (Nat.toDigits 10 17) Bisync.Side.dest.str = "file.conflict-17-dest".toList ∧
    Bisync.conflictName [] 17 .dest = ".conflict-17-dest".toList := by decide

/-! ### `simulate_actions` (the dry run of `sy --bidirectional --dry-run`, bisync/engine.rs:240-271) -/

/-- the five constructors, shared by `SyncAction` and the model's `Action` -/
inductive ActionKind | copyToSource | copyToDest | deleteFromSource | deleteFromDest | rename
  deriving DecidableEq, Repr

def mKindOf : Bisync.Action → ActionKind
  | .copyToSource _ _ => .copyToSource
  | .copyToDest _ _ => .copyToDest
  | .deleteFromSource _ => .deleteFromSource
  | .deleteFromDest _ => .deleteFromDest
  | .renameConflict _ _ _ _ => .rename

/-- `#k` in a list of model actions -/
def modelCount (k : ActionKind) (ms : List Bisync.Action) : Nat := ms.countP (mKindOf · == k)

/-- the bytes an action announces: the size of the copied entry, both sizes for a rename -/
def mActionBytes : Bisync.Action → Nat
  | .copyToSource _ e | .copyToDest _ e => e.size
  | .deleteFromSource _ | .deleteFromDest _ => 0
  | .renameConflict _ s d _ => s.size + d.size

/-- `s` after `cnt k` more actions of each kind `k` (a rename counts on both sides) and `bytes` more bytes -/
def addCounts (s : BisyncStats) (cnt : ActionKind → Nat) (bytes : Nat) : BisyncStats :=
  { files_synced_to_dest := s.files_synced_to_dest + (cnt .copyToDest + cnt .rename)
    files_synced_to_source := s.files_synced_to_source + (cnt .copyToSource + cnt .rename)
    files_deleted_from_source := s.files_deleted_from_source + cnt .deleteFromSource
    files_deleted_from_dest := s.files_deleted_from_dest + cnt .deleteFromDest
    conflicts_resolved := s.conflicts_resolved
    conflicts_renamed := s.conflicts_renamed
    bytes_transferred := s.bytes_transferred + bytes
    duration_ms := s.duration_ms }

theorem addCounts_addCounts (s : BisyncStats) (c1 c2 : ActionKind → Nat) (b1 b2 : Nat) :
    addCounts (addCounts s c1 b1) c2 b2 = addCounts s (fun k => c1 k + c2 k) (b1 + b2) := by
  simp only [addCounts, BisyncStats.mk.injEq]
  refine ⟨?_, ?_, ?_, ?_, trivial, trivial, ?_, trivial⟩ <;> omega

theorem modelCount_cons (k : ActionKind) (m : Bisync.Action) (ms : List Bisync.Action) :
    modelCount k (m :: ms) = modelCount k [m] + modelCount k ms :=
  List.countP_append (l₁ := [m])

theorem absActionAt_kind_bytes (cont : Rs.Path → Option Nat) (p : Bisync.Path) (a : SyncAction) :
    mKindOf (absActionAt cont p a) = mKindOf (absAction cont a) ∧
      mActionBytes (absActionAt cont p a) = mActionBytes (absAction cont a) := by
  cases a <;> exact ⟨rfl, rfl⟩

/-- the statistics of a run: `s` plus the counts of the succeeded actions (a rename counts on both sides) and
    the bytes copied -/
def addOk (s : BisyncStats) (oks : List Bisync.Action) (bytes : Nat) : BisyncStats :=
  addCounts s (modelCount · oks) bytes

theorem addOk_addOk (s : BisyncStats) (a : Bisync.Action) (b : Nat) (oks : List Bisync.Action) (b' : Nat) :
    addOk (addOk s [a] b) oks b' = addOk s (a :: oks) (b + b') := by
  simp only [addOk, addCounts_addCounts, modelCount_cons _ a oks]

theorem addOk_nil (s : BisyncStats) : addOk s [] 0 = s := by
  simp [addOk, addCounts, modelCount]

/-- one iteration of the loop of `simulate_actions`, on the abstracted action (compared with the generated loop body in
    `simulate_actions_eq_abs`, by `cases c <;> rfl`) -/
def addAction (cont : Rs.Path → Option Nat) (s : BisyncStats) (a : SyncAction) : BisyncStats :=
  addOk s [absAction cont a] (mActionBytes (absAction cont a))

/-- the loop with the mutable record generalised -/
theorem foldl_addAction (cont : Rs.Path → Option Nat) (as : List SyncAction) (s : BisyncStats) :
    as.foldl (addAction cont) s =
      addOk s (as.map (absAction cont)) ((as.map (absAction cont)).map mActionBytes).sum := by
  induction as generalizing s with
  | nil => rfl
  | cons a as ih => rw [List.foldl_cons, ih, addAction, addOk_addOk]; rfl

/-- **simulate_actions, closed form.** For every `ResolvedChanges` the dry-run statistics are the counts of the
    constructors of its abstracted action list (a rename counts on both sides), the announced sizes summed, the two
    conflict counters copied, and no duration. -/
theorem simulate_actions_eq_abs (cont : Rs.Path → Option Nat) (r : ResolvedChanges) :
    simulate_actions r =
      (let m := r.actions.map (absAction cont)
       { files_synced_to_dest := modelCount .copyToDest m + modelCount .rename m
         files_synced_to_source := modelCount .copyToSource m + modelCount .rename m
         files_deleted_from_source := modelCount .deleteFromSource m
         files_deleted_from_dest := modelCount .deleteFromDest m
         conflicts_resolved := r.conflicts_resolved
         conflicts_renamed := r.conflicts_renamed
         bytes_transferred := (m.map mActionBytes).sum
         duration_ms := 0 }) := by
  unfold simulate_actions
  dsimp only
  rw [Generated.Rs.forIn_pure_foldl (addAction cont) _ (by intro c s; cases c <;> rfl), foldl_addAction]
  have hd : (default : BisyncStats) = ⟨0, 0, 0, 0, 0, 0, 0, 0⟩ := rfl
  simp only [hd, addOk, addCounts, Nat.zero_add]
  rfl

/-- **a bisync dry run reports exactly the actions the real run would start with.** On the classifier's output
    (`ConflictHasEntry`; no `PathsAgree` needed: counts and sizes do not read the relative path) `resolve_changes`
    succeeds, and `simulate_actions` of its result is: the counts of the constructors of the MODEL's action list
    `resolveChanges`, the sizes of the model's entries summed, the model's `conflictCounts`, duration 0. -/
theorem simulate_actions_resolve_changes_eq_model {ext cont stamp} (hx : StampAgrees ext stamp)
    (cs : List Generated.Bisync.Change) (st : ConflictResolution)
    (hne : ∀ c ∈ cs, ConflictHasEntry st c) :
    ∃ r, resolve_changes ext cs st = .ok r ∧
      simulate_actions r =
        (let m := Bisync.resolveChanges (absStrategy st) stamp (cs.map (absChange cont))
         let k := Bisync.conflictCounts (absStrategy st) stamp (cs.map (absChange cont))
         { files_synced_to_dest := modelCount .copyToDest m + modelCount .rename m
           files_synced_to_source := modelCount .copyToSource m + modelCount .rename m
           files_deleted_from_source := modelCount .deleteFromSource m
           files_deleted_from_dest := modelCount .deleteFromDest m
           conflicts_resolved := k.1
           conflicts_renamed := k.2
           bytes_transferred := (m.map mActionBytes).sum
           duration_ms := 0 }) := by
  obtain ⟨r, hr, hrel, hk⟩ := resolve_changes_refines_model (cont := cont) hx cs st hne
  refine ⟨r, hr, ?_⟩
  have hc : ∀ k, modelCount k (r.actions.map (absAction cont)) =
      modelCount k (Bisync.resolveChanges (absStrategy st) stamp (cs.map (absChange cont))) := fun k => by
    rw [modelCount, List.countP_map]
    exact hrel.countP_eq fun a m h =>
      congrArg (· == k) ((absActionAt_kind_bytes cont m.path a).1.symm.trans (congrArg mKindOf h))
  have hb : ((r.actions.map (absAction cont)).map mActionBytes).sum =
      ((Bisync.resolveChanges (absStrategy st) stamp (cs.map (absChange cont))).map mActionBytes).sum := by
    rw [List.map_map]
    exact hrel.sum_map_eq fun a m h => (absActionAt_kind_bytes cont m.path a).2.symm.trans (congrArg mActionBytes h)
  rw [simulate_actions_eq_abs cont]
  simp only [hc, hb, ← hk]

/-- the concrete run of the `Example` section above, dry: one rename = one file each way, both sizes -/
example :
    simulate_actions ⟨[.RenameConflict exS exD "1700000000".toList], 0, 1⟩ = ⟨1, 1, 0, 0, 0, 1, 6, 0⟩ := by rfl

end EngineFns

end SyModel.Props.GenBisync
