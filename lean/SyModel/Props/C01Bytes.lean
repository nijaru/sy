/-
  C01 (byte level) — every local transfer path leaves the destination byte-identical to the source
  and carrying its mtime.  Helper lemmas live in
  `SyModel/Lemmas/Transfer{Blocks,Rebuild,Route}.lean`, the model in
  `SyModel/Transfer/BlockCompare.lean`.

  The entry-level model writes the source's content id outright (`Engine/Model`, `perform`); this file is
  what justifies that: on every route the bytes written are the source's.  `blockCompare_inplace`,
  `blockCompare_cow`, the full copy and the sparse copiers are the real transfer paths of `LocalTransport`,
  and `transfer_postcondition` covers the routing between them.

  All statements hold for ALL byte strings and every block size > 0 (no hypothesis on the prior
  destination: shorter, longer, empty, not block aligned).  Hypotheses that remain: the block size
  is positive (`blockSize_zero_counterexample` shows it is needed) and, on the sparse route only,
  the kernel's SEEK_DATA/SEEK_HOLE contract `Covers` (`sparse_contract_counterexample`).
-/
import SyModel.Lemmas.TransferRoute
import SyModel.Generated.Consts
namespace SyModel.Props.C01Bytes
open SyModel SyModel.Transfer
open SyModel.Compress (Covers Region writeAt setLen zeros localSeek localBlocks)

/-! ### side conditions on the constants extracted from the Rust source -/

theorem consts_ok_bufreader_cap :
    Generated.XFER_BUFREADER_CAP = BUF_CAP ∧ Generated.XFER_BUFREADER_CAP_RATIO = BUF_CAP := by decide
theorem consts_ok_delta_threshold : Generated.DELTA_THRESHOLD = DELTA_THRESHOLD := by decide
theorem consts_ok_small_dest_gate : Generated.XFER_SMALL_DEST_GATE = SMALL_DEST := by decide
theorem consts_ok_block_size : Generated.LOCAL_BLOCK_SIZE = LOCAL_BLOCK_SIZE ∧ 0 < LOCAL_BLOCK_SIZE := by decide
theorem consts_ok_sample_count : Generated.XFER_SAMPLE_COUNT = SAMPLE_COUNT := by decide
/-- 0.75 and 0.5 as exact rationals. -/
theorem consts_ok_ratio_threshold :
    Generated.XFER_RATIO_THRESHOLD_NUM * RATIO_DEN = RATIO_NUM * Generated.XFER_RATIO_THRESHOLD_DEN ∧
    Generated.XFER_SIZE_DIFF_RATIO_NUM * SIZE_DIFF_DEN = SIZE_DIFF_NUM * Generated.XFER_SIZE_DIFF_RATIO_DEN := by decide
/-- shape of the sampler and of the two strategies as the anchors see it: `use_delta` is `<=`,
    the step is `total_blocks / (sample_count - 1)`, indices are clamped to the last block of the
    *destination*, the COW branch truncates to `bytes_written`, the in-place branch preallocates
    `source_size`, and the mtime is put on the temp file before the rename. -/
theorem consts_ok_shape :
    Generated.XFER_USE_DELTA_IS_LE = true ∧ Generated.XFER_SAMPLE_STEP_DIV = true ∧
    Generated.XFER_SAMPLE_IDX_CLAMP = true ∧ Generated.XFER_TOTAL_BLOCKS_OF_DEST = true ∧
    Generated.XFER_COW_TRUNCATES = true ∧ Generated.XFER_INPLACE_PREALLOCATES = true ∧
    Generated.XFER_MTIME_BEFORE_RENAME = true := by decide
/-- the three numerals on which the (not formalised) argument for reading the two `f64` comparisons
    (`> 0.5`, `<= 0.75`) as exact rationals rests: a quotient `x/d` that is not equal to the bound
    differs from it by at least `1/(4d)`, more than half an ulp (`2^-54`) below 1, as long as
    `4 · dest_size < 2^54`, which files of at most 2^50 bytes (1 PiB) satisfy. -/
theorem consts_ok_f64_margin : 4 * 2 ^ 50 < 2 ^ 54 ∧ RATIO_DEN = 4 ∧ SIZE_DIFF_DEN = 2 := by decide
/-- the production block size divides the reader capacity: production reads are plain 64 KiB blocks. -/
theorem consts_ok_block_divides_cap : Generated.LOCAL_BLOCK_SIZE ∣ Generated.XFER_BUFREADER_CAP := ⟨4, by decide⟩

/-! ### the two rebuild strategies reproduce the source -/

/-- In-place strategy: for every block size > 0, every source and every prior destination, the
    renamed temp file is the source. -/
theorem blockCompare_inplace (bs : Nat) (hbs : 0 < bs) (src dst : Bytes) :
    (rebuildInPlace bs src dst).1 = src :=
  inplace_temp _ (fun p => chunkAt_pos BUF_CAP bs p hbs) src dst

/-- COW strategy (clone of the destination, selective writes, `set_len`): same statement. -/
theorem blockCompare_cow (bs : Nat) (hbs : 0 < bs) (src dst : Bytes) :
    (rebuildCow bs src dst).1 = src :=
  (cow_temp _ (fun p => chunkAt_pos BUF_CAP bs p hbs) src dst).1

/-- both hold for any way the reads are chunked (any positive chunk bound per position): the
    result does not depend on how `BufReader` slices the files. -/
theorem blockCompare_anyChunking (k : Nat → Nat) (hk : ∀ p, 0 < k p) (src dst : Bytes) :
    (rebuildInPlaceK k src dst).temp = src ∧ (rebuildCowK k src dst).temp = src :=
  ⟨inplace_temp k hk src dst, (cow_temp k hk src dst).1⟩

/-- `bytes_written` of both strategies is the source size. -/
theorem blockCompare_bytes_written (bs : Nat) (hbs : 0 < bs) (src dst : Bytes) :
    (rebuildInPlaceLoop bs src dst).offset = src.length ∧ (rebuildCowLoop bs src dst).offset = src.length :=
  ⟨inplace_offset _ (fun p => chunkAt_pos BUF_CAP bs p hbs) src dst,
   (cow_temp _ (fun p => chunkAt_pos BUF_CAP bs p hbs) src dst).2⟩

/-- the hypothesis `0 < bs` is needed: with block size 0 the first read returns 0 bytes, the loop
    ends at once and the preallocated temp file (zeros) is renamed over the destination. (Not
    reachable in production: the block size is the constant 64 KiB.) -/
theorem blockSize_zero_counterexample : (rebuildInPlace 0 [7] [7]).1 = [0] ∧ (rebuildInPlace 0 [7] [7]).1 ≠ [7] := by
  have h : (rebuildInPlace 0 [7] [7]).1 = [0] := by
    simp [rebuildInPlace, rebuildInPlaceLoop, rebuildInPlaceK, inPlaceGo, chunkAt, setLen, zeros]
  rw [h]; exact ⟨rfl, by decide⟩

/-! ### the counters -/

/-- `changed_blocks` / `literal_bytes` of both strategies: the loops compare, position by position,
    what source and destination hold there (`cmpBlocks`); `changed_blocks` is the number of compared
    positions whose blocks differ (in length or content) and `literal_bytes` the sum of the source
    blocks' lengths at those positions. Both strategies report the same numbers. -/
theorem changed_blocks_spec (bs : Nat) (src dst : Bytes) :
    (rebuildInPlace bs src dst).2.1 = ((cmpBlocks (chunkAt BUF_CAP bs) src dst).filter Blk.differs).length ∧
    (rebuildInPlace bs src dst).2.2 =
      (((cmpBlocks (chunkAt BUF_CAP bs) src dst).filter Blk.differs).map (·.s.length)).sum ∧
    (rebuildCow bs src dst).2 = (rebuildInPlace bs src dst).2 := by
  have hi := inplace_counters (chunkAt BUF_CAP bs) src dst
  have hc := cow_counters (chunkAt BUF_CAP bs) src dst
  refine ⟨hi.1, hi.2.1, ?_⟩
  show ((rebuildCowK _ src dst).changed, (rebuildCowK _ src dst).literal) =
    ((rebuildInPlaceK _ src dst).changed, (rebuildInPlaceK _ src dst).literal)
  rw [hi.1, hi.2.1, hc.1, hc.2.1]

/-- what the compared positions are: the blocks tile the source without gap or overlap, each holds
    the bytes of source and destination at its offset (at most the chunk bound, cut at end of
    file), and `differs` is plain inequality of the two slices. -/
theorem cmpBlocks_spec (bs : Nat) (hbs : 0 < bs) (src dst : Bytes) :
    ((cmpBlocks (chunkAt BUF_CAP bs) src dst).flatMap (·.s) = src) ∧
    Chain 0 (cmpBlocks (chunkAt BUF_CAP bs) src dst) ∧
    (∀ b ∈ cmpBlocks (chunkAt BUF_CAP bs) src dst,
      b.s = (src.drop b.off).take (chunkAt BUF_CAP bs b.off) ∧
      b.d = (dst.drop b.off).take (chunkAt BUF_CAP bs b.off) ∧ b.s ≠ [] ∧
      (b.differs = true ↔ b.s ≠ b.d)) := by
  refine ⟨cmpBlocksGo_join _ (fun p => chunkAt_pos BUF_CAP bs p hbs) 0 src dst,
    cmpBlocksGo_chain _ 0 src dst, ?_⟩
  intro b hb
  have := cmpBlocksGo_mem (chunkAt BUF_CAP bs) src dst 0 b (by simpa [cmpBlocks] using hb)
  exact ⟨this.2.1, this.2.2.1, this.2.2.2, Blk.differs_iff b⟩

/-- for a block size that divides the reader capacity (256 KiB) or is at least as large — in
    particular the production value 64 KiB — the compared positions are the fixed-size blocks
    `i·bs`, `i < ⌈|src| / bs⌉`: `changed_blocks` counts exactly the block indices where block `i`
    of the source and block `i` of the destination differ. -/
theorem changed_blocks_spec_plain (bs : Nat) (hbs : 0 < bs) (hdiv : bs ∣ BUF_CAP ∨ BUF_CAP ≤ bs) (src dst : Bytes) :
    cmpBlocks (chunkAt BUF_CAP bs) src dst = plainBlocks bs src dst ∧
    (rebuildInPlace bs src dst).2.1 = ((plainBlocks bs src dst).filter Blk.differs).length ∧
    (rebuildCow bs src dst).2.1 = ((plainBlocks bs src dst).filter Blk.differs).length := by
  have hk : ∀ i, chunkAt BUF_CAP bs (i * bs) = bs := by
    intro i
    rcases hdiv with h | h
    · exact chunkAt_of_dvd _ _ _ h
    · exact chunkAt_of_ge _ _ _ h
  have hp := cmpBlocks_plain (chunkAt BUF_CAP bs) bs hbs hk src dst
  have hs := changed_blocks_spec bs src dst
  refine ⟨hp, ?_, ?_⟩
  · rw [hs.1, hp]
  · have : (rebuildCow bs src dst).2.1 = (rebuildInPlace bs src dst).2.1 := by rw [hs.2.2]
    rw [this, hs.1, hp]

/-- a block size that neither divides nor reaches the capacity is cut in front of a multiple of
    256 KiB (only reachable through `SY_VERIF_BLOCK_SIZE`): the counters then count read chunks. -/
theorem short_chunk_witness :
    chunkAt BUF_CAP 3000 261000 = 1144 ∧ chunkAt BUF_CAP 3000 262144 = 3000 ∧ chunkAt 8 3 6 = 2 := by decide

/-- zero changed blocks: exactly when all compared blocks are equal; this makes the source a prefix
    of the destination, and the two files equal when the destination is not longer. -/
theorem changed_zero_iff (bs : Nat) (hbs : 0 < bs) (src dst : Bytes) :
    ((rebuildCow bs src dst).2.1 = 0 ↔ ∀ b ∈ cmpBlocks (chunkAt BUF_CAP bs) src dst, b.s = b.d) ∧
    ((rebuildCow bs src dst).2.1 = 0 → src <+: dst) ∧
    ((rebuildCow bs src dst).2.1 = 0 → dst.length ≤ src.length → dst = src) ∧
    (dst = src → (rebuildCow bs src dst).2.1 = 0 ∧ (rebuildCow bs src dst).2.2 = 0) := by
  have hs := changed_blocks_spec bs src dst
  have hcow : (rebuildCow bs src dst).2.1 = changedOf (cmpBlocks (chunkAt BUF_CAP bs) src dst) := by
    have : (rebuildCow bs src dst).2.1 = (rebuildInPlace bs src dst).2.1 := by rw [hs.2.2]
    rw [this, hs.1]; rfl
  have hpre : (rebuildCow bs src dst).2.1 = 0 → src <+: dst := by
    intro h
    rw [hcow, changedOf_eq_zero_iff] at h
    exact prefix_of_all_equal _ (fun p => chunkAt_pos BUF_CAP bs p hbs) 0 src dst h
  refine ⟨by rw [hcow, changedOf_eq_zero_iff], hpre, ?_, ?_⟩
  · intro h hlen
    obtain ⟨t, ht⟩ := hpre h
    have : t = [] := by
      have := congrArg List.length ht
      simp only [List.length_append] at this
      exact List.eq_nil_of_length_eq_zero (by omega)
    rw [← ht, this]; simp
  · intro he
    subst he
    have hall := all_equal_of_same (chunkAt BUF_CAP bs) 0 dst dst rfl
    have h0 : changedOf (cmpBlocks (chunkAt BUF_CAP bs) dst dst) = 0 := (changedOf_eq_zero_iff _).mpr hall
    refine ⟨by rw [hcow, h0], ?_⟩
    have : (rebuildCow bs dst dst).2.2 = literalOf (cmpBlocks (chunkAt BUF_CAP bs) dst dst) := by
      have : (rebuildCow bs dst dst).2.2 = (rebuildInPlace bs dst dst).2.2 := by rw [hs.2.2]
      rw [this, hs.2.1]; rfl
    rw [this]
    unfold literalOf
    have hnil : (cmpBlocks (chunkAt BUF_CAP bs) dst dst).filter Blk.differs = [] := by
      unfold changedOf at h0; exact List.eq_nil_of_length_eq_zero h0
    rw [hnil]; rfl

/-- "0 changed blocks iff dst = src" is false in one direction: a destination that continues after
    a block-aligned source has no changed block (the COW branch then only truncates). -/
theorem changed_zero_counterexample_longer_dest :
    (rebuildCow 2 [1, 2] [1, 2, 3]).2.1 = 0 ∧ ([1, 2, 3] : Bytes) ≠ [1, 2] ∧ (rebuildCow 2 [1, 2] [1, 2, 3]).1 = [1, 2] := by
  refine ⟨?_, by decide, blockCompare_cow 2 (by decide) _ _⟩
  rw [(changed_blocks_spec_plain 2 (by decide) (Or.inl ⟨131072, by decide⟩) [1, 2] [1, 2, 3]).2.2]
  decide

/-- `literal_bytes ≤ bytes_written = |src|` and `changed_blocks ≤` number of compared positions. -/
theorem counters_bounded (bs : Nat) (hbs : 0 < bs) (src dst : Bytes) :
    (rebuildInPlace bs src dst).2.2 ≤ src.length ∧
    (rebuildInPlace bs src dst).2.1 ≤ (cmpBlocks (chunkAt BUF_CAP bs) src dst).length := by
  have hs := changed_blocks_spec bs src dst
  constructor
  · rw [hs.2.1]
    have := literalOf_le (cmpBlocks (chunkAt BUF_CAP bs) src dst)
    rw [sum_length_flatMap, (cmpBlocks_spec bs hbs src dst).1] at this
    exact this
  · rw [hs.1]; exact List.length_filter_le _ _

/-! ### what is written -/

/-- The COW strategy issues one `seek + write_all` per *changed* position and none for an
    unchanged one: its write log is exactly the changed blocks (offset, source bytes) in file
    order; every written block differs from the block the destination reader returned there; and
    the temp file is the replay of that log over the clone, cut to `bytes_written`. -/
theorem cow_writes_only_changed (bs : Nat) (src dst : Bytes) :
    (rebuildCowLoop bs src dst).writes.reverse =
      ((cmpBlocks (chunkAt BUF_CAP bs) src dst).filter Blk.differs).map (fun b => (b.off, b.s)) ∧
    (∀ w ∈ (rebuildCowLoop bs src dst).writes,
      w.2 ≠ (dst.drop w.1).take (chunkAt BUF_CAP bs w.1)) ∧
    (rebuildCowLoop bs src dst).temp =
      setLen ((rebuildCowLoop bs src dst).writes.reverse.foldl (fun t w => writeAt t w.1 w.2) dst)
        (rebuildCowLoop bs src dst).offset := by
  have hc := (cow_counters (chunkAt BUF_CAP bs) src dst).2.2
  refine ⟨hc, ?_, cow_temp_replay _ src dst⟩
  intro w hw
  have hw' : w ∈ (rebuildCowK (chunkAt BUF_CAP bs) src dst).writes.reverse := List.mem_reverse.mpr hw
  rw [hc] at hw'
  obtain ⟨b, hb, rfl⟩ := List.mem_map.mp hw'
  obtain ⟨hbm, hbd⟩ := List.mem_filter.mp hb
  have hmem := cmpBlocksGo_mem (chunkAt BUF_CAP bs) src dst 0 b (by simpa [cmpBlocks] using hbm)
  show b.s ≠ _
  rw [← hmem.2.2.1]
  exact (Blk.differs_iff b).mp hbd

/-- a written *full* block (length = chunk bound) really changes the bytes it overwrites. -/
theorem cow_full_block_write_changes_bytes (bs : Nat) (src dst : Bytes) :
    ∀ w ∈ (rebuildCowLoop bs src dst).writes, w.2.length = chunkAt BUF_CAP bs w.1 →
      (dst.drop w.1).take w.2.length ≠ w.2 := by
  intro w hw hl h
  have := (cow_writes_only_changed bs src dst).2.1 w hw
  rw [hl] at h
  exact this h.symm

/-- the last, short source block is also written when the destination merely continues past it
    (read sizes differ) although the bytes it overwrites are identical. -/
theorem cow_redundant_tail_write_witness :
    (rebuildCowLoop 4 [1, 2, 3] [1, 2, 3, 4]).writes = [(0, [1, 2, 3])] := by
  have h := (cow_writes_only_changed 4 [1, 2, 3] [1, 2, 3, 4]).1
  rw [(changed_blocks_spec_plain 4 (by decide) (Or.inl ⟨65536, by decide⟩) _ _).1] at h
  have h2 : ((plainBlocks 4 [1, 2, 3] [1, 2, 3, 4]).filter Blk.differs).map (fun b => (b.off, b.s)) = [(0, [1, 2, 3])] := by
    decide
  rw [h2] at h
  have := congrArg List.reverse h
  simpa using this

/-- The in-place strategy writes every compared block, changed or not, each exactly once and in
    file order; the temp file is the replay of the log over the preallocated zeros. -/
theorem inplace_writes_all (bs : Nat) (src dst : Bytes) :
    (rebuildInPlaceLoop bs src dst).writes.reverse =
      (cmpBlocks (chunkAt BUF_CAP bs) src dst).map (fun b => (b.off, b.s)) ∧
    (rebuildInPlaceLoop bs src dst).temp =
      (rebuildInPlaceLoop bs src dst).writes.reverse.foldl (fun t w => writeAt t w.1 w.2) (setLen [] src.length) :=
  ⟨(inplace_counters _ src dst).2.2, inplace_temp_replay _ src dst⟩

/-! ### routing -/

/-- side conditions per route: the kernel contract on the sparse route, a positive block size on
    the two block-compare routes. Nothing about the prior destination. -/
structure RouteOK (cfg : Cfg) (route : Route) (src : Bytes) : Prop where
  seek : route = .sparse → ∀ rs, cfg.seekData = some rs → Covers src rs
  block : route = .deltaCow ∨ route = .deltaInPlace → 0 < cfg.blockSize

/-- Every transfer path leaves (content, mtime) = the source's: for every route (also one the gates
    would not have chosen), every prior destination and every time of the run. -/
theorem transfer_postcondition (cfg : Cfg) (route : Route) (src : FileSt) (dst : Option FileSt) (now : Nat)
    (hok : RouteOK cfg route src.bytes) :
    (perform cfg route src dst now).file = src := by
  have hfull : ∀ r, (copyFile r src now).file = src := by
    intro r
    show setMtime (fsCopy src.bytes now).1 src.mtime = src
    unfold setMtime
    rw [fsCopy_bytes]
  cases route with
  | absent => exact hfull _
  | belowThreshold => exact hfull _
  | smallDest => exact hfull _
  | sparse =>
    show setMtime (copySparseFile src.bytes cfg.seekData now).1 src.mtime = src
    unfold setMtime
    rw [copySparseFile_bytes _ _ _ (hok.seek rfl)]
  | ratioFull => exact hfull _
  | deltaCow =>
    have hb := hok.block (Or.inl rfl)
    show setMtime { bytes := (rebuildCowLoop cfg.blockSize src.bytes _).temp, mtime := now } src.mtime = src
    unfold setMtime
    have := blockCompare_cow cfg.blockSize hb src.bytes ((dst.map (·.bytes)).getD [])
    simp only [rebuildCow] at this
    simp only [this]
  | deltaInPlace =>
    have hb := hok.block (Or.inr rfl)
    show setMtime { bytes := (rebuildInPlaceLoop cfg.blockSize src.bytes _).temp, mtime := now } src.mtime = src
    unfold setMtime
    have := blockCompare_inplace cfg.blockSize hb src.bytes ((dst.map (·.bytes)).getD [])
    simp only [rebuildInPlace] at this
    simp only [this]

/-- `sync_file_with_delta` as a whole. -/
theorem transfer_postcondition_sync (cfg : Cfg) (src : FileSt) (dst : Option FileSt) (now : Nat)
    (hb : 0 < cfg.blockSize) (hseek : cfg.srcSparse = true → ∀ rs, cfg.seekData = some rs → Covers src.bytes rs) :
    (syncFileWithDelta cfg src dst now).file = src := by
  apply transfer_postcondition
  constructor
  · intro hr
    apply hseek
    -- the sparse route is only taken for a sparse source
    cases hd : dst.map (·.bytes) with
    | none => rw [hd] at hr; cases hr
    | some d =>
      rw [hd, routeOf_some] at hr
      split at hr
      · cases hr
      · split at hr
        · assumption
        · split at hr
          · cases hr
          · split at hr <;> cases hr
  · intro _; exact hb

/-- `TransferResult.bytes_written` is the source size on every route. -/
theorem bytes_written_eq_size (cfg : Cfg) (route : Route) (src : FileSt) (dst : Option FileSt) (now : Nat)
    (hb : route = .deltaCow ∨ route = .deltaInPlace → 0 < cfg.blockSize) :
    (perform cfg route src dst now).bytesWritten = src.bytes.length := by
  cases route with
  | absent => rfl
  | belowThreshold => rfl
  | smallDest => rfl
  | sparse => exact copySparseFile_count _ _ _
  | ratioFull => rfl
  | deltaCow => exact (blockCompare_bytes_written cfg.blockSize (hb (Or.inl rfl)) _ _).2
  | deltaInPlace => exact (blockCompare_bytes_written cfg.blockSize (hb (Or.inr rfl)) _ _).1

/-- `used_delta()` is true exactly on the two block-compare routes, where `delta_operations` and
    `literal_bytes` are the counters of `changed_blocks_spec`. -/
theorem used_delta_iff_route (cfg : Cfg) (route : Route) (src : FileSt) (dst : Option FileSt) (now : Nat) :
    ((perform cfg route src dst now).usedDelta = true ↔ route = .deltaCow ∨ route = .deltaInPlace) ∧
    (perform cfg route src dst now).route = route ∧
    (route = .deltaCow → (perform cfg route src dst now).deltaOps =
        some (rebuildCow cfg.blockSize src.bytes ((dst.map (·.bytes)).getD [])).2.1 ∧
      (perform cfg route src dst now).literalBytes =
        some (rebuildCow cfg.blockSize src.bytes ((dst.map (·.bytes)).getD [])).2.2) ∧
    (route = .deltaInPlace → (perform cfg route src dst now).deltaOps =
        some (rebuildInPlace cfg.blockSize src.bytes ((dst.map (·.bytes)).getD [])).2.1 ∧
      (perform cfg route src dst now).literalBytes =
        some (rebuildInPlace cfg.blockSize src.bytes ((dst.map (·.bytes)).getD [])).2.2) := by
  cases route <;> simp [perform, copyFile, Outcome.usedDelta, rebuildCow, rebuildInPlace]

/-- the `dest_size < 4096` gate is dead code: no input takes it. -/
theorem small_gate_dead (cfg : Cfg) (src : Bytes) (dst : Option Bytes) : routeOf cfg src dst ≠ .smallDest := by
  cases dst with
  | none => simp [routeOf]
  | some d =>
    rw [routeOf_some]
    split
    · simp
    · split
      · simp
      · split
        · simp
        · split <;> simp

/-- which inputs reach the block-compare routes: destination present, size at least 10 MiB (or at
    least the hook threshold), source not sparse, and the ratio gate answers "delta" (or fails). -/
theorem delta_route_iff (cfg : Cfg) (src : Bytes) (d : Bytes) :
    (routeOf cfg src (some d) = .deltaCow ∨ routeOf cfg src (some d) = .deltaInPlace) ↔
      DELTA_THRESHOLD ≤ effDestSize cfg d.length ∧ cfg.srcSparse = false ∧
      (cfg.ratioFails = true ∨ (changeRatio cfg.blockSize src d).useDelta = true) := by
  rw [routeOf_some]
  by_cases h1 : effDestSize cfg d.length < DELTA_THRESHOLD
  · simp [h1]; intro h; omega
  · rw [if_neg h1]
    cases hs : cfg.srcSparse
    -- past the size gate `routeOf` is a table over three more flags: ratio failure, its answer, the strategy
    · cases hf : cfg.ratioFails <;> cases hu : (changeRatio cfg.blockSize src d).useDelta <;>
        cases hc : cfg.useCow <;> simp <;> omega
    · simp

/-- identical non-empty files above the gate are never sent through a full copy by the ratio gate. -/
theorem same_content_uses_delta (cfg : Cfg) (src : Bytes) (hne : 0 < src.length)
    (hsz : DELTA_THRESHOLD ≤ effDestSize cfg src.length) (hsp : cfg.srcSparse = false) :
    routeOf cfg src (some src) = .deltaCow ∨ routeOf cfg src (some src) = .deltaInPlace :=
  (delta_route_iff cfg src src).mpr ⟨hsz, hsp, Or.inr (changeRatio_same _ _ hne)⟩

/-! ### the sampler -/

/-- `estimate_change_ratio`: at most 20 blocks are compared, all inside the destination, the first
    one is block 0; `use_delta` is `4·num ≤ 3·den`; sizes further apart than half the destination
    are decided without reading (and still choose delta up to three quarters). -/
theorem change_ratio_spec (bs : Nat) (src dst : Bytes) :
    (changeRatio bs src dst).changed ≤ (changeRatio bs src dst).sampled ∧
    (changeRatio bs src dst).sampled ≤ SAMPLE_COUNT ∧
    0 < (changeRatio bs src dst).den ∧
    (0 < dst.length → dst.length < 2 * absDiff src.length dst.length →
      (changeRatio bs src dst).sampled = 0 ∧
      ((changeRatio bs src dst).useDelta = true ↔ 4 * absDiff src.length dst.length ≤ 3 * dst.length)) ∧
    (dst.length = 0 → (changeRatio bs src dst).useDelta = false) := by
  obtain ⟨h0, h1, h2⟩ := changeRatioH_bounds (fun b => b) bs src dst
  refine ⟨h1, h2, h0, changeRatioH_size_gate _ bs src dst, ?_⟩
  intro h0
  simp [changeRatio, changeRatioH, h0, RatioResult.mk']

theorem sample_positions_spec (tb sc : Nat) (htb : 0 < tb) (hsc : 0 < sc) :
    (samplePositions tb sc).length = sc ∧ (∀ p ∈ samplePositions tb sc, p < tb) ∧
    (samplePositions tb sc).head? = some 0 :=
  ⟨length_samplePositions tb sc, samplePositions_lt tb sc htb, samplePositions_head tb sc hsc⟩

/-! ### non-vacuity -/

/-- `RouteOK` is satisfiable on every route (default configuration, any source). -/
theorem routeOK_example (route : Route) (src : Bytes) (h : Covers src []) : RouteOK {} route src :=
  ⟨fun _ rs hrs => by cases hrs; exact h, fun _ => by decide⟩

example : Covers [0, 0, 0] [] := ⟨by simp, by intro i hi h; exfalso; revert h; match i, hi with | 0, _ | 1, _ | 2, _ => decide⟩

/-- the `Covers` hypothesis is needed on the sparse route: regions that miss a data byte lose it. -/
theorem sparse_contract_counterexample :
    (perform { seekData := some [] } .sparse { bytes := [5], mtime := 1 } none 9).file.bytes = [0] := by
  simp [perform, copySparseFile, localSeek, setLen, zeros, setMtime]

-- destination shorter / longer / empty / equal, block size not dividing the length
example : (rebuildInPlace 4 [1, 2, 3, 4, 5, 6, 7] [1, 2, 3]).1 = [1, 2, 3, 4, 5, 6, 7] := blockCompare_inplace 4 (by decide) _ _
example : (rebuildCow 4 [1, 2, 3, 4, 5, 6, 7] [1, 2, 3]).1 = [1, 2, 3, 4, 5, 6, 7] := blockCompare_cow 4 (by decide) _ _
example : (rebuildCow 4 [1, 2, 3] [1, 2, 3, 4, 5, 6, 7, 8, 9]).1 = [1, 2, 3] := blockCompare_cow 4 (by decide) _ _
example : (rebuildCow 3 [1, 2, 3, 4] []).1 = [1, 2, 3, 4] := blockCompare_cow 3 (by decide) _ _
example : (rebuildCow 3 [] [1, 2, 3, 4]).1 = [] := blockCompare_cow 3 (by decide) _ _
example : (rebuildInPlace 3 [] [1, 2, 3, 4]).1 = [] := blockCompare_inplace 3 (by decide) _ _

/-- counters on a concrete pair (bs = 4, 7 source bytes, destination longer, second block differs):
    one changed block of 3 literal bytes; one write at offset 4. -/
theorem counters_example :
    (rebuildCow 4 [1, 2, 3, 4, 5, 6, 7] [1, 2, 3, 4, 5, 6, 9, 9, 9]).2 = (1, 3) ∧
    (rebuildCowLoop 4 [1, 2, 3, 4, 5, 6, 7] [1, 2, 3, 4, 5, 6, 9, 9, 9]).writes = [(4, [5, 6, 7])] := by
  have hp := changed_blocks_spec_plain 4 (by decide) (Or.inl ⟨65536, by decide⟩)
    [1, 2, 3, 4, 5, 6, 7] [1, 2, 3, 4, 5, 6, 9, 9, 9]
  have hs := changed_blocks_spec 4 [1, 2, 3, 4, 5, 6, 7] [1, 2, 3, 4, 5, 6, 9, 9, 9]
  have hw := (cow_writes_only_changed 4 [1, 2, 3, 4, 5, 6, 7] [1, 2, 3, 4, 5, 6, 9, 9, 9]).1
  rw [hp.1] at hw hs
  constructor
  · rw [hs.2.2]
    have e1 := hs.1
    have e2 := hs.2.1
    have d1 : ((plainBlocks 4 [1, 2, 3, 4, 5, 6, 7] [1, 2, 3, 4, 5, 6, 9, 9, 9]).filter Blk.differs).length = 1 := by decide
    have d2 : (((plainBlocks 4 [1, 2, 3, 4, 5, 6, 7] [1, 2, 3, 4, 5, 6, 9, 9, 9]).filter Blk.differs).map (·.s.length)).sum = 3 := by decide
    rw [d1] at e1; rw [d2] at e2
    exact Prod.ext e1 e2
  · have d3 : ((plainBlocks 4 [1, 2, 3, 4, 5, 6, 7] [1, 2, 3, 4, 5, 6, 9, 9, 9]).filter Blk.differs).map (fun b => (b.off, b.s))
        = [(4, [5, 6, 7])] := by decide
    rw [d3] at hw
    have := congrArg List.reverse hw
    simpa using this

-- every route but the dead `smallDest` is reachable (hook threshold 8, block size 4)
example : routeOf { hookThreshold := some 8, blockSize := 4 } [1] none = .absent := by decide
example : routeOf { hookThreshold := some 8, blockSize := 4 } [1] (some [1, 2, 3]) = .belowThreshold := by decide
example : routeOf { hookThreshold := some 8, blockSize := 4, srcSparse := true } [1] (some [1, 2, 3, 4, 5, 6, 7, 8]) = .sparse := by decide
example : routeOf { hookThreshold := some 8, blockSize := 4 } [1] (some [1, 2, 3, 4, 5, 6, 7, 8]) = .ratioFull := by decide
example : routeOf { hookThreshold := some 8, blockSize := 4, useCow := true } [1, 2, 3, 4, 5, 6, 7, 9] (some [1, 2, 3, 4, 5, 6, 7, 8]) = .deltaCow := by decide
example : routeOf { hookThreshold := some 8, blockSize := 4 } [1, 2, 3, 4, 5, 6, 7, 9] (some [1, 2, 3, 4, 5, 6, 7, 8]) = .deltaInPlace := by decide
-- production gate: a 3-byte destination is below 10 MiB
example : routeOf {} [1] (some [1, 2, 3]) = .belowThreshold := by decide
-- the sampler on a concrete pair: 2 blocks, both sampled, one changed → ratio 1/2, delta
example : changeRatio 4 [1, 2, 3, 4, 5, 6, 7, 9] [1, 2, 3, 4, 5, 6, 7, 8] =
    { num := 1, den := 2, sampled := 2, changed := 1, useDelta := true } := by decide
-- size difference between one half and three quarters of the destination: no sample, delta
example : changeRatio 4 [1, 2, 3] [1, 2, 3, 4, 5, 6, 7, 8] =
    { num := 5, den := 8, sampled := 0, changed := 0, useDelta := true } := by decide
example : samplePositions 38 20 = [0, 2, 4, 6, 8, 10, 12, 14, 16, 18, 20, 22, 24, 26, 28, 30, 32, 34, 36, 37] := by decide

end SyModel.Props.C01Bytes
