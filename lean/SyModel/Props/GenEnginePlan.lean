/-
  GenEnginePlan — the bridge for the translated unit `EnginePlan` (`SyModel/Generated/Code/EnginePlan.lean`, regenerated on
  every run from src/sync/mod.rs): `plan_round`, ONE round of the planning loop of `SyncEngine::sync`
  (`for file in &source_files { … }`): planner call, override 1 (a destination symlink at the path of a regular file is
  never up to date: fixes 0eacf0e, 90eec9e), override 2 (a destination symlink at the path of a source directory is
  replaced, never followed, and everything below it is created: fixes 862af11, 135a0e1), `tasks.push(task)`.

  Vocabulary, the structured program `roundSpec`, the composed instance `ext2`, the world-level reading `roundOut`, the
  path lemmas and `pruneLinks` are in `Lemmas/GenEnginePlan.lean`; world (`PlanWorld`), `extOf`, `runM`, the abstraction
  maps of unit PlannerFx in `Lemmas/GenPlannerFx.lean`.

  For ANY instance the round is the structured program and asks its two `read_link` probes exactly under the conditions
  of the source (`plan_round_is_structured`, `override1_*`, `override2_*`, `plan_round_ok_shape`).  On the composed
  instance the round is a pure function of the world, in closed form `roundOut_eq`; for every entry kind, every
  destination node, below a replaced link or not, the appended task abstracts to `planEntry cfg M (absE w file)` and the
  invariant `RL` is kept (`roundOut_eq_planEntry`, `RL_step`; as one run of the round: `plan_round_eq_planEntry`); the loop
  appends one `Coupled` task per file (`planLoop_coupled` — the statement the capstone takes, with `walkOrder_of_abs`),
  hence `plan_loop_eq_model`, `plan_loop_is_plan_prefix`.
  Corollaries for the properties: `replaced_link_children_are_creates` (C02), `symlink_dest_never_skip_for_file`
  (C17/C02), `second_run_skips` (C03).

  Hypotheses (satisfiability examples at the end of the file; `EntryPost` of `second_run_skips` is the model's own
  predicate, `Lemmas/EnginePost.lean`, and has none here):
    * the round is called with the world's root and, for the bridge to `planEntry`, without a checksum database
      (`db = none`) — or, in the pure core `roundOut_eq_planEntry`, with one that has no row for the entry's two paths
      (`hrows`; every instantiation in the development passes `useDb = false`, so this hypothesis has no example);
      where the SOURCE row hits and the destination row still misses, the file arm is `planEntryDb` —
      `GenPlannerFx.plan_file_async_file_db_eq_model` — not composed here; a destination-row hit is the model's gap
      (`GenPlannerFx.gapWorld`);
    * `EntryOK` — the per-entry hypotheses of `Props/GenPlannerFx` (configuration = engine, `FromCli`, a symlink entry
      is not a directory entry, preserve mode has the link text, `--checksum` sources are readable);
    * `RL w planned rl` and `Walked planned file` — the loop invariant and what a parents-first, duplicate-free walk
      gives; derived for the whole loop from `UniqueRels` / `ParentsFirst` of the abstracted scan;
    * `ModelAt w M k` — the model's map lists at `k` what the world lists, unless `k` is reached THROUGH a destination
      link: then nothing.  The world may list nodes below a symlink node: that is what probes see through the link
      (`PlanWorld.stat` answers from the map at the full key).  Two instances: `pruneLinks w.dst` always
      (`modelAt_pruneLinks`); `w.dst` itself under `NothingBelowLinks w.dst` (`modelAt_self`).
-/
import SyModel.Lemmas.GenEnginePlan
import SyModel.Lemmas.ListRel
import SyModel.Props.GenPlannerFx
namespace SyModel.Props.GenEnginePlan
open SyModel SyModel.Engine SyModel.Generated SyModel.Generated.EnginePlan SyModel.Lemmas.GenEnginePlan
open SyModel.Props.GenBisync (ListRel)
open SyModel.Lemmas.GenPlannerFx (PlanWorld runM runM_pure runM_bind runM_capture probe extOf
  compsOf planAt linkPlan absAct absEntry absMeta absLinkTask absLinkEntry absLinkMode
  absTarget linkText modeOf FromCli NotLinkAt relOf_join stat_join linkAt_join simpleTask
  followEntry planAt_file_abs planAt_file_act compsOf_injective compsOf_ne_nil absMeta_followEntry
  preserveAct_eq_planEntry)

/-- `SyncTask ↦ Task` -/
def absT (mode : SymlinkMode) (w : PlanWorld) (t : SyncTask) : Task := absLinkTask (toPMode mode) w (toPTask t)

/-- `FileEntry ↦ SEntry`: symlink entries by `absLinkEntry`, all others by `absEntry` -/
def absE (w : PlanWorld) (file : FileEntry) : SEntry :=
  if file.is_symlink then absLinkEntry w (toPEntry file) else absEntry w (toPEntry file)

theorem absE_rel (w : PlanWorld) (file : FileEntry) : (absE w file).rel = compsOf file.relative_path := by
  unfold absE; split <;> rfl

/-- `planEntry` reads the destination map at the entry's own path only -/
theorem planEntry_congr (cfg : Cfg) (M M' : Map DNode) (e : SEntry) (h : M.get? e.rel = M'.get? e.rel) :
    planEntry cfg M e = planEntry cfg M' e :=
  Engine.planEntry_congr h

@[simp] theorem toPEntry_is_dir (e : FileEntry) : (toPEntry e).is_dir = e.is_dir := rfl
@[simp] theorem toPEntry_is_symlink (e : FileEntry) : (toPEntry e).is_symlink = e.is_symlink := rfl
@[simp] theorem toPEntry_relative_path (e : FileEntry) : (toPEntry e).relative_path = e.relative_path := rfl
@[simp] theorem toPEntry_path (e : FileEntry) : (toPEntry e).path = e.path := rfl
@[simp] theorem toPEntry_symlink_target (e : FileEntry) : (toPEntry e).symlink_target = e.symlink_target := rfl
theorem ofPEntry_is_symlink (e : PlannerFx.FileEntry) : (ofPEntry e).is_symlink = e.is_symlink := rfl

/-- the source entry of the task the round appends: the scanned entry itself — or, for a symlink to a regular file in
    follow mode, the dereferenced entry `plan_symlink` builds -/
def srcOfRound (w : PlanWorld) (self : SyncEngine) (f : FileEntry) : FileEntry :=
  if f.is_symlink then
    match self.symlink_mode with
    | .Follow =>
      match w.metaAt f.path with
      | .ok m => if m.dir then f else ofPEntry (followEntry (toPEntry f) m)
      | .error _ => f
    | _ => f
  else f

/-- whatever unit PlannerFx plans for an entry names `srcOfRound` as its source and the entry's own destination path -/
theorem plannedTask_shape (w : PlanWorld) (p : PlannerFx.StrategyPlanner) (self : SyncEngine) (file : FileEntry)
    (useDb : Bool) :
    (ofPTask (plannedTask w p self file useDb)).source = some (srcOfRound w self file) ∧
      (ofPTask (plannedTask w p self file useDb)).dest_path = Rs.join w.root file.relative_path := by
  unfold plannedTask srcOfRound ofPTask
  cases file.is_symlink
  · exact ⟨rfl, rfl⟩
  · simp only [if_true]
    unfold linkPlan toPEngine
    cases self.symlink_mode
    · exact ⟨rfl, rfl⟩
    · simp only [toPMode, toPEntry_path]
      cases w.metaAt file.path with
      | error e => exact ⟨rfl, rfl⟩
      | ok m => cases hd : m.dir <;> simp [simpleTask, hd]
    · exact ⟨rfl, rfl⟩

theorem linkAt_isSome (w : PlanWorld) (rel : Rs.Path) :
    (w.linkAt (Rs.join w.root rel)).isSome = isLinkNode (w.dst.get? (compsOf rel)) := by
  rw [linkAt_join]
  cases w.dst.get? (compsOf rel) with
  | none => rfl
  | some n => cases n <;> rfl

theorem setAct_self (t : SyncTask) : setAct t t.action = t := rfl
theorem setAct_dest (t : SyncTask) (a : SyncAction) : (setAct t a).dest_path = t.dest_path := rfl
theorem setAct_source (t : SyncTask) (a : SyncAction) : (setAct t a).source = t.source := rfl
theorem ofPTask_dest (t : PlannerFx.SyncTask) : (ofPTask t).dest_path = t.dest_path := rfl
theorem fix1_dest (w : PlanWorld) (file : FileEntry) (t : SyncTask) : (fix1 w file t).dest_path = t.dest_path := by
  unfold fix1; split <;> rfl
theorem fix1_source (w : PlanWorld) (file : FileEntry) (t : SyncTask) : (fix1 w file t).source = t.source := by
  unfold fix1; split <;> rfl

/-- the action the two overrides leave, from: the entry is a directory; the task's source is a link; a Skip may stay
    (`symlink_mode ≠ Preserve`); the path is below a replaced link; the path holds a link -/
def roundAct (dir srcLink keepSkip below link : Bool) (a : SyncAction) : SyncAction :=
  let a1 := if (!dir && isSkipOrCreate a && !srcLink) && link then .Update else a
  if below then (if isSkip a1 && keepSkip && srcLink then a1 else .Create)
  else if dir && link then .Update else a1

/-- override 1 then override 2 on a task with a source: the action is rewritten by `roundAct`, and the path joins
    `replaced_links` exactly for a directory entry over a link that is not below a replaced one -/
theorem overrides (w : PlanWorld) (self : SyncEngine) (file : FileEntry) (t0 : SyncTask) (f : FileEntry)
    (hsrc : t0.source = some f) (hdp : t0.dest_path = Rs.join w.root file.relative_path) (rl : List Rs.Path) :
    fix2 w self file (fix1 w file t0) rl =
      (setAct t0 (roundAct file.is_dir f.is_symlink (self.symlink_mode != SymlinkMode.Preserve)
          (belowReplaced rl (Rs.join w.root file.relative_path))
          (isLinkNode (w.dst.get? (compsOf file.relative_path))) t0.action),
        if !belowReplaced rl (Rs.join w.root file.relative_path) && file.is_dir &&
            isLinkNode (w.dst.get? (compsOf file.relative_path))
        then rl ++ [Rs.join w.root file.relative_path] else rl) := by
  have h1 : fix1 w file t0 = setAct t0 (if (!file.is_dir && isSkipOrCreate t0.action && !f.is_symlink) &&
      isLinkNode (w.dst.get? (compsOf file.relative_path)) then .Update else t0.action) := by
    unfold fix1 probe1Asked
    rw [hsrc, hdp, linkAt_isSome]
    exact (apply_ite (setAct t0) _ _ _).symm
  rw [h1]
  unfold fix2 nothingToTransfer roundAct
  rw [setAct_dest, hdp, setAct_source, hsrc, linkAt_isSome]
  cases belowReplaced rl (Rs.join w.root file.relative_path)
  · cases file.is_dir <;> cases isLinkNode (w.dst.get? (compsOf file.relative_path)) <;> rfl
  · exact congrArg (fun t => (t, rl)) (apply_ite (setAct t0) _ _ _).symm

theorem roundOut_eq (w : PlanWorld) (p : PlannerFx.StrategyPlanner) (self : SyncEngine) (file : FileEntry)
    (useDb : Bool) (rl : List Rs.Path) :
    roundOut w p self file useDb rl =
      (setAct (ofPTask (plannedTask w p self file useDb))
          (roundAct file.is_dir (srcOfRound w self file).is_symlink (self.symlink_mode != SymlinkMode.Preserve)
            (belowReplaced rl (Rs.join w.root file.relative_path))
            (isLinkNode (w.dst.get? (compsOf file.relative_path)))
            (ofPTask (plannedTask w p self file useDb)).action),
        if !belowReplaced rl (Rs.join w.root file.relative_path) && file.is_dir &&
            isLinkNode (w.dst.get? (compsOf file.relative_path))
        then rl ++ [Rs.join w.root file.relative_path] else rl) :=
  overrides w self file _ _ (plannedTask_shape w p self file useDb).1 (plannedTask_shape w p self file useDb).2
    rl

theorem roundOut_links (w : PlanWorld) (p : PlannerFx.StrategyPlanner) (self : SyncEngine) (file : FileEntry)
    (useDb : Bool) (rl : List Rs.Path) :
    (roundOut w p self file useDb rl).2 =
      if !belowReplaced rl (Rs.join w.root file.relative_path) && file.is_dir &&
          isLinkNode (w.dst.get? (compsOf file.relative_path))
      then rl ++ [Rs.join w.root file.relative_path] else rl := by
  rw [roundOut_eq]

theorem roundOut_dest (w : PlanWorld) (p : PlannerFx.StrategyPlanner) (self : SyncEngine) (file : FileEntry)
    (useDb : Bool) (rl : List Rs.Path) :
    (roundOut w p self file useDb rl).1.dest_path = Rs.join w.root file.relative_path := by
  rw [roundOut_eq]
  exact (plannedTask_shape w p self file useDb).2

theorem roundOut_source (w : PlanWorld) (p : PlannerFx.StrategyPlanner) (self : SyncEngine) (file : FileEntry)
    (useDb : Bool) (rl : List Rs.Path) : (roundOut w p self file useDb rl).1.source = some (srcOfRound w self file) := by
  rw [roundOut_eq]
  exact (plannedTask_shape w p self file useDb).1

/-- a task whose source is no link, for an entry that is no directory (plain files; the dereferenced entry of follow
    mode): below a replaced link ⇒ Create; else a link node at the path turns Skip/Create into Update -/
theorem roundAct_file (ks b l : Bool) (a : SyncAction) :
    roundAct false false ks b l a = if b then .Create else if isSkipOrCreate a && l then .Update else a := by
  cases b <;> cases l <;> simp [roundAct]

/-- a task whose source IS a link (the link itself, or nothing, is transferred): no probe at all; below a replaced link
    ⇒ Create unless nothing is transferred -/
theorem roundAct_link (ks b l : Bool) (a : SyncAction) :
    roundAct false true ks b l a = if b && !(isSkip a && ks) then .Create else a := by
  cases b <;> cases ks <;> cases h : isSkip a <;> simp [roundAct, h]

/-- below a replaced link: Create — or the Skip of a link source that may stay -/
theorem roundAct_below (d sl ks l : Bool) (a : SyncAction) :
    roundAct d sl ks true l a = .Create ∨ (roundAct d sl ks true l a = .Skip ∧ ks = true ∧ sl = true) := by
  unfold roundAct
  simp only [if_true]
  generalize (if (!d && isSkipOrCreate a && !sl) && l then SyncAction.Update else a) = a1
  cases h : isSkip a1 && ks && sl
  · exact .inl rfl
  · simp only [Bool.and_eq_true] at h
    refine .inr ⟨?_, h.1.2, h.2⟩
    cases a1 <;> first | rfl | cases h.1.1

/-- a directory entry: below a replaced link ⇒ Create, else a link node at the path ⇒ Update -/
theorem roundAct_dir (ks b l : Bool) (a : SyncAction) :
    roundAct true false ks b l a = if b then .Create else if l then .Update else a := by
  cases b <;> cases l <;> simp [roundAct]

/-- where the model's map stands with respect to the world's: at key `k` it lists what the world lists, unless `k` is
    reached through a link — then nothing -/
def ModelAt (w : PlanWorld) (M : Map DNode) (k : Engine.Path) : Prop :=
  M.get? k = if hasLinkAbove w.dst k then none else w.dst.get? k

/-- the abstraction of a task planned for the entry `src` at `rel`: its payload is read off the entry's kind -/
theorem absT_mk (mode : SymlinkMode) (w : PlanWorld) (src : PlannerFx.FileEntry) (rel : Rs.Path) (a : SyncAction)
    (c1 c2 : Option Rs.Opaque) :
    absT mode w { source := some (ofPEntry src), dest_path := Rs.join w.root rel, action := a,
                  source_checksum := c1, dest_checksum := c2 } =
      ⟨absAct (toPAct a), compsOf rel,
        if src.is_symlink then (match mode with | .Preserve => .symlink (linkText src) | _ => .nothing)
        else if src.is_dir then .dir else .file (absMeta w src) src.nlink⟩ := by
  cases mode <;> simp [absT, absLinkTask, toPTask, relOf_join, toPMode]

/-- REGULAR FILES (plain entries and the dereferenced entry of follow mode): for a task planned by `plan_file_async`
    from a non-directory, non-symlink entry `src` — every destination node at the path, and below a replaced link —
    the two overrides give the model's `planFileAct` against the MODEL's map.  `hrows` as in `roundOut_eq_planEntry`, for
    every mtime and size: the dereferenced entry of follow mode keeps the link's path but carries the target's mtime and
    size (`followEntry`), and the destination lookup is keyed by the destination node's. -/
theorem file_core (w : PlanWorld) (p : PlannerFx.StrategyPlanner) (hp : FromCli p) (self : SyncEngine)
    (file : FileEntry) (hfd : file.is_dir = false) (src : PlannerFx.FileEntry) (hd : src.is_dir = false)
    (hs : src.is_symlink = false) (hrel : src.relative_path = file.relative_path)
    (hsrc : p.checksum = true → ∃ sm, w.stat src.path = .file sm) (useDb : Bool)
    (hrows : useDb = true → ∀ mt sz, w.dbSeen src.path mt sz ['f', 'a', 's', 't'] = none ∧
      w.dbSeen (Rs.join w.root file.relative_path) mt sz ['f', 'a', 's', 't'] = none)
    (cfg : Cfg) (hc : cfg.compare = modeOf p) (rl : List Rs.Path) (M : Map DNode)
    (hcov : belowReplaced rl (Rs.join w.root file.relative_path) = hasLinkAbove w.dst (compsOf file.relative_path))
    (hM : ModelAt w M (compsOf file.relative_path)) (c1 c2 : Option Nat) :
    absT self.symlink_mode w
        (fix2 w self file (fix1 w file (ofPTask
          { source := some src, dest_path := Rs.join w.root file.relative_path,
            action := (planAt w p src useDb).1, source_checksum := c1, dest_checksum := c2 })) rl).1 =
      ⟨planFileAct cfg (absMeta w src) (M.get? (compsOf file.relative_path)), compsOf file.relative_path,
        .file (absMeta w src) src.nlink⟩ := by
  rw [overrides w self file _ (ofPEntry src) rfl rfl, hfd, ofPEntry_is_symlink, hs, roundAct_file]
  simp only [ofPTask, Option.map_some, setAct, absT_mk, hd, hs, Bool.false_eq_true, if_false, hcov]
  unfold ModelAt at hM
  rw [hM]
  cases hla : hasLinkAbove w.dst (compsOf file.relative_path)
  · simp only [Bool.false_eq_true, if_false]
    cases hl : isLinkNode (w.dst.get? (compsOf file.relative_path))
    · have h := planAt_file_abs w p hp src useDb hd (hrel ▸ isLinkNode_false hl) (fun hu => (hrows hu _ _).1)
        (fun hu d _ => hrel ▸ (hrows hu d.mtime d.size).2) hsrc cfg hc
      simp only [Bool.and_false, Bool.false_eq_true, if_false, toPAct_ofPAct]
      rw [h, hrel]
    · obtain ⟨t, ht⟩ := isLinkNode_true hl
      rw [ht]
      simp only [Bool.and_true, planFileAct]
      rcases planAt_file_act w p src useDb with h | h | h <;> rw [h] <;> rfl
  · rfl

/-- what the bridge assumes of the configuration and of ONE scanned entry (each clause as in `Props/GenPlannerFx`):
    the model's configuration is the engine's (`links`, `compare`); the planner value was built by the CLI constructor;
    a symlink entry is not a directory entry (the scanner's `is_dir` is the lstat kind, src/sync/scanner.rs) and, in
    preserve mode, carries the link text the scanner read; with `--checksum` a regular-file source is readable. -/
structure EntryOK (w : PlanWorld) (p : PlannerFx.StrategyPlanner) (self : SyncEngine) (cfg : Cfg) (file : FileEntry) :
    Prop where
  links : cfg.links = absLinkMode (toPMode self.symlink_mode)
  cmp : cfg.compare = modeOf p
  cli : FromCli p
  linkNotDir : file.is_symlink = true → file.is_dir = false
  target : file.is_symlink = true → self.symlink_mode = .Preserve → ∃ text, file.symlink_target = some text
  readable : p.checksum = true → file.is_symlink = false → file.is_dir = false → ∃ sm, w.stat file.path = .file sm

/-- DIRECTORY entries, any database handle: the round on the composed instance against the model's map -/
theorem roundOut_dir_eq_planEntry (w : PlanWorld) (p : PlannerFx.StrategyPlanner) (self : SyncEngine)
    (file : FileEntry) (hsl : file.is_symlink = false) (hfd : file.is_dir = true) (useDb : Bool) (cfg : Cfg)
    (rl : List Rs.Path) (M : Map DNode)
    (hcov : belowReplaced rl (Rs.join w.root file.relative_path) = hasLinkAbove w.dst (compsOf file.relative_path))
    (hM : ModelAt w M (compsOf file.relative_path)) :
    absT self.symlink_mode w (roundOut w p self file useDb rl).1 = planEntry cfg M (absE w file) := by
  unfold roundOut plannedTask absE
  simp only [hsl, Bool.false_eq_true, if_false]
  rw [overrides w self file _ file rfl rfl, hfd, hsl, roundAct_dir]
  unfold ModelAt at hM
  simp only [ofPTask, Option.map_some, setAct, absT_mk, toPEntry_is_symlink, hsl, Bool.false_eq_true, if_false, hcov, planEntry, absEntry,
    toPEntry_is_dir, toPEntry_relative_path, hfd, if_true, hM, planAt, stat_join, PlanWorld.resolve]
  cases hla : hasLinkAbove w.dst (compsOf file.relative_path)
  · cases hg : w.dst.get? (compsOf file.relative_path) with
    | none => rfl
    | some n => cases n <;> rfl
  · rfl

/-- the task appended by the round, abstracted, IS the model's `planEntry` against the model's map — the pure core of
    `plan_round_eq_planEntry`: without a database, or with one that holds no row for the entry's source and
    destination paths (`hrows`: `get_checksum` misses for both under the checksum kind "fast", whatever mtime and size
    key the row, so whatever checksum the planner wants (`--checksum`) it computes from the file itself, as without a
    database) -/
theorem roundOut_eq_planEntry (w : PlanWorld) (p : PlannerFx.StrategyPlanner) (self : SyncEngine) (file : FileEntry)
    (cfg : Cfg) (hok : EntryOK w p self cfg file) (useDb : Bool)
    (hrows : useDb = true → ∀ mt sz, w.dbSeen file.path mt sz ['f', 'a', 's', 't'] = none ∧
      w.dbSeen (Rs.join w.root file.relative_path) mt sz ['f', 'a', 's', 't'] = none)
    (rl : List Rs.Path) (M : Map DNode)
    (hcov : belowReplaced rl (Rs.join w.root file.relative_path) = hasLinkAbove w.dst (compsOf file.relative_path))
    (hM : ModelAt w M (compsOf file.relative_path)) :
    absT self.symlink_mode w (roundOut w p self file useDb rl).1 = planEntry cfg M (absE w file) := by
  obtain ⟨hlinks, hcmp, hcli, hlnd, htarget, hreadable⟩ := hok
  cases hsl : file.is_symlink
  · cases hfd : file.is_dir
    · unfold roundOut plannedTask absE
      simp only [hsl, Bool.false_eq_true, if_false]
      rw [file_core w p hcli self file hfd (toPEntry file) hfd hsl rfl
        (fun hck => hreadable hck hsl hfd) useDb hrows cfg hcmp rl M hcov hM]
      simp [planEntry, absEntry, toPEntry, hfd]
    · exact roundOut_dir_eq_planEntry w p self file hsl hfd useDb cfg rl M hcov hM
  · have hfd := hlnd hsl
    unfold roundOut plannedTask absE
    simp only [hsl, if_true]
    unfold linkPlan
    cases hmode : self.symlink_mode with
    | Skip =>
      rw [hmode] at hlinks
      simp only [toPEngine, hmode, toPMode]
      rw [overrides w self file _ file rfl rfl, hfd, hsl, roundAct_link]
      simp only [ofPTask, simpleTask, Option.map_some, setAct, absT_mk, toPEntry_is_symlink, hsl, if_true]
      simp [ofPAct, isSkip, hmode, toPAct, absAct, planEntry, absLinkEntry, hlinks, absLinkMode, toPMode]
    | Preserve =>
      rw [hmode] at hlinks
      obtain ⟨text, htext⟩ := htarget hsl hmode
      simp only [toPEngine, hmode, toPMode]
      rw [overrides w self file _ file rfl rfl, hfd, hsl, roundAct_link]
      unfold ModelAt at hM
      simp only [ofPTask, simpleTask, Option.map_some, setAct, absT_mk, toPEntry_is_symlink, hsl, if_true, hmode,
        bne_self_eq_false, Bool.and_false, Bool.not_false, Bool.and_true, hcov]
      cases hla : hasLinkAbove w.dst (compsOf file.relative_path)
      · rw [hla] at hM
        rw [planEntry_congr cfg M w.dst (absLinkEntry w (toPEntry file)) hM]
        simp only [Bool.false_eq_true, if_false, toPAct_ofPAct]
        exact preserveAct_eq_planEntry w (toPEntry file) text htext cfg hlinks
      · rw [hla] at hM
        simp only [planEntry, absLinkEntry, hlinks, absLinkMode, toPMode, toPEntry_relative_path, hM, if_true]
        rfl
    | Follow =>
      rw [hmode] at hlinks
      simp only [toPEngine, hmode, toPMode]
      simp only [planEntry, absLinkEntry, hlinks, absLinkMode, toPMode, PlanWorld.metaAt, toPEntry_path]
      cases hst : w.stat file.path with
      | dangling | dir =>
        simp only [if_true, absTarget]
        rw [overrides w self file _ file rfl rfl, hfd, hsl, roundAct_link]
        simp only [ofPTask, simpleTask, Option.map_some, setAct, absT_mk, toPEntry_is_symlink, hsl, if_true]
        simp [ofPAct, isSkip, hmode, toPAct, absAct]
      | file d =>
        simp only [Bool.false_eq_true, if_false, absTarget]
        have hsrc : p.checksum = true →
            ∃ sm, w.stat (followEntry (toPEntry file) ⟨false, d.mtime, d.size⟩).path = .file sm := fun _ => ⟨d, hst⟩
        have hcore := file_core w p hcli self file hfd (followEntry (toPEntry file) ⟨false, d.mtime, d.size⟩) hfd rfl
          rfl hsrc useDb hrows cfg hcmp rl M hcov hM
        have hmeta := absMeta_followEntry w (toPEntry file) d hst
        have hnl1 : (followEntry (toPEntry file) ⟨false, d.mtime, d.size⟩).nlink = 1 := rfl
        rw [hmeta, hnl1, hmode] at hcore
        exact hcore _ _

/-- what a parents-first, duplicate-free walk guarantees when `file` is reached after `planned`: no earlier entry has
    its path, no earlier path is the root, and every strict ancestor of its path is an earlier DIRECTORY entry -/
structure Walked (planned : List FileEntry) (file : FileEntry) : Prop where
  fresh : ∀ f ∈ planned, f.relative_path ≠ file.relative_path
  nonroot : ∀ f ∈ planned, f.relative_path ≠ []
  parents : ∀ a ∈ ancestors (compsOf file.relative_path),
    ∃ f ∈ planned, compsOf f.relative_path = a ∧ f.is_dir = true

/-- THE INVARIANT of the planning loop: `replaced_links` holds exactly the destination paths of the directory entries
    planned so far at which the destination map has a symlink node that is not itself reached through a link -/
def RL (w : PlanWorld) (planned : List FileEntry) (rl : List Rs.Path) : Prop :=
  ∀ l, l ∈ rl ↔ ∃ f ∈ planned, f.is_dir = true ∧ l = Rs.join w.root f.relative_path ∧
    isLinkNode (w.dst.get? (compsOf f.relative_path)) = true ∧ hasLinkAbove w.dst (compsOf f.relative_path) = false

theorem isPrefix_lt_of_ne {a b : Engine.Path} (h : isPrefix a b = true) (hne : a ≠ b) : a.length < b.length :=
  isPrefix_length_lt h hne

/-- a link above a path ⇒ a TOPMOST link above it (one that is not itself reached through a link) -/
theorem exists_top_link (m : Map DNode) (k : Engine.Path) :
    ∀ n a, a.length ≤ n → a ∈ ancestors k → isLinkNode (m.get? a) = true →
      ∃ a' ∈ ancestors k, isLinkNode (m.get? a') = true ∧ hasLinkAbove m a' = false := by
  intro n
  induction n with
  | zero =>
    intro a hlen ha hl
    have : a = [] := List.eq_nil_of_length_eq_zero (Nat.le_zero.1 hlen)
    exact absurd this (ancestors_ne_nil ha)
  | succ n ih =>
    intro a hlen ha hl
    cases hla : hasLinkAbove m a
    · exact ⟨a, ha, hl, hla⟩
    · unfold hasLinkAbove at hla
      obtain ⟨b, hb, hbl⟩ := List.any_eq_true.1 hla
      obtain ⟨hb0, hbp, hbne⟩ := mem_ancestors.1 hb
      obtain ⟨ha0, hap, hane⟩ := mem_ancestors.1 ha
      have hlt := isPrefix_length_lt hbp hbne
      have hbk : b ∈ ancestors k := by
        refine mem_ancestors.2 ⟨hb0, isPrefix_trans hbp hap, ?_⟩
        intro e
        have := isPrefix_length_lt hap hane
        rw [e] at hlt
        omega
      exact ih b (by omega) hbk hbl

/-- under the invariant, "below a replaced link" (the text test of the code) IS "reached through a destination link"
    (the component test of the model) -/
theorem below_eq_hasLinkAbove (w : PlanWorld) (planned : List FileEntry) (rl : List Rs.Path) (file : FileEntry)
    (hrl : RL w planned rl) (hwk : Walked planned file) :
    belowReplaced rl (Rs.join w.root file.relative_path) = hasLinkAbove w.dst (compsOf file.relative_path) := by
  rw [Bool.eq_iff_iff]
  constructor
  · intro hb
    unfold belowReplaced at hb
    obtain ⟨l, hl, hsw⟩ := List.any_eq_true.1 hb
    obtain ⟨f, hf, hfd, rfl, hlink, _⟩ := (hrl l).1 hl
    rw [path_starts_with_join _ _ _ (hwk.nonroot f hf)] at hsw
    have hne : compsOf f.relative_path ≠ compsOf file.relative_path :=
      fun e => hwk.fresh f hf (compsOf_injective e)
    unfold hasLinkAbove
    exact List.any_eq_true.2 ⟨_, mem_ancestors.2 ⟨compsOf_ne_nil _, hsw, hne⟩, hlink⟩
  · intro hla
    unfold hasLinkAbove at hla
    obtain ⟨a, ha, hal⟩ := List.any_eq_true.1 hla
    obtain ⟨a', ha', hl', htop⟩ := exists_top_link w.dst _ a.length a (Nat.le_refl _) ha hal
    obtain ⟨f, hf, hfa, hfd⟩ := hwk.parents a' ha'
    have hmem : Rs.join w.root f.relative_path ∈ rl :=
      (hrl _).2 ⟨f, hf, hfd, rfl, by rw [hfa]; exact hl', by rw [hfa]; exact htop⟩
    unfold belowReplaced
    refine List.any_eq_true.2 ⟨_, hmem, ?_⟩
    rw [path_starts_with_join _ _ _ (hwk.nonroot f hf), hfa]
    exact ancestors_prefix ha'

theorem RL_step (w : PlanWorld) (p : PlannerFx.StrategyPlanner) (self : SyncEngine) (planned : List FileEntry)
    (rl : List Rs.Path) (file : FileEntry) (useDb : Bool) (hrl : RL w planned rl) (hwk : Walked planned file) :
    RL w (planned ++ [file]) (roundOut w p self file useDb rl).2 := by
  rw [roundOut_links, below_eq_hasLinkAbove w planned rl file hrl hwk]
  intro l
  by_cases hc : (!hasLinkAbove w.dst (compsOf file.relative_path) && file.is_dir &&
      isLinkNode (w.dst.get? (compsOf file.relative_path))) = true
  · rw [if_pos hc]
    simp only [Bool.and_eq_true, Bool.not_eq_true'] at hc
    simp only [List.mem_append, List.mem_singleton, hrl l]
    constructor
    · rintro (⟨f, hf, h⟩ | rfl)
      · exact ⟨f, Or.inl hf, h⟩
      · exact ⟨file, Or.inr rfl, hc.1.2, rfl, hc.2, hc.1.1⟩
    · rintro ⟨f, hf | rfl, h⟩
      · exact Or.inl ⟨f, hf, h⟩
      · exact Or.inr h.2.1
  · rw [if_neg hc]
    simp only [List.mem_append, List.mem_singleton, hrl l]
    constructor
    · rintro ⟨f, hf, h⟩; exact ⟨f, Or.inl hf, h⟩
    · rintro ⟨f, hf | rfl, h⟩
      · exact ⟨f, hf, h⟩
      · exfalso; apply hc
        simp [h.1, h.2.2.1, h.2.2.2]

/-- **BRIDGE (one round, every entry kind, every destination node, below a replaced link or not).**  On the composed
    instance `ext2 p` — planner operations = the generated code of unit PlannerFx — from any world `w`, with
    `replaced_links` satisfying the loop invariant for the entries planned so far: the round never fails, leaves the
    world as it was, appends exactly one task whose abstraction is the model's `planEntry cfg M (absE w file)` for every
    map `M` that lists at the entry's path what the world lists unless the path is reached through a link (then
    nothing), and answers `replaced_links` for which the invariant holds again. -/
theorem plan_round_eq_planEntry (p : PlannerFx.StrategyPlanner) (self : SyncEngine) (file : FileEntry) (w : PlanWorld)
    (pl : Rs.Opaque) (tasks : List SyncTask) (planned : List FileEntry) (rl : List Rs.Path) (cfg : Cfg)
    (M : Map DNode) (hok : EntryOK w p self cfg file) (hrl : RL w planned rl) (hwk : Walked planned file)
    (hM : ModelAt w M (compsOf file.relative_path)) :
    ∃ t rl', runM (plan_round (ext2 p) self file w.root pl none tasks rl) w = (.ok ((), tasks ++ [t], rl'), w) ∧
      absT self.symlink_mode w t = planEntry cfg M (absE w file) ∧ RL w (planned ++ [file]) rl' :=
  ⟨_, _, plan_round_run p self file w pl none tasks rl,
    roundOut_eq_planEntry w p self file cfg hok false (fun h => nomatch h) rl M
      (below_eq_hasLinkAbove w planned rl file hrl hwk) hM,
    RL_step w p self planned rl file false hrl hwk⟩

/-- `for file in &source_files { … }` with the two threaded variables: the rounds in list order, each `?` ending the loop
    (the `for` itself is not translated: its body is; this fold is the trusted reading of Rust's `for` over a `Vec`) -/
def planLoop {W : Type} (ext : Ext W) (self : SyncEngine) (dest : Rs.Path) (pl : Rs.Opaque) (db : Option Rs.Opaque) :
    List FileEntry → List SyncTask → List Rs.Path → Rs.M W (List SyncTask × List Rs.Path)
  | [], ts, rl => pure (ts, rl)
  | f :: fs, ts, rl => do
    let r ← plan_round ext self f dest pl db ts rl
    planLoop ext self dest pl db fs r.2.1 r.2.2

/-- every entry of `rest` is reached in walk order after `pre` and the entries before it -/
def WalkOrder : List FileEntry → List FileEntry → Prop
  | _, [] => True
  | pre, f :: rest => Walked pre f ∧ WalkOrder (pre ++ [f]) rest

/-- `t` is the task the translated round appends for `f`, called with a `replaced_links` for which "below a replaced
    link" is "reached through a destination link" -/
def Coupled (w : PlanWorld) (p : PlannerFx.StrategyPlanner) (self : SyncEngine) (t : SyncTask) (f : FileEntry) : Prop :=
  ∃ rl, t = (roundOut w p self f false rl).1 ∧
    belowReplaced rl (Rs.join w.root f.relative_path) = hasLinkAbove w.dst (compsOf f.relative_path)

/-- the planning loop on the composed instance, from an invariant state: never fails, leaves the world as it was,
    appends one `Coupled` task per file, in order, and keeps the invariant -/
theorem planLoop_coupled (p : PlannerFx.StrategyPlanner) (self : SyncEngine) (w : PlanWorld) (pl : Rs.Opaque)
    (rest : List FileEntry) :
    ∀ (pre : List FileEntry) (ts : List SyncTask) (rl : List Rs.Path), WalkOrder pre rest → RL w pre rl →
      ∃ ts' rl', runM (planLoop (ext2 p) self w.root pl none rest ts rl) w = (.ok (ts ++ ts', rl'), w) ∧
        ListRel (Coupled w p self) ts' rest ∧ RL w (pre ++ rest) rl' := by
  induction rest with
  | nil =>
    intro pre ts rl _ hrl
    exact ⟨[], rl, by simp [planLoop], .nil, by simpa using hrl⟩
  | cons f fs ih =>
    intro pre ts rl hwo hrl
    obtain ⟨hwk, hwo'⟩ := hwo
    have hrun : runM (plan_round (ext2 p) self f w.root pl none ts rl) w =
        (.ok ((), ts ++ [(roundOut w p self f false rl).1], (roundOut w p self f false rl).2), w) :=
      plan_round_run p self f w pl none ts rl
    obtain ⟨ts', rl', hrun', hc, hrl'⟩ := ih (pre ++ [f]) (ts ++ [(roundOut w p self f false rl).1]) _ hwo'
      (RL_step w p self pre rl f false hrl hwk)
    refine ⟨(roundOut w p self f false rl).1 :: ts', rl', ?_,
      .cons ⟨rl, rfl, below_eq_hasLinkAbove w pre rl f hrl hwk⟩ hc, by simpa using hrl'⟩
    simp only [planLoop, runM_bind, hrun, hrun']
    simp

/-- **THE WHOLE PLANNING LOOP.**  Folding the translated round over a scan in walk order, from `tasks = []` and
    `replaced_links = []`, on the composed instance: never fails, changes nothing, and the tasks, abstracted, are
    exactly `scan.map (planEntry cfg M)` — the first part of `Engine.plan` (before the deletions) — in scan order, for
    the model's map `M` = the world's map with nothing listed below a link (`ModelAt`). -/
theorem plan_loop_eq_model (p : PlannerFx.StrategyPlanner) (self : SyncEngine) (w : PlanWorld) (pl : Rs.Opaque)
    (cfg : Cfg) (M : Map DNode) (files : List FileEntry) (hok : ∀ f ∈ files, EntryOK w p self cfg f)
    (hM : ∀ f ∈ files, ModelAt w M (compsOf f.relative_path)) (hwo : WalkOrder [] files) :
    ∃ ts rl, runM (planLoop (ext2 p) self w.root pl none files [] []) w = (.ok (ts, rl), w) ∧
      ts.map (absT self.symlink_mode w) = (files.map (absE w)).map (planEntry cfg M) ∧ RL w files rl := by
  obtain ⟨ts, rl, hrun, hc, hrl⟩ := planLoop_coupled p self w pl files [] [] [] hwo (by intro l; simp)
  refine ⟨ts, rl, by simpa using hrun, ?_, by simpa using hrl⟩
  rw [List.map_map]
  exact hc.map_eq fun t f _ hf ⟨rl0, ht, hcov⟩ => by
    rw [ht]
    exact roundOut_eq_planEntry w p self f cfg (hok f hf) false (fun h => nomatch h) rl0 M hcov (hM f hf)

theorem walkOrder_of_index (rest : List FileEntry) :
    ∀ pre, (∀ i (h : i < rest.length), Walked (pre ++ rest.take i) rest[i]) → WalkOrder pre rest := by
  induction rest with
  | nil => intro _ _; trivial
  | cons f fs ih =>
    intro pre h
    have h0 : Walked (pre ++ (f :: fs).take 0) f := h 0 (by simp)
    refine ⟨by simpa using h0, ih (pre ++ [f]) ?_⟩
    intro i hi
    have := h (i + 1) (by simp; omega)
    simpa [List.append_assoc] using this

theorem absE_kind_dir (w : PlanWorld) (f : FileEntry) (h : (absE w f).kind = .dir) : f.is_dir = true := by
  unfold absE at h
  split at h
  · simp [absLinkEntry] at h
  · cases hd : f.is_dir
    · simp [absEntry, hd] at h
    · rfl

/-- for ANY abstraction `g` of the entries that keeps the relative path and calls only directory entries directories:
    no path twice and parents first in the abstracted scan, and no entry for the root, give the walk order -/
theorem walkOrder_of_abs (g : FileEntry → SEntry) (hrel : ∀ f, (g f).rel = compsOf f.relative_path)
    (hdir : ∀ f, (g f).kind = .dir → f.is_dir = true) (files : List FileEntry)
    (hu : UniqueRels (files.map g)) (hpf : ParentsFirst (files.map g))
    (hnr : ∀ f ∈ files, f.relative_path ≠ []) : WalkOrder [] files := by
  apply walkOrder_of_index
  intro i hi
  simp only [List.nil_append]
  refine ⟨?_, fun f hf => hnr f (List.mem_of_mem_take hf), ?_⟩
  · intro f hf e
    obtain ⟨j, hj, rfl⟩ := List.getElem_of_mem hf
    have hjlen : j < (files.take i).length := hj
    have hji : j < i := by simp at hjlen; omega
    rw [List.getElem_take] at e
    unfold UniqueRels at hu
    rw [List.pairwise_iff_getElem] at hu
    have := hu j i (by simp; omega) (by simpa using hi) hji
    simp only [List.getElem_map, hrel] at this
    exact this (by rw [e])
  · intro a ha
    have := hpf i (by simpa using hi) a (by simpa [hrel] using ha)
    obtain ⟨d, hd, hdr, hdk⟩ := this
    rw [← List.map_take] at hd
    obtain ⟨f, hf, rfl⟩ := List.mem_map.1 hd
    exact ⟨f, hf, by rw [← hrel f]; exact hdr, hdir f hdk⟩

/-- the walk-order hypothesis follows from the MODEL's hypotheses on the abstracted scan: parents first, no path twice
    (`ParentsFirst`, `UniqueRels` of `Lemmas/EngineWF.lean`), and no entry for the root itself -/
theorem walkOrder_of_parentsFirst (w : PlanWorld) (files : List FileEntry)
    (hu : UniqueRels (files.map (absE w))) (hpf : ParentsFirst (files.map (absE w)))
    (hnr : ∀ f ∈ files, f.relative_path ≠ []) : WalkOrder [] files :=
  walkOrder_of_abs (absE w) (absE_rel w) (absE_kind_dir w) files hu hpf hnr

/-- ALWAYS: the world's map with everything below a symlink node removed (what a listing that does not resolve links
    shows) is a model map — whatever the world lists below links, i.e. whatever probes see THROUGH them -/
theorem modelAt_pruneLinks (w : PlanWorld) (k : Engine.Path) : ModelAt w (pruneLinks w.dst) k :=
  get?_pruneLinks w.dst k

/-- when the world's map itself lists nothing strictly below a symlink node (`NothingBelowLinks`: for every non-root key
    `link` holding a symlink node, `isPrefix link q → q ≠ link → w.dst.get? q = none`), it is its own model map -/
theorem modelAt_self (w : PlanWorld) (h : NothingBelowLinks w.dst) (k : Engine.Path) : ModelAt w w.dst k := by
  unfold ModelAt
  cases hl : hasLinkAbove w.dst k
  · rfl
  · obtain ⟨a, ha, hla⟩ := List.any_eq_true.1 hl
    obtain ⟨ha0, hap, hane⟩ := mem_ancestors.1 ha
    obtain ⟨s, hg⟩ := isLinkNode_true hla
    exact h a k s hg ha0 hap (Ne.symm hane)

theorem plan_loop_eq_model_self (p : PlannerFx.StrategyPlanner) (self : SyncEngine) (w : PlanWorld) (pl : Rs.Opaque)
    (cfg : Cfg) (files : List FileEntry) (hok : ∀ f ∈ files, EntryOK w p self cfg f)
    (hnb : NothingBelowLinks w.dst) (hwo : WalkOrder [] files) :
    ∃ ts rl, runM (planLoop (ext2 p) self w.root pl none files [] []) w = (.ok (ts, rl), w) ∧
      ts.map (absT self.symlink_mode w) = (files.map (absE w)).map (planEntry cfg w.dst) ∧ RL w files rl :=
  plan_loop_eq_model p self w pl cfg w.dst files hok (fun _ _ => modelAt_self w hnb _) hwo

/-- … and as the first part of `Engine.plan`: when the files handed to the loop are the filtered scan, the model's plan
    is the loop's tasks followed by the deletions (none without `--delete`) -/
theorem plan_loop_is_plan_prefix (p : PlannerFx.StrategyPlanner) (self : SyncEngine) (w : PlanWorld) (pl : Rs.Opaque)
    (cfg : Cfg) (M : Map DNode) (files : List FileEntry) (scan : List SEntry)
    (hfiles : files.map (absE w) = scanFilter cfg scan) (hok : ∀ f ∈ files, EntryOK w p self cfg f)
    (hM : ∀ f ∈ files, ModelAt w M (compsOf f.relative_path)) (hwo : WalkOrder [] files) :
    ∃ ts rl, runM (planLoop (ext2 p) self w.root pl none files [] []) w = (.ok (ts, rl), w) ∧
      plan cfg scan M = ts.map (absT self.symlink_mode w) ++
        (if cfg.delete then planDeletions (scanFilter cfg scan) scan M else []) := by
  obtain ⟨ts, rl, h1, h2, _⟩ := plan_loop_eq_model p self w pl cfg M files hok hM hwo
  refine ⟨ts, rl, h1, ?_⟩
  rw [h2, hfiles]
  unfold plan
  cases cfg.delete <;> simp

section anyInstance
variable {W : Type} (ext : Ext W) (self : SyncEngine) (file : FileEntry)

/-- the generated round IS `planner call → override 1 → override 2 → push` -/
theorem plan_round_is_structured (destination : Rs.Path) (planner : Rs.Opaque) (db : Option Rs.Opaque)
    (tasks : List SyncTask) (rl : List Rs.Path) :
    plan_round ext self file destination planner db tasks rl =
      roundSpec ext self file destination planner db tasks rl :=
  plan_round_eq_spec ext self file destination planner db tasks rl

/-- override 1 asks NOTHING unless the entry is not a directory, the task is Skip/Create and its source is not a link -/
theorem override1_silent (t : SyncTask) (h : probe1Asked file t = false) : override1 ext self file t = pure t := by
  unfold override1; rw [h]; rfl

/-- … and then asks `read_link(dest_path)` exactly once; `Ok(Some(_))` and `Err(_)` both force Update -/
theorem override1_asks (t : SyncTask) (h : probe1Asked file t = true) :
    override1 ext self file t = (do
      let r ← Rs.capture (ext.t_read_link self.transport t.dest_path)
      pure (if hit1 r then setAct t .Update else t)) := by
  unfold override1; rw [h]; rfl

/-- override 2 asks NOTHING below a replaced link: Create, unless nothing is transferred -/
theorem override2_below_silent (t : SyncTask) (rl : List Rs.Path) (h : belowReplaced rl t.dest_path = true) :
    override2 ext self file t rl = pure (if nothingToTransfer self t then t else setAct t .Create, rl) := by
  unfold override2; rw [h]; rfl

/-- override 2 asks NOTHING for a non-directory entry -/
theorem override2_nondir_silent (t : SyncTask) (rl : List Rs.Path) (h : belowReplaced rl t.dest_path = false)
    (hd : file.is_dir = false) : override2 ext self file t rl = pure (t, rl) := by
  unfold override2; rw [h, hd]; rfl

/-- override 2 asks `read_link(dest_path)` exactly once for a directory entry not below a replaced link; only
    `Ok(Some(_))` makes it a replaced link -/
theorem override2_dir_asks (t : SyncTask) (rl : List Rs.Path) (h : belowReplaced rl t.dest_path = false)
    (hd : file.is_dir = true) :
    override2 ext self file t rl = (do
      let r ← Rs.capture (ext.t_read_link self.transport t.dest_path)
      pure (if hit2 r then (setAct t .Update, rl ++ [t.dest_path]) else (t, rl))) := by
  unfold override2; rw [h, hd]; rfl

theorem runM_bind_ok_inv {α β : Type} {x : Rs.M W α} {k : α → Rs.M W β} {w w' : W} {b : β}
    (h : runM (x >>= k) w = (.ok b, w')) : ∃ a w1, runM x w = (.ok a, w1) ∧ runM (k a) w1 = (.ok b, w') :=
  Rs.run_bind_eq_ok h

theorem override2_ok_shape {t : SyncTask} {rl : List Rs.Path} {w w' : W} {r : SyncTask × List Rs.Path}
    (h : runM (override2 ext self file t rl) w = (.ok r, w')) :
    r.1.dest_path = t.dest_path ∧ r.1.source = t.source ∧
      (r.2 = rl ∨ (file.is_dir = true ∧ r.2 = rl ++ [r.1.dest_path])) := by
  cases hb : belowReplaced rl t.dest_path
  · cases hd : file.is_dir
    · rw [override2_nondir_silent ext self file t rl hb hd, runM_pure] at h
      cases h
      exact ⟨rfl, rfl, .inl rfl⟩
    · rw [override2_dir_asks ext self file t rl hb hd] at h
      obtain ⟨a, w1, _, h2⟩ := Rs.run_bind_eq_ok h
      cases h2
      cases hit2 a
      · exact ⟨rfl, rfl, .inl rfl⟩
      · exact ⟨rfl, rfl, .inr ⟨rfl, rfl⟩⟩
  · rw [override2_below_silent ext self file t rl hb, runM_pure] at h
    cases h
    refine ⟨?_, ?_, .inl rfl⟩ <;> (dsimp only; split <;> rfl)

/-- **Exactly one task is appended; `replaced_links` grows by at most one path — the task's own — and only for a
    directory entry.**  For every instance and every successful run of the round. -/
theorem plan_round_ok_shape {destination : Rs.Path} {planner : Rs.Opaque} {db : Option Rs.Opaque}
    {tasks ts : List SyncTask} {rl rl' : List Rs.Path} {w w' : W} {u : Unit}
    (h : runM (plan_round ext self file destination planner db tasks rl) w = (.ok (u, ts, rl'), w')) :
    ∃ t, ts = tasks ++ [t] ∧ (rl' = rl ∨ (file.is_dir = true ∧ rl' = rl ++ [t.dest_path])) := by
  rw [plan_round_eq_spec] at h
  unfold roundSpec at h
  obtain ⟨t0, w1, _, h⟩ := Rs.run_bind_eq_ok h
  obtain ⟨t1, w2, _, h⟩ := Rs.run_bind_eq_ok h
  obtain ⟨r, w3, h2, h⟩ := Rs.run_bind_eq_ok h
  cases h
  exact ⟨r.1, rfl, (override2_ok_shape ext self file h2).2.2⟩

/-- (C10, fix 90eec9e) **an unanswered link probe forces the transfer**: for ANY instance, when override 1 asks and
    `read_link` answers `Err`, the task becomes Update (the entry cannot be trusted to be up to date) -/
theorem override1_probe_error_forces_update (t : SyncTask) (h : probe1Asked file t = true) {w w' : W} {e : Rs.Err}
    (herr : runM (ext.t_read_link self.transport t.dest_path) w = (.error e, w')) :
    runM (override1 ext self file t) w = (.ok (setAct t .Update), w') := by
  rw [override1_asks ext self file t h, runM_bind, runM_capture, herr]
  rfl

/-- for a DIRECTORY entry whose `read_link` probe fails, the planner's answer stands and nothing is recorded: override 1
    does not look at directories, override 2 accepts `Ok(Some(_))` only (ANY instance) -/
theorem dir_probe_error_keeps_plan (t : SyncTask) (rl : List Rs.Path) (hd : file.is_dir = true)
    (hnb : belowReplaced rl t.dest_path = false) {w w' : W} {e : Rs.Err}
    (herr : runM (ext.t_read_link self.transport t.dest_path) w = (.error e, w')) :
    runM (override1 ext self file t >>= fun t1 => override2 ext self file t1 rl) w = (.ok (t, rl), w') := by
  have h1 : probe1Asked file t = false := by simp [probe1Asked, hd]
  rw [override1_silent ext self file t h1, pure_bind, override2_dir_asks ext self file t rl hnb hd, runM_bind,
    runM_capture, herr]
  rfl

end anyInstance

/-- the planner operations of `ext2 p` ARE the generated functions of unit PlannerFx on its instance `extOf` -/
theorem ext2_is_generated (p : PlannerFx.StrategyPlanner) (self : SyncEngine) (file : FileEntry) (dest : Rs.Path)
    (pl t : Rs.Opaque) (db : Option Rs.Opaque) :
    (ext2 p).plan_file_async pl file dest t db = ofPTask <$> p.plan_file_async extOf (toPEntry file) dest t db ∧
    (ext2 p).plan_symlink self file dest pl db =
      ofPTask <$> PlannerFx.SyncEngine.plan_symlink extOf (toPEngine self) (toPEntry file) dest p db ∧
    (ext2 p).t_read_link = extOf.t_read_link := ⟨rfl, rfl, rfl⟩

/-- For a directory entry that is not below a replaced link, the TRANSLATED override 2, run on the composed instance,
    computes exactly the handwritten `GenPlannerFx.overrideDirOverLink` on the probe's answer — and pushes the path on
    `replaced_links` exactly when that function changes the action's cause (a link at the path). -/
theorem override2_eq_overrideDirOverLink (p : PlannerFx.StrategyPlanner) (self : SyncEngine) (file : FileEntry)
    (t : SyncTask) (rl : List Rs.Path) (w : PlanWorld) (hnb : belowReplaced rl t.dest_path = false) :
    runM (override2 (ext2 p) self file t rl) w =
      (.ok (setAct t (ofPAct (GenPlannerFx.overrideDirOverLink file.is_dir (w.linkAt t.dest_path) (toPAct t.action))),
            if file.is_dir && (w.linkAt t.dest_path).isSome then rl ++ [t.dest_path] else rl), w) := by
  rw [override2_run]
  unfold fix2 GenPlannerFx.overrideDirOverLink
  rw [hnb]
  cases file.is_dir <;> cases (w.linkAt t.dest_path).isSome <;> simp [setAct] <;> rfl

/-- **`GenPlannerFx.plan_file_async_dir_override_eq_model` with the override TRANSLATED.**  A directory
    entry, every destination node at its path (no `NotLinkAt`), every database handle, nothing replaced yet: the task
    appended by the generated round is the model's `planEntry` against the world's own map; `replaced_links` becomes
    `[dest_path]` exactly over a symlink node. -/
theorem plan_round_dir_eq_model (p : PlannerFx.StrategyPlanner) (self : SyncEngine) (file : FileEntry)
    (hsl : file.is_symlink = false) (hfd : file.is_dir = true) (w : PlanWorld) (pl : Rs.Opaque)
    (db : Option Rs.Opaque) (tasks : List SyncTask) (cfg : Cfg)
    (htop : hasLinkAbove w.dst (compsOf file.relative_path) = false) :
    ∃ t rl', runM (plan_round (ext2 p) self file w.root pl db tasks []) w = (.ok ((), tasks ++ [t], rl'), w) ∧
      absT self.symlink_mode w t = planEntry cfg w.dst (absE w file) ∧
      rl' = if isLinkNode (w.dst.get? (compsOf file.relative_path)) then [Rs.join w.root file.relative_path] else [] := by
  refine ⟨_, _, plan_round_run p self file w pl db tasks [], ?_, ?_⟩
  · exact roundOut_dir_eq_planEntry w p self file hsl hfd _ cfg [] w.dst (by rw [htop]; rfl)
      (by unfold ModelAt; rw [htop]; rfl)
  · rw [roundOut_links]
    simp [belowReplaced, hfd]

/-- **(C02) Below a replaced link nothing is decided by probing through the link.**  Every planner value, engine view,
    entry of every kind, database handle, world — no hypothesis on what the probes answered: if the entry's path lies
    below (component-wise) a path of `replaced_links`, the appended task is a Create, or the Skip of a symlink entry for
    which nothing is transferred (mode not Preserve) — never an Update, never a Skip that came from a comparison — and
    `replaced_links` is unchanged. -/
theorem replaced_link_children_are_creates (p : PlannerFx.StrategyPlanner) (self : SyncEngine) (file : FileEntry)
    (w : PlanWorld) (pl : Rs.Opaque) (db : Option Rs.Opaque) (tasks : List SyncTask) (rl : List Rs.Path)
    (lrel : Rs.Path) (hl : Rs.join w.root lrel ∈ rl) (hne : lrel ≠ [])
    (hbelow : isPrefix (compsOf lrel) (compsOf file.relative_path) = true) :
    ∃ t, runM (plan_round (ext2 p) self file w.root pl db tasks rl) w = (.ok ((), tasks ++ [t], rl), w) ∧
      (t.action = .Create ∨
        (t.action = .Skip ∧ self.symlink_mode ≠ .Preserve ∧ ∃ f, t.source = some f ∧ f.is_symlink = true)) := by
  have hb : belowReplaced rl (Rs.join w.root file.relative_path) = true := by
    unfold belowReplaced
    exact List.any_eq_true.2 ⟨_, hl, by rw [path_starts_with_join _ _ _ hne]; exact hbelow⟩
  have hlinks : (roundOut w p self file db.isSome rl).2 = rl := by rw [roundOut_links, hb]; rfl
  refine ⟨(roundOut w p self file db.isSome rl).1, ?_, ?_⟩
  · have := plan_round_run p self file w pl db tasks rl
    rw [hlinks] at this; exact this
  · rw [roundOut_eq, hb]
    rcases roundAct_below file.is_dir (srcOfRound w self file).is_symlink (self.symlink_mode != SymlinkMode.Preserve)
      (isLinkNode (w.dst.get? (compsOf file.relative_path))) (ofPTask (plannedTask w p self file db.isSome)).action
      with h | ⟨h, hks, hsl⟩
    · exact .inl h
    · exact .inr ⟨h, fun e => by simp [e] at hks, _, (plannedTask_shape w p self file db.isSome).1, hsl⟩

/-- **(C17/C02) A regular-file entry over a destination symlink is never planned Skip.**  Every planner value
    (comparison mode, `--checksum` or not), database handle, `replaced_links`, whatever the link resolves to: the
    appended task is Update (or Create below a replaced link) — the comparison THROUGH the link never decides. -/
theorem symlink_dest_never_skip_for_file (p : PlannerFx.StrategyPlanner) (self : SyncEngine) (file : FileEntry)
    (hsl : file.is_symlink = false) (hfd : file.is_dir = false) (w : PlanWorld) (pl : Rs.Opaque)
    (db : Option Rs.Opaque) (tasks : List SyncTask) (rl : List Rs.Path) (text : String)
    (hlink : w.dst.get? (compsOf file.relative_path) = some (.symlink text)) :
    ∃ t, runM (plan_round (ext2 p) self file w.root pl db tasks rl) w = (.ok ((), tasks ++ [t], rl), w) ∧
      t.action ≠ .Skip ∧
      (belowReplaced rl (Rs.join w.root file.relative_path) = false → t.action = .Update) ∧
      (belowReplaced rl (Rs.join w.root file.relative_path) = true → t.action = .Create) := by
  have hlinks : (roundOut w p self file db.isSome rl).2 = rl := by rw [roundOut_links, hfd]; simp
  have hact : (roundOut w p self file db.isSome rl).1.action =
      if belowReplaced rl (Rs.join w.root file.relative_path) then .Create else .Update := by
    unfold roundOut plannedTask
    simp only [hsl, Bool.false_eq_true, if_false]
    rw [overrides w self file _ file rfl rfl, hfd, hsl, roundAct_file]
    simp only [setAct, ofPTask, hlink, isLinkNode, Bool.and_true]
    cases belowReplaced rl (Rs.join w.root file.relative_path)
    · simp only [Bool.false_eq_true, if_false]
      rcases planAt_file_act w p (toPEntry file) db.isSome with h | h | h <;> rw [h] <;> rfl
    · rfl
  refine ⟨(roundOut w p self file db.isSome rl).1, ?_, ?_, ?_, ?_⟩
  · have := plan_round_run p self file w pl db tasks rl
    rw [hlinks] at this; exact this
  · rw [hact]; split <;> simp
  · intro h; rw [hact, h]; rfl
  · intro h; rw [hact, h]; rfl

theorem absT_act (mode : SymlinkMode) (w : PlanWorld) (t : SyncTask) : (absT mode w t).act = absAct (toPAct t.action) := rfl

/-- **(C03) A second run plans Skip.**  If the model's destination node at the entry's path is what a completed first
    run leaves for that entry (`EntryPost` of `Lemmas/EnginePost.lean`: the directory; the file with the source's
    content, size and mtime; the preserved link with the source's text; …), then — in every comparison mode but
    `--ignore-times` — the translated round plans Skip.  Through `plan_round_eq_planEntry` and the model's fixed-point lemma
    `planEntry_skip_of_entryPost`. -/
theorem second_run_skips (p : PlannerFx.StrategyPlanner) (self : SyncEngine) (file : FileEntry) (w : PlanWorld)
    (pl : Rs.Opaque) (tasks : List SyncTask) (planned : List FileEntry) (rl : List Rs.Path) (cfg : Cfg)
    (M : Map DNode) (hok : EntryOK w p self cfg file) (hrl : RL w planned rl) (hwk : Walked planned file)
    (hM : ModelAt w M (compsOf file.relative_path)) (hcmp : cfg.compare ≠ .ignoreTimes)
    (scan : List SEntry) (dst0 : Map DNode)
    (hpost : EntryPost cfg scan dst0 (absE w file) (M.get? (absE w file).rel)) :
    ∃ t rl', runM (plan_round (ext2 p) self file w.root pl none tasks rl) w = (.ok ((), tasks ++ [t], rl'), w) ∧
      t.action = .Skip := by
  obtain ⟨t, rl', hrun, habs, _⟩ := plan_round_eq_planEntry p self file w pl tasks planned rl cfg M hok hrl hwk hM
  refine ⟨t, rl', hrun, ?_⟩
  have hskip := planEntry_skip_of_entryPost hcmp (fun _ => by rw [absE_rel]; exact compsOf_ne_nil _) hpost
  rw [← habs, absT_act] at hskip
  cases hta : t.action <;> rw [hta] at hskip <;> first | rfl | cases hskip

/-- destination `d`: an up-to-date file `a`; a symlink `lk` that an earlier run placed (the source entry was a link to a
    directory then) — the world ALSO lists `lk/x`: what probes see THROUGH the link (the link's target holds a file `x`
    that compares equal to the source's `lk/x`); a symlink `l2` where the source has a regular file -/
def exW : PlanWorld where
  root := "d".toList
  dst := [(["a"], .file ⟨7, 3, 5000000000, [], 1⟩), (["lk"], .symlink "/elsewhere"),
          (["lk", "x"], .file ⟨9, 1, 1000000000, [], 2⟩), (["l2"], .symlink "a")]
  through := fun k => if k = ["lk"] then .dir else if k = ["l2"] then .file ⟨7, 3, 5000000000, [], 1⟩ else .dangling
  dirInfo := fun _ => (4096, 0)
  outside := fun p => if p = "s/a".toList then .file ⟨7, 3, 5000000000, [], 10⟩
                      else if p = "s/lk/x".toList then .file ⟨9, 1, 1000000000, [], 11⟩
                      else if p = "s/l2".toList then .file ⟨7, 3, 5000000000, [], 12⟩ else .dangling
  srcRoot := "s".toList
  db := []

def exFile (rel : String) (size mtime : Nat) (dir : Bool) : FileEntry := ofPEntry (GenPlannerFx.exEntry rel size mtime dir)
def exLinkEntry (rel text : String) : FileEntry :=
  { exFile rel 1 9 false with is_symlink := true, symlink_target := some text.toList }

/-- the source now has a real directory `lk` with a file `x` and a link `s` in it, the file `a`, a regular file `l2` -/
def exFiles : List FileEntry :=
  [exFile "lk" 0 0 true, exFile "lk/x" 1 1000000000 false, exLinkEntry "lk/s" "x", exFile "a" 3 5000000000 false,
   exFile "l2" 3 5000000000 false]

def exEngine (m : SymlinkMode) : SyncEngine := ⟨m, ⟨⟩⟩
def exCfg (l : LinkMode) : Cfg := ⟨false, false, false, false, false, 0, l, .default, none, none, 0, false⟩

example (f : FileEntry) (hf : f ∈ exFiles) :
    EntryOK exW (GenPlannerFx.exPlanner false) (exEngine .Skip) (exCfg .skip) f := by
  refine ⟨rfl, rfl, ⟨rfl, rfl⟩, ?_, ?_, ?_⟩
  · intro h
    simp only [exFiles, List.mem_cons, List.not_mem_nil, or_false] at hf
    rcases hf with rfl | rfl | rfl | rfl | rfl <;> first | rfl | cases h
  · intro _ h; cases h
  · intro h; cases h
example : EntryOK exW (GenPlannerFx.exPlanner true) (exEngine .Preserve) ⟨false, false, false, false, false, 0, .preserve,
    .checksum, none, none, 0, false⟩ (exLinkEntry "lk/s" "x") :=
  ⟨rfl, rfl, ⟨rfl, rfl⟩, fun _ => rfl, fun _ _ => ⟨_, rfl⟩, fun _ h => (by cases h)⟩
example : EntryOK exW (GenPlannerFx.exPlanner true) (exEngine .Follow) ⟨false, false, false, false, false, 0, .follow,
    .checksum, none, none, 0, false⟩ (exFile "a" 3 5000000000 false) :=
  ⟨rfl, rfl, ⟨rfl, rfl⟩, fun h => (by cases h), fun h => (by cases h),
    fun _ _ _ => ⟨⟨7, 3, 5000000000, [], 10⟩, by decide⟩⟩

example : RL exW [] [] := by intro l; simp
example : Walked [] (exFile "lk" 0 0 true) :=
  ⟨by simp, by simp, by intro a ha; have : compsOf (exFile "lk" 0 0 true).relative_path = ["lk"] := by decide
                        rw [this] at ha; simp [ancestors] at ha⟩
theorem exFiles_walkOrder : WalkOrder [] exFiles := by
  apply walkOrder_of_parentsFirst exW
  · decide
  · decide
  · intro f hf
    simp only [exFiles, List.mem_cons, List.not_mem_nil, or_false] at hf
    rcases hf with rfl | rfl | rfl | rfl | rfl <;> decide

/-- the world lists something below a link (what is seen through it): it is NOT its own model map … -/
example : ¬ NothingBelowLinks exW.dst := by
  intro h
  have := h ["lk"] ["lk", "x"] "/elsewhere" (by decide) (by decide) (by decide) (by decide)
  revert this; decide
/-- … a world without such entries is -/
example : NothingBelowLinks GenPlannerFx.exWorld.dst := nothingBelowLinks_of_keys _ (by decide)

/-- THE TRANSLATED LOOP, RUN (kernel evaluation of both generated units): the link `lk` is replaced (Update) and
    recorded; `lk/x` is a Create although the probes, THROUGH the link, saw an identical file; the skip-mode link
    `lk/s` stays a Skip (nothing to transfer); `a` is up to date; the regular file `l2` over a link whose target
    compares equal is an Update. -/
theorem exLoop_run :
    (runM (planLoop (ext2 (GenPlannerFx.exPlanner false)) (exEngine .Skip) "d".toList ⟨⟩ none exFiles [] []) exW).1.toOption.map
        (fun r => (r.1.map (·.action), r.2)) =
      some ([.Update, .Create, .Skip, .Skip, .Update], ["d/lk".toList]) := by decide

/-- without override 2 the same entry, planned with nothing recorded in `replaced_links`, is decided THROUGH the link -/
example : (runM (plan_round (ext2 (GenPlannerFx.exPlanner false)) (exEngine .Skip) (exFile "lk/x" 1 1000000000 false)
      "d".toList ⟨⟩ none [] []) exW).1.toOption.map (fun r => r.2.1.map (·.action)) = some [.Skip] := by decide
example : (runM (plan_round (ext2 (GenPlannerFx.exPlanner false)) (exEngine .Skip) (exFile "lk/x" 1 1000000000 false)
      "d".toList ⟨⟩ none [] ["d/lk".toList]) exW).1.toOption.map (fun r => r.2.1.map (·.action)) = some [.Create] := by
  decide

/-- … and the model, against the pruned map, says exactly that -/
example : (exFiles.map (absE exW)).map (fun e => (planEntry (exCfg .skip) (pruneLinks exW.dst) e).act) =
    [.update, .create, .skip, .skip, .update] := by decide

/-- `Rs.path_starts_with` against `std::path::Path::starts_with` on sample texts: component-wise (`a/bc` does not start
    with `a/b`), reflexive, the empty path is a prefix of everything (as in std); NOT faithful for the root `/` as the
    second argument (std: `"/a".starts_with("/")` is true) and for texts std normalises (`a/./b`, `a//b`, `a/b/`) -/
example : Rs.path_starts_with "d/lk/x".toList "d/lk".toList = true := by decide
example : Rs.path_starts_with "d/lkx".toList "d/lk".toList = false := by decide
example : Rs.path_starts_with "d/lk".toList "d/lk".toList = true := by decide
example : Rs.path_starts_with "d/lk".toList [] = true := by decide
theorem path_starts_with_root_differs : Rs.path_starts_with "/a".toList "/".toList = false := by decide
theorem path_starts_with_trailing_differs : Rs.path_starts_with "d/lk/x".toList "d/lk/".toList = false := by decide

end SyModel.Props.GenEnginePlan
