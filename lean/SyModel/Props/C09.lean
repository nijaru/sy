/-
  C09 — Crash safety: killing sy at any instant loses nothing and a re-run converges.
  The property theorems (and `own_prefix`, `accepted_size`, `single_interleaving`, which only their proofs and
  witnesses use); the model is `SyModel/Engine/Steps.lean`, helper lemmas live in `SyModel/Lemmas/Steps*.lean`.

  A crash state is `applyAll (σ.take k) w` for ANY interleaving `σ` of the task step lists and ANY
  `k` (process death between two mutating system calls; power loss / page-cache loss is outside the
  model).  The destination tree is the only state of the model: steps have no source-side paths,
  so "the source is unchanged" is C02's theorem, not restated here.

  Status: `crash_untouched`, `crash_large_update_atomic` (temp + rename route), `crash_temp_only_garbage`,
  `recovery_removes_temp` hold for every route.  `no_torn_accepted` holds for every route except the
  `set_len`-first sparse block copier (`no_torn_accepted_counterexample_sparse_setlen`, finding
  `C09/sparse-setlen-torn-accepted`).  Updates of ≥-threshold destinations that do NOT go through
  temp + rename (sparse source, change ratio > 75 %, followed link) are rewritten in place:
  `crash_large_update_atomic_counterexample_inplace` (finding `C09/large-update-rewritten-in-place`,
  DESIGN §7 #17).
-/
import SyModel.Lemmas.StepsCrash
import SyModel.Props.C05
namespace SyModel.Props.C09
open SyModel SyModel.Engine

/-- the source's tolerance constant (`mtime_tolerance`, strategy.rs:50) is 1 s, the value `mtimeMatches` (Engine/Model.lean) hard-codes -/
theorem consts_ok_tolerance : Generated.MTIME_TOLERANCE_SECS = 1 := by decide
/-- sparse sources are larger than the zero-size corner of the `set_len`-first copier -/
theorem consts_ok_sparse_threshold : 0 < Generated.SPARSE_THRESHOLD_LOCAL := by decide

/-- For pairwise independent step lists, any interleaving `σ`, any crash index `k`: there is a
    progress vector `g` (how far each task got: `(done, rest)` per task, the done parts interleave to
    the executed prefix) such that every path touched by no started-but-unfinished task holds its
    initial or its final node.  (The hypothesis on `x` is asked for every path; for paths touched only by
    shared `mkdir`s or only by deletions the proof does not use it: `crash_owned_or_settled`.) -/
theorem crash_untouched {ls : List (List Step)} (hind : PairwiseIndep ls) {σ : List Step}
    (hσ : Interleaving ls σ) (k : Nat) (w : SWorld) :
    ∃ g : Progress Step, g.wholes = ls ∧ Interleaving g.dones (σ.take k) ∧
      ∀ x, (∀ d ∈ g, touchesList (d.1 ++ d.2) x → d.1 = [] ∨ d.2 = []) →
        applyAll (σ.take k) w x = w x ∨ applyAll (σ.take k) w x = applyAll σ w x := by
  obtain ⟨g, hg, hd, hown⟩ := crash_progress hind hσ k
  refine ⟨g, hg, hd.toInterleaving, fun x hx => ?_⟩
  rcases crash_owned_or_settled hind hσ k w x with ⟨pre, L, post, hls, hothers⟩ | h
  · obtain ⟨d, hdg, hL, hd1⟩ := hown pre L post hls
    have hN := hσ.toShuffleN
    rw [hls] at hind hN
    rw [hd1 w x hothers, shuffle_owned hind hN x hothers w, ← hL]
    by_cases ht : touchesList (d.1 ++ d.2) x
    · rcases hx d hdg ht with h | h
      · exact .inl (by rw [h]; rfl)
      · exact .inr (by rw [h, List.append_nil])
    · refine .inl (applyAll_frame _ _ _ fun s hs => Bool.eq_false_iff.mpr fun hsx => ht ⟨s, ?_, hsx⟩)
      exact List.mem_append_left _ hs
  · exact h

/-- A path that one task owns holds, in every crash state, what a prefix of that task's own list
    makes of the INITIAL world (the same prefix for all paths the task owns). -/
theorem crash_local {pre post : List (List Step)} {L σ : List Step}
    (hind : PairwiseIndep (pre ++ L :: post)) (hσ : Interleaving (pre ++ L :: post) σ) (k : Nat)
    (w : SWorld) :
    ∃ n, ∀ x, (∀ l ∈ pre ++ post, ∀ s ∈ l, s.touches x = false) →
      applyAll (σ.take k) w x = applyAll (L.take n) w x := by
  obtain ⟨_, _, _, hown⟩ := crash_progress hind hσ k
  obtain ⟨d, _, hL, hd1⟩ := hown pre L post rfl
  exact ⟨d.1.length, fun x hx => by rw [← hL, List.take_left]; exact hd1 w x hx⟩

section plan
variable {cfg : Cfg} {thr ch : Nat} {sfx : String} {hint : Task → Hint} {tasks : List Task}
  {dst : Map DNode}

/-- the path of a task that issues `remove_if_symlink` there (every file task does), and the temp path of one that goes
    through temp + rename, are touched by no other task: in every crash state both hold what ONE prefix of the task's
    own list makes of the initial world -/
private theorem own_prefix (hok : PlanOK tasks) {w : SWorld} (hf : TempFresh sfx tasks w) {σ : List Step}
    (hσ : Interleaving (taskLists cfg thr ch sfx hint dst tasks) σ) (k : Nat) {t : Task}
    (ht : t ∈ tasks) (hnl : isLinkTask cfg t = false)
    (hs : Step.unlinkIfSymlink t.rel ∈ stepsOfH cfg thr ch sfx (hint t) (dst.get? t.rel) t) :
    ∃ n, ∀ x, x = t.rel ∨ (usesDelta cfg thr (hint t) (dst.get? t.rel) t = true ∧ x = tempOf sfx t.rel) →
      applyAll (σ.take k) w x =
        applyAll ((stepsOfH cfg thr ch sfx (hint t) (dst.get? t.rel) t).take n) w x := by
  have hind := taskLists_indep cfg thr ch hok hf hint dst
  obtain ⟨pre, post, hls⟩ := List.append_of_mem (mem_taskLists.mpr ⟨t, ht, hnl, rfl⟩)
  rw [hls] at hσ hind
  obtain ⟨n, hn⟩ := crash_local hind hσ k w
  refine ⟨n, fun x hx => hn x ?_⟩
  rcases hx with rfl | ⟨hu, rfl⟩
  · exact exclusive_of_step hind hs (by simp [Step.touches]) rfl rfl
  · obtain ⟨m, _, _, _, _, _, _, hL⟩ := stepsOfH_delta ch sfx hu
    exact exclusive_of_step hind (s := Step.createTemp (tempOf sfx t.rel) m.content) (by rw [hL]; simp [deltaSteps])
      (by simp [Step.touches]) rfl rfl

/-- **Large updates are atomic.**  A destination file updated through temp + rename holds, at every
    crash point of every interleaving, exactly its old node or its complete new node
    `file content size mtime` — never a mix, and with the source's mtime as soon as it is new. -/
theorem crash_large_update_atomic (hok : PlanOK tasks) (hf : TempFresh sfx tasks (ofMap dst))
    {σ : List Step} (hσ : Interleaving (taskLists cfg thr ch sfx hint dst tasks) σ) (k : Nat)
    {t : Task} (ht : t ∈ tasks) (hnl : isLinkTask cfg t = false)
    (hu : usesDelta cfg thr (hint t) (dst.get? t.rel) t = true) :
    ∃ m n d, t.payload = .file m n ∧ dst.get? t.rel = some (.file d) ∧ thr ≤ d.size ∧
      (applyAll (σ.take k) (ofMap dst) t.rel = some (.file d.content d.size d.mtime) ∨
       applyAll (σ.take k) (ofMap dst) t.rel = some (.file m.content m.size m.mtime)) := by
  obtain ⟨m, n, d, hpay, hact, hold, hsz, hL⟩ := stepsOfH_delta ch sfx hu
  refine ⟨m, n, d, hpay, hold, hsz, ?_⟩
  have hwp := ofMap_file hold
  obtain ⟨n', hn⟩ := own_prefix hok hf hσ k ht hnl (by rw [hL]; simp)
  rw [hn t.rel (.inl rfl), hL, ← hwp]
  exact delta_prefix_dest hwp (hf.ne ht (usesDelta_mayDelta hu)) n'

/-- **Classification of crash states.**  At every path, in every crash state, the node is the
    initial one, the final one, or `Garbage` of one task: nothing (old entry unlinked, new one not yet
    created), a torn file (first `l ≤ size` bytes of the NEW content, mtime = time of the run) or a
    `set_len`-first holey file at the path of a file being copied in place, or the working file at
    the temp path of a temp + rename update. -/
theorem crash_temp_only_garbage (hok : PlanOK tasks) (hf : TempFresh sfx tasks (ofMap dst))
    {σ : List Step} (hσ : Interleaving (taskLists cfg thr ch sfx hint dst tasks) σ) (k : Nat)
    (x : Path) :
    applyAll (σ.take k) (ofMap dst) x = ofMap dst x ∨
    applyAll (σ.take k) (ofMap dst) x = applyAll σ (ofMap dst) x ∨
    ∃ t ∈ tasks, isLinkTask cfg t = false ∧
      Garbage cfg thr sfx (hint t) (dst.get? t.rel) t x (applyAll (σ.take k) (ofMap dst) x) := by
  have hind := taskLists_indep cfg thr ch hok hf hint dst
  rcases crash_owned_or_settled hind hσ k (ofMap dst) x with ⟨pre, L, post, hls, hothers⟩ | h
  · obtain ⟨t, ht, hnl, hL⟩ := mem_taskLists.mp
      (show L ∈ taskLists cfg thr ch sfx hint dst tasks by rw [hls]; simp)
    have hN := hσ.toShuffleN
    rw [hls] at hσ hind hN
    obtain ⟨n, hn⟩ := crash_local hind hσ k (ofMap dst)
    rw [hn x hothers, shuffle_owned hind hN x hothers, hL]
    exact (task_prefix (ofMap dst) rfl n x).imp id (Or.imp id fun h => ⟨t, ht, hnl, h⟩)
  · exact h.imp id .inl

/-- a (size, mtime) pair that the planner's rule accepts has the source's size -/
private theorem accepted_size {c : Compare} {ssize smtime dsize dmtime : Nat}
    (h : needsUpdate c ssize smtime dsize dmtime = false) : dsize = ssize := by
  cases c <;> simp [needsUpdate] at h
  · exact h.1.symm
  · exact h.symm

/-- **No torn file is ever accepted as up to date** (key lemma).  For a file task with source meta
    `m` (create or update, any route but the `set_len`-first sparse copier), in every crash state of
    every interleaving: if the node at its path looks like a regular file whose (size, mtime) the
    comparison rule `c` accepts — `needsUpdate c … = false`, i.e. size equal (default, size-only)
    and mtime within tolerance (default) — then it IS the complete new file.  Sizes only reach the
    source's when the data is complete.

    Hypotheses and what they exclude:
    * `hinit` — the node the task started from is not accepted by `c` (the task was planned as
      create/update by that very rule).  Excludes: judging the crash state with a laxer rule than
      the one that planned the run (e.g. planned with `--checksum`, re-run with the default rule:
      an old same-size, same-mtime, different-content file is then "accepted" before and after).
    * `hroute` — the route is not `sparseBlocks`, OR the rule is the default one and the time of
      the run is NOT within the mtime tolerance of the source's mtime.  Excludes exactly the finding
      `C09/sparse-setlen-torn-accepted` below.
    No hypothesis on `now` is needed for the other routes: a torn file has a smaller size. -/
theorem no_torn_accepted (hok : PlanOK tasks) (hf : TempFresh sfx tasks (ofMap dst))
    {σ : List Step} (hσ : Interleaving (taskLists cfg thr ch sfx hint dst tasks) σ) (k : Nat)
    {t : Task} (ht : t ∈ tasks) (hnl : isLinkTask cfg t = false) {m : FileMeta} {nl : Nat}
    (hpay : t.payload = .file m nl) (hact : t.act = .create ∨ t.act = .update)
    (hdry : cfg.dryRun = false) (c : Compare)
    (hinit : ∀ n0 s0 t0, ofMap dst t.rel = some n0 → n0.stat = some (s0, t0) →
      needsUpdate c m.size m.mtime s0 t0 = true)
    (hroute : (hint t).route ≠ .sparseBlocks ∨
      (c = .default ∧ mtimeMatches m.mtime (hint t).now = false))
    (v : SNode) (sz mt : Nat) (hv : applyAll (σ.take k) (ofMap dst) t.rel = some v)
    (hstat : v.stat = some (sz, mt)) (hacc : needsUpdate c m.size m.mtime sz mt = false) :
    v = .file m.content m.size mt := by
  obtain ⟨n, hn⟩ := own_prefix hok hf hσ k ht hnl (by
    rw [stepsOfH_write hdry hact, hpay]
    simp only
    split
    · simp [fullCopySteps]
    · simp)
  rw [hn t.rel (.inl rfl)] at hv
  have hq : usesDelta cfg thr (hint t) (dst.get? t.rel) t = true → tempOf sfx t.rel ≠ t.rel :=
    fun hu => hf.ne ht (usesDelta_mayDelta hu)
  -- the node the task found is not accepted
  have hrej : some v = ofMap dst t.rel → False := by
    intro h
    have := hinit v sz mt h.symm hstat
    rw [this] at hacc
    cases hacc
  have h := file_task_prefix ch hpay hdry hact hq (ofMap dst) rfl n
  rw [hv] at h
  rcases h with h | h | ⟨l, hl, h⟩ | ⟨hr, d, _, _, h⟩ | h
  · exact (hrej h).elim
  · cases h
  · -- a torn file that is accepted has the source's size
    cases h
    simp only [SNode.stat, Option.some.injEq, Prod.mk.injEq] at hstat
    have := accepted_size hacc
    rw [hstat.1, hstat.2, this]
  · cases h
    simp only [SNode.stat, Option.some.injEq, Prod.mk.injEq] at hstat
    rcases hroute with hr' | ⟨hc, hm⟩
    · exact absurd hr hr'
    · subst hc
      rw [← hstat.2] at hacc
      simp [needsUpdate, hm] at hacc
  · cases h
    simp only [fileNode, SNode.stat, Option.some.injEq, Prod.mk.injEq] at hstat
    rw [fileNode, hstat.2]

/-- the working files of a crash state belong to interrupted temp + rename updates whose
    destination still holds its old node -/
theorem crash_temp_is_inflight_delta (hok : PlanOK tasks) (hf : TempFresh sfx tasks (ofMap dst))
    {σ : List Step} (hσ : Interleaving (taskLists cfg thr ch sfx hint dst tasks) σ) (k : Nat)
    (x : Path) (c : Nat) (hx : applyAll (σ.take k) (ofMap dst) x = some (.temp c)) :
    ∃ t ∈ tasks, isLinkTask cfg t = false ∧
      usesDelta cfg thr (hint t) (dst.get? t.rel) t = true ∧ x = tempOf sfx t.rel ∧
      applyAll (σ.take k) (ofMap dst) t.rel = ofMap dst t.rel := by
  have hind := taskLists_indep cfg thr ch hok hf hint dst
  have hnt := C05.ofMap_noTemp dst
  rcases crash_temp_only_garbage hok hf hσ k x with h | h | ⟨t, ht, hnl, hg⟩
  · rw [hx] at h; exact absurd h.symm (hnt x c)
  · rw [hx] at h
    exact absurd h.symm (run_no_temp hind hσ (ofMap dst) x (Or.inl (hnt x)) c)
  · rw [hx] at hg
    -- only the working file of a temp + rename update is a `temp` node
    obtain ⟨hu, hxq⟩ : usesDelta cfg thr (hint t) (dst.get? t.rel) t = true ∧ x = tempOf sfx t.rel := by
      cases hg with
      | temp hp hu => exact ⟨hu, rfl⟩
    refine ⟨t, ht, hnl, hu, hxq, ?_⟩
    obtain ⟨m, n, d, hpay, hact, hold, _, hL⟩ := stepsOfH_delta ch sfx hu
    obtain ⟨n', hn⟩ := own_prefix hok hf hσ k ht hnl (by rw [hL]; simp)
    have hp := hn t.rel (.inl rfl)
    have hqq := hn (tempOf sfx t.rel) (.inr ⟨hu, rfl⟩)
    rw [← hxq, hx, hL] at hqq
    rw [hp, hL]
    exact delta_prefix_joint (ofMap_file hold) (hf.ne ht (usesDelta_mayDelta hu)) n' c (hxq ▸ hqq.symm)

/-- the planner's decision for an entry depends only on the destination node at its path: a
    re-run that finds the old node of an interrupted temp + rename update plans the same task -/
theorem replan_unchanged (cfg : Cfg) (dst dst' : Map DNode) (e : SEntry)
    (h : dst'.get? e.rel = dst.get? e.rel) : planEntry cfg dst' e = planEntry cfg dst e :=
  planEntry_congr h

/-- **Recovery removes every working file.**  Take any crash state of a first run; run the command
    again to completion from that state, in any interleaving, with whatever it plans
    (`tasks2`/`dst2`/`hint2`) — as long as it re-plans the interrupted temp + rename updates whose
    destination is unchanged (which it does: `replan_unchanged`, the destination node is all the
    planner looks at).  Then the re-run's own `createTemp` truncates each left-over working file
    and its `rename` moves it away: no working file remains. -/
theorem recovery_removes_temp (hok : PlanOK tasks) (hf : TempFresh sfx tasks (ofMap dst))
    {σ : List Step} (hσ : Interleaving (taskLists cfg thr ch sfx hint dst tasks) σ) (k : Nat)
    {tasks2 : List Task} {dst2 : Map DNode} {hint2 : Task → Hint}
    (hind2 : PairwiseIndep (taskLists cfg thr ch sfx hint2 dst2 tasks2)) {σ2 : List Step}
    (hσ2 : Interleaving (taskLists cfg thr ch sfx hint2 dst2 tasks2) σ2)
    (hreplan : ∀ t ∈ tasks, isLinkTask cfg t = false →
      usesDelta cfg thr (hint t) (dst.get? t.rel) t = true →
      applyAll (σ.take k) (ofMap dst) t.rel = ofMap dst t.rel →
      t ∈ tasks2 ∧ usesDelta cfg thr (hint2 t) (dst2.get? t.rel) t = true) :
    NoTemp (applyAll σ2 (applyAll (σ.take k) (ofMap dst))) := by
  intro x c
  apply run_no_temp hind2 hσ2 _ x
  by_cases hx : ∃ c', applyAll (σ.take k) (ofMap dst) x = some (.temp c')
  · obtain ⟨c', hx⟩ := hx
    obtain ⟨t, ht, hnl, hu, hxq, hdest⟩ :=
      crash_temp_is_inflight_delta hok hf hσ k x c' hx
    obtain ⟨h1, h2⟩ := hreplan t ht hnl hu hdest
    exact Or.inr ⟨t, h1, hnl, h2, hxq⟩
  · left; intro c' h; exact hx ⟨c', h⟩

/-- **C09** (model level).  For the non-link tasks of any well-laid-out plan (`PlanOK`, `TempFresh`),
    every interleaving `σ`, every crash index `k`, with `w' := applyAll (σ.take k) (ofMap dst)`:
    1. every node of `w'` is initial, final or classified `Garbage` of one task;
    2. every destination updated through temp + rename holds its old or its complete new node;
    3. no torn file at the path of an in-place file task is accepted by the rule that planned it
       (routes other than the `set_len`-first sparse copier);
    4. every completed re-run that re-plans the interrupted temp + rename updates leaves no working
       file. -/
theorem C09 (hok : PlanOK tasks) (hf : TempFresh sfx tasks (ofMap dst))
    {σ : List Step} (hσ : Interleaving (taskLists cfg thr ch sfx hint dst tasks) σ) (k : Nat) :
    (∀ x, applyAll (σ.take k) (ofMap dst) x = ofMap dst x ∨
        applyAll (σ.take k) (ofMap dst) x = applyAll σ (ofMap dst) x ∨
        ∃ t ∈ tasks, isLinkTask cfg t = false ∧
          Garbage cfg thr sfx (hint t) (dst.get? t.rel) t x (applyAll (σ.take k) (ofMap dst) x)) ∧
    (∀ t ∈ tasks, isLinkTask cfg t = false → usesDelta cfg thr (hint t) (dst.get? t.rel) t = true →
      ∃ m n d, t.payload = .file m n ∧ dst.get? t.rel = some (.file d) ∧ thr ≤ d.size ∧
        (applyAll (σ.take k) (ofMap dst) t.rel = some (.file d.content d.size d.mtime) ∨
         applyAll (σ.take k) (ofMap dst) t.rel = some (.file m.content m.size m.mtime))) ∧
    (∀ t ∈ tasks, isLinkTask cfg t = false → ∀ m nl, t.payload = .file m nl →
      (t.act = .create ∨ t.act = .update) → cfg.dryRun = false → ∀ c : Compare,
      (∀ n0 s0 t0, ofMap dst t.rel = some n0 → n0.stat = some (s0, t0) →
        needsUpdate c m.size m.mtime s0 t0 = true) →
      (hint t).route ≠ .sparseBlocks →
      ∀ v sz mt, applyAll (σ.take k) (ofMap dst) t.rel = some v → v.stat = some (sz, mt) →
        needsUpdate c m.size m.mtime sz mt = false → v = .file m.content m.size mt) ∧
    (∀ (tasks2 : List Task) (dst2 : Map DNode) (hint2 : Task → Hint) (σ2 : List Step),
      PairwiseIndep (taskLists cfg thr ch sfx hint2 dst2 tasks2) →
      Interleaving (taskLists cfg thr ch sfx hint2 dst2 tasks2) σ2 →
      (∀ t ∈ tasks, isLinkTask cfg t = false →
        usesDelta cfg thr (hint t) (dst.get? t.rel) t = true →
        applyAll (σ.take k) (ofMap dst) t.rel = ofMap dst t.rel →
        t ∈ tasks2 ∧ usesDelta cfg thr (hint2 t) (dst2.get? t.rel) t = true) →
      NoTemp (applyAll σ2 (applyAll (σ.take k) (ofMap dst)))) := by
  refine ⟨fun x => crash_temp_only_garbage hok hf hσ k x,
    fun t ht hnl hu => crash_large_update_atomic hok hf hσ k ht hnl hu,
    fun t ht hnl m nl hpay hact hdry c hinit hroute v sz mt hv hstat hacc =>
      no_torn_accepted hok hf hσ k ht hnl hpay hact hdry c hinit (Or.inl hroute) v sz mt hv hstat hacc,
    fun tasks2 dst2 hint2 σ2 hind2 hσ2 hre => recovery_removes_temp hok hf hσ k hind2 hσ2 hre⟩

end plan

theorem single_interleaving (L : List Step) : Interleaving [L] L :=
  (ShuffleN.cons .nil Shuffle.nil_right).toInterleaving

namespace Finding
/-- destination: a 12 MiB file; source: a newer 12 MiB version (same size), mtime 9.0 s -/
def dst : Map DNode := [(["big"], .file ⟨30, 12582912, 5, [], 1⟩)]
def m : FileMeta := ⟨3, 12582912, 9000000000, [], 13⟩
def t : Task := ⟨.update, ["big"], .file m 1⟩
/-- the run happens 0.5 s after the source was last written -/
def hintSparse : Task → Hint := fun _ => { route := .sparseBlocks, now := 9500000000 }
def hintRatio : Task → Hint := fun _ => { route := .full, now := 20000000000 }
def chunk : Nat := 4194304

end Finding

/-- the one-task plan of the two findings below satisfies the standing hypotheses `PlanOK` / `TempFresh` of
    `no_torn_accepted` and `crash_large_update_atomic` (the "every hypothesis … except `hroute` holds" of the first
    finding's docstring) -/
theorem finding_planOK : PlanOK [Finding.t] := ⟨by decide, by decide, by decide⟩
theorem finding_tempFresh : TempFresh Generated.TEMP_SUFFIX [Finding.t] (ofMap Finding.dst) :=
  ⟨by decide, by decide⟩

open Finding in
/-- `C09/sparse-setlen-torn-accepted` (known finding).  `copy_sparse_file_blocks` (local.rs:129-170,
    reached for a sparse source when `lseek(SEEK_DATA)` answers EINVAL, destination ≥ 10 MiB) removes
    the destination, recreates it and `set_len`s it to the FINAL size before writing any data.
    Killed right after that `ftruncate`, the destination is a file of the source's size, all zeros,
    with mtime = time of the run.  If the run happens within the mtime tolerance of the source's mtime
    (whole seconds of difference ≤ 1, i.e. less than 2 s; a sparse image / database file that was just written), the default rule — and the
    size-only rule at any time — accepts it: `needsUpdate` is false although the content is
    incomplete.  Every hypothesis of `no_torn_accepted` except `hroute` holds. -/
theorem no_torn_accepted_counterexample_sparse_setlen :
    let ls := taskLists C05.cfg0 Generated.DELTA_THRESHOLD chunk Generated.TEMP_SUFFIX hintSparse dst [t]
    let σ := stepsOfH C05.cfg0 Generated.DELTA_THRESHOLD chunk Generated.TEMP_SUFFIX (hintSparse t) (dst.get? t.rel) t
    let v : SNode := .holey 3 12582912 0 9500000000
    Interleaving ls σ ∧
    (∀ n0 s0 t0, ofMap dst t.rel = some n0 → n0.stat = some (s0, t0) →
      needsUpdate .default m.size m.mtime s0 t0 = true) ∧
    applyAll (σ.take 4) (ofMap dst) t.rel = some v ∧
    v.stat = some (12582912, 9500000000) ∧
    needsUpdate .default m.size m.mtime 12582912 9500000000 = false ∧
    needsUpdate .sizeOnly m.size m.mtime 12582912 9500000000 = false ∧
    v ≠ .file m.content m.size 9500000000 := by
  intro ls σ v
  refine ⟨single_interleaving _, ?_, by decide, by decide, by decide, by decide, by decide⟩
  intro n0 s0 t0 h0 hs
  have : ofMap dst t.rel = some (.file 30 12582912 5) := by decide
  rw [this] at h0; cases h0
  simp only [SNode.stat, Option.some.injEq, Prod.mk.injEq] at hs
  rw [← hs.1, ← hs.2]; decide

/-- With the default rule, even the `set_len`-first copier is safe when
    the run is not within the mtime tolerance of the source's mtime; and every other route is safe
    unconditionally (this is `no_torn_accepted` with the two alternatives of `hroute` spelled out). -/
theorem no_torn_accepted_partial {cfg : Cfg} {thr ch : Nat} {sfx : String} {hint : Task → Hint}
    {tasks : List Task} {dst : Map DNode} (hok : PlanOK tasks) (hf : TempFresh sfx tasks (ofMap dst))
    {σ : List Step} (hσ : Interleaving (taskLists cfg thr ch sfx hint dst tasks) σ) (k : Nat)
    {t : Task} (ht : t ∈ tasks) (hnl : isLinkTask cfg t = false) {m : FileMeta} {nl : Nat}
    (hpay : t.payload = .file m nl) (hact : t.act = .create ∨ t.act = .update)
    (hdry : cfg.dryRun = false)
    (hinit : ∀ n0 s0 t0, ofMap dst t.rel = some n0 → n0.stat = some (s0, t0) →
      needsUpdate .default m.size m.mtime s0 t0 = true)
    (hclock : (hint t).route = .sparseBlocks → mtimeMatches m.mtime (hint t).now = false)
    (v : SNode) (sz mt : Nat) (hv : applyAll (σ.take k) (ofMap dst) t.rel = some v)
    (hstat : v.stat = some (sz, mt)) (hacc : needsUpdate .default m.size m.mtime sz mt = false) :
    v = .file m.content m.size mt := by
  apply no_torn_accepted hok hf hσ k ht hnl hpay hact hdry .default hinit _ v sz mt hv hstat hacc
  by_cases hr : (hint t).route = .sparseBlocks
  · exact Or.inr ⟨rfl, hclock hr⟩
  · exact Or.inl hr

open Finding in
/-- `C09/large-update-rewritten-in-place` (DESIGN §7 #17).  When the ≥ 10 MiB update does not go
    through temp + rename — change ratio above 75 % (`fs::copy` in place), sparse source
    (remove + recreate), followed symlink — the destination is truncated and rewritten in place:
    killed after the `open(O_TRUNC)` it holds neither its old nor its new content (here: empty). -/
theorem crash_large_update_atomic_counterexample_inplace :
    let ls := taskLists C05.cfg0 Generated.DELTA_THRESHOLD chunk Generated.TEMP_SUFFIX hintRatio dst [t]
    let σ := stepsOfH C05.cfg0 Generated.DELTA_THRESHOLD chunk Generated.TEMP_SUFFIX (hintRatio t) (dst.get? t.rel) t
    Interleaving ls σ ∧
    dst.get? t.rel = some (.file ⟨30, 12582912, 5, [], 1⟩) ∧ Generated.DELTA_THRESHOLD ≤ 12582912 ∧
    usesDelta C05.cfg0 Generated.DELTA_THRESHOLD (hintRatio t) (dst.get? t.rel) t = false ∧
    applyAll (σ.take 2) (ofMap dst) t.rel = some (.file 3 0 20000000000) ∧
    applyAll (σ.take 2) (ofMap dst) t.rel ≠ some (.file 30 12582912 5) ∧
    applyAll (σ.take 2) (ofMap dst) t.rel ≠ some (.file m.content m.size m.mtime) := by
  intro ls σ
  exact ⟨single_interleaving _, by decide, by decide, by decide, by decide, by decide, by decide⟩

/-- With the default hint every update of a destination file of at least the threshold takes the temp + rename
    route (`usesDelta`) — the route for which `crash_large_update_atomic` gives atomicity. -/
theorem crash_large_update_atomic_partial (cfg : Cfg) (thr : Nat) (t : Task) (m : FileMeta) (n : Nat)
    (d : FileMeta) (hdry : cfg.dryRun = false) (hact : t.act = .update) (hpay : t.payload = .file m n)
    (hsz : thr ≤ d.size) :
    usesDelta cfg thr {} (some (.file d)) t = true := by
  unfold usesDelta
  simp [hdry, hact, hpay]
  omega

/-! ### non-vacuity: the example plan of C05 (create `d`, `d/a`, `d/b`; temp + rename update of `big`) -/

namespace Example
open C05.Example

def σ : List Step := lists.flatten
end Example

theorem example_interleaving : Interleaving C05.Example.lists Example.σ :=
  C05.seq_is_interleaving C05.Example.lists

namespace Example
open C05.Example

/-- crash after 15 steps: `d/a`, `d/b` complete, `big` untouched, its working file in place -/
example : applyAll (σ.take 15) (ofMap dst) ["big"] = some (.file 30 6000 5) ∧
    applyAll (σ.take 15) (ofMap dst) ["big.sy.tmp"] = some (.temp 3) ∧
    applyAll (σ.take 15) (ofMap dst) ["d", "a"] = some (.file 1 2500 100) := by decide

/-- crash after 5 steps: `d/a` is torn (1000 of 2500 bytes) and NOT accepted by the default rule -/
example : applyAll (σ.take 5) (ofMap dst) ["d", "a"] = some (.file 1 1000 0) ∧
    needsUpdate .default 2500 100 1000 0 = true := by decide

/-- the hypotheses of `no_torn_accepted` are satisfiable (task `d/a` of the example, every crash
    index): whatever is accepted at `d/a` is the complete file -/
example (k : Nat) (v : SNode) (sz mt : Nat)
    (hv : applyAll (σ.take k) (ofMap dst) ["d", "a"] = some v) (hstat : v.stat = some (sz, mt))
    (hacc : needsUpdate .default 2500 100 sz mt = false) : v = .file 1 2500 mt := by
  have ht : (⟨.create, ["d", "a"], .file ⟨1, 2500, 100, [], 11⟩ 1⟩ : Task) ∈ tasks := by decide
  exact no_torn_accepted (cfg := C05.cfg0) (thr := 5000) (ch := 1000) (hint := fun _ => {})
    C05.example_planOK C05.example_tempFresh example_interleaving k ht (by decide) rfl (Or.inl rfl) rfl .default
    (by intro n0 s0 t0 h0; have : ofMap dst ["d", "a"] = none := by decide
        rw [this] at h0; cases h0)
    (Or.inl (by decide)) v sz mt hv hstat hacc

/-- re-running the same plan from ANY crash state of the example leaves no working file -/
example (k : Nat) (σ2 : List Step) (hσ2 : Interleaving lists σ2) :
    NoTemp (applyAll σ2 (applyAll (σ.take k) (ofMap dst))) :=
  recovery_removes_temp (cfg := C05.cfg0) (thr := 5000) (ch := 1000) (hint := fun _ => {})
    C05.example_planOK C05.example_tempFresh example_interleaving k
    (taskLists_indep C05.cfg0 5000 1000 C05.example_planOK C05.example_tempFresh (fun _ => {}) dst)
    hσ2 (fun _ ht _ hu _ => ⟨ht, hu⟩)

/-- `big` is old or new at every crash index of the example -/
example (k : Nat) :
    applyAll (σ.take k) (ofMap dst) ["big"] = some (.file 30 6000 5) ∨
    applyAll (σ.take k) (ofMap dst) ["big"] = some (.file 3 7000 9000000000) := by
  have ht : (⟨.update, ["big"], .file ⟨3, 7000, 9000000000, [], 13⟩ 1⟩ : Task) ∈ tasks := by decide
  obtain ⟨m, n, d, hp, hd, _, h⟩ := crash_large_update_atomic (cfg := C05.cfg0) (thr := 5000)
    (ch := 1000) (hint := fun _ => {}) C05.example_planOK C05.example_tempFresh example_interleaving k ht (by decide) (by decide)
  have hd' : dst.get? ["big"] = some (.file ⟨30, 6000, 5, [], 1⟩) := by decide
  simp only at hp hd
  rw [hd'] at hd; cases hd; cases hp
  exact h
end Example

end SyModel.Props.C09
