/-
  GenEngineCache — the directory cache as `SyncEngine::sync` uses it (src/sync/mod.rs, src/sync/dircache.rs), TRANSLATED on
  every run into `SyModel/Generated/Code/EngineCache.lean`:

    * `can_use_cache`   — `let can_use_cache = if let Some(ref cache) = dir_cache { … !cache.needs_rescan(".", source_mtime) … }`
    * `scan_or_cached`  — `let all_files = if can_use_cache { cached listing of "." … } else { self.transport.scan(source) }`
    * `record_scan`     — the body of `if let Some(ref mut cache) = dir_cache { for file in &all_files { … } … }`
    * `DirectoryCache::{needs_rescan, update, get_cached_files, cache_files}`, `CachedFile::{from_file_entry, to_file_entry}`.

  Property C18 says that enabling the cache never changes the outcome.  The substituted listing (`to_file_entry`) WOULD lose
  symlinks, hard links, sparse information and extended attributes (`to_file_entry_forgets` below) and could miss edits below
  the root — so the property holds because the substitution is UNREACHABLE: the staleness test asks for the key "." and no run
  ever records that key.  Proved here about the translated code, for ANY instance of the two operations (stat of the source,
  the transport's scan):

    * `record_scan_dir_keys`            — the directory keys after a run are the old keys plus the relative paths of the scanned
                                           directories — nothing else;
    * `record_scan_keeps_root_absent`   — if no scanned entry has the relative path "." (the scanner skips the root itself) and
                                           the cache had no key "." before, it has none afterwards (the invariant over all runs);
    * `can_use_cache_false_of_no_root`  — without the key "." (and without a cache at all) the answer is `false`;
    * `scan_or_cached_real`             — with `false` the scanned list is exactly the transport's scan of the source;
    * `cache_never_substitutes`         — composition: from ANY cache without the key ".", the files planned are the real scan
                                           and the cache saved at the end again has no key ".".

  `DirectoryCache::{needs_rescan, update}` are translated twice, into distinct types (Generated/Code/Modes.lean and
  Generated/Code/EngineCache.lean): the bridge to the model `Engine.DirCache` (`Abstracts`, `…_implies_canUse`) is stated for
  the Modes copy only (Props/GenModes), what `sync` does with the cache for this copy only; a change of either Rust
  function breaks both.
-/
import SyModel.Generated.Code.EngineCache
import SyModel.Lemmas.RsMap
import SyModel.Lemmas.RsMonad
namespace SyModel.Props.GenEngineCache
open SyModel.Generated SyModel.Generated.EngineCache

def runM {W α : Type} (x : Rs.M W α) (w : W) : Except Rs.Err α × W := x.run.run w

/-- the key of the source root in the cache: the text `"."` -/
def rootKey : Rs.Path := ['.']

/-- does the cache have a directory entry for this key -/
def hasDir (c : DirectoryCache) (k : Rs.Path) : Bool := c.dir_entries.any (fun p => p.1 == k)

theorem needs_rescan_of_absent (c : DirectoryCache) (k : Rs.Path) (t : Rs.SystemTime) (h : hasDir c k = false) :
    c.needs_rescan k t = true := by
  unfold DirectoryCache.needs_rescan
  rw [(Rs.get_eq_none_iff _ _).mpr h]

/-- **without the key "." the cached listing may not be used** — for ANY stat operation; no cache at all: the same -/
theorem can_use_cache_false_of_no_root {W : Type} (ext : Ext W) (dc : Option DirectoryCache) (source : Rs.Path) (w : W)
    (h : ∀ c, dc = some c → hasDir c rootKey = false) :
    (runM (can_use_cache ext dc source) w).1 = .ok false := by
  unfold can_use_cache
  cases dc with
  | none => rfl
  | some c =>
    -- the stat is captured; whatever it answers, the staleness test for "." says "rescan"
    show (((_ >>= _ : Rs.M W Bool)) w).1 = _
    rw [Rs.run_bind, Rs.run_capture]
    rcases ext.std_fs_metadata source w with ⟨r, w'⟩
    cases r with
    | error e => rfl
    | ok m =>
      show (Except.ok (!(c.needs_rescan rootKey m.mtime)), w').1 = _
      rw [needs_rescan_of_absent c rootKey m.mtime (h c rfl)]
      rfl

/-- **with `can_use_cache = false` the scanned list is the transport's scan** (same result, same effects) -/
theorem scan_or_cached_real {W : Type} (ext : Ext W) (self : SyncEngine) (dc : Option DirectoryCache) (source : Rs.Path) :
    scan_or_cached ext self false dc source = ext.transport_scan self.transport source := by
  unfold scan_or_cached
  simp only [Bool.false_eq_true, ↓reduceIte, bind_pure]

/-- what the substitution WOULD lose: an entry rebuilt from the cache is never a symlink, has link count 1, no inode, no
    xattrs, is never sparse — whatever the scanned entry was -/
theorem to_file_entry_forgets (f : FileEntry) (source : Rs.Path) :
    let g := (CachedFile.from_file_entry f).to_file_entry source
    g.is_symlink = false ∧ g.symlink_target = none ∧ g.nlink = 1 ∧ g.inode = none ∧ g.xattrs = none ∧ g.is_sparse = false ∧
      g.relative_path = f.relative_path ∧ g.size = f.size ∧ g.modified = f.modified ∧ g.is_dir = f.is_dir := by
  simp [CachedFile.from_file_entry, CachedFile.to_file_entry]

/-- the loop of `record_scan` as a fold: the directory keys it adds -/
def dirKeysAfter (c : DirectoryCache) (files : List FileEntry) : DirectoryCache :=
  files.foldl (fun c f => if f.is_dir then c.update f.relative_path f.modified else c) c

theorem cache_files_eq (c : DirectoryCache) (p : Rs.Path) (fs : List CachedFile) :
    c.cache_files p fs = { c with file_entries := Rs.insert_mut c.file_entries p fs } := rfl

theorem update_eq (c : DirectoryCache) (p : Rs.Path) (t : Rs.SystemTime) :
    c.update p t = { c with dir_entries := Rs.insert_mut c.dir_entries p t } := rfl

theorem hasDir_update (c : DirectoryCache) (p : Rs.Path) (t : Rs.SystemTime) (k : Rs.Path) :
    hasDir (c.update p t) k = (p == k || hasDir c k) :=
  Rs.contains_key_insert_mut c.dir_entries p t k

theorem dirKeysAfter_cons (c : DirectoryCache) (f : FileEntry) (fs : List FileEntry) :
    dirKeysAfter c (f :: fs) = dirKeysAfter (if f.is_dir then c.update f.relative_path f.modified else c) fs := rfl

theorem hasDir_dirKeysAfter (files : List FileEntry) (c : DirectoryCache) (k : Rs.Path) :
    hasDir (dirKeysAfter c files) k = (hasDir c k || files.any (fun f => f.is_dir && f.relative_path == k)) := by
  induction files generalizing c with
  | nil => simp [dirKeysAfter]
  | cons f fs ih =>
    rw [dirKeysAfter_cons, ih, List.any_cons]
    by_cases hd : f.is_dir = true
    · simp only [hd, ↓reduceIte, Bool.true_and, hasDir_update]
      cases (f.relative_path == k) <;> cases hasDir c k <;> simp
    · have : f.is_dir = false := by simpa using hd
      simp [this]

theorem hasDir_cache_files (c : DirectoryCache) (p : Rs.Path) (fs : List CachedFile) (k : Rs.Path) :
    hasDir (c.cache_files p fs) k = hasDir c k := by
  rw [cache_files_eq]; rfl

theorem forIn_pure {W σ α : Type} (g : α → σ → σ) (l : List α) (s : σ) (body : α → σ → Rs.M W (ForInStep σ))
    (h : ∀ x s, body x s = pure (ForInStep.yield (g x s))) :
    forIn l s body = (pure (l.foldl (fun s x => g x s) s) : Rs.M W σ) :=
  Rs.forIn_pure_foldl (fun s x => g x s) body h l s

/-- first loop of `record_scan`: what it does to the pair (cache, files by directory) -/
def step1 (file : FileEntry) (s : DirectoryCache × Rs.HashMap Rs.Path (List CachedFile)) :
    DirectoryCache × Rs.HashMap Rs.Path (List CachedFile) :=
  (if file.is_dir then s.1.update file.relative_path file.modified else s.1,
   Rs.entry_push s.2 (if file.is_dir then file.relative_path
     else unwrapOrElse (Rs.opt_map (Rs.parent file.relative_path) fun p => p) fun _ => ['.']) (CachedFile.from_file_entry file))

theorem step1_fold_fst (files : List FileEntry) (s : DirectoryCache × Rs.HashMap Rs.Path (List CachedFile)) :
    (files.foldl (fun s x => step1 x s) s).1 = dirKeysAfter s.1 files := by
  induction files generalizing s with
  | nil => rfl
  | cons f fs ih => simp only [List.foldl_cons, dirKeysAfter]; rw [ih]; rfl

theorem hasDir_fold_cache_files (l : List (Rs.Path × List CachedFile)) (c : DirectoryCache) (k : Rs.Path) :
    hasDir (l.foldl (fun s x => DirectoryCache.cache_files s x.1 x.2) c) k = hasDir c k := by
  induction l generalizing c with
  | nil => rfl
  | cons x xs ih => simp only [List.foldl_cons]; rw [ih, hasDir_cache_files]

/-- the cache `record_scan` answers, for ANY instance (the block performs no operation of the world) -/
theorem record_scan_pure {W : Type} (ext : Ext W) (c : DirectoryCache) (files : List FileEntry) (w : W) :
    ∃ c', runM (record_scan ext c files) w = (.ok ((), c'), w) ∧ ∀ k, hasDir c' k = hasDir (dirKeysAfter c files) k := by
  unfold record_scan
  dsimp only
  rw [forIn_pure (W := W) step1 files (c, [])]
  · simp only [pure_bind]
    rw [forIn_pure (W := W) (fun x s => DirectoryCache.cache_files s x.1 x.2)]
    · refine ⟨_, rfl, fun k => ?_⟩
      rw [hasDir_fold_cache_files, step1_fold_fst]
    · intro x s; rfl
  · intro x s
    by_cases hd : x.is_dir = true <;> simp [hd, step1]

/-- **the directory keys after a run**: the old keys plus the relative paths of the scanned directories, nothing else -/
theorem record_scan_dir_keys {W : Type} (ext : Ext W) (c : DirectoryCache) (files : List FileEntry) (w : W) :
    ∃ c', runM (record_scan ext c files) w = (.ok ((), c'), w) ∧
      ∀ k, hasDir c' k = (hasDir c k || files.any (fun f => f.is_dir && f.relative_path == k)) := by
  obtain ⟨c', h, hk⟩ := record_scan_pure ext c files w
  exact ⟨c', h, fun k => by rw [hk k, hasDir_dirKeysAfter]⟩

/-- **the invariant over all runs**: the scanner never lists the root itself (relative path "."), so a cache without the key
    "." stays without it -/
theorem record_scan_keeps_root_absent {W : Type} (ext : Ext W) (c : DirectoryCache) (files : List FileEntry) (w : W)
    (hroot : hasDir c rootKey = false) (hscan : ∀ f ∈ files, f.relative_path ≠ rootKey) :
    ∃ c', runM (record_scan ext c files) w = (.ok ((), c'), w) ∧ hasDir c' rootKey = false := by
  obtain ⟨c', h, hk⟩ := record_scan_dir_keys ext c files w
  refine ⟨c', h, ?_⟩
  rw [hk rootKey, hroot, Bool.false_or]
  rw [List.any_eq_false]
  intro f hf
  have := hscan f hf
  simp [this]

/-- **C18 for the directory cache, about the translated code**: from ANY cache without the key "." (an empty one, one saved by
    any earlier run, a damaged one read as empty), the cached listing is not used — the files planned are the transport's real
    scan — and the cache this run saves again lacks the key ".". -/
theorem cache_never_substitutes {W : Type} (ext : Ext W) (self : SyncEngine) (c : DirectoryCache) (source : Rs.Path) (w : W)
    (hroot : hasDir c rootKey = false) :
    (runM (can_use_cache ext (some c) source) w).1 = .ok false ∧
    scan_or_cached ext self false (some c) source = ext.transport_scan self.transport source ∧
    ∀ files w1, (∀ f ∈ files, f.relative_path ≠ rootKey) →
      ∃ c', runM (record_scan ext c files) w1 = (.ok ((), c'), w1) ∧ hasDir c' rootKey = false :=
  ⟨can_use_cache_false_of_no_root ext (some c) source w (fun c0 h => by cases h; exact hroot),
   scan_or_cached_real ext self (some c) source,
   fun files w1 hs => record_scan_keeps_root_absent ext c files w1 hroot hs⟩

/-- non-vacuity: the empty cache has no root key; and a cache that DID have the key "." with a fresh mtime would be used — the
    theorem's hypothesis is what keeps the substitution out -/
example : hasDir ⟨[], []⟩ rootKey = false := rfl
example : (DirectoryCache.needs_rescan ⟨[(rootKey, 5)], []⟩ rootKey 5) = false := by decide

end SyModel.Props.GenEngineCache
