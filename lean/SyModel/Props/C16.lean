/-
  C16 — Filters select exactly the documented set.
  Helper lemmas live in `SyModel/Lemmas/Filter*.lean`, the declarative
  vocabulary (`Matches`, `WF`, `ParentsFirst`, `keptSpec`, …) in `SyModel/Filter/Spec.lean`.

  Reading of the property, clause by clause:
    * "first matching rule … includes it or no rule matches"        → `first_match_wins`, `default_include`
    * "--filter rules in the order given, then --include, then --exclude" → `rule_order`, `rule_order_cli`
    * "none of its ancestor directories is excluded", "size within bounds" → `scanFilter_spec` (+ `scanFilter_exact`,
                                                                         `scanFilter_perm`, `size_bounds`)
    * "patterns without '/' match the base name"                    → `rule_basename`
    * "patterns ending in '/' match directories together with their whole subtree"
                                                                    → `rule_dironly_subtree`, `rule_dironly_subtree_closed_partial`;
        FALSE for the bare `*/` (README-documented "directories only"): `rule_star_slash`,
        `rule_dironly_subtree_closed_counterexample_star_slash`
    * "entries that are filtered out are never created or updated"  → `scanFilter_sublist`, `transferSet_partial`
        (directory sources: nothing outside the kept list reaches the planner; the transfer side is the engine
        model's, checked at binary level by the harness);
        single-file sources: `transferSet_single_file`
    * glob semantics under all of it                                → `glob_matches_iff`

  The engine leg (Props/C16Engine, `filtered_never_transferred`) is about `Engine.scanFilter` (a per-entry `excluded` flag,
  Engine/Model.lean), a definition of its own; no Lean statement relates it to `Filter.scanFilter` of this file: that link
  is the harness's.
-/
import SyModel.Lemmas.FilterScan
import SyModel.Generated.Consts
namespace SyModel.Props.C16
open SyModel SyModel.Filter

/-! ### side conditions on what the translator reads from the Rust source on this run -/

/-- the rule sources appear in src/main.rs in the order listed in `ruleSourceOrder`, by name (that `buildRules` consumes
    them in this order is read off its definition: nothing in Lean ties the list to it) -/
theorem consts_ok_rule_order : Generated.FILTER_RULE_ORDER = ruleSourceOrder := by decide

/-- … and each step calls what the model assumes: `--filter` → `add_rule`, `--include` →
    `add_include` (action `Include`), `--exclude` → `add_exclude` (action `Exclude`);
    `should_include` answers `action == Include` on the first match and `true` when nothing matches. -/
theorem consts_ok_filter_calls :
    Generated.FILTER_LOOP_CALL = "add_rule" ∧ Generated.INCLUDE_LOOP_CALL = "add_include" ∧
    Generated.EXCLUDE_LOOP_CALL = "add_exclude" ∧ Generated.ADD_INCLUDE_ACTION = "Include" ∧
    Generated.ADD_EXCLUDE_ACTION = "Exclude" ∧ Generated.FILTER_FIRST_MATCH_RETURN = "Include" ∧
    Generated.FILTER_NO_MATCH_RESULT = "true" := by decide

/-- `Pattern::new` only produces token lists in which every `**` is a whole path component. -/
theorem parse_wf (p : List Char) (toks : List Token) (h : parse p = .ok toks) : WF toks :=
  parse_wf' h

/-- The backtracking matcher of the `glob` crate — including its early
    `EntirePatternDoesntMatch` exit — is sound and complete for the declarative relation
    `Matches` on every well-formed token list and every string … -/
theorem glob_matches_iff_wf (toks : List Token) (s : List Char) (h : WF toks) :
    globMatch toks s = true ↔ Matches toks s :=
  beq_iff_eq.trans (matchesFrom_spec toks true h s).1

/-- … hence for every pattern `Pattern::new` accepts. -/
theorem glob_matches_iff (p : List Char) (toks : List Token) (s : List Char)
    (h : parse p = .ok toks) : globMatch toks s = true ↔ Matches toks s :=
  glob_matches_iff_wf toks s (parse_wf' h)

/-- The well-formedness hypothesis is needed: on `[*, **, b]` (which `Pattern::new` never builds —
    `***` and `x**` are errors) the early exit loses the match of `"ab"`. -/
theorem glob_matches_iff_needs_wf :
    Matches [.anySeq, .anyRecSeq, .char 'b'] ['a', 'b'] ∧
    globMatch [.anySeq, .anyRecSeq, .char 'b'] ['a', 'b'] = false ∧
    ¬ WF [.anySeq, .anyRecSeq, .char 'b'] := by
  refine ⟨?_, by decide, by decide⟩
  exact Matches.seq ['a'] (Matches.recEmpty (Matches.one (by decide) Matches.nil))

/-- The fuel of the parser model is never exhausted (its `0` branch answers `wildcards 0`). -/
theorem parse_never_out_of_fuel (p : List Char) : parse p ≠ .error (.wildcards 0) := by
  intro h; have := parse_wildcards_pos h; omega

private theorem getLast?_ne_of_not_contains {l : List Char} {c : Char} (h : l.contains c = false) :
    (l.getLast? == some c) = false := by
  cases hl : l.getLast? with
  | none => rfl
  | some x =>
    refine beq_eq_false_iff_ne.mpr fun e => ?_
    rw [List.contains_eq_mem, decide_eq_false_iff_not] at h
    exact h (Option.some.inj e ▸ List.mem_of_getLast? hl)

/-- A pattern without `/` matches the base name: the rule matches an entry iff the glob matches
    the entry's last path component (whatever the directories above it are called, file or
    directory alike). -/
theorem rule_basename (incl : Bool) (pat : List Char) (r : Rule) (p : RelPath) (d : Bool)
    (hnew : Rule.new incl pat = .ok r) (hpat : pat.contains '/' = false) :
    r.matches p d = true ↔ ∃ b, p.getLast? = some b ∧ Matches r.toks b := by
  obtain ⟨hdo, _, hhs⟩ := Rule.new_plain hnew (getLast?_ne_of_not_contains hpat)
  rw [Rule.matches_basename r p d (hhs.trans hpat) hdo]
  unfold matchesBase fileName
  cases hb : p.getLast? with
  | none => simp
  | some b =>
    simp only [Option.some.injEq, exists_eq_left']
    exact glob_matches_iff_wf r.toks b (Rule.new_wf hnew)

/-- A pattern that contains `/` and does not end in `/` is matched against the full relative
    path. -/
theorem rule_fullpath (incl : Bool) (pat : List Char) (r : Rule) (p : RelPath) (d : Bool)
    (hnew : Rule.new incl pat = .ok r) (hpat : pat.contains '/' = true)
    (hend : pat.getLast? ≠ some '/') :
    r.matches p d = true ↔ Matches r.toks (pathStr p) := by
  obtain ⟨hdo, _, hhs⟩ := Rule.new_plain hnew (beq_eq_false_iff_ne.mpr hend)
  rw [Rule.matches_fullpath r p d (hhs.trans hpat) hdo]
  exact glob_matches_iff_wf r.toks _ (Rule.new_wf hnew)

/-- A pattern ending in `/` (other than the bare `*/`) matches directories together with their
    whole subtree: an entry matches iff some directory on its path — the entry itself if it is a
    directory, or one of its proper ancestors — is matched by the pattern (by base name, or by
    full path when the pattern contains another `/`). -/
theorem rule_dironly_subtree (incl : Bool) (pat : List Char) (r : Rule) (p : RelPath) (d : Bool)
    (hnew : Rule.new incl pat = .ok r) (hend : pat.getLast? = some '/')
    (hstar : trimEndSlash pat ≠ ['*']) (hp : CleanPath p) (hne : p ≠ []) :
    r.matches p d = true ↔
      ∃ k, 0 < k ∧ k ≤ p.length ∧ (k = p.length → d = true) ∧ r.matchesDirPath (p.take k) = true := by
  obtain ⟨hdo, hg⟩ := Rule.new_dir hnew hend
  exact Rule.matches_dironly r p d hdo (hg ▸ hstar) hp hne

/-- … hence closed under descending: if the rule matches the directory `q`, it matches every
    entry below `q` (and `q` itself as a directory).  PARTIAL: not for the bare `*/`. -/
theorem rule_dironly_subtree_closed_partial (incl : Bool) (pat : List Char) (r : Rule)
    (q p : RelPath) (d : Bool)
    (hnew : Rule.new incl pat = .ok r) (hend : pat.getLast? = some '/')
    (hstar : trimEndSlash pat ≠ ['*']) (hp : CleanPath p) (hq : q ≠ [])
    (hpre : q <+: p) (hself : q = p → d = true)
    (hm : r.matches q true = true) : r.matches p d = true := by
  have hne : p ≠ [] := by
    intro e; subst e; exact hq (List.prefix_nil.mp hpre)
  have hcq : CleanPath q := fun n hn => hp n (hpre.subset hn)
  obtain ⟨k, hk0, hkl, _, hmk⟩ :=
    (rule_dironly_subtree incl pat r q true hnew hend hstar hcq hq).mp hm
  have hlen : q.length ≤ p.length := hpre.length_le
  have htake : p.take k = q.take k := by
    obtain ⟨t, rfl⟩ := hpre
    rw [List.take_append_of_le_length hkl]
  refine (rule_dironly_subtree incl pat r p d hnew hend hstar hp hne).mpr
    ⟨k, hk0, by omega, ?_, by rw [htake]; exact hmk⟩
  intro hkp
  apply hself
  have : q.length = p.length := by omega
  exact hpre.eq_of_length this

/-- The bare `*/` (README: "`+ */` … only .rs files in all directories", "`*/` to include all
    directories") matches every directory and nothing else. -/
theorem rule_star_slash (incl : Bool) (pat : List Char) (r : Rule) (p : RelPath) (d : Bool)
    (hnew : Rule.new incl pat = .ok r) (hend : pat.getLast? = some '/')
    (hstar : trimEndSlash pat = ['*']) :
    r.matches p d = (d && !p.isEmpty) := by
  obtain ⟨_, _, _, _, hhs, hparse⟩ := Rule.new_ok hnew
  obtain ⟨hdo, hg⟩ := Rule.new_dir hnew hend
  rw [hstar] at hg
  have hhs' : r.hasSlash = false := by rw [hhs, hg]; decide
  have htoks : r.toks = [.anySeq] := by
    rw [hg] at hparse
    exact (Except.ok.inj hparse).symm
  rw [Rule.matches_star_slash r p d hhs' hdo hg, htoks]
  congr 1
  unfold matchesBase fileName
  cases p with
  | nil => rfl
  | cons a t =>
    rw [List.getLast?_eq_some_getLast (List.cons_ne_nil a t)]
    exact (glob_matches_iff_wf _ _ (by decide)).mpr (List.append_nil ((a :: t).getLast _) ▸ Matches.seq _ Matches.nil)

/-- The rule compiled from `*/`. -/
def starSlashRule : Rule :=
  { isInclude := true, patternStr := ['*', '/'], glob := ['*'], toks := [.anySeq],
    hasSlash := false, dirOnly := true }

/-- COUNTEREXAMPLE to "patterns ending in '/' match directories together with their whole
    subtree": `*/` matches the directory `d` but not the file `d/x` below it. With
    `--filter='+ */' --filter='- *'` the real binary creates the directories and transfers no
    file (documented in README.md as the intended behaviour). -/
theorem rule_dironly_subtree_closed_counterexample_star_slash :
    Rule.new true ['*', '/'] = .ok starSlashRule ∧
    starSlashRule.matches [['d']] true = true ∧
    starSlashRule.matches [['d'], ['x']] false = false ∧
    shouldInclude [starSlashRule, { starSlashRule with isInclude := false, patternStr := ['*'], dirOnly := false }]
      [['d'], ['x']] false = false := by
  refine ⟨rfl, by decide, by decide, by decide⟩

/-- `should_include` is the action of the first rule that matches; with no matching rule the
    entry is included. -/
theorem first_match_wins (rs : List Rule) (p : RelPath) (d : Bool) :
    shouldInclude rs p d =
      match rs.find? (fun r => r.matches p d) with
      | some r => r.isInclude
      | none => true := by
  cases rs with
  | nil => rfl
  | cons r rest => exact shouldIncludeLoop_eq p d (r :: rest)

theorem default_include (rs : List Rule) (p : RelPath) (d : Bool)
    (h : ∀ r ∈ rs, r.matches p d = false) : shouldInclude rs p d = true := by
  rw [first_match_wins]
  have : rs.find? (fun r => r.matches p d) = none := by
    rw [List.find?_eq_none]; intro r hr; simp [h r hr]
  rw [this]

/-- The rule list the process builds (src/main.rs:210-334), as (action, pattern text) keys:
    `--filter` rules in the order given (blank / comment rules contribute nothing), then the
    `--include` patterns, then the `--exclude` patterns, then the lines of `--include-from`, of
    `--exclude-from`, of every template (up to its first bad line) and of `.syignore` (likewise).
    Every rule is `FilterRule::new` of its own key. -/
theorem rule_order (c : RuleSources) (rs : List Rule) (h : buildRules c = .ok rs) :
    rs.map Rule.key =
      c.filters.flatMap specKey ++ c.includes.map (fun p => (true, p)) ++
      c.excludes.map (fun p => (false, p)) ++
      (c.includeFrom.getD []).flatMap (patLineKey true) ++
      (c.excludeFrom.getD []).flatMap (patLineKey false) ++
      c.templates.flatMap (fun ls => (ls.takeWhile lineOk).flatMap specKey) ++
      ((c.syignore.getD []).takeWhile lineOk).flatMap specKey
    ∧ ∀ r ∈ rs, Rule.new r.isInclude r.patternStr = .ok r := by
  unfold buildRules at h
  split at h
  · cases h
  rename_i r1 h1
  split at h
  · cases h
  rename_i r2 h2
  split at h
  · cases h
  rename_i r3 h3
  split at h
  · cases h
  rename_i r4 h4
  split at h
  · cases h
  rename_i r5 h5
  have e7 : Extends (c.templates.foldl (fun rs ls => addAllLenient addRule rs ls) r5) rs
      (((c.syignore.getD []).takeWhile lineOk).flatMap specKey) := by
    cases hs : c.syignore with
    | none =>
      rw [hs] at h
      cases h
      exact Extends.refl _
    | some ls =>
      rw [hs] at h
      cases h
      exact addAllLenient_extends ls _
  -- the seven stages, in the order of `buildRules`
  have e := (((((addAll_extends addRule specKey (fun _ _ _ => addRule_extends) _ _ _ h1).trans
    (addAll_extends _ (fun p => [(true, p)]) (fun _ _ _ => addPattern_extends) _ _ _ h2)).trans
    (addAll_extends _ (fun p => [(false, p)]) (fun _ _ _ => addPattern_extends) _ _ _ h3)).trans
    (addAllOpt_extends _ (patLineKey true) (fun _ _ _ => addPatternLine_extends) _ _ _ h4)).trans
    (addAllOpt_extends _ (patLineKey false) (fun _ _ _ => addPatternLine_extends) _ _ _ h5)).trans
    (foldl_lenient_extends c.templates r5) |>.trans e7
  rw [← List.map_eq_flatMap, ← List.map_eq_flatMap] at e
  exact ⟨e.1, e.2 nofun⟩

/-- … for the three repeatable flags alone: the property's sentence verbatim. -/
theorem rule_order_cli (f i x : List (List Char)) (rs : List Rule)
    (h : buildRules { filters := f, includes := i, excludes := x } = .ok rs) :
    rs.map Rule.key =
      f.flatMap specKey ++ i.map (fun p => (true, p)) ++ x.map (fun p => (false, p)) := by
  have := (rule_order _ rs h).1
  simpa using this

/-- `--min-size` / `--max-size`: an entry passes iff its size is within the inclusive bounds. -/
theorem size_bounds (cfg : FilterCfg) (size : Nat) :
    filterBySize cfg size = false ↔
      (∀ mn, cfg.minSize = some mn → mn ≤ size) ∧ (∀ mx, cfg.maxSize = some mx → size ≤ mx) := by
  unfold filterBySize
  cases cfg.minSize <;> cases cfg.maxSize <;> simp <;> omega

/-- What the code does, exactly, for ANY scan order: an entry is kept iff the rules include it,
    no directory *listed before it* that is a path prefix of it is excluded by the rules, and
    (unless it is a directory) its size is within the bounds. -/
theorem scanFilter_exact (cfg : FilterCfg) (scan : List Entry) (e : Entry) :
    e ∈ scanFilter cfg scan ↔
      ∃ l1 l2, scan = l1 ++ e :: l2 ∧
        shouldInclude cfg.rules e.rel e.isDir = true ∧
        (∀ a ∈ l1, a.isDir = true → a.rel <+: e.rel → shouldInclude cfg.rules a.rel a.isDir = true) ∧
        (e.isDir = true ∨ filterBySize cfg e.size = false) := by
  rw [scanFilter_eq_specList, mem_specList]
  simp only [List.nil_append, keptSpec, Bool.and_eq_true, Bool.or_eq_true, Bool.not_eq_true', ancOk_iff,
    and_assoc, and_left_comm]

/-- THE FILTER, under the scan-order assumption `ParentsFirst` (what the walker guarantees):
    an entry is kept iff it is in the scan, the rules include it, no directory of the scan that
    is a path prefix of it (its ancestors — and itself) is excluded by the rules, and, unless it
    is a directory, its size is within `--min-size` / `--max-size`. -/
theorem scanFilter_spec (cfg : FilterCfg) (scan : List Entry) (e : Entry) (h : ParentsFirst scan) :
    e ∈ scanFilter cfg scan ↔
      e ∈ scan ∧
      shouldInclude cfg.rules e.rel e.isDir = true ∧
      (∀ a ∈ scan, a.isDir = true → a.rel <+: e.rel → shouldInclude cfg.rules a.rel a.isDir = true) ∧
      (e.isDir = true ∨ filterBySize cfg e.size = false) := by
  rw [scanFilter_exact]
  constructor
  · rintro ⟨l1, l2, hs, hi, hanc, hsz⟩
    refine ⟨by rw [hs]; simp, hi, ?_, hsz⟩
    intro a ha hd hp
    rw [hs] at ha
    rcases List.mem_append.mp ha with ha | ha
    · exact hanc a ha hd hp
    · rcases List.mem_cons.mp ha with rfl | ha
      · exact hi
      · exact absurd hp (h l1 e l2 hs a ha)
  · rintro ⟨hmem, hi, hanc, hsz⟩
    obtain ⟨l1, l2, hs⟩ := List.append_of_mem hmem
    refine ⟨l1, l2, hs, hi, ?_, hsz⟩
    intro a ha hd hp
    exact hanc a (by rw [hs]; exact List.mem_append_left _ ha) hd hp

/-- Consequently the outcome does not depend on the order in which the walker yields siblings:
    two parents-first listings of the same entries keep the same entries. -/
theorem scanFilter_perm (cfg : FilterCfg) (s1 s2 : List Entry) (e : Entry)
    (h1 : ParentsFirst s1) (h2 : ParentsFirst s2) (hp : s1.Perm s2) :
    e ∈ scanFilter cfg s1 ↔ e ∈ scanFilter cfg s2 := by
  rw [scanFilter_spec cfg s1 e h1, scanFilter_spec cfg s2 e h2]
  constructor
  · rintro ⟨hm, hi, ha, hs⟩
    exact ⟨hp.mem_iff.mp hm, hi, fun a ham => ha a (hp.mem_iff.mpr ham), hs⟩
  · rintro ⟨hm, hi, ha, hs⟩
    exact ⟨hp.mem_iff.mpr hm, hi, fun a ham => ha a (hp.mem_iff.mp ham), hs⟩

/-- Nothing is invented or reordered: the kept list is a sublist of the scan, so an entry that is
    filtered out never reaches planning or transfer. -/
theorem scanFilter_sublist (cfg : FilterCfg) (scan : List Entry) :
    (scanFilter cfg scan).Sublist scan := by
  rw [scanFilter_eq_specList]; exact specList_sublist cfg scan []

/-- `ParentsFirst` cannot be dropped: listed *before* its excluded parent a child is kept
    (`--exclude d` matches the directory `d` only, its content is dropped through `excluded_dirs`;
    the code relies on the walker's order; `scanFilter_exact` is what holds in general). -/
theorem scanFilter_spec_needs_parents_first :
    let excl : Rule := { isInclude := false, patternStr := ['d'], glob := ['d'],
                         toks := [.char 'd'], hasSlash := false, dirOnly := false }
    let cfg : FilterCfg := { rules := [excl] }
    let child : Entry := { rel := [['d'], ['x']], isDir := false, size := 1 }
    let parent : Entry := { rel := [['d']], isDir := true, size := 0 }
    Rule.new false ['d'] = .ok excl ∧
    child ∈ scanFilter cfg [child, parent] ∧ child ∉ scanFilter cfg [parent, child] ∧
    ¬ ParentsFirst [child, parent] := by
  refine ⟨rfl, by decide, by decide, by decide⟩

/-- PARTIAL (`filtered_never_transferred` for directory sources): what reaches the transfer step
    of `SyncEngine::sync` is exactly the set the property describes. -/
theorem transferSet_partial (cfg : FilterCfg) (scan : List Entry) (e : Entry) (h : ParentsFirst scan) :
    e ∈ transferSet cfg (.dir scan) ↔
      e ∈ scan ∧
      shouldInclude cfg.rules e.rel e.isDir = true ∧
      (∀ a ∈ scan, a.isDir = true → a.rel <+: e.rel → shouldInclude cfg.rules a.rel a.isDir = true) ∧
      (e.isDir = true ∨ filterBySize cfg e.size = false) :=
  scanFilter_spec cfg scan e h

/-- Single-file sources (`sync_single_file`): the file is handed to the transfer step iff the rule
    list includes its name and its size is within the bounds. -/
theorem transferSet_single_file (cfg : FilterCfg) (e x : Entry) :
    x ∈ transferSet cfg (.singleFile e) ↔
      x = e ∧ shouldInclude cfg.rules e.rel false = true ∧ filterBySize cfg e.size = false := by
  unfold transferSet
  cases h1 : shouldInclude cfg.rules e.rel false <;> cases h2 : filterBySize cfg e.size <;> simp_all

/-- on a single-file source the filter applies too: `sy s/a.log d/a.log --exclude '*.log'` and
    `--max-size 2` (6-byte file) transfer nothing. -/
theorem transferSet_single_file_witness :
    let excl : Rule := { isInclude := false, patternStr := ['*', '.', 'l', 'o', 'g'],
                         glob := ['*', '.', 'l', 'o', 'g'],
                         toks := [.anySeq, .char '.', .char 'l', .char 'o', .char 'g'],
                         hasSlash := false, dirOnly := false }
    let e : Entry := { rel := [['a', '.', 'l', 'o', 'g']], isDir := false, size := 6 }
    Rule.new false ['*', '.', 'l', 'o', 'g'] = .ok excl ∧
    transferSet { rules := [excl] } (.singleFile e) = [] ∧
    transferSet { rules := [], maxSize := some 2 } (.singleFile e) = [] ∧
    transferSet { rules := [excl], maxSize := some 2 }
      (.singleFile { e with rel := [['a', '.', 't', 'x', 't']], size := 2 }) =
        [{ e with rel := [['a', '.', 't', 'x', 't']], size := 2 }] := by
  refine ⟨by decide, by decide, by decide, by decide⟩

/-- C16, composed: the rule list the process builds is `--filter` (in order), `--include`,
    `--exclude`, …; and with that list, under `ParentsFirst`, an entry of the scan is kept (handed
    to planning/transfer) iff the first rule that matches it is an include rule or no rule
    matches, the same holds for every directory of the scan above it, and its size lies within
    the bounds (directories are exempt). -/
theorem C16 (c : RuleSources) (rs : List Rule) (mn mx : Option Nat) (scan : List Entry)
    (hb : buildRules c = .ok rs) (hpf : ParentsFirst scan) :
    (∃ tail, rs.map Rule.key =
      c.filters.flatMap specKey ++ c.includes.map (fun p => (true, p)) ++
      c.excludes.map (fun p => (false, p)) ++ tail) ∧
    ∀ e, e ∈ scanFilter { rules := rs, minSize := mn, maxSize := mx } scan ↔
      e ∈ scan ∧
      (∀ a ∈ scan, a.isDir = true → a.rel <+: e.rel →
        (match rs.find? (fun r => r.matches a.rel a.isDir) with
         | some r => r.isInclude
         | none => true) = true) ∧
      (match rs.find? (fun r => r.matches e.rel e.isDir) with
       | some r => r.isInclude
       | none => true) = true ∧
      (e.isDir = true ∨
        ((∀ m, mn = some m → m ≤ e.size) ∧ (∀ m, mx = some m → e.size ≤ m))) := by
  refine ⟨⟨_, by rw [(rule_order c rs hb).1]; simp only [List.append_assoc]; rfl⟩, fun e => ?_⟩
  rw [scanFilter_spec _ scan e hpf]
  simp only [first_match_wins, size_bounds]
  constructor
  · rintro ⟨h1, h2, h3, h4⟩; exact ⟨h1, h3, h2, h4⟩
  · rintro ⟨h1, h2, h3, h4⟩; exact ⟨h1, h3, h2, h4⟩

/-! ### non-vacuity: every hypothesis above is satisfiable by a concrete, non-trivial instance -/

/-- `parse p = .ok toks` (hypothesis of `glob_matches_iff`): `a/**/*.b?[!x]` parses: `**`, `*`, `?` and
    a negated class. -/
example : parse ['a', '/', '*', '*', '/', '*', '.', 'b', '?', '[', '!', 'x', ']'] =
    .ok [.char 'a', .char '/', .anyRecSeq, .anySeq, .char '.', .char 'b', .anyChar,
         .anyExcept [.single 'x']] := by decide

/-- `WF toks`, and the matcher answers `true` on a string that needs backtracking. -/
example : WF [.char 'a', .char '/', .anyRecSeq, .anySeq, .char '.', .char 'b'] ∧
    globMatch [.char 'a', .char '/', .anyRecSeq, .anySeq, .char '.', .char 'b'] ['a', '/', 'x', '/', 'y', '.', 'a', '.', 'b'] = true := by
  refine ⟨by decide, by decide⟩

/-- `Rule.new … = .ok r` with `pat.contains '/' = false` (`rule_basename`). -/
example : ∃ r, Rule.new false ['*', '.', 'l', 'o', 'g'] = .ok r ∧ ['*', '.', 'l', 'o', 'g'].contains '/' = false ∧
    r.matches [['d'], ['a', '.', 'l', 'o', 'g']] false = true := ⟨_, rfl, by decide, by decide⟩

/-- hypotheses of `rule_fullpath`. -/
example : ∃ r, Rule.new false ['d', '/', '*', '.', 'l', 'o', 'g'] = .ok r ∧ ['d', '/', '*', '.', 'l', 'o', 'g'].contains '/' = true ∧
    ['d', '/', '*', '.', 'l', 'o', 'g'].getLast? ≠ some '/' ∧
    r.matches [['d'], ['a', '.', 'l', 'o', 'g']] false = true := ⟨_, rfl, by decide, by decide, by decide⟩

/-- hypotheses of `rule_dironly_subtree` / `rule_dironly_subtree_closed_partial`: `build/` on
    `build` (directory) and `build/sub/x.o` (file below it). -/
example : ∃ r, Rule.new false ['b', 'u', 'i', 'l', 'd', '/'] = .ok r ∧ ['b', 'u', 'i', 'l', 'd', '/'].getLast? = some '/' ∧
    trimEndSlash ['b', 'u', 'i', 'l', 'd', '/'] ≠ ['*'] ∧
    CleanPath [['b', 'u', 'i', 'l', 'd'], ['s', 'u', 'b'], ['x', '.', 'o']] ∧
    [['b', 'u', 'i', 'l', 'd']] <+: [['b', 'u', 'i', 'l', 'd'], ['s', 'u', 'b'], ['x', '.', 'o']] ∧
    r.matches [['b', 'u', 'i', 'l', 'd']] true = true ∧
    r.matches [['b', 'u', 'i', 'l', 'd'], ['s', 'u', 'b'], ['x', '.', 'o']] false = true :=
  ⟨_, rfl, by decide, by decide, by decide, by decide, by decide, by decide⟩

/-- hypotheses of `rule_star_slash`. -/
example : Rule.new true ['*', '/'] = .ok starSlashRule ∧ ['*', '/'].getLast? = some '/' ∧
    trimEndSlash ['*', '/'] = ['*'] := ⟨rfl, by decide, by decide⟩

/-- `buildRules c = .ok rs` (`rule_order`, `C16`) with all three flags used; the resulting order is
    filter, include, exclude. -/
example : ∃ rs, buildRules { filters := [['+', ' ', 'a'], ['#', ' ', 'c'], ['-', ' ', 'b', '/']],
                             includes := [['*', '.', 'r', 's']], excludes := [['*']] } = .ok rs ∧
    rs.map Rule.key = [(true, ['a']), (false, ['b', '/']), (true, ['*', '.', 'r', 's']), (false, ['*'])] :=
  ⟨_, rfl, by decide⟩

/-- `ParentsFirst scan` (`scanFilter_spec`, `scanFilter_perm`, `C16`) on a scan with a directory,
    entries below it and a sibling — in two different sibling orders. -/
example :
    let d : Entry := { rel := [['d']], isDir := true, size := 0 }
    let dx : Entry := { rel := [['d'], ['x']], isDir := false, size := 3 }
    let a : Entry := { rel := [['a']], isDir := false, size := 5 }
    ParentsFirst [d, dx, a] ∧ ParentsFirst [a, d, dx] ∧ [d, dx, a].Perm [a, d, dx] := by
  refine ⟨by decide, by decide, by decide⟩

/-- `default_include`'s hypothesis: a non-empty rule list none of whose rules matches. -/
example : ∃ r, Rule.new false ['*', '.', 'l', 'o', 'g'] = .ok r ∧ (∀ x ∈ [r], x.matches [['a']] false = false) ∧
    shouldInclude [r] [['a']] false = true := ⟨_, rfl, by decide, by decide⟩

end SyModel.Props.C16
