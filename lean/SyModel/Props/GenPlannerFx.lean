/-
  GenPlannerFx — the translated planner of one-way sync, as an EFFECT unit
  (`SyModel/Generated/Code/PlannerFx.lean`, regenerated on every run from src/sync/strategy.rs:
  `StrategyPlanner::{plan_file_async, compute_checksums_local, needs_update, mtime_matches, plan_deletions}` and
  src/sync/mod.rs `SyncEngine::plan_symlink`),
  computes the handwritten engine model's `planEntry` / `planFileAct` / `planEntryDb` / `planDeletions`
  (`Engine/Model.lean`, `Engine/Caches.lean`) that C01, C03, C06, C18 are about.

  The world, the instance `extOf : Ext PlanWorld` (all externs are READ-ONLY probes of a `PlanWorld`: destination tree
  as the model's `Map DNode` under a root text, what links resolve to, what paths outside the destination hold, the
  checksum database as the model's `Db`) and the abstraction maps (`absAct`, `absEntry`, `absMeta`, `absTask`,
  `modeOf`, `compsOf`/`textOf`) are defined and documented in `Lemmas/GenPlannerFx.lean`.  `runM x w` is the pair
  (result, world afterwards) of running `x : Rs.M W α` from `w`.

  Hypotheses used below (satisfiability examples at the end for `FromCli`, `CleanKeys`, `NotLinkAt`, `hsrc` and the
  symlink entries; the row hypotheses `hpath`, `hmiss`, `hmissS`/`hmissD` and `hto` have none):
    * the planner is called with the world's root: `dest_root = w.root` (the world IS the destination seen from
      that root);
    * `FromCli p` — the planner value was built by `with_comparison_flags`/`new` (tolerance 1 s; a `Fast` verifier
      exactly with `--checksum`); the fields are private, the crate builds no other value;
    * `NotLinkAt w rel` — no symlink node at the probed destination path.  The probes follow links; the model treats
      a symlink at a FILE's path as "never up to date", which the engine implements OUTSIDE this unit
      (src/sync/mod.rs:542-551) — `plan_file_async_file_over_link_fixup` proves that fix-up applied to the translated
      planner's answer gives the model's answer, for every link target.  For a DIRECTORY entry over a link the engine's
      planning loop overrides the answer with Update (fix 862af11, again OUTSIDE this unit):
      `plan_file_async_dir_override_eq_model` states `planEntry` = override ∘ `plan_file_async` for EVERY destination
      node, `plan_file_async_dir_over_link_probes_through` what `plan_file_async` alone still does;
    * `hsrc` — with `--checksum` the source file is a readable regular file (it was just scanned; otherwise see
      `plan_file_async_unreadable_source_updates`);
    * `CleanKeys w` — the destination keys are paths a walk can produce (non-empty components without `/`);
    * for `plan_symlink`: `file.is_symlink = true` (the caller's guard, src/sync/mod.rs:530), in preserve mode
      `symlink_target = Some(text)` (the scanner read the link; otherwise `plan_symlink_preserve_no_target`), in follow
      mode `file.is_dir = false` (the lstat kind of a link) and, with a database, no matching row on either side
      (`planEntryDb` does not consult the database for link entries).  `absLinkEntry` maps the entry to
      `.symlink text tgt` with `tgt` = what `std::fs::metadata(file.path)` finds (xattrs/inode of the target are
      not carried by the generated entry and are mapped as `absMeta` maps them);
    * for `planEntryDb`: `src.path = srcRoot.join(relative_path)` (the scanner's invariant) and `hmiss`: the
      database has no matching row for the DESTINATION path.  `planEntryDb` does not model the destination-side lookup
      of `compute_checksums_local`; `plan_file_async_db_dest_row_differs` is the concrete disagreement.
-/
import SyModel.Lemmas.GenPlannerFx
import SyModel.Props.C03
set_option linter.unusedVariables false
namespace SyModel.Props.GenPlannerFx
open SyModel SyModel.Engine SyModel.Generated SyModel.Generated.PlannerFx SyModel.Lemmas.GenPlannerFx

/-- BRIDGE: `mtime_matches` of a CLI-built planner is the model's `mtimeMatches`. -/
theorem mtime_matches_eq_model (p : StrategyPlanner) (hp : FromCli p) (a b : Rs.SystemTime) :
    p.mtime_matches a b = mtimeMatches a b := mtime_matches_eq_model' p hp.tol a b

/-- BRIDGE: `needs_update` of a CLI-built planner is the model's `needsUpdate` at the mode its flags stand for. -/
theorem needs_update_eq_model (p : StrategyPlanner) (hp : FromCli p) (src : FileEntry) (dst : FileInfo) :
    p.needs_update src dst = needsUpdate (modeOf p) src.size src.modified dst.size dst.modified :=
  needs_update_eq_model' p hp.tol src dst

/-- `plan_file_async` never returns `Err` (every probe failure is turned into a decision; the `?` on
    `compute_checksums_local` never fires because that function never fails). -/
theorem plan_file_async_never_fails (p : StrategyPlanner) (src : FileEntry) (w : PlanWorld) (t : Rs.Opaque)
    (db : Option Rs.Opaque) : ∃ task, (runM (p.plan_file_async extOf src w.root t db) w).1 = .ok task :=
  ⟨_, by rw [plan_file_async_run]⟩

/-- `plan_file_async` leaves the world as it found it. -/
theorem plan_file_async_read_only (p : StrategyPlanner) (src : FileEntry) (w : PlanWorld) (t : Rs.Opaque)
    (db : Option Rs.Opaque) : (runM (p.plan_file_async extOf src w.root t db) w).2 = w := by
  rw [plan_file_async_run]

/-- the task names the entry it was planned for, and its destination path is the root joined with the entry's
    relative path; the action is never `Delete`. -/
theorem plan_file_async_task_shape (p : StrategyPlanner) (src : FileEntry) (w : PlanWorld) (t : Rs.Opaque)
    (db : Option Rs.Opaque) :
    ∃ task, runM (p.plan_file_async extOf src w.root t db) w = (.ok task, w) ∧ task.source = some src ∧
      task.dest_path = Rs.join w.root src.relative_path ∧ w.relOf task.dest_path = some (compsOf src.relative_path) ∧
      task.action ≠ .Delete := by
  refine ⟨_, plan_file_async_run p src w t db, rfl, rfl, relOf_join w _, ?_⟩
  show (planAt w p src db.isSome).1 ≠ .Delete
  rcases planAt_file_act w p src db.isSome with h | h | h <;> rw [h] <;> decide

/-- BRIDGE (directory entries): Skip iff the destination has a directory there, Create otherwise — also over a regular
    file (the creation then fails) — exactly the model's `planEntry … (.dir)`; no checksum is computed. -/
theorem plan_file_async_dir_eq_model (p : StrategyPlanner) (src : FileEntry) (w : PlanWorld) (t : Rs.Opaque)
    (db : Option Rs.Opaque) (hd : src.is_dir = true) (hnl : NotLinkAt w (compsOf src.relative_path)) (cfg : Cfg) :
    ∃ task, runM (p.plan_file_async extOf src w.root t db) w = (.ok task, w) ∧
      absTask w task = planEntry cfg w.dst (absEntry w src) ∧
      task.source_checksum = none ∧ task.dest_checksum = none := by
  refine ⟨_, plan_file_async_run p src w t db, ?_, ?_, ?_⟩ <;>
    simp only [absTask, planEntry, absEntry, hd, ↓reduceIte, relOf_join, Option.getD_some, planAt, stat_join,
      PlanWorld.resolve]
  all_goals
    cases hg : w.dst.get? (compsOf src.relative_path) with
    | none => rfl
    | some n =>
      cases n with
      | dir => rfl
      | file d => rfl
      | symlink s => exact absurd hg (hnl s)

/-- the same as three cases: a directory there ⇔ Skip, anything else (or nothing) ⇔ Create. -/
theorem plan_file_async_dir_cases (p : StrategyPlanner) (src : FileEntry) (w : PlanWorld) (t : Rs.Opaque)
    (db : Option Rs.Opaque) (hd : src.is_dir = true) (hnl : NotLinkAt w (compsOf src.relative_path)) :
    ∃ task, runM (p.plan_file_async extOf src w.root t db) w = (.ok task, w) ∧
      (task.action = .Skip ↔ w.dst.get? (compsOf src.relative_path) = some .dir) ∧
      (task.action = .Create ↔ w.dst.get? (compsOf src.relative_path) ≠ some .dir) := by
  refine ⟨_, plan_file_async_run p src w t db, ?_, ?_⟩ <;>
    simp only [planAt, hd, stat_join, PlanWorld.resolve]
  all_goals
    cases hg : w.dst.get? (compsOf src.relative_path) with
    | none => simp
    | some n =>
      cases n with
      | dir => simp
      | file d => simp
      | symlink s => exact absurd hg (hnl s)

/-- BRIDGE (file entries, no checksum database): in every comparison mode — default / `--size-only` /
    `--ignore-times` through `needs_update`, `--checksum` through the two computed checksums — the task is the
    model's `planEntry`: absent ⇒ Create, a directory there ⇒ Update, a regular file ⇒ by the comparison. -/
theorem plan_file_async_file_eq_model (p : StrategyPlanner) (hp : FromCli p) (src : FileEntry) (w : PlanWorld)
    (t : Rs.Opaque) (hd : src.is_dir = false) (hnl : NotLinkAt w (compsOf src.relative_path))
    (hsrc : p.checksum = true → ∃ sm, w.stat src.path = .file sm)
    (cfg : Cfg) (hc : cfg.compare = modeOf p) :
    ∃ task, runM (p.plan_file_async extOf src w.root t none) w = (.ok task, w) ∧
      absTask w task = planEntry cfg w.dst (absEntry w src) := by
  refine ⟨_, plan_file_async_run p src w t none, ?_⟩
  have h := planAt_file_abs w p hp src false hd hnl (fun h => nomatch h) (fun h => nomatch h) hsrc cfg hc
  simp only [absTask, planEntry, absEntry, hd, Bool.false_eq_true, ↓reduceIte, relOf_join, Option.getD_some,
    Option.isSome_none, h]

/-- the action alone: `planFileAct cfg m (dst.get? rel)`. -/
theorem plan_file_async_file_action (p : StrategyPlanner) (hp : FromCli p) (src : FileEntry) (w : PlanWorld)
    (t : Rs.Opaque) (hd : src.is_dir = false) (hnl : NotLinkAt w (compsOf src.relative_path))
    (hsrc : p.checksum = true → ∃ sm, w.stat src.path = .file sm)
    (cfg : Cfg) (hc : cfg.compare = modeOf p) :
    ∃ task, runM (p.plan_file_async extOf src w.root t none) w = (.ok task, w) ∧
      absAct task.action = planFileAct cfg (absMeta w src) (w.dst.get? (compsOf src.relative_path)) :=
  ⟨_, plan_file_async_run p src w t none,
    planAt_file_abs w p hp src false hd hnl (fun h => nomatch h) (fun h => nomatch h) hsrc cfg hc⟩

/-- BRIDGE (file entries, checksum database open, GENERAL form): the decision is the model's `planFileAct` on the
    contents the planner SEES — for the source `seenOr … src.path` (row keyed by the scanned mtime and size, else the
    real content), for the destination `seenOr … dest_path` (row keyed by the destination's CURRENT mtime and size) —
    against what the destination path resolves to (links followed). No `NotLinkAt`, no hypothesis on the rows. -/
theorem plan_file_async_file_db_general (p : StrategyPlanner) (hp : FromCli p) (src : FileEntry) (w : PlanWorld)
    (t : Rs.Opaque) (db : Option Rs.Opaque) (hd : src.is_dir = false)
    (hsrc : p.checksum = true → ∃ sm, w.stat src.path = .file sm)
    (cfg : Cfg) (hc : cfg.compare = modeOf p) :
    ∃ task, runM (p.plan_file_async extOf src w.root t db) w = (.ok task, w) ∧
      absAct task.action =
        planFileAct cfg
          (withContent (absMeta w src)
            (seenOr w db.isSome src.path src.modified src.size (w.contentAt src.path)))
          (seenNode w db.isSome (Rs.join w.root src.relative_path) (w.resolve (compsOf src.relative_path))) := by
  refine ⟨_, plan_file_async_run p src w t db, ?_⟩
  have h := planAt_file_eq_planFileAct w p hp src db.isSome hd hsrc cfg hc
  rw [stat_join] at h
  exact h

/-- BRIDGE (file entries, checksum database open): when the entry's path is the source root joined with its relative
    path (scanner invariant) and the database has no matching row for the DESTINATION path, the task is the model's
    `planEntryDb` — hit or miss of the source lookup (`seenContent`). -/
theorem plan_file_async_file_db_eq_model (p : StrategyPlanner) (hp : FromCli p) (src : FileEntry) (w : PlanWorld)
    (t o : Rs.Opaque) (hd : src.is_dir = false) (hnl : NotLinkAt w (compsOf src.relative_path))
    (hsrc : p.checksum = true → ∃ sm, w.stat src.path = .file sm)
    (hpath : src.path = Rs.join w.srcRoot src.relative_path)
    (hmiss : ∀ d, w.dst.get? (compsOf src.relative_path) = some (.file d) →
      w.dbSeen (Rs.join w.root src.relative_path) d.mtime d.size ['f', 'a', 's', 't'] = none)
    (cfg : Cfg) (hc : cfg.compare = modeOf p) :
    ∃ task, runM (p.plan_file_async extOf src w.root t (some o)) w = (.ok task, w) ∧
      absTask w task = planEntryDb cfg w.db w.dst (absEntry w src) := by
  refine ⟨_, plan_file_async_run p src w t (some o), ?_⟩
  have h := planAt_file_eq_planFileAct w p hp src true hd hsrc cfg hc
  rw [stat_join, seenNode_resolve w true _ _ hnl fun _ => hmiss] at h
  have hseen : seenOr w true src.path src.modified src.size (w.contentAt src.path) =
      seenContent w.db (compsOf src.relative_path) (absMeta w src) := by
    have hk : w.keyOf src.path = some (compsOf src.relative_path) := by rw [hpath]; exact keyOf_join w _
    unfold seenOr seenContent PlanWorld.dbSeen
    rw [hk]
    simp only [↓reduceIte, absMeta]
    cases w.db.lookup (compsOf src.relative_path) src.modified src.size <;> rfl
  rw [hseen] at h
  simp only [absTask, planEntryDb, absEntry, hd, Bool.false_eq_true, ↓reduceIte, relOf_join, Option.getD_some,
    Option.isSome_some, h]
  rfl

/-- the two cases of the source lookup, spelled out: a HIT compares the row's checksum, a MISS the real content. -/
theorem plan_file_async_file_db_hit_miss (p : StrategyPlanner) (hp : FromCli p) (hck : p.checksum = true)
    (src : FileEntry) (w : PlanWorld) (t o : Rs.Opaque) (hd : src.is_dir = false)
    (sm : FileMeta) (hsrc : w.stat src.path = .file sm)
    (hpath : src.path = Rs.join w.srcRoot src.relative_path)
    (d : FileMeta) (hg : w.dst.get? (compsOf src.relative_path) = some (.file d))
    (hmiss : w.dbSeen (Rs.join w.root src.relative_path) d.mtime d.size ['f', 'a', 's', 't'] = none) :
    ∃ task, runM (p.plan_file_async extOf src w.root t (some o)) w = (.ok task, w) ∧
      (∀ ck, w.db.lookup (compsOf src.relative_path) src.modified src.size = some ck →
        (task.action = .Skip ↔ ck = d.content) ∧ (task.action = .Update ↔ ck ≠ d.content)) ∧
      (w.db.lookup (compsOf src.relative_path) src.modified src.size = none →
        (task.action = .Skip ↔ sm.content = d.content) ∧ (task.action = .Update ↔ sm.content ≠ d.content)) := by
  have hnl : NotLinkAt w (compsOf src.relative_path) := by intro s hs; rw [hg] at hs; cases hs
  let cfg : Cfg := ⟨false, false, false, false, false, 0, .preserve, .checksum, none, none, 0, false⟩
  have hc : cfg.compare = modeOf p := by unfold modeOf; rw [hck]; rfl
  obtain ⟨task, hr, ht⟩ := plan_file_async_file_db_eq_model p hp src w t o hd hnl (fun _ => ⟨sm, hsrc⟩) hpath
    (by intro d' hd'; rw [hg] at hd'; cases hd'; exact hmiss) cfg hc
  refine ⟨task, hr, ?_⟩
  have hact := congrArg Task.act ht
  simp only [absTask, planEntryDb, absEntry, hd, Bool.false_eq_true, ↓reduceIte, hg, planFileAct, seenContent,
    absMeta, PlanWorld.contentAt, hsrc, cfg] at hact
  constructor
  · intro ck hl
    rw [hl] at hact
    exact skip_update_iff hact
  · intro hl
    rw [hl] at hact
    exact skip_update_iff hact

/-- the engine's fix-up after planning a regular file (src/sync/mod.rs:542-551; NOT part of this unit, transcribed by
    hand): when `read_link(dest_path)` answers `Ok(Some(_))` or `Err(_)`, Skip and Create become Update.  The theorems of
    this file apply it over a symlink node, the `Ok(Some(_))` case; the translated override and its `Err(_)` case are in
    `Props/GenEnginePlan.lean` (`override1_probe_error_forces_update`). -/
def fixupOverLink : SyncAction → SyncAction
  | .Skip => .Update
  | .Create => .Update
  | a => a

/-- BRIDGE (file entry over a destination symlink): whatever the link resolves to — nothing, a directory, a file
    equal to the source or not — and in every mode, with or without database, the translated planner's answer after
    the engine's fix-up is the model's `planFileAct … (some (.symlink _)) = update`.  (`hd` is not needed by the proof: it
    names the case in which the engine applies the fix-up.) -/
theorem plan_file_async_file_over_link_fixup (p : StrategyPlanner) (src : FileEntry) (w : PlanWorld) (t : Rs.Opaque)
    (db : Option Rs.Opaque) (hd : src.is_dir = false) (text : String)
    (hl : w.dst.get? (compsOf src.relative_path) = some (.symlink text)) (cfg : Cfg) (m : FileMeta) :
    ∃ task, runM (p.plan_file_async extOf src w.root t db) w = (.ok task, w) ∧
      absAct (fixupOverLink task.action) = planFileAct cfg m (w.dst.get? (compsOf src.relative_path)) := by
  refine ⟨_, plan_file_async_run p src w t db, ?_⟩
  rw [hl]
  show absAct (fixupOverLink (planAt w p src db.isSome).1) = .update
  rcases planAt_file_act w p src db.isSome with h | h | h <;> rw [h] <;> rfl

/-- WITHOUT the fix-up the translated planner looks through the link: over a link to a file that compares equal it
    answers Skip, where the model says update — the reason the fix-up exists (fixes 0eacf0e, 90eec9e). -/
theorem plan_file_async_file_over_link_follows (p : StrategyPlanner) (hp : FromCli p) (hck : p.checksum = false)
    (src : FileEntry) (w : PlanWorld) (t : Rs.Opaque) (hd : src.is_dir = false) (text : String)
    (hl : w.dst.get? (compsOf src.relative_path) = some (.symlink text)) (d : FileMeta)
    (hto : w.through (compsOf src.relative_path) = .file d) :
    ∃ task, runM (p.plan_file_async extOf src w.root t none) w = (.ok task, w) ∧
      task.action = (if p.needs_update src ⟨d.size, d.mtime⟩ then .Update else .Skip) := by
  refine ⟨_, plan_file_async_run p src w t none, ?_⟩
  simp only [planAt, hd, stat_join, PlanWorld.resolve, hl, hto, cksumsAt, hp.ver, hck, Bool.false_eq_true,
    ↓reduceIte, decideAct]

/-- the engine's override after planning a DIRECTORY entry (src/sync/mod.rs planning loop, fix 862af11; NOT part of this
    unit, transcribed by hand): `else if file.is_dir && matches!(read_link(&task.dest_path), Ok(Some(_)))` ⇒
    `task.action = Update`.  `link` is what the `read_link` probe of the destination path answered. -/
def overrideDirOverLink (isDir : Bool) (link : Option Rs.Path) (a : SyncAction) : SyncAction :=
  if isDir && link.isSome then .Update else a

/-- the probe the override asks, on the instance: `read_link` does not follow — it answers the text of a symlink node at
    the key, `None` for anything else — and leaves the world alone -/
theorem read_link_probe (w : PlanWorld) (t : Rs.Opaque) (rel : Rs.Path) :
    runM (extOf.t_read_link t (Rs.join w.root rel)) w =
      (.ok (match w.dst.get? (compsOf rel) with | some (.symlink s) => some s.toList | _ => none), w) := by
  simp only [extOf_t_read_link, runM_probe, linkAt_join]
  cases w.dst.get? (compsOf rel) with
  | none => rfl
  | some n => cases n <;> rfl

/-- BRIDGE (directory entries, EVERY destination node — no `NotLinkAt`): the model's `planEntry` is the engine's
    override applied to what the translated `plan_file_async` answers.  `plan_file_async` itself (fix 862af11 is in the
    engine's loop, not here) probes THROUGH a link (Skip when the link resolves to a directory, Create otherwise —
    `plan_file_async_dir_over_link_probes_through`); the override turns either into Update, which is `planEntry`'s
    answer for a symlink node; for every other node the override is the identity and `plan_file_async_dir_eq_model`
    applies. -/
theorem plan_file_async_dir_override_eq_model (p : StrategyPlanner) (src : FileEntry) (w : PlanWorld) (t : Rs.Opaque)
    (db : Option Rs.Opaque) (hd : src.is_dir = true) (cfg : Cfg) :
    ∃ task, runM (p.plan_file_async extOf src w.root t db) w = (.ok task, w) ∧
      absTask w { task with action := overrideDirOverLink src.is_dir (w.linkAt task.dest_path) task.action } =
        planEntry cfg w.dst (absEntry w src) := by
  refine ⟨_, plan_file_async_run p src w t db, ?_⟩
  simp only [absTask, planEntry, absEntry, hd, ↓reduceIte, relOf_join, Option.getD_some, planAt, stat_join,
    PlanWorld.resolve, overrideDirOverLink, linkAt_join, Bool.true_and]
  cases hg : w.dst.get? (compsOf src.relative_path) with
  | none => rfl
  | some n => cases n <;> rfl

/-- the action alone: `planEntry`'s action for a directory entry is
    (override ∘ `plan_file_async`) — Update exactly over a symlink node, else Skip over a directory, else Create. -/
theorem plan_file_async_dir_override_action (p : StrategyPlanner) (src : FileEntry) (w : PlanWorld) (t : Rs.Opaque)
    (db : Option Rs.Opaque) (hd : src.is_dir = true) (cfg : Cfg) :
    ∃ task, runM (p.plan_file_async extOf src w.root t db) w = (.ok task, w) ∧
      absAct (overrideDirOverLink src.is_dir (w.linkAt task.dest_path) task.action) =
        (planEntry cfg w.dst (absEntry w src)).act ∧
      ((planEntry cfg w.dst (absEntry w src)).act = .update ↔
        ∃ s, w.dst.get? (compsOf src.relative_path) = some (.symlink s)) := by
  obtain ⟨task, h1, h2⟩ := plan_file_async_dir_override_eq_model p src w t db hd cfg
  refine ⟨task, h1, ?_, ?_⟩
  · have := congrArg Task.act h2
    simpa [absTask] using this
  · simp only [planEntry, absEntry, hd, ↓reduceIte]
    cases hg : w.dst.get? (compsOf src.relative_path) with
    | none => simp
    | some n => cases n <;> simp

/-- what `plan_file_async` ALONE answers for a directory entry over a destination symlink:
    it probes through the link — Skip when the link resolves to a directory, Create when it resolves to a file or to
    nothing — while the model's `planEntry` answers update: the difference is exactly the engine's override. -/
theorem plan_file_async_dir_over_link_probes_through (p : StrategyPlanner) (src : FileEntry) (w : PlanWorld)
    (t : Rs.Opaque) (db : Option Rs.Opaque) (hd : src.is_dir = true) (text : String)
    (hl : w.dst.get? (compsOf src.relative_path) = some (.symlink text)) (cfg : Cfg) :
    ∃ task, runM (p.plan_file_async extOf src w.root t db) w = (.ok task, w) ∧
      (w.through (compsOf src.relative_path) = .dir → task.action = .Skip) ∧
      (w.through (compsOf src.relative_path) ≠ .dir → task.action = .Create) ∧
      overrideDirOverLink src.is_dir (w.linkAt task.dest_path) task.action = .Update ∧
      (planEntry cfg w.dst (absEntry w src)).act = .update := by
  refine ⟨_, plan_file_async_run p src w t db, ?_, ?_, ?_, ?_⟩
  · intro hto
    simp only [planAt, hd, stat_join, PlanWorld.resolve, hl, hto]
  · intro hto
    simp only [planAt, hd, stat_join, PlanWorld.resolve, hl]
  · simp [overrideDirOverLink, hd, linkAt_join, hl]
  · simp only [planEntry, absEntry, hd, ↓reduceIte, hl]

/-- with `--checksum` and no database, a source that cannot be read (vanished, a directory, …) against an existing
    regular file is planned as Update (the safe direction: `needs_update` answers true) — the model has no
    unreadable sources. -/
theorem plan_file_async_unreadable_source_updates (p : StrategyPlanner) (hp : FromCli p) (hck : p.checksum = true)
    (src : FileEntry) (w : PlanWorld) (t : Rs.Opaque) (hd : src.is_dir = false)
    (hsrc : ∀ sm, w.stat src.path ≠ .file sm) (d : FileMeta)
    (hs : w.stat (Rs.join w.root src.relative_path) = .file d) :
    ∃ task, runM (p.plan_file_async extOf src w.root t none) w = (.ok task, w) ∧ task.action = .Update ∧
      task.source_checksum = none := by
  refine ⟨_, plan_file_async_run p src w t none, ?_, ?_⟩ <;>
    simp only [planAt, hd, hs, cksumsAt, hp.ver, hck, ↓reduceIte, srcSeen, seenCk, Option.isSome_none,
      Bool.false_eq_true, PlanWorld.cksumAt, PlanWorld.existsAt]
  all_goals
    cases hst : w.stat src.path with
    | dangling => simp [decideAct, StrategyPlanner.needs_update, hck, Id.run]
    | dir => simp [decideAct, StrategyPlanner.needs_update, hck, Id.run, Rs.ok]
    | file sm => exact absurd hst (hsrc sm)

/-- `plan_symlink` never returns `Err` — every mode, planner, entry, world, database handle. -/
theorem plan_symlink_never_fails (eng : SyncEngine) (file : FileEntry) (w : PlanWorld) (p : StrategyPlanner)
    (db : Option Rs.Opaque) : ∃ task, (runM (eng.plan_symlink extOf file w.root p db) w).1 = .ok task :=
  ⟨_, by rw [plan_symlink_run]⟩

/-- `plan_symlink` leaves the world as it found it. -/
theorem plan_symlink_read_only (eng : SyncEngine) (file : FileEntry) (w : PlanWorld) (p : StrategyPlanner)
    (db : Option Rs.Opaque) : (runM (eng.plan_symlink extOf file w.root p db) w).2 = w := by
  rw [plan_symlink_run]

/-- BRIDGE (skip mode): nothing is probed, the task is Skip with nothing to transfer — the model's `.skip` arm. -/
theorem plan_symlink_skip_eq_model (eng : SyncEngine) (hm : eng.symlink_mode = .Skip) (file : FileEntry)
    (hl : file.is_symlink = true) (w : PlanWorld) (p : StrategyPlanner) (db : Option Rs.Opaque)
    (cfg : Cfg) (hc : cfg.links = absLinkMode eng.symlink_mode) :
    ∃ task, runM (eng.plan_symlink extOf file w.root p db) w = (.ok task, w) ∧
      absLinkTask eng.symlink_mode w task = planEntry cfg w.dst (absLinkEntry w file) := by
  refine ⟨_, plan_symlink_run eng file w p db, ?_⟩
  rw [hm] at hc
  simp only [linkPlan, hm, simpleTask, absLinkTask, hl, ↓reduceIte, planEntry, absLinkEntry, hc, absLinkMode,
    relOf_join, Option.getD_some, absAct]

/-- BRIDGE (preserve mode): the destination entry ITSELF is looked at (`read_link` does not follow; `exists` is only
    asked when there is no link there): nothing ⇒ create, a link with the same text ⇒ skip, a link with another text /
    a file / a directory ⇒ update — the model's `.preserve` arm, for EVERY destination (no `NotLinkAt`). -/
theorem plan_symlink_preserve_eq_model (eng : SyncEngine) (hm : eng.symlink_mode = .Preserve) (file : FileEntry)
    (hl : file.is_symlink = true) (text : Rs.Path) (ht : file.symlink_target = some text)
    (w : PlanWorld) (p : StrategyPlanner) (db : Option Rs.Opaque)
    (cfg : Cfg) (hc : cfg.links = absLinkMode eng.symlink_mode) :
    ∃ task, runM (eng.plan_symlink extOf file w.root p db) w = (.ok task, w) ∧
      absLinkTask eng.symlink_mode w task = planEntry cfg w.dst (absLinkEntry w file) := by
  refine ⟨_, plan_symlink_run eng file w p db, ?_⟩
  rw [hm] at hc
  simp only [linkPlan, hm, simpleTask, absLinkTask, hl, ↓reduceIte, relOf_join, Option.getD_some]
  exact preserveAct_eq_planEntry w file text ht cfg hc

/-- preserve mode for an entry whose link text the scanner could not read (`symlink_target = None`: the link
    vanished between `lstat` and `readlink`): never Skip — Create over nothing, Update over anything. -/
theorem plan_symlink_preserve_no_target (eng : SyncEngine) (hm : eng.symlink_mode = .Preserve) (file : FileEntry)
    (ht : file.symlink_target = none) (w : PlanWorld) (p : StrategyPlanner) (db : Option Rs.Opaque) :
    ∃ task, runM (eng.plan_symlink extOf file w.root p db) w = (.ok task, w) ∧
      task.action = (if w.dst.get? (compsOf file.relative_path) = none then .Create else .Update) := by
  refine ⟨_, plan_symlink_run eng file w p db, ?_⟩
  simp only [linkPlan, hm, simpleTask, preserveAct, linkAt_join, existsAt_join, PlanWorld.resolve, ht]
  cases hg : w.dst.get? (compsOf file.relative_path) with
  | none => simp
  | some n => cases n <;> simp

/-- BRIDGE (follow mode): `std::fs::metadata(file.path)` follows the source link; its answer is the model's `tgt`.
    A regular-file target is planned as that file through `plan_file_async` (size and mtime of the TARGET, content of
    the target, inode `None`, nlink 1) — the model's `planFileAct cfg m (dst.get? rel)` with payload `.file m 1`; a
    directory target or a dangling link ⇒ Skip with nothing to transfer.  Hypotheses as for files: `FromCli`,
    `NotLinkAt` (the symlink case of the model's `planFileAct` is the engine's fix-up, `…_follow_over_link_fixup`),
    the lstat kind of a link is not "directory", and — with a database — no matching row on either side
    (`planEntryDb` does not consult the database for link entries: the second conjunct is the first, by unfolding). -/
theorem plan_symlink_follow_eq_model (eng : SyncEngine) (hm : eng.symlink_mode = .Follow) (file : FileEntry)
    (hl : file.is_symlink = true) (hnd : file.is_dir = false) (w : PlanWorld) (p : StrategyPlanner) (hp : FromCli p)
    (db : Option Rs.Opaque) (hnl : NotLinkAt w (compsOf file.relative_path))
    (hmissS : db.isSome = true → ∀ d, w.stat file.path = .file d →
      w.dbSeen file.path d.mtime d.size ['f', 'a', 's', 't'] = none)
    (hmissD : db.isSome = true → ∀ d, w.dst.get? (compsOf file.relative_path) = some (.file d) →
      w.dbSeen (Rs.join w.root file.relative_path) d.mtime d.size ['f', 'a', 's', 't'] = none)
    (cfg : Cfg) (hc : cfg.links = absLinkMode eng.symlink_mode) (hcmp : cfg.compare = modeOf p) :
    ∃ task, runM (eng.plan_symlink extOf file w.root p db) w = (.ok task, w) ∧
      absLinkTask eng.symlink_mode w task = planEntry cfg w.dst (absLinkEntry w file) ∧
      absLinkTask eng.symlink_mode w task = planEntryDb cfg w.db w.dst (absLinkEntry w file) := by
  refine ⟨_, plan_symlink_run eng file w p db, ?_⟩
  have hdb : planEntryDb cfg w.db w.dst (absLinkEntry w file) = planEntry cfg w.dst (absLinkEntry w file) := rfl
  rw [hdb, and_self]
  rw [hm] at hc
  simp only [linkPlan, hm, PlanWorld.metaAt, planEntry, absLinkEntry, hc, absLinkMode]
  cases hs : w.stat file.path with
  | dangling | dir => simp [simpleTask, absLinkTask, hl, absTarget, relOf_join, absAct]
  | file d =>
    have h := planAt_file_abs w p hp (followEntry file ⟨false, d.mtime, d.size⟩) db.isSome hnd hnl
      (fun hdb => hmissS hdb d hs) hmissD (fun _ => ⟨d, hs⟩) cfg hcmp
    have hm2 := absMeta_followEntry w file d hs
    rw [hm2] at h
    simp only [Bool.false_eq_true, ↓reduceIte, absLinkTask, absTarget, relOf_join, Option.getD_some, h, hm2]
    simp only [followEntry, hnd, Bool.false_eq_true, ↓reduceIte]

/-- BRIDGE (follow mode over a destination symlink): the dereferenced entry is not a symlink, so the engine's fix-up
    (src/sync/mod.rs:542-551, `fixupOverLink`) applies; after it the answer is the model's
    `planFileAct … (some (.symlink _)) = update`, whatever either link resolves to.  (`hnd` is not needed by the proof:
    the lstat kind of a link is not "directory".) -/
theorem plan_symlink_follow_over_link_fixup (eng : SyncEngine) (hm : eng.symlink_mode = .Follow) (file : FileEntry)
    (hnd : file.is_dir = false) (w : PlanWorld) (p : StrategyPlanner) (db : Option Rs.Opaque) (d : FileMeta)
    (hs : w.stat file.path = .file d) (text : String)
    (hl : w.dst.get? (compsOf file.relative_path) = some (.symlink text)) (cfg : Cfg) (m : FileMeta) :
    ∃ task, runM (eng.plan_symlink extOf file w.root p db) w = (.ok task, w) ∧
      (∀ s, task.source = some s → s.is_symlink = false) ∧
      absAct (fixupOverLink task.action) = planFileAct cfg m (w.dst.get? (compsOf file.relative_path)) := by
  refine ⟨_, plan_symlink_run eng file w p db, ?_, ?_⟩
  · simp only [linkPlan, hm, PlanWorld.metaAt, hs, Bool.false_eq_true, ↓reduceIte]
    intro s h; cases h; rfl
  · rw [hl]
    simp only [linkPlan, hm, PlanWorld.metaAt, hs, Bool.false_eq_true, ↓reduceIte]
    show absAct (fixupOverLink (planAt w p _ db.isSome).1) = .update
    rcases planAt_file_act w p (followEntry file ⟨false, d.mtime, d.size⟩) db.isSome with h | h | h <;>
      rw [h] <;> rfl

/-- `plan_deletions` never fails and changes nothing (it returns a `Vec`, not a `Result`; a failing scan gives no
    deletions) — every source list, both branches. -/
theorem plan_deletions_never_fails_read_only (p : StrategyPlanner) (srcs : List FileEntry) (w : PlanWorld) :
    ∃ tasks, runM (p.plan_deletions extOf srcs w.root) w = (.ok tasks, w) :=
  ⟨_, plan_deletions_run p srcs w⟩

/-- BRIDGE: BOTH branches (`source_files.len()` above or below `BLOOM_THRESHOLD`) return exactly the destination
    entries whose relative path is not the relative path of a source entry, as `Delete` tasks without source, in the
    order of the walk (= the order of the model's map: the real walk order is unspecified, the model's driver sorts).
    This is the model's `planDeletions` before the engine's `retain` (no `scanned` list; own metadata files kept). -/
theorem plan_deletions_eq_candidates (p : StrategyPlanner) (srcs : List FileEntry) (w : PlanWorld) (hw : CleanKeys w) :
    ∃ tasks, runM (p.plan_deletions extOf srcs w.root) w = (.ok tasks, w) ∧
      tasks.map (absTask w) =
        (w.dst.keys.filter fun k => !((srcs.map (absEntry w)).any (·.rel == k))).map
          fun k => ⟨.delete, k, .nothing⟩ :=
  ⟨_, plan_deletions_run p srcs w, delsOf_abs w hw srcs⟩

/-- BRIDGE: the translated `plan_deletions` followed by the engine's `retain` IS the model's `planDeletions`, for every
    filtered source list, every list of scanned entries, every clean destination — same tasks, same order. -/
theorem plan_deletions_eq_model (p : StrategyPlanner) (srcs : List FileEntry) (w : PlanWorld) (hw : CleanKeys w)
    (scanned : List SEntry) :
    ∃ tasks, runM (p.plan_deletions extOf srcs w.root) w = (.ok tasks, w) ∧
      retainDeletions scanned (tasks.map (absTask w)) = planDeletions (srcs.map (absEntry w)) scanned w.dst :=
  ⟨_, plan_deletions_run p srcs w, retain_delsOf w hw srcs scanned⟩

/-- with an empty `scanned` list and no own-metadata file in the destination, no `retain` is needed. -/
theorem plan_deletions_eq_model_plain (p : StrategyPlanner) (srcs : List FileEntry) (w : PlanWorld) (hw : CleanKeys w)
    (hown : ∀ k ∈ w.dst.keys, ownMetadata.contains k = false) :
    ∃ tasks, runM (p.plan_deletions extOf srcs w.root) w = (.ok tasks, w) ∧
      tasks.map (absTask w) = planDeletions (srcs.map (absEntry w)) [] w.dst := by
  refine ⟨_, plan_deletions_run p srcs w, ?_⟩
  rw [delsOf_abs w hw srcs]
  unfold planDeletions
  congr 1
  apply List.filter_congr
  intro k hk
  have hn : ¬ k ∈ ownMetadata := by simpa using hown k hk
  simp [hn]

/-- ANY two source lists that name the same set of relative paths yield identical results (tasks and order) on every
    world, whichever branch each run takes: both branches compute `delsOf` (`plan_deletions_run`).
    The Prelude gives `FileSetBloom` an unknown (opaque) set of false positives: the Bloom branch is right BECAUSE
    every "maybe" is re-checked against the `HashSet` — remove that re-check and this is false. -/
theorem plan_deletions_congr (p : StrategyPlanner) (l1 l2 : List FileEntry) (w : PlanWorld)
    (hsame : ∀ x, x ∈ l1.map (·.relative_path) ↔ x ∈ l2.map (·.relative_path)) :
    runM (p.plan_deletions extOf l1 w.root) w = runM (p.plan_deletions extOf l2 w.root) w := by
  rw [plan_deletions_run, plan_deletions_run]
  unfold delsOf
  congr 3
  apply List.filter_congr
  intro e _
  congr 1
  rw [Bool.eq_iff_iff]
  simp only [List.contains_eq_mem, decide_eq_true_eq]
  exact hsame _

/-- the Bloom branch and the HashSet branch give the SAME list: the instance of `plan_deletions_congr` for one list
    longer than the threshold and one not (`hbig`, `hsmall` only name the branches; the proof does not need them). -/
theorem plan_deletions_branches_agree (p : StrategyPlanner) (big small : List FileEntry) (w : PlanWorld)
    (hbig : big.length > BLOOM_THRESHOLD) (hsmall : small.length ≤ BLOOM_THRESHOLD)
    (hsame : ∀ x, x ∈ big.map (·.relative_path) ↔ x ∈ small.map (·.relative_path)) :
    runM (p.plan_deletions extOf big w.root) w = runM (p.plan_deletions extOf small w.root) w :=
  plan_deletions_congr p big small w hsame

/-- the constant the constant extractor reads from the source (`Generated/Consts.lean`) has the value the translated
    `plan_deletions` binds locally (`let BLOOM_THRESHOLD : Nat := 10000`, `Generated/Code/PlannerFx.lean`). -/
theorem consts_ok_bloom_threshold : BLOOM_THRESHOLD = 10000 := by decide

/-- a path the source names is never among the planned deletions (C06 `counterpart_never_planned`, for the translated
    `plan_deletions` alone — before any `retain`). -/
theorem plan_deletions_spares_source_paths (p : StrategyPlanner) (srcs : List FileEntry) (w : PlanWorld)
    (hw : CleanKeys w) (e : FileEntry) (he : e ∈ srcs) :
    ∃ tasks, runM (p.plan_deletions extOf srcs w.root) w = (.ok tasks, w) ∧
      ∀ task ∈ tasks, (absTask w task).rel ≠ (absEntry w e).rel := by
  obtain ⟨tasks, hr, ht⟩ := plan_deletions_eq_candidates p srcs w hw
  refine ⟨tasks, hr, ?_⟩
  intro task htask heq
  have hmem : absTask w task ∈ tasks.map (absTask w) := List.mem_map.2 ⟨task, htask, rfl⟩
  rw [ht] at hmem
  obtain ⟨k, hk, hkt⟩ := List.mem_map.1 hmem
  have hk' := (List.mem_filter.1 hk).2
  have : (absTask w task).rel = k := by rw [← hkt]
  rw [this] at heq
  simp only [Bool.not_eq_eq_eq_not, Bool.not_true, List.any_eq_false, List.mem_map, beq_iff_eq,
    forall_exists_index, and_imp, forall_apply_eq_imp_iff₂] at hk'
  exact hk' e he heq.symm

/-- **C03 `transferred_file_up_to_date` for the translated code.**  After a successful model transfer of the entry
    (`writeFile`: the destination node gets the source's content, size and mtime), the translated `plan_file_async`
    run against the resulting destination answers `Skip` — in default, `--size-only` and `--checksum` mode (every
    mode but `--ignore-times`), for every prior destination. -/
theorem plan_file_async_skips_after_transfer (p : StrategyPlanner) (hp : FromCli p) (src : FileEntry) (w : PlanWorld)
    (t : Rs.Opaque) (hd : src.is_dir = false)
    (hsrc : p.checksum = true → ∃ sm, w.stat src.path = .file sm)
    (cfg : Cfg) (hc : cfg.compare = modeOf p) (hni : modeOf p ≠ .ignoreTimes)
    (before after : Engine.World)
    (hw : writeFile cfg before (compsOf src.relative_path) (absMeta w src) = some after)
    (hdst : w.dst = after.dst) :
    ∃ task, runM (p.plan_file_async extOf src w.root t none) w = (.ok task, w) ∧ task.action = .Skip := by
  obtain ⟨d0, node, _, _, hset, hmatch, _, _⟩ := writeFile_spec hw
  have hg : w.dst.get? (compsOf src.relative_path) = some (.file node) := by
    rw [hdst, hset, Map.get?_set_same]
  have hnl : NotLinkAt w (compsOf src.relative_path) := by intro s hs; rw [hg] at hs; cases hs
  obtain ⟨task, hr, ha⟩ := plan_file_async_file_action p hp src w t hd hnl hsrc cfg hc
  refine ⟨task, hr, ?_⟩
  rw [hg, C03.transferred_file_up_to_date cfg (by rw [hc]; exact hni) (absMeta w src) node hmatch.1 hmatch.2.1
    hmatch.2.2.1 hmatch.2.2.2] at ha
  exact absAct_injective (b := .Skip) ha

/-- the same in concrete terms: the destination holds a regular file with the entry's size and
    mtime ⇒ `Skip` in default mode (and `--size-only`). -/
theorem plan_file_async_skips_equal_size_mtime (p : StrategyPlanner) (hp : FromCli p) (hck : p.checksum = false)
    (hit : p.ignore_times = false) (src : FileEntry) (w : PlanWorld) (t : Rs.Opaque) (db : Option Rs.Opaque)
    (hd : src.is_dir = false) (d : FileMeta)
    (hg : w.dst.get? (compsOf src.relative_path) = some (.file d))
    (hsize : d.size = src.size) (hmtime : d.mtime = src.modified) :
    ∃ task, runM (p.plan_file_async extOf src w.root t db) w = (.ok task, w) ∧ task.action = .Skip := by
  refine ⟨_, plan_file_async_run p src w t db, ?_⟩
  have hnu : p.needs_update src ⟨d.size, d.mtime⟩ = false := by
    rw [needs_update_eq_model p hp, hsize, hmtime]
    unfold modeOf needsUpdate
    rw [hck, hit]
    cases p.size_only <;> simp [mtimeMatches, absDiff]
  simp only [planAt, hd, stat_join, PlanWorld.resolve, hg, cksumsAt, hp.ver, hck, Bool.false_eq_true, ↓reduceIte,
    decideAct, hnu]

/-- a destination `d` with a file `a`, a directory `sub`, a file `sub/b`, a link `l`; the source `s` holds `a`, `c` -/
def exWorld : PlanWorld where
  root := "d".toList
  dst := [(["a"], .file ⟨7, 3, 5000000000, [], 1⟩), (["sub"], .dir), (["sub", "b"], .file ⟨8, 4, 6000000000, [], 2⟩),
          (["l"], .symlink "a")]
  through := fun k => if k = ["l"] then .file ⟨7, 3, 5000000000, [], 1⟩ else .dangling
  dirInfo := fun _ => (4096, 0)
  outside := fun p => if p = "s/a".toList then .file ⟨7, 3, 5000000000, [], 10⟩
                      else if p = "s/c".toList then .file ⟨9, 1, 1, [], 11⟩ else .dangling
  srcRoot := "s".toList
  db := []

def exPlanner (ck : Bool) : StrategyPlanner := ⟨1, false, false, ck, if ck then some ⟨.Fast, false⟩ else none⟩

def exEntry (rel : String) (size mtime : Nat) (dir : Bool) : FileEntry :=
  { path := Rs.join "s".toList rel.toList, relative_path := rel.toList, size := size, modified := mtime,
    is_dir := dir, is_symlink := false, symlink_target := none, is_sparse := false, allocated_size := 0,
    xattrs := none, inode := none, nlink := 1, acls := none, bsd_flags := none }

example : FromCli (exPlanner false) := ⟨rfl, rfl⟩
example : FromCli (exPlanner true) := ⟨rfl, rfl⟩
example : CleanKeys exWorld := by
  intro k hk
  simp only [exWorld, Map.keys, List.map_cons, List.map_nil, List.mem_cons, List.not_mem_nil, or_false] at hk
  rcases hk with rfl | rfl | rfl | rfl <;> decide
example : compsOf "sub/b".toList = ["sub", "b"] := by decide
example : NotLinkAt exWorld (compsOf "a".toList) := by
  intro t h
  have hg : exWorld.dst.get? (compsOf "a".toList) = some (.file ⟨7, 3, 5000000000, [], 1⟩) := by decide
  rw [hg] at h
  cases h
example : (exPlanner true).checksum = true → ∃ sm, exWorld.stat (exEntry "a" 3 5000000000 false).path = .file sm :=
  fun _ => ⟨⟨7, 3, 5000000000, [], 10⟩, by decide⟩

/-- the translated planner, RUN on the example (kernel evaluation of the generated definitions): `a` is up to date,
    `c` is new, `sub` exists, `sub/b` differs in size. -/
example : (runM ((exPlanner false).plan_file_async extOf (exEntry "a" 3 5000000000 false) "d".toList ⟨⟩ none) exWorld).1.toOption
    = some ⟨some (exEntry "a" 3 5000000000 false), "d/a".toList, .Skip, none, none⟩ := by decide
example : (runM ((exPlanner true).plan_file_async extOf (exEntry "a" 3 5000000000 false) "d".toList ⟨⟩ none) exWorld).1.toOption
    = some ⟨some (exEntry "a" 3 5000000000 false), "d/a".toList, .Skip, some 7, some 7⟩ := by decide
example : (runM ((exPlanner false).plan_file_async extOf (exEntry "c" 1 1 false) "d".toList ⟨⟩ none) exWorld).1.toOption
    = some ⟨some (exEntry "c" 1 1 false), "d/c".toList, .Create, none, none⟩ := by decide
example : (runM ((exPlanner false).plan_file_async extOf (exEntry "sub" 0 0 true) "d".toList ⟨⟩ none) exWorld).1.toOption
    = some ⟨some (exEntry "sub" 0 0 true), "d/sub".toList, .Skip, none, none⟩ := by decide
example : (runM ((exPlanner false).plan_file_async extOf (exEntry "sub" 5 0 false) "d".toList ⟨⟩ none) exWorld).1.toOption
    = some ⟨some (exEntry "sub" 5 0 false), "d/sub".toList, .Update, none, none⟩ := by decide
example : ((runM ((exPlanner false).plan_deletions extOf [exEntry "a" 3 5000000000 false, exEntry "c" 1 1 false]
      "d".toList) exWorld).1.toOption.getD []).map (·.dest_path)
    = ["d/sub".toList, "d/sub/b".toList, "d/l".toList] := by decide

/-- a source symlink entry `rel → text` -/
def exLink (rel text : String) : FileEntry :=
  { exEntry rel 1 9 false with is_symlink := true, symlink_target := some text.toList }

/-- `plan_symlink` RUN on the example: the destination has the link `l → a`: same text ⇒ Skip, other text ⇒ Update,
    no entry ⇒ Create; over the regular file `a` ⇒ Update; skip mode ⇒ Skip; follow mode: `s/c` read through a link
    named `c` is a new file (planned with the target's size and mtime), a dangling link is skipped. -/
example : ((runM (SyncEngine.plan_symlink extOf ⟨.Preserve, ⟨⟩⟩ (exLink "l" "a") "d".toList (exPlanner false) none)
    exWorld).1.toOption.map (·.action)) = some .Skip := by decide
example : ((runM (SyncEngine.plan_symlink extOf ⟨.Preserve, ⟨⟩⟩ (exLink "l" "b") "d".toList (exPlanner false) none)
    exWorld).1.toOption.map (·.action)) = some .Update := by decide
example : ((runM (SyncEngine.plan_symlink extOf ⟨.Preserve, ⟨⟩⟩ (exLink "n" "a") "d".toList (exPlanner false) none)
    exWorld).1.toOption.map (·.action)) = some .Create := by decide
example : ((runM (SyncEngine.plan_symlink extOf ⟨.Preserve, ⟨⟩⟩ (exLink "a" "a") "d".toList (exPlanner false) none)
    exWorld).1.toOption.map (·.action)) = some .Update := by decide
example : ((runM (SyncEngine.plan_symlink extOf ⟨.Skip, ⟨⟩⟩ (exLink "n" "a") "d".toList (exPlanner false) none)
    exWorld).1.toOption.map (·.action)) = some .Skip := by decide
example : ((runM (SyncEngine.plan_symlink extOf ⟨.Follow, ⟨⟩⟩ (exLink "c" "elsewhere") "d".toList (exPlanner false)
    none) exWorld).1.toOption.map (fun t => (t.action, t.source.map (fun s => (s.size, s.modified, s.is_symlink)))))
    = some (.Create, some (1, 1, false)) := by decide
example : ((runM (SyncEngine.plan_symlink extOf ⟨.Follow, ⟨⟩⟩ (exLink "n" "nowhere") "d".toList (exPlanner false)
    none) exWorld).1.toOption.map (·.action)) = some .Skip := by decide
example : NotLinkAt exWorld (compsOf (exLink "c" "elsewhere").relative_path) := by
  intro t h
  have hg : exWorld.dst.get? (compsOf (exLink "c" "elsewhere").relative_path) = none := by decide
  rw [hg] at h
  cases h

/-- DISAGREEMENT with `planEntryDb` (a gap of the model): `compute_checksums_local` also asks the database
    about the DESTINATION path (keyed by the destination's current mtime and size).  A world in which that lookup
    hits a stale row: destination `s/d` inside the source root `s`, so that the destination path `s/d/f` has the row
    key `d/f`; the row says content 7, the destination really holds content 8, the source holds 7.  The translated
    planner answers Skip; `planEntryDb` (which only substitutes the SOURCE side) answers update. -/
def gapWorld : PlanWorld where
  root := "s/d".toList
  dst := [(["f"], .file ⟨8, 3, 50, [], 1⟩)]
  through := fun _ => .dangling
  dirInfo := fun _ => (4096, 0)
  outside := fun p => if p = "s/f".toList then .file ⟨7, 3, 60, [], 10⟩ else .dangling
  srcRoot := "s".toList
  db := [(["d", "f"], ⟨50, 3, 7⟩)]

theorem plan_file_async_db_dest_row_differs :
    (runM ((exPlanner true).plan_file_async extOf (exEntry "f" 3 60 false) gapWorld.root ⟨⟩ (some ⟨⟩)) gapWorld).1.toOption
        = some ⟨some (exEntry "f" 3 60 false), "s/d/f".toList, .Skip, some 7, some 7⟩ ∧
      (planEntryDb ⟨false, false, false, false, false, 0, .preserve, .checksum, none, none, 0, false⟩ gapWorld.db
        gapWorld.dst (absEntry gapWorld (exEntry "f" 3 60 false))).act = .update := by
  constructor <;> decide

end SyModel.Props.GenPlannerFx
