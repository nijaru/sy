/-
  GenCompress — the translated `COMPRESSED_EXTENSIONS`, `is_compressed_extension`, `should_compress_adaptive`,
  `should_compress` (src/compress/mod.rs, regenerated into `SyModel/Generated/Code/Compress.lean` on every run)
  compute the handwritten `Compress.isCompressedExtension` / `shouldCompressAdaptive` / `shouldCompress` that C14's
  decision theorems are about.

  Abstraction map.
    * file names: `Rs.Str = List Char` on both sides (identity);
    * `Generated.Compress.Compression ↦ Compress.Compression` (`absCompression`): `None ↦ none`, `Lz4 ↦ lz4`,
      `Zstd ↦ zstd`;
    * `_network_speed_mbps` is ignored (the model has no such argument; the code does not read it);
    * `file_size: u64 ↦ Nat` (identity; only compared with the literal `1024 * 1024`).
  No hypotheses: the theorems hold for all names (any characters, with or without dots, empty), all sizes, both
  values of `is_local`, every `_network_speed_mbps`.
-/
import SyModel.Lemmas.Codec
import SyModel.Generated.Consts
import SyModel.Lemmas.PathText
namespace SyModel.Props.GenCompress
open SyModel SyModel.Compress SyModel.Generated
open SyModel.Generated.Compress (is_compressed_extension should_compress_adaptive
  should_compress)

def absCompression : Generated.Compress.Compression → Compress.Compression
  | .None => .none
  | .Lz4 => .lz4
  | .Zstd => .zstd

/-- the map is a bijection (no two code values are identified by the model, none is missing). -/
theorem absCompression_bijective :
    (∀ a b, absCompression a = absCompression b → a = b) ∧ (∀ m, ∃ a, absCompression a = m) := by
  refine ⟨fun a b => by cases a <;> cases b <;> simp [absCompression], fun m => ?_⟩
  cases m
  · exact ⟨.None, rfl⟩
  · exact ⟨.Lz4, rfl⟩
  · exact ⟨.Zstd, rfl⟩

/-- the Prelude's ASCII lower-casing (stated with `Char` order) is the model's (stated with code points). -/
theorem lowerAscii_eq_model (c : Char) : Rs.lowerAscii c = Compress.lowerAscii c := by
  unfold Rs.lowerAscii Compress.lowerAscii
  simp only [Char.le_def, UInt32.le_iff_toNat_le]
  rfl

theorem eq_ignore_ascii_case_eq_model (a b : List Char) :
    Rs.eq_ignore_ascii_case a b = eqIgnoreAsciiCase a b := by
  unfold Rs.eq_ignore_ascii_case eqIgnoreAsciiCase
  rw [show Rs.lowerAscii = Compress.lowerAscii from funext lowerAscii_eq_model]

theorem takeWhile_append_stop {α : Type} (p : α → Bool) (l : List α) (c : α) (r : List α) (hc : p c = false) :
    (l ++ c :: r).takeWhile p = l.takeWhile p := by
  induction l with
  | nil => simp [List.takeWhile, hc]
  | cons a t ih => simp only [List.cons_append, List.takeWhile_cons, ih]

/-- the splitter, with its accumulator: the last piece is what follows the last separator of `cur.reverse ++ s`
    (the accumulator never holds a separator). -/
theorem splitAux_getLast? (c : Char) (s cur : List Char) (hcur : ∀ x ∈ cur, x ≠ c) :
    (Rs.splitAux c s cur).getLast? =
      some (((cur.reverse ++ s).reverse.takeWhile (fun x => decide (x ≠ c))).reverse) := by
  induction s generalizing cur with
  | nil =>
    have : cur.takeWhile (fun x => decide (x ≠ c)) = cur := by
      simpa using List.takeWhile_append_of_pos (l₂ := []) (fun x hx => decide_eq_true (hcur x hx))
    simp only [Rs.splitAux, List.append_nil, List.reverse_reverse, this, List.getLast?_singleton]
  | cons x t ih =>
    unfold Rs.splitAux
    by_cases hx : x = c
    · subst hx
      rw [if_pos (by simp), List.getLast?_cons_of_ne_nil (Lemmas.PathText.splitAux_ne_nil _ _ _), ih [] (by simp)]
      have : (cur.reverse ++ x :: t).reverse = t.reverse ++ x :: cur := by simp
      rw [this, takeWhile_append_stop _ _ _ _ (by simp)]
      simp
    · rw [if_neg (by simpa using hx), ih (x :: cur) (by
        intro y hy
        rcases List.mem_cons.mp hy with rfl | hy
        · exact hx
        · exact hcur y hy)]
      simp

/-- `filename.rsplit('.').next()` is `Some` of the model's `lastSegment`, for every name. -/
theorem next_rsplit_eq_lastSegment (name : List Char) :
    Rs.next (Rs.rsplit name '.') = some (lastSegment name) := by
  unfold Rs.next Rs.rsplit Rs.split lastSegment
  rw [List.head?_reverse, splitAux_getLast? '.' name [] (by simp)]
  simp

/-- the table: the generated character lists are the model's strings. -/
theorem extensions_eq_model : Generated.Compress.COMPRESSED_EXTENSIONS = compressedExtensions.map String.toList := by
  rw [compressedExtensions_eq, List.map_map]
  conv => lhs; rw [← List.map_id Generated.Compress.COMPRESSED_EXTENSIONS]
  exact List.map_congr_left fun _ _ => String.toList_ofList.symm

/-- the translator's table and the constant extractor's table (`Generated/Consts.lean`, which `C14.consts_ok_extensions`
    compares with the model) are the same list: the two readers of the source agree. -/
theorem extensions_eq_consts :
    Generated.Compress.COMPRESSED_EXTENSIONS = Generated.COMPRESSED_EXTENSIONS.map String.toList :=
  extensions_eq_model

theorem is_compressed_extension_eq_model (name : List Char) :
    is_compressed_extension name = isCompressedExtension name := by
  unfold is_compressed_extension
  rw [next_rsplit_eq_lastSegment, isCompressedExtension_eq]
  simp only [Rs.any, eq_ignore_ascii_case_eq_model]

theorem should_compress_adaptive_eq_model (name : List Char) (size : Nat) (is_local : Bool) (speed : Option Nat) :
    absCompression (should_compress_adaptive name size is_local speed) =
      shouldCompressAdaptive name size is_local := by
  unfold should_compress_adaptive shouldCompressAdaptive
  rw [is_compressed_extension_eq_model]
  have hgate : (1024 * 1024 : Nat) = SIZE_GATE := by decide
  rw [hgate]
  -- both sides are the same three tests in the same order (local, size gate, extension): run through their outcomes
  cases is_local <;> by_cases hs : size < SIZE_GATE <;> cases isCompressedExtension name <;>
    simp [Id.run, hs, absCompression] <;> rfl

theorem should_compress_eq_model (name : List Char) (size : Nat) :
    absCompression (should_compress name size) = shouldCompress name size := by
  unfold should_compress shouldCompress
  exact should_compress_adaptive_eq_model name size false none

end SyModel.Props.GenCompress
