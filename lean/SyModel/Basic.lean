/-
  SyModel.Basic — vocabulary shared by every model file.
  Model files import nothing outside core Lean so that `sydriver` links natively.
-/
namespace SyModel

abbrev Bytes := List UInt8

/-- `hasAtLeast n l = decide (n ≤ l.length)` computed in `O(n)` (not `O(l.length)`). -/
def hasAtLeast : Nat → List α → Bool
  | 0, _ => true
  | _ + 1, [] => false
  | n + 1, _ :: t => hasAtLeast n t

theorem hasAtLeast_iff (n : Nat) (l : List α) : hasAtLeast n l = true ↔ n ≤ l.length := by
  induction n generalizing l with
  | zero => exact ⟨fun _ => Nat.zero_le _, fun _ => rfl⟩
  | succ n ih =>
    cases l with
    | nil => exact ⟨nofun, nofun⟩
    | cons x t => exact (ih t).trans Nat.succ_le_succ_iff.symm

theorem hasAtLeast_false_iff (n : Nat) (l : List α) : hasAtLeast n l = false ↔ l.length < n := by
  rw [← Bool.not_eq_true, hasAtLeast_iff]; omega

end SyModel
