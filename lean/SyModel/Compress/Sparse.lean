/-
  SyModel.Compress.Sparse — sparse transfers.

  * sender side, src/transport/ssh.rs: `copy_file`'s sparse test (:623-651), `copy_sparse_file`
    (:334-505): regions from `detect_data_regions` (an *input* here — the kernel's
    SEEK_DATA/SEEK_HOLE answer), fall back to the regular path when detection fails, returns
    no region, a region cannot be read, or the helper fails; otherwise
    `sy-remote receive-sparse-file <dest> --total-size <len> --regions '<json>' [--mtime s]`
    with the concatenated region bytes on stdin;
  * helper, src/bin/sy-remote.rs:223-278: parse the regions JSON, `set_len(total_size)`, then for
    every region `seek(offset)`, `read_exact(length)` from stdin, `write_all`; `--mtime`;
  * local copiers, src/transport/local.rs: `copy_sparse_file_seek` (:50-125) and
    `copy_sparse_file_blocks` (:129-170).

  A file is its content `Bytes`; holes are runs of zero bytes (what `read` returns for them).
-/
import SyModel.Json
import SyModel.Compress.Sniff
namespace SyModel.Compress
open SyModel.Json

/-- `struct DataRegion { offset: u64, length: u64 }` (src/sparse.rs:16-21, duplicated in ssh.rs:23-26). -/
structure Region where
  offset : Nat
  length : Nat
deriving Repr, DecidableEq

def zeros (n : Nat) : Bytes := List.replicate n 0

/-- the bytes of `content` in `[offset, offset+length)`, cut at end of file. -/
def slice (content : Bytes) (r : Region) : Bytes := (content.drop r.offset).take r.length

/-- `seek(SeekFrom::Start(offset))` then `read_exact(length)`; `none` is `UnexpectedEof`. -/
def readRegion (content : Bytes) (r : Region) : Option Bytes :=
  if r.length = 0 ∨ r.offset + r.length ≤ content.length then some (slice content r) else none

/-- ssh.rs:427-463 — the sender's `data_buffer`: all regions read in order and concatenated. -/
def gather (content : Bytes) : List Region → Option Bytes
  | [] => some []
  | r :: rs =>
    match readRegion content r, gather content rs with
    | some a, some b => some (a ++ b)
    | _, _ => none

/-- `seek(SeekFrom::Start(off))` then `write_all(data)` on a regular file: overwrites, extends the
    file when the range passes its end, and a seek beyond the end leaves a zero gap.
    Writing nothing changes nothing (`write_all(&[])` performs no `write`). -/
def writeAt (file : Bytes) (off : Nat) (data : Bytes) : Bytes :=
  if data.isEmpty then file
  else (file ++ zeros (off - file.length)).take off ++ data ++ file.drop (off + data.length)

/-- `File::set_len`: truncate or extend with zeros. -/
def setLen (file : Bytes) (n : Nat) : Bytes := file.take n ++ zeros (n - file.length)

/-! ### regions JSON (`serde_json::to_string(&Vec<DataRegion>)` / `serde_json::from_str`) -/

def encodeRegion (r : Region) : Bytes :=
  lit "{\"offset\":" ++ printNat r.offset ++ lit ",\"length\":" ++ printNat r.length ++ lit "}"

def encodeRegionList : List Region → Bytes
  | [] => []
  | [r] => encodeRegion r
  | r :: r2 :: t => encodeRegion r ++ 44 :: encodeRegionList (r2 :: t)

/-- e.g. `[{"offset":0,"length":1024},{"offset":4096,"length":2048}]` -/
def encodeRegions (rs : List Region) : Bytes := 91 :: (encodeRegionList rs ++ [93])

def parseRegion (l : Bytes) : Option (Region × Bytes) :=
  match expect (lit "{\"offset\":") l with
  | none => none
  | some r1 =>
    match parseNat r1 with
    | none => none
    | some (o, r2) =>
      match expect (lit ",\"length\":") r2 with
      | none => none
      | some r3 =>
        match parseNat r3 with
        | none => none
        | some (n, r4) =>
          match r4 with
          | 125 :: r5 => some ({ offset := o, length := n }, r5)
          | _ => none

theorem parseRegion_eats {l : Bytes} {x : Region} {r : Bytes} (h : parseRegion l = some (x, r)) : Eats l r := by
  rw [parseRegion.eq_def] at h
  cases h1 : expect (lit "{\"offset\":") l with
  | none => simp only [h1] at h; cases h
  | some r1 =>
    cases h2 : parseNat r1 with
    | none => simp only [h1, h2] at h; cases h
    | some p2 =>
      cases h3 : expect (lit ",\"length\":") p2.2 with
      | none => simp only [h1, h2, h3] at h; cases h
      | some r3 =>
        cases h4 : parseNat r3 with
        | none => simp only [h1, h2, h3, h4] at h; cases h
        | some p4 =>
          simp only [h1, h2, h3, h4] at h
          split at h
          · rename_i e
            cases h
            exact (expect_eats (by rw [lit_ofList]; decide) h1).trans ((parseNat_eats h2).trans
              ((expect_eats (by rw [lit_ofList]; decide) h3).trans ((e ▸ parseNat_eats h4).trans (Eats.one (by decide) _))))
          · cases h

theorem parseRegion_length {l : Bytes} {x : Region} {r : Bytes} (h : parseRegion l = some (x, r)) :
    r.length < l.length :=
  (parseRegion_eats h).length_lt

/-- regions after the first one has been announced: `region (, region)* ]` -/
def parseRegionElems (l : Bytes) : Option (List Region × Bytes) :=
  match _h : parseRegion l with
  | some (x, 44 :: r') =>
    match parseRegionElems r' with
    | some (xs, r'') => some (x :: xs, r'')
    | none => none
  | some (x, 93 :: r') => some ([x], r')
  | _ => none
termination_by l.length
decreasing_by
  have := parseRegion_length _h
  simp only [List.length_cons] at this; omega

/-- the canonical form of `Vec<DataRegion>`; trailing bytes are an error. -/
def decodeRegions : Bytes → Option (List Region)
  | 91 :: 93 :: [] => some []
  | 91 :: l =>
    match parseRegionElems l with
    | some (rs, []) => some rs
    | _ => none
  | _ => none

/-! ### the helper -/

/-- the loop of `receive-sparse-file` over the regions, reading stdin sequentially.
    `none`: `read_exact` hit end of input (the helper exits with an error). Surplus input is ignored. -/
def receiveSparseGo (file : Bytes) : List Region → Bytes → Option Bytes
  | [], _ => some file
  | r :: rs, stdin =>
    if stdin.length < r.length then none
    else receiveSparseGo (writeAt file r.offset (stdin.take r.length)) rs (stdin.drop r.length)

/-- `File::create`, `set_len(total_size)`, then the loop. -/
def receiveSparse (totalSize : Nat) (regions : List Region) (stdin : Bytes) : Option Bytes :=
  receiveSparseGo (setLen [] totalSize) regions stdin

/-- the same over a destination path that already holds `prior`, opened with `mode`. -/
def receiveSparseOver (mode : OpenMode) (prior : Option Bytes) (totalSize : Nat) (regions : List Region)
    (stdin : Bytes) : Option Bytes :=
  receiveSparseGo (setLen (openOutput mode prior) totalSize) regions stdin

/-- `sy-remote receive-sparse-file <out> --total-size n --regions <json> [--mtime s]`. -/
def receiveSparseFile (totalSize : Nat) (regionsArg : Bytes) (stdin : Bytes) (mtimeArg : Option Nat) :
    Option RemoteFile :=
  match decodeRegions regionsArg with
  | none => none
  | some rs =>
    match receiveSparse totalSize rs stdin with
    | some c => some { content := c, mtimeSec := mtimeArg }
    | none => none

def receiveSparseFileOver (mode : OpenMode) (prior : Option Bytes) (totalSize : Nat) (regionsArg : Bytes)
    (stdin : Bytes) (mtimeArg : Option Nat) : Option RemoteFile :=
  match decodeRegions regionsArg with
  | none => none
  | some rs =>
    match receiveSparseOver mode prior totalSize rs stdin with
    | some c => some { content := c, mtimeSec := mtimeArg }
    | none => none

/-! ### the sender -/

/-- what `copy_sparse_file` does with a source file. -/
inductive SparseSend where
  /-- the helper command with its arguments and stdin -/
  | helper (totalSize : Nat) (regionsArg : Bytes) (stdin : Bytes) (mtimeArg : Option Nat)
  /-- `Err(..)`: the caller falls through to the regular transfer -/
  | fallback
deriving Repr, DecidableEq

/-- `detected`: result of `detect_data_regions` (`none` = `Err`). -/
def sendSparse (content : Bytes) (detected : Option (List Region)) (srcMtimeNs : Option Nat) : SparseSend :=
  match detected with
  | none => .fallback
  | some [] => .fallback                    -- "Sparse detection returned no regions"
  | some rs =>
    match gather content rs with
    | some buf => .helper content.length (encodeRegions rs) buf (mtimeSecs srcMtimeNs)
    | none => .fallback

/-- ssh.rs:626 `allocated_size < file_size && file_size > 0` (`allocated = blocks * 512`). -/
def isSparseRemote (allocated size : Nat) : Bool := allocated < size && 0 < size

structure CopyInputs where
  content    : Bytes
  srcMtimeNs : Option Nat
  /-- `metadata.blocks() * 512` -/
  allocated  : Nat
  /-- what `detect_data_regions` answers (only consulted for sparse files) -/
  detected   : Option (List Region)
  /-- inputs of the compression decision of the regular path -/
  decision   : Inputs

/-- `SshTransport::copy_file`: sparse attempt first, regular path (compression decision, helper or
    SFTP) otherwise or when the sparse attempt fails. Result: the remote file. -/
def copyFileRemote (L Z : Codec) (ci : CopyInputs) : Option RemoteFile :=
  let regular := remoteAfter Z (sendFile L Z (shouldCompressSmart ci.decision) ci.content ci.srcMtimeNs)
  if isSparseRemote ci.allocated ci.content.length then
    match sendSparse ci.content ci.detected ci.srcMtimeNs with
    | .helper total regs stdin m =>
      match receiveSparseFile total regs stdin m with
      | some f => some f
      | none => regular
    | .fallback => regular
  else regular

/-! ### local copiers (src/transport/local.rs) -/

/-- the `threshold` of `is_file_sparse`. -/
abbrev SPARSE_THRESHOLD : Nat := 4096
/-- `is_file_sparse`: `file_size > 4096 && allocated < file_size - 4096`. -/
def isSparseLocal (allocated size : Nat) : Bool :=
  SPARSE_THRESHOLD < size && allocated < size - SPARSE_THRESHOLD

/-- `copy_sparse_file_seek`: the destination is created empty; every data region the lseek loop
    enumerates is copied to the same offset; finally `set_len(file_size)`. (`regions = []` also
    covers the "ENXIO on the first SEEK_DATA ⇒ all holes" exit, which only does the `set_len`.) -/
def localSeek (content : Bytes) (regions : List Region) : Bytes :=
  setLen (regions.foldl (fun f r => writeAt f r.offset (slice content r)) []) content.length

/-- `copy_sparse_file` over an existing destination opened with `mode`. -/
def localSeekOver (mode : OpenMode) (prior : Option Bytes) (content : Bytes) (regions : List Region) : Bytes :=
  setLen (regions.foldl (fun f r => writeAt f r.offset (slice content r)) (openOutput mode prior)) content.length

/-- `BLOCK_SIZE` of `copy_sparse_file_blocks`. -/
abbrev LOCAL_BLOCK : Nat := 4096

/-- the loop of `copy_sparse_file_blocks`: all-zero blocks are skipped, others written at `pos`. -/
def blocksGo (blk : Nat) (file : Bytes) (pos : Nat) (rest : Bytes) : Bytes :=
  if _h : blk = 0 ∨ rest = [] then file
  else
    let b := rest.take blk
    let file' := if b.all (· == 0) then file else writeAt file pos b
    blocksGo blk file' (pos + b.length) (rest.drop blk)
termination_by rest.length
decreasing_by
  have h1 : blk ≠ 0 := fun e => _h (Or.inl e)
  have h2 : rest ≠ [] := fun e => _h (Or.inr e)
  have : 0 < rest.length := List.length_pos_iff.mpr h2
  simp only [List.length_drop]; omega

/-- `copy_sparse_file_blocks`: `set_len(file_size)` first, then the block loop. -/
def localBlocks (content : Bytes) : Bytes :=
  blocksGo LOCAL_BLOCK (setLen [] content.length) 0 content

/-- `copy_sparse_file_blocks` over an existing destination opened with `mode`. -/
def localBlocksOver (mode : OpenMode) (prior : Option Bytes) (content : Bytes) : Bytes :=
  blocksGo LOCAL_BLOCK (setLen (openOutput mode prior) content.length) 0 content

end SyModel.Compress
