/-
  SyModel.Watch.Loop — the event loop of `sy --watch` (C20).

  Models `WatchMode::watch` (src/sync/watch.rs:37-109), the event filter
  `should_sync_event` (watch.rs:111-120) and the wiring in src/main.rs:489-500
  (debounce 500 ms).  Import-free and executable: `sydriver` runs exactly these
  definitions (area `watch.`), the theorems of `SyModel.Props.C20` are about them.

  Line numbers of watch.rs, main.rs and strategy.rs in this file are those of the snapshot
  `a076c37` of /repo, where the initial sync (:40) still precedes `watcher.watch` (:45).  In the
  current tree (repair `fbc3639`: watcher armed first) `watch()` is at watch.rs:73-191, arming at
  :78, the initial sync at :86, `should_sync_event` at :193-202; Lemmas/GenWatch and Props/GenWatch,
  which speak of the translation of the current tree, cite that numbering.

  Two kinds of inputs drive the model:

  * environment: `event k edit` (the source tree changes to version `edit`, if any, and
    the `notify` watcher — when armed — delivers an event of kind `k` into the mpsc
    channel), `tick δ` (δ time units pass), `sigint`;
  * the loop thread itself: `step` — the thread executes its next atomic piece of the
    program text: arming the watcher, starting / finishing the initial sync, one
    iteration of the `loop { select!; recv_timeout }` body up to (and including) the
    start of a sync, or the completion of a running sync.  A `step` taken with an empty
    channel is the `Err(RecvTimeoutError::Timeout)` arm ("timeout" in DESIGN §6 C20).

  A third kind, `fail`, is the same move of the loop thread when the sync it completes returns
  `Err` (observed on the real binary when a source entry vanishes under a running sync).

  Time is a `Nat` in an arbitrary unit (the driver uses microseconds, the constants of
  `Cfg.sy` are milliseconds); only lower bounds the code guarantees are built in:
  `tokio::time::sleep(10 ms)` takes ≥ 10 ms, a `recv_timeout(100 ms)` that returns
  `Timeout` took ≥ 100 ms.  Everything slower is a `tick`.
-/
namespace SyModel.Watch

/-- `notify::EventKind` (notify 6.1) plus `error` for the `Ok(Err(e))` arm (watch.rs:80-82). -/
inductive Kind
  | any | access | create | modify | remove | other | error
  deriving DecidableEq, Repr, Inhabited

/-- `should_sync_event` (watch.rs:111-120): Create / Modify / Remove are kept. -/
def Kind.kept : Kind → Bool
  | .create => true
  | .modify => true
  | .remove => true
  | _ => false

/-- the constructor name of `notify::EventKind` (tied to watch.rs:116 by `consts_ok_kept`) -/
def Kind.rust : Kind → String
  | .any => "Any"
  | .access => "Access"
  | .create => "Create"
  | .modify => "Modify"
  | .remove => "Remove"
  | .other => "Other"
  | .error => "Error"

/-- One version of the (selected part of the) source tree as the planner sees it.
    `id` identifies the content; `size`/`mtime` (ns) are the metadata the active comparison
    rule of `SyncPlanner::needs_update` (src/sync/strategy.rs:333-377) looks at for the entry
    that differs.  Creations, deletions (with `--delete`) and renames are always planned
    (dest missing ⇒ `Create`, strategy.rs:319; `plan_deletions` by name), so the harness
    encodes them with a fresh `size`. -/
structure Ver where
  id : Nat
  size : Nat
  mtime : Nat
  deriving DecidableEq, Repr, Inhabited

structure Cfg where
  /-- `Duration::from_millis(500)` (main.rs:495), compared at watch.rs:85 -/
  debounce : Nat
  /-- `rx.recv_timeout(Duration::from_millis(100))` (watch.rs:73) -/
  recvTimeout : Nat
  /-- `tokio::time::sleep(Duration::from_millis(10))` in the `select!` (watch.rs:67) -/
  selectSleep : Nat
  /-- `mtime_tolerance` in whole seconds (strategy.rs:50) -/
  tolerance : Nat
  /-- nanoseconds per second, the unit of `Ver.mtime` relative to `tolerance` -/
  nsPerSec : Nat
  /-- `true`: the watcher is armed *before* the initial sync (repaired order);
      `false`: initial sync first, then `watcher.watch` (pinned order, watch.rs:40-45). -/
  armFirst : Bool
  deriving Repr

/-- the values of the repaired tree, in milliseconds -/
def Cfg.sy : Cfg :=
  { debounce := 500, recvTimeout := 100, selectSleep := 10, tolerance := 1,
    nsPerSec := 1000000000, armFirst := true }

/-- the pinned tree: same constants, watcher armed after the initial sync -/
def Cfg.pinned : Cfg := { Cfg.sy with armFirst := false }

def absDiff (a b : Nat) : Nat := if a ≤ b then b - a else a - b

/-- `needs_update` without comparison flags (strategy.rs:356-368): size differs, or
    `duration.as_secs() > mtime_tolerance` (strategy.rs:372-376: whole-second truncation). -/
def needsUpdate (c : Cfg) (s d : Ver) : Bool :=
  (s.size != d.size) || decide (c.tolerance < absDiff s.mtime d.mtime / c.nsPerSec)

/-- The abstract sync: the destination becomes the snapshot the sync worked from when the
    comparison rule can see a difference; otherwise the entry is skipped. -/
def syncTo (c : Cfg) (snap dst : Ver) : Ver :=
  if needsUpdate c snap dst then snap else dst

/-- "the comparison rule can tell `d` from `a`" (or there is nothing to tell). -/
def Vis (c : Cfg) (a d : Ver) : Prop := d = a ∨ needsUpdate c a d = true

instance (c : Cfg) (a d : Ver) : Decidable (Vis c a d) := by unfold Vis; exact inferInstance

/-- program points of `watch()` -/
inductive Phase
  | boot      -- before the initial sync has started
  | initSync  -- `self.engine.sync(..).await?` of the initial sync is running (watch.rs:40)
  | postInit  -- initial sync returned, loop not entered yet
  | loop      -- at the top of `loop {` (watch.rs:60)
  | sync      -- `self.engine.sync(..).await` inside the Timeout arm is running (watch.rs:89)
  | done      -- `watch()` returned / the process is gone
  deriving DecidableEq, Repr, Inhabited

inductive Exit
  | sigint    -- ctrl_c branch of the select (watch.rs:63-66): `break`, `Ok(())`, exit status 0
  | killed    -- SIGINT before `signal::ctrl_c()` was first polled: default disposition
  | error     -- the initial sync returned `Err` and `?` propagated it (watch.rs:40): exit status 1
  deriving DecidableEq, Repr

structure State where
  phase : Phase
  /-- `pending_changes` (watch.rs:53) -/
  pending : List Kind
  /-- `last_sync` (watch.rs:54, 99) -/
  lastSync : Nat
  /-- contents of the mpsc channel `rx` (watch.rs:43) -/
  queue : List Kind
  now : Nat
  /-- current version of the source -/
  src : Ver
  /-- current version of the destination -/
  dst : Ver
  /-- the source version the most recently started sync works from -/
  snap : Ver
  /-- `watcher.watch(..)` has been called (watch.rs:45) -/
  armed : Bool
  /-- tokio's SIGINT handler is installed (first poll of `ctrl_c`, watch.rs:62-63) -/
  handler : Bool
  /-- a SIGINT was caught and not yet observed by the select -/
  sig : Bool
  exit : Option Exit
  /-- number of syncs started so far (ghost) -/
  syncs : Nat
  /-- the most recently started sync has not failed (ghost) -/
  ok : Bool
  deriving DecidableEq, Repr

def State.done (s : State) : Bool := s.phase == .done

def init (v0 d0 : Ver) : State :=
  { phase := .boot, pending := [], lastSync := 0, queue := [], now := 0, src := v0, dst := d0,
    snap := d0, armed := false, handler := false, sig := false, exit := none, syncs := 0, ok := true }

/-- what the loop thread decided in one `step` (one line of the H4 trace, except that
    `timeout` + `sync-start` are one decision) -/
inductive Decision
  | armed | initialSyncStart | initialSyncEnd | loopStart
  | exitSigint
  | eventKept (k : Kind) | eventDropped (k : Kind)
  | timeoutIdle | timeoutSync | syncEnd
  | initialSyncFailed | syncFailed
  | halted
  deriving DecidableEq, Repr

/-- One atomic move of the loop thread. -/
def step (c : Cfg) (s : State) : State × Decision :=
  match s.phase with
  | .boot =>
    if c.armFirst && !s.armed then
      ({ s with armed := true }, .armed)                                   -- repaired order
    else
      ({ s with phase := .initSync, snap := s.src, syncs := s.syncs + 1, ok := true }, .initialSyncStart)
  | .initSync =>
    ({ s with phase := .postInit, dst := syncTo c s.snap s.dst }, .initialSyncEnd)
  | .postInit =>
    if !s.armed then
      ({ s with armed := true }, .armed)                                   -- watch.rs:43-45 (pinned order)
    else
      -- `let mut pending_changes = Vec::new(); let mut last_sync = Instant::now();` (53-54),
      -- `ctrl_c` pinned (57-58) and polled for the first time by the first select
      ({ s with phase := .loop, pending := [], lastSync := s.now, handler := true }, .loopStart)
  | .loop =>
    if s.sig then
      -- watch.rs:63-66
      ({ s with phase := .done, armed := false, exit := some .sigint }, .exitSigint)
    else
      let now1 := s.now + c.selectSleep                                    -- watch.rs:67
      match s.queue with
      | k :: q =>
        -- watch.rs:74-82: `Ok(Ok(event))` filtered by `should_sync_event`; `Ok(Err(e))` logged
        if k.kept then
          ({ s with now := now1, queue := q, pending := s.pending ++ [k] }, .eventKept k)
        else
          ({ s with now := now1, queue := q }, .eventDropped k)
      | [] =>
        -- watch.rs:83-101: `Err(RecvTimeoutError::Timeout)`
        let now2 := now1 + c.recvTimeout
        if !s.pending.isEmpty && decide (c.debounce ≤ now2 - s.lastSync) then
          ({ s with now := now2, phase := .sync, snap := s.src, syncs := s.syncs + 1, ok := true }, .timeoutSync)
        else
          ({ s with now := now2 }, .timeoutIdle)
  | .sync =>
    -- watch.rs:89-99: the sync returns; `pending_changes.clear(); last_sync = Instant::now();`
    ({ s with phase := .loop, dst := syncTo c s.snap s.dst, pending := [], lastSync := s.now }, .syncEnd)
  | .done => (s, .halted)

/-- The loop thread's move when the sync it would complete returns `Err` (the scanner and the
    transfers fail with `NotFound` when a source entry vanishes under them).  The initial sync's
    error is propagated with `?` (watch.rs:40): `watch()` returns, the process exits with status 1.
    An error of a later sync is printed (watch.rs:93-95) and the loop goes on — after
    `pending_changes.clear()` (watch.rs:98).  At every other program point no sync is completing
    and the move is the ordinary `step`. -/
def failMove (c : Cfg) (s : State) : State × Decision :=
  match s.phase with
  | .initSync => ({ s with phase := .done, armed := false, exit := some .error, ok := false }, .initialSyncFailed)
  | .sync => ({ s with phase := .loop, pending := [], lastSync := s.now, ok := false }, .syncFailed)
  | _ => step c s

inductive Input
  | event (k : Kind) (edit : Option Ver)
  | step
  | tick (δ : Nat)
  | sigint
  | fail
  deriving DecidableEq, Repr

/-- A source change and/or the delivery of a watcher event.  Without an armed watcher nothing
    is delivered (the change still happens). -/
def deliver (s : State) (k : Kind) (edit : Option Ver) : State :=
  let s1 : State := match edit with
    | some v => { s with src := v }
    | none => s
  if s1.armed then { s1 with queue := s1.queue ++ [k] } else s1

/-- SIGINT: caught by tokio once `ctrl_c` has been polled, fatal before that. -/
def signal (s : State) : State :=
  if s.phase = .done then s
  else if s.handler then { s with sig := true }
  else { s with phase := .done, armed := false, exit := some .killed }

def advance (s : State) (δ : Nat) : State := { s with now := s.now + δ }

def apply (c : Cfg) (s : State) : Input → State
  | .event k e => deliver s k e
  | .step => (step c s).1
  | .tick δ => advance s δ
  | .sigint => signal s
  | .fail => (failMove c s).1

def run (c : Cfg) (s : State) (is : List Input) : State := is.foldl (apply c) s

/-- the decisions of the `step` inputs of a schedule, in order -/
def decisions (c : Cfg) : State → List Input → List Decision
  | _, [] => []
  | s, .step :: t => (step c s).2 :: decisions c (step c s).1 t
  | s, .fail :: t => (failMove c s).2 :: decisions c (failMove c s).1 t
  | s, i :: t => decisions c (apply c s i) t

/-- number of `step` inputs in a schedule: the loop thread's moves other than failing syncs (`fail`
    is not counted, so a bound in `nSteps` allows any number of failed syncs on top) -/
def nSteps : List Input → Nat
  | [] => 0
  | .step :: t => nSteps t + 1
  | _ :: t => nSteps t

/-- quiescence: the environment only lets time pass -/
def Input.quiet : Input → Bool
  | .step => true
  | .tick _ => true
  | _ => false

def Quiescent (is : List Input) : Prop := ∀ i ∈ is, i.quiet = true

/-- the `notify` assumption: every change of the source comes with an event of a kept kind
    (inotify: IN_CREATE / IN_MODIFY / IN_ATTRIB / IN_MOVED_* / IN_DELETE map to
    Create / Modify / Remove in notify 6.1's inotify backend). -/
def Input.faithful : Input → Bool
  | .event k (some _) => k.kept
  | _ => true

/-- What the environment may do in state `s`: source changes come with a kept event (`faithful`),
    and a sync only fails when the source changed under it (no I/O faults are injected: C20 does not
    quantify over faults). -/
def admissible1 (s : State) : Input → Bool
  | .fail => if s.phase = .sync ∨ s.phase = .initSync then decide (s.snap ≠ s.src) else true
  | i => i.faithful

def admissible (c : Cfg) : State → List Input → Bool
  | _, [] => true
  | s, i :: t => admissible1 s i && admissible c (apply c s i) t

def ceilDiv (a b : Nat) : Nat := (a + b - 1) / b

end SyModel.Watch
