/-
  SyModel.Hardlink.Protocol — the hard-link hand-off `Transferrer::transfer_link_member`
  (`/repo/src/sync/transfer.rs`, shared by `create` and — since a68466f — `update`) as a labelled
  transition system.

  One *worker* = one planned task of `SyncEngine::sync` for one file: `transferrer.create(source,
  dest)` (`Action.create`), `transferrer.update(source, dest)` (`Action.update`), or nothing at all
  (`Action.skip`: the planner found the destination up to date — the path takes part only as a name
  in the destination).  All workers of a run share one `Arc<Mutex<HashMap<u64, InodeState>>>`.

  For an update the owner runs `transport.sync_file_with_delta` instead of `copy_file`
  (`src/transport/local.rs`): below the 10 MiB gate, and when no other path of the run names the
  destination's inode (`has_hard_links`, 8b4f96e), it is `fs::copy` over the existing file — a
  *write-through*: the destination inode keeps its identity; at or above the gate
  (`WorkerCfg.large`), or when the inode is shared, the file is rebuilt under a temp name and renamed
  over the path (fresh inode), whether or not the source has several names. A non-owner that finds
  `Completed(first)`: on creation `create_hardlink(first, dest)`; on update nothing if `dest` already
  names `first`'s inode, else `transport.remove(dest)` and then the link.

  Granularity: one micro-step = one critical section of the map's mutex, one creation / poll of a
  `Notified` future, one `notify_waiters()` call, or one poll of a transport operation.  Micro-step
  interleavings are the thread-level schedules; the `poll` macro-step (run one worker to its next
  pending await) is what a single-threaded executor can interleave.

  tokio `Notify` (1.47.1, `src/sync/notify.rs`) is *modelled, not verified*: a `Notify` carries the
  number of `notify_waiters()` calls (`notify_waiters_calls`, l.392/469); `notified()` snapshots it at
  creation (l.565-575); polling the future completes iff the number differs from the snapshot
  (l.1132, l.1249) — so a future created after the call is not woken by it, and a future created
  before the call is woken even if it was never polled.  A `Notify` object is created by the worker
  that claims an inode (`transfer.rs:194`), at most once per worker, so the model names it by the
  claiming worker's id and stores its call counter in `State.calls`.

  Two variants of the protocol are kept:
  * `Variant.pinned`   — the code as shipped: the waiter reads `InProgress`, drops the lock and only
    then creates `notified()`; an owner whose copy fails returns through `?` leaving the entry
    `InProgress` and never notifies.
  * `Variant.repaired` — `fix-c13-hardlink-hang.diff`: the waiter creates the `Notified` future,
    re-checks the entry under the lock and awaits only if it is unchanged; a failing owner removes
    its entry and calls `notify_waiters()`.

  Import-free and executable: the driver (`Driver/Hardlink.lean`) runs these very definitions.
-/
namespace SyModel.Hardlink

inductive Variant where
  | pinned
  | repaired
  deriving DecidableEq, Repr

/-- The operations of the (mock or local) transport a worker issues. `attrs` stands for
    `write_xattrs` + `write_acls` + `write_bsd_flags` (`transfer.rs:223-230`). -/
inductive Op where
  | mkdir   -- `transport.create_dir_all(parent)` inside `copy_file`
  | copy    -- `transport.copy_file`
  | attrs
  | link    -- `transport.create_hardlink`
  | sync    -- `transport.sync_file_with_delta` (owner of an update, or an ordinary update)
  | remove  -- `transport.remove(dest)` before re-linking an updated member
  deriving DecidableEq, Repr

/-- What the planner decided for the path. -/
inductive Action where
  | create
  | update
  | skip
  deriving DecidableEq, Repr

/-- A destination file: its inode identity and content id. A copy (or temp+rename update) by worker
    `w` creates the fresh inode `w`; a link makes the path share the inode of its target; files that
    exist before the run carry inode ids `≥ cfg.n` (`Cfg.DstOk.oldInodes`). -/
structure File where
  ino : Nat
  content : Nat
  deriving DecidableEq, Repr

inductive Res where
  | ok
  | err (op : Op)
  deriving DecidableEq, Repr

/-- Static description of one worker: its source inode (= link group), whether the hard-link branch
    is taken at all (`preserve_hardlinks && nlink > 1 && inode.is_some()`, `transfer.rs:88-89`), how
    often each transport operation returns `Pending` before finishing, and the fault plan: which of
    its operations fails. -/
structure WorkerCfg where
  inode : Nat
  linked : Bool
  action : Action := .create
  /-- update only: the destination is at or above the delta gate (temp file + rename) -/
  large : Bool := false
  /-- the destination file before the run (`none` for a path to be created) -/
  dst0 : Option File := none
  /-- yields / failure of `create_dir_all` (create) resp. `remove` (update) -/
  yMkdir : Nat
  yCopy : Nat
  yLink : Nat
  failMkdir : Bool
  /-- failure of `copy_file` (create) resp. `sync_file_with_delta` (update) -/
  failCopy : Bool
  failMeta : Bool
  failLink : Bool
  deriving Repr

structure Cfg where
  variant : Variant
  n : Nat                      -- number of workers; worker ids are `0 … n-1`
  worker : Nat → WorkerCfg
  content : Nat → Nat          -- source inode ↦ content id

/-- Value of the inode map (`InodeState`, `transfer.rs:12-17`); absence of a key is `none`.
    `inProgress g`: the `Notify` created by worker `g`.  `completed p`: the destination path of
    worker `p`. -/
inductive Entry where
  | inProgress (owner : Nat)
  | completed (path : Nat)
  deriving DecidableEq, Repr

/-- Program counter of a worker. -/
inductive Pc where
  | start                          -- top of the `loop`, about to lock and read (`transfer.rs:123-127`)
  | sawNone                        -- read `None`; about to lock again and claim with re-check (l.193-202)
  | sawInProgress (g : Nat)        -- read `InProgress(g)`, lock dropped; about to call `notified()` (l.166-177)
  | armed (g snap : Nat)           -- repaired only: future created, about to re-check under the lock
  | waiting (g snap : Nat)         -- awaiting the `Notified` future
  | linkOp (p k : Nat)             -- `create_hardlink(dest of p, dest)` in flight, `k` yields left
  | sameOp (p : Nat)               -- update, found `Completed(p)`: about to compare inodes (`same_inode`)
  | removeOp (p k : Nat)           -- update: `remove(dest)` in flight before linking to `p`
  | mkdirOp (k : Nat)
  | copyOp (k : Nat)
  | syncOp (k : Nat)               -- `sync_file_with_delta` in flight
  | metaOp
  | complete                       -- about to insert `Completed(dest)` (l.238-242)
  | notifyOk                       -- about to call `notify_waiters()` (l.243)
  | cleanup (op : Op)              -- repaired only: an operation failed; about to remove the entry
  | failNotify (op : Op)           -- repaired only: about to call `notify_waiters()` and return the error
  | done (r : Res)
  deriving DecidableEq, Repr

structure State where
  pc : Nat → Pc
  map : Nat → Option Entry        -- source inode ↦ entry
  calls : Nat → Nat               -- `notify_waiters()` calls on the `Notify` created by worker `g`
  dst : Nat → Option File         -- destination path of worker `w` ↦ file

inductive Label where
  | plain                          -- not a hard-link candidate: ordinary copy (l.96-108)
  | readNone
  | readInProgress (g : Nat)
  | readCompleted (p : Nat)
  | claimOk
  | claimLost
  | arm (g : Nat)
  | recheckSame
  | recheckChanged
  | wake
  | yield (op : Op)                -- the operation returned `Pending` (an await point)
  | opOk (op : Op)
  | opErr (op : Op)
  | sameInode                      -- update: the path already names the first path's inode
  | otherInode                     -- update: it does not; it will be removed and re-linked
  | complete
  | remove
  | notify
  deriving DecidableEq, Repr

/-- What a step does to the destination name space. -/
inductive DstEff where
  | keep
  | set (f : Option File)          -- the worker's own path now names `f` (or nothing)
  | through (c : Nat)              -- `fs::copy` over the existing file: every name of its inode shows `c`
  deriving DecidableEq, Repr

/-- What one micro-step of worker `w` changes: its own pc, optionally the map entry of its own
    inode, optionally one `notify_waiters()` call on its own `Notify`, optionally its own
    destination path. -/
structure Effect where
  pc : Pc
  map : Option (Option Entry) := none
  notify : Bool := false
  dst : DstEff := .keep

/-- Where a failed operation of a copying worker leads: the pinned code returns through `?` (at the
    operations of `transfer.rs:215-230`); the repaired code releases the claim first. Workers outside
    the hard-link branch hold no claim. -/
def failPc (cfg : Cfg) (c : WorkerCfg) (op : Op) : Pc :=
  match cfg.variant with
  | .repaired => if c.linked then .cleanup op else .done (.err op)
  | .pinned => .done (.err op)

/-- `has_hard_links(dest)`: another path of the run names the inode `i`. -/
def sharedIno (n : Nat) (dst : Nat → Option File) (w i : Nat) : Bool :=
  (List.range n).any fun q => q != w && (match dst q with | some f => f.ino == i | none => false)

/-- One micro-step of worker `w` with static description `c`, as a function of its pc, the map
    entry of its inode, the notify counters and the destination files. `none` = not enabled
    (finished, or blocked on a `Notified` future that is not ready). -/
def next (cfg : Cfg) (w : Nat) (c : WorkerCfg) (pc : Pc) (entry : Option Entry)
    (calls : Nat → Nat) (dst : Nat → Option File) : Option (Label × Effect) :=
  match pc with
  | .start =>
    if c.linked then
      match entry with
      | none => some (.readNone, { pc := .sawNone })
      | some (.inProgress g) => some (.readInProgress g, { pc := .sawInProgress g })
      | some (.completed p) =>
        some (.readCompleted p, { pc := if c.action = .update then .sameOp p else .linkOp p c.yLink })
    else some (.plain, { pc := if c.action = .update then .syncOp c.yCopy else .mkdirOp c.yMkdir })
  | .sawNone =>
    match entry with
    | none => some (.claimOk, { pc := if c.action = .update then .syncOp c.yCopy else .mkdirOp c.yMkdir,
                                map := some (some (.inProgress w)) })
    | some _ => some (.claimLost, { pc := .start })
  | .sawInProgress g =>
    match cfg.variant with
    | .repaired => some (.arm g, { pc := .armed g (calls g) })
    | .pinned => some (.arm g, { pc := .waiting g (calls g) })
  | .armed g snap =>
    if entry = some (.inProgress g) then some (.recheckSame, { pc := .waiting g snap })
    else some (.recheckChanged, { pc := .start })
  | .waiting g snap =>
    if calls g = snap then none else some (.wake, { pc := .start })
  | .linkOp p (k + 1) => some (.yield .link, { pc := .linkOp p k })
  | .linkOp p 0 =>
    if c.failLink then some (.opErr .link, { pc := .done (.err .link) })
    else some (.opOk .link, { pc := .done .ok, dst := .set (dst p) })
  | .sameOp p =>
    match dst p, dst w with
    | some fp, some fw =>
      if fp.ino = fw.ino then some (.sameInode, { pc := .done .ok })
      else some (.otherInode, { pc := .removeOp p c.yMkdir })
    | _, _ => some (.otherInode, { pc := .removeOp p c.yMkdir })
  | .removeOp p (k + 1) => some (.yield .remove, { pc := .removeOp p k })
  | .removeOp p 0 =>
    if c.failMkdir || (dst w).isNone then some (.opErr .remove, { pc := .done (.err .remove) })
    else some (.opOk .remove, { pc := .linkOp p c.yLink, dst := .set none })
  | .mkdirOp (k + 1) => some (.yield .mkdir, { pc := .mkdirOp k })
  | .mkdirOp 0 =>
    if c.failMkdir then some (.opErr .mkdir, { pc := failPc cfg c .mkdir })
    else some (.opOk .mkdir, { pc := .copyOp c.yCopy })
  | .copyOp (k + 1) => some (.yield .copy, { pc := .copyOp k })
  | .copyOp 0 =>
    if c.failCopy then some (.opErr .copy, { pc := failPc cfg c .copy })
    else some (.opOk .copy, { pc := .metaOp, dst := .set (some ⟨w, cfg.content c.inode⟩) })
  | .syncOp (k + 1) => some (.yield .sync, { pc := .syncOp k })
  | .syncOp 0 =>
    if c.failCopy then some (.opErr .sync, { pc := failPc cfg c .sync })
    else
      match dst w with
      | none => some (.opOk .sync, { pc := .metaOp, dst := .set (some ⟨w, cfg.content c.inode⟩) })
      | some fw =>
        if c.large || sharedIno cfg.n dst w fw.ino then
          some (.opOk .sync, { pc := .metaOp, dst := .set (some ⟨w, cfg.content c.inode⟩) })
        else some (.opOk .sync, { pc := .metaOp, dst := .through (cfg.content c.inode) })
  | .metaOp =>
    if c.failMeta then some (.opErr .attrs, { pc := failPc cfg c .attrs })
    else some (.opOk .attrs, { pc := if c.linked then .complete else .done .ok })
  | .complete => some (.complete, { pc := .notifyOk, map := some (some (.completed w)) })
  | .notifyOk => some (.notify, { pc := .done .ok, notify := true })
  | .cleanup op => some (.remove, { pc := .failNotify op, map := some none })
  | .failNotify op => some (.notify, { pc := .done (.err op), notify := true })
  | .done _ => none

/-- `fs::copy` over the existing file of path `w`: the inode keeps its identity and every path that
    names it shows the content `c`. -/
def writeThrough (d : Nat → Option File) (w c : Nat) : Nat → Option File := fun v =>
  match d w, d v with
  | some fw, some fv => if fv.ino = fw.ino then some ⟨fv.ino, c⟩ else some fv
  | _, x => x

def State.apply (s : State) (w inode : Nat) (e : Effect) : State where
  pc := fun v => if v = w then e.pc else s.pc v
  map := match e.map with
    | none => s.map
    | some m => fun j => if j = inode then m else s.map j
  calls := if e.notify then fun v => if v = w then s.calls v + 1 else s.calls v else s.calls
  dst := match e.dst with
    | .keep => s.dst
    | .set d => fun v => if v = w then d else s.dst v
    | .through c => writeThrough s.dst w c

/-- The labelled transition relation as a partial function: `step cfg s w = some (l, s')` iff worker
    `w` is enabled in `s`, its micro-step is labelled `l` and leads to `s'`. -/
def step (cfg : Cfg) (s : State) (w : Nat) : Option (Label × State) :=
  if w < cfg.n then
    match next cfg w (cfg.worker w) (s.pc w) (s.map (cfg.worker w).inode) s.calls s.dst with
    | none => none
    | some (l, e) => some (l, s.apply w (cfg.worker w).inode e)
  else none

def enabled (cfg : Cfg) (s : State) (w : Nat) : Bool := (step cfg s w).isSome

/-- The enabled set, as a list of worker ids. -/
def enabledSet (cfg : Cfg) (s : State) : List Nat := (List.range cfg.n).filter (enabled cfg s)

/-- Initial state: skipped paths have nothing to do; every path has its pre-run destination file. -/
def init (cfg : Cfg) : State where
  pc := fun w => if (cfg.worker w).action = .skip then .done .ok else .start
  map := fun _ => none
  calls := fun _ => 0
  dst := fun w => if w < cfg.n then (cfg.worker w).dst0 else none

def Pc.isDone : Pc → Bool
  | .done _ => true
  | _ => false

/-- Final states: every worker has returned. -/
def allDone (cfg : Cfg) (s : State) : Prop := ∀ w, w < cfg.n → (s.pc w).isDone = true

def allDoneB (cfg : Cfg) (s : State) : Bool := (List.range cfg.n).all fun w => (s.pc w).isDone

/-! ### executions -/

/-- `Exec cfg s sched s'`: running the micro-steps of the workers listed in `sched` (each enabled
    when its turn comes) leads from `s` to `s'`. -/
inductive Exec (cfg : Cfg) : State → List Nat → State → Prop where
  | nil (s : State) : Exec cfg s [] s
  | cons {s s' s'' : State} {w : Nat} {l : Label} {ws : List Nat} :
      step cfg s w = some (l, s') → Exec cfg s' ws s'' → Exec cfg s (w :: ws) s''

def Reachable (cfg : Cfg) (s : State) : Prop := ∃ sched, Exec cfg (init cfg) sched s

/-- Executable run of a micro-step schedule; stops (returning the remaining schedule) at the first
    worker that is not enabled. -/
def runMicro (cfg : Cfg) : State → List Nat → State × List Label × List Nat
  | s, [] => (s, [], [])
  | s, w :: ws =>
    match step cfg s w with
    | none => (s, [], w :: ws)
    | some (l, s') =>
      let (s'', ls, rest) := runMicro cfg s' ws
      (s'', l :: ls, rest)

/-! ### the variant (ranking function) -/

/-- remaining *owner events* (claim, entry change, notify) of a worker at this pc. -/
def Pc.events : Pc → Nat
  | .start | .sawNone | .sawInProgress _ | .armed _ _ | .waiting _ _ => 3
  | .mkdirOp _ | .copyOp _ | .syncOp _ | .metaOp | .complete | .cleanup _ => 2
  | .notifyOk | .failNotify _ => 1
  | .linkOp _ _ | .sameOp _ | .removeOp _ _ | .done _ => 0

/-- rank of the loop phase of a worker: more than everything it can still do after leaving it. -/
def WorkerCfg.loopBase (c : WorkerCfg) : Nat := 8 + c.yMkdir + c.yCopy + c.yLink

/-- remaining own micro-steps until the next blocking point, assuming nobody else moves. -/
def Pc.local (c : WorkerCfg) : Pc → Nat
  | .start => c.loopBase + 3
  | .sawNone => c.loopBase + 2
  | .sawInProgress _ => c.loopBase + 2
  | .armed _ _ => c.loopBase + 1
  | .waiting _ _ => c.loopBase
  | .linkOp _ k => 1 + k
  | .removeOp _ k => 2 + c.yLink + k
  | .sameOp _ => 3 + c.yLink + c.yMkdir
  | .mkdirOp k => 5 + c.yCopy + k
  | .copyOp k => 4 + k
  | .syncOp k => 4 + k
  | .metaOp => 3
  | .complete => 2
  | .cleanup _ => 2
  | .notifyOk => 1
  | .failNotify _ => 1
  | .done _ => 0

/-- the worker's next step sends it back to the top of the loop (because another worker's event
    intervened): it gets the steps of one more iteration. -/
def loopsBack (pc : Pc) (entry : Option Entry) (calls : Nat → Nat) : Bool :=
  match pc with
  | .sawNone => entry != none
  | .sawInProgress g => entry != some (.inProgress g)
  | .armed g snap => entry != some (.inProgress g) || calls g != snap
  | .waiting g snap => calls g != snap
  | _ => false

def bonus : Nat := 4

/-- weight of one owner event: more than the bonus it can hand to every worker. -/
def Cfg.weight (cfg : Cfg) : Nat := cfg.n * bonus + 1

def rank (cfg : Cfg) (s : State) (w : Nat) : Nat :=
  cfg.weight * (s.pc w).events + (s.pc w).local (cfg.worker w)
    + (if loopsBack (s.pc w) (s.map (cfg.worker w).inode) s.calls then bonus else 0)

def sumTo (f : Nat → Nat) : Nat → Nat
  | 0 => 0
  | n + 1 => sumTo f n + f n

/-- The variant: decreases on every micro-step of every worker (`Props.C13.terminates`). -/
def measure (cfg : Cfg) (s : State) : Nat := sumTo (rank cfg s) cfg.n

/-! ### the `poll` macro-step -/

inductive PollOut where
  | pending
  | ready (r : Res)
  | outOfFuel           -- never returned by `poll` (`Props.C13.poll_never_out_of_fuel`)
  deriving DecidableEq, Repr

def Label.isYield : Label → Bool
  | .yield _ => true
  | _ => false

/-- Run worker `w` until it returns `Ready`, reaches an await point of a transport operation, or
    blocks on its `Notified` future.  Labels are accumulated in reverse. -/
def pollN (cfg : Cfg) : Nat → State → Nat → List Label → State × List Label × PollOut
  | 0, s, _, acc => (s, acc.reverse, .outOfFuel)
  | fuel + 1, s, w, acc =>
    match s.pc w with
    | .done r => (s, acc.reverse, .ready r)
    | _ =>
      match step cfg s w with
      | none => (s, acc.reverse, .pending)
      | some (l, s') =>
        if l.isYield then (s', (l :: acc).reverse, .pending)
        else pollN cfg fuel s' w (l :: acc)

/-- One `Future::poll` of worker `w`'s `create()` future. -/
def poll (cfg : Cfg) (s : State) (w : Nat) : State × List Label × PollOut :=
  pollN cfg (measure cfg s + 1) s w []

end SyModel.Hardlink
