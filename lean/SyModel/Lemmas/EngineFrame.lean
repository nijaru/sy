/-
  What one task does to the destination under a fault plan (`execTask`), and what a whole task list leaves alone.
  The frame: a task changes the destination only at its own `rel`, at strict ancestors of `rel` that were absent (they
  become directories) and — for a delete — at and below `rel`; hence a path that the remaining tasks neither own nor
  delete from above keeps its node through the rest of the fold; and a present path stays present unless a delete sits
  at or above it or a fault leaves nothing there (`execTask_present`, `foldl_present`).
-/
import SyModel.Lemmas.EngineExec
namespace SyModel.Engine

/-- the fault that actually hits task `t` (none in a dry run or for a skip) -/
def faultOf (cfg : Cfg) (flt : Faults) (t : Task) : Option (Option DNode) :=
  if cfg.dryRun || t.act == .skip then none else flt t

theorem faultOf_noFaults (cfg : Cfg) (t : Task) : faultOf cfg noFaults t = none := by
  unfold faultOf noFaults; split <;> rfl

theorem execTask_cases (cfg : Cfg) (flt : Faults) (st : Exec) (t : Task) :
    (∃ g, faultOf cfg flt t = some g ∧ t.act ≠ .skip ∧ cfg.dryRun = false ∧
        execTask cfg flt st t = ⟨{ st.w with dst := garbageAt st.w.dst t.rel g }, st.b.fail t⟩) ∨
    (faultOf cfg flt t = none ∧ ∃ w', perform cfg st.w t = some w' ∧ execTask cfg flt st t = ⟨w', st.b.ok t⟩) ∨
    (faultOf cfg flt t = none ∧ perform cfg st.w t = none ∧ execTask cfg flt st t = ⟨st.w, st.b.fail t⟩) := by
  unfold execTask
  cases hf : faultOf cfg flt t with
  | some g =>
    left
    have hf' := hf
    unfold faultOf at hf
    split at hf
    · cases hf
    · rename_i hc
      simp only [Bool.or_eq_true, beq_iff_eq, not_or, Bool.not_eq_true] at hc
      refine ⟨g, rfl, hc.2, hc.1, ?_⟩
      unfold faultOf at hf'
      rw [hf']
  | none =>
    right
    unfold faultOf at hf
    rw [hf]
    cases hp : perform cfg st.w t with
    | some w' => exact Or.inl ⟨rfl, w', rfl, rfl⟩
    | none => exact Or.inr ⟨rfl, rfl, rfl⟩

theorem execTask_skip (cfg : Cfg) (flt : Faults) (st : Exec) {t : Task} (hs : t.act = .skip) :
    execTask cfg flt st t = ⟨st.w, st.b.ok t⟩ := by
  rcases execTask_cases cfg flt st t with ⟨g, _, hns, _⟩ | ⟨_, w', hp, he⟩ | ⟨_, hp, _⟩
  · exact absurd hs hns
  · rw [perform_skip hs] at hp; cases hp; exact he
  · rw [perform_skip hs] at hp; cases hp

theorem execTask_noFaults_eq (cfg : Cfg) (st : Exec) (t : Task) :
    execTask cfg noFaults st t =
      match perform cfg st.w t with
      | some w' => ⟨w', st.b.ok t⟩
      | none => ⟨st.w, st.b.fail t⟩ := by
  unfold execTask noFaults
  simp only [ite_self]
  rfl

theorem execTask_of_perform {cfg : Cfg} {flt : Faults} {st : Exec} {t : Task} {w' : World}
    (hf : faultOf cfg flt t = none) (hp : perform cfg st.w t = some w') :
    execTask cfg flt st t = ⟨w', st.b.ok t⟩ := by
  rcases execTask_cases cfg flt st t with ⟨g, hf', _⟩ | ⟨_, w'', hp', he⟩ | ⟨_, hp', _⟩
  · rw [hf] at hf'; cases hf'
  · rw [hp] at hp'; cases hp'; exact he
  · rw [hp] at hp'; cases hp'


theorem execTask_ok_of_errors {cfg : Cfg} {flt : Faults} {st : Exec} {t : Task}
    (h : (execTask cfg flt st t).b.errors = st.b.errors) :
    faultOf cfg flt t = none ∧ ∃ w', perform cfg st.w t = some w' ∧ execTask cfg flt st t = ⟨w', st.b.ok t⟩ := by
  rcases execTask_cases cfg flt st t with ⟨g, _, _, _, he⟩ | ⟨hf, w', hp, he⟩ | ⟨_, _, he⟩
  · rw [he] at h; simp [Book.fail_errors] at h
  · exact ⟨hf, w', hp, he⟩
  · rw [he] at h; simp [Book.fail_errors] at h

theorem garbageAt_get?_ne (d : Map DNode) (p x : Path) (g : Option DNode) (h : x ≠ p) :
    (garbageAt d p g).get? x = d.get? x := by
  cases g with
  | none => simp [garbageAt, Map.get?_erase, Ne.symm h]
  | some v => simp [garbageAt, Map.get?_set, Ne.symm h]

theorem execTask_frame (cfg : Cfg) (flt : Faults) (st : Exec) (t : Task) (x : Path) (hx : t.rel ≠ x)
    (hdel : t.act = .delete → isPrefix t.rel x = false) :
    (execTask cfg flt st t).w.dst.get? x = st.w.dst.get? x ∨
      (st.w.dst.get? x = none ∧ (execTask cfg flt st t).w.dst.get? x = some .dir ∧ x ≠ [] ∧
        isPrefix x t.rel = true ∧ t.act ≠ .delete ∧ t.act ≠ .skip) := by
  rcases execTask_cases cfg flt st t with ⟨g, _, _, _, he⟩ | ⟨hf, w', hp, he⟩ | ⟨_, _, he⟩
  · rw [he]; exact Or.inl (garbageAt_get?_ne _ _ _ _ (Ne.symm hx))
  · rw [he]
    rcases perform_cases hp with rfl | ⟨hdry, hd⟩ | ⟨_, hs, hd, hp⟩
    · exact Or.inl rfl
    · exact Or.inl ((perform_delete_spec hd hdry hp).frame x (hdel hd))
    · rcases (performCU_frame hp).1 x (Ne.symm hx) with h1 | ⟨a, b, c, e⟩
      · exact Or.inl h1
      · exact Or.inr ⟨a, b, e, c, hd, hs⟩
  · rw [he]; exact Or.inl rfl

/-- task `t` may change what is at `x`: a delete at or above `x`, or a create/update at or below.  (That no task of
    a list covers `x` is the hypothesis of `foldl_frame` without its exception — an absent ancestor made on the way —
    and with skips at `x` allowed; `C19Truth.changes_reported` is stated in these terms.) -/
def Covers (t : Task) (x : Path) : Prop :=
  (t.act = .delete ∧ isPrefix t.rel x = true) ∨ (t.act ≠ .delete ∧ t.act ≠ .skip ∧ isPrefix x t.rel = true)

theorem execTask_get?_eq (cfg : Cfg) (flt : Faults) (st : Exec) (t : Task) (x : Path) (h : ¬ Covers t x) :
    (execTask cfg flt st t).w.dst.get? x = st.w.dst.get? x := by
  by_cases hs : t.act = .skip
  · rw [execTask_skip cfg flt st hs]
  · have hx : t.rel ≠ x := by
      intro he; apply h
      by_cases hd : t.act = .delete
      · exact Or.inl ⟨hd, he ▸ isPrefix_refl _⟩
      · exact Or.inr ⟨hd, hs, he ▸ isPrefix_refl _⟩
    have hdel : t.act = .delete → isPrefix t.rel x = false := by
      intro hd
      cases hp : isPrefix t.rel x with
      | false => rfl
      | true => exact absurd (Or.inl ⟨hd, hp⟩) h
    rcases execTask_frame cfg flt st t x hx hdel with h1 | ⟨_, _, _, c, d, e⟩
    · exact h1
    · exact absurd (Or.inr ⟨d, e, c⟩) h

theorem foldl_frame (cfg : Cfg) (flt : Faults) (ts : List Task) (st : Exec) (x : Path)
    (h : ∀ t ∈ ts, t.rel ≠ x ∧ (t.act = .delete → isPrefix t.rel x = false)) :
    (ts.foldl (execTask cfg flt) st).w.dst.get? x = st.w.dst.get? x ∨
      (st.w.dst.get? x = none ∧ (ts.foldl (execTask cfg flt) st).w.dst.get? x = some .dir ∧ x ≠ [] ∧
        ∃ t ∈ ts, isPrefix x t.rel = true ∧ t.act ≠ .delete ∧ t.act ≠ .skip) := by
  induction ts generalizing st with
  | nil => exact Or.inl rfl
  | cons t ts ih =>
    rw [List.foldl_cons]
    have ht := h t (List.mem_cons_self ..)
    have ih' := ih (execTask cfg flt st t) (fun t' ht' => h t' (List.mem_cons_of_mem _ ht'))
    rcases execTask_frame cfg flt st t x ht.1 ht.2 with h1 | ⟨a, b, c, d, e, f⟩
    · rcases ih' with h2 | ⟨a2, b2, c2, t', ht', d2⟩
      · exact Or.inl (h2.trans h1)
      · exact Or.inr ⟨h1 ▸ a2, b2, c2, t', List.mem_cons_of_mem _ ht', d2⟩
    · rcases ih' with h2 | ⟨a2, _⟩
      · exact Or.inr ⟨a, h2.trans b, c, t, List.mem_cons_self .., d, e, f⟩
      · rw [b] at a2; cases a2

theorem foldl_frame_present (cfg : Cfg) (flt : Faults) (ts : List Task) (st : Exec) (x : Path)
    (h : ∀ t ∈ ts, t.rel ≠ x ∧ (t.act = .delete → isPrefix t.rel x = false))
    (hx : st.w.dst.get? x ≠ none) :
    (ts.foldl (execTask cfg flt) st).w.dst.get? x = st.w.dst.get? x := by
  rcases foldl_frame cfg flt ts st x h with h1 | ⟨a, _⟩
  · exact h1
  · exact absurd a hx

theorem foldl_get?_eq (cfg : Cfg) (flt : Faults) (ts : List Task) (st : Exec) (x : Path)
    (h : ∀ t ∈ ts, ¬ Covers t x) :
    (ts.foldl (execTask cfg flt) st).w.dst.get? x = st.w.dst.get? x := by
  induction ts generalizing st with
  | nil => rfl
  | cons t ts ih =>
    rw [List.foldl_cons, ih _ (fun t' ht' => h t' (List.mem_cons_of_mem _ ht'))]
    exact execTask_get?_eq cfg flt st t x (h t (List.mem_cons_self ..))

theorem execTask_present (cfg : Cfg) (flt : Faults) (st : Exec) (t : Task) (p : Path) (hp0 : p ≠ [])
    (hp : st.w.dst.get? p ≠ none) (hdel : t.act = .delete → isPrefix t.rel p = false)
    (hflt : t.rel = p → faultOf cfg flt t ≠ some none) :
    (execTask cfg flt st t).w.dst.get? p ≠ none := by
  by_cases hr : t.rel = p
  · have hnd : t.act ≠ .delete := by
      intro hd; have := hdel hd; rw [hr, isPrefix_refl] at this; cases this
    rcases execTask_cases cfg flt st t with ⟨g, hf, _, _, he⟩ | ⟨_, w', hperf, he⟩ | ⟨_, _, he⟩
    · rw [he]
      cases g with
      | none => exact absurd hf (hflt hr)
      | some v => simp [garbageAt, hr]
    · rw [he]
      rcases perform_cases hperf with rfl | ⟨_, hd⟩ | ⟨_, _, _, hperf⟩
      · exact hp
      · exact absurd hd hnd
      · by_cases hpl : t.payload = .nothing
        · rw [performCU_nothing hpl hperf]; exact hp
        · exact hr ▸ performCU_present hperf hpl (hr ▸ hp0)
    · rw [he]; exact hp
  · rcases execTask_frame cfg flt st t p hr hdel with h1 | ⟨_, h2, _⟩
    · rw [h1]; exact hp
    · rw [h2]; simp

theorem foldl_present (cfg : Cfg) (flt : Faults) (ts : List Task) (st : Exec) (p : Path) (hp0 : p ≠ [])
    (hp : st.w.dst.get? p ≠ none) (hdel : ∀ t ∈ ts, t.act = .delete → isPrefix t.rel p = false)
    (hflt : ∀ t ∈ ts, t.rel = p → faultOf cfg flt t ≠ some none) :
    (ts.foldl (execTask cfg flt) st).w.dst.get? p ≠ none := by
  induction ts generalizing st with
  | nil => exact hp
  | cons t ts ih =>
    rw [List.foldl_cons]
    apply ih _ _ (fun t' ht' => hdel t' (List.mem_cons_of_mem _ ht')) (fun t' ht' => hflt t' (List.mem_cons_of_mem _ ht'))
    exact execTask_present cfg flt st t p hp0 hp (hdel t (List.mem_cons_self ..)) (hflt t (List.mem_cons_self ..))

end SyModel.Engine
