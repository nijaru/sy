/-
  One run of the translated `transfer_link_member` on `ltsExt` (Lemmas/GenLinkMemberLts.lean) IS the model's `poll`.
  `Steps` is a chain of one worker's micro-steps, and a chain that ends like a poll is the poll (`poll_of_steps`); `Runs`
  says what one operation on `ltsExt` does as such a chain (one lemma per operation, each at its program counter);
  `PollsAs` says that the run of a piece of the normal form from its program counter is the model's poll from there, and
  composes along the arms up to the whole function (`genCall_sim`, `resume_sim`).  `OwnSteps`: every run, synchronised
  or not, moves the state by micro-steps of its own worker only.  Last, for Props/GenLinkMemberLts.lean: the two halves
  of the claim's lock scope read backwards from a successful run (`contains_false_holds_lock`, `insert_claim_is_claimOk`),
  and the model's `pollSched` as an execution and over `++` (`pollSched_exec`, `pollSched_append`).  (Namespace
  `SyModel.Lemmas.GenLinkMemberLts`, shared with the instance and the scenarios.)
-/
import SyModel.Lemmas.GenLinkMemberLts
import SyModel.Lemmas.GenLinkMember
import SyModel.Lemmas.HardlinkPoll
namespace SyModel.Lemmas.GenLinkMemberLts
open SyModel SyModel.Hardlink SyModel.Generated SyModel.Generated.LinkMember SyModel.Lemmas.GenLinkMember
open SyModel.Lemmas.GenTransfer (runM op runM_op runM_bind runM_bind_ok runM_bind_error runM_capture_eq)

/-- `Steps cfg w s ls s'`: worker `w` performs the micro-steps labelled `ls` (none of them a transport `yield`) from `s`
    to `s'`, nobody else moves -/
inductive Steps (cfg : Cfg) (w : Nat) : State → List Label → State → Prop where
  | nil (s : State) : Steps cfg w s [] s
  | cons {s s' s'' : State} {l : Label} {ls : List Label} :
      step cfg s w = some (l, s') → l.isYield = false → Steps cfg w s' ls s'' → Steps cfg w s (l :: ls) s''

theorem Steps.single {cfg : Cfg} {w : Nat} {s s' : State} {l : Label} (h : step cfg s w = some (l, s'))
    (hy : l.isYield = false) : Steps cfg w s [l] s' := .cons h hy (.nil _)

theorem Steps.trans {cfg : Cfg} {w : Nat} {s s' s'' : State} {l1 l2 : List Label} (h1 : Steps cfg w s l1 s')
    (h2 : Steps cfg w s' l2 s'') : Steps cfg w s (l1 ++ l2) s'' := by
  induction h1 with
  | nil _ => exact h2
  | cons hs hy _ ih => exact .cons hs hy (ih h2)

theorem Steps.exec {cfg : Cfg} {w : Nat} {s s' : State} {ls : List Label} (h : Steps cfg w s ls s') :
    Exec cfg s (List.replicate ls.length w) s' := by
  induction h with
  | nil _ => exact Exec.nil _
  | cons hs _ _ ih => exact Exec.cons hs ih

/-- how a poll ends: the worker has returned `r`, or it is suspended at `notified.await` and not enabled (the future is not
    ready) -/
def PollEnd (cfg : Cfg) (w : Nat) (t' : State) (out : PollOut) : Prop :=
  (∃ r, out = .ready r ∧ t'.pc w = .done r) ∨
    (out = .pending ∧ (∃ g snap, t'.pc w = .waiting g snap) ∧ step cfg t' w = none)

theorem poll_steps {cfg : Cfg} {w : Nat} {s s' : State} {ls : List Label} (h : Steps cfg w s ls s') :
    poll cfg s w = ((poll cfg s' w).1, ls ++ (poll cfg s' w).2.1, (poll cfg s' w).2.2) := by
  induction h with
  | nil s => rfl
  | cons hs hy _ ih => rw [poll_step hs, hy, ih]; rfl

theorem poll_of_steps {cfg : Cfg} {w : Nat} {s s' : State} {ls : List Label} {out : PollOut}
    (h : Steps cfg w s ls s') (he : PollEnd cfg w s' out) : poll cfg s w = (s', ls, out) := by
  rw [poll_steps h]
  rcases he with ⟨r, rfl, hd⟩ | ⟨rfl, ⟨g, snap, hp⟩, hs⟩
  · rw [poll_done hd, List.append_nil]
  · rw [poll_blocked (by rw [hp]; rfl) hs, List.append_nil]

/-- `Runs cfg w x t r ls' t' b`: run from the state `t` (not blocked, whatever was logged before), `x` answers `r`, worker
    `w` has performed the chain `ls'` from `t` to `t'` (logged), and the blocked flag is `b`.  The flag is `true` only
    at the blocked exit of `notified.await` (`runs_await_blocked`), which ends a run: what composes starts from `false` -/
def Runs {α : Type} (cfg : Cfg) (w : Nat) (x : Rs.M LWorld α) (t : State) (r : Except Rs.Err α) (ls' : List Label)
    (t' : State) (b : Bool) : Prop :=
  Steps cfg w t ls' t' ∧ ∀ ls, runM x ⟨t, ls, false⟩ = (r, ⟨t', ls ++ ls', b⟩)

section RunsGeneric
variable {cfg : Cfg} {w : Nat} {α β : Type}

theorem Runs.pure (a : α) (t : State) : Runs cfg w (pure a : Rs.M LWorld α) t (.ok a) [] t false :=
  ⟨.nil _, fun ls => by simp⟩

theorem Runs.bind_ok {x : Rs.M LWorld α} {f : α → Rs.M LWorld β} {t t1 t2 : State} {a : α} {r : Except Rs.Err β}
    {l1 l2 : List Label} {b : Bool} (h1 : Runs cfg w x t (.ok a) l1 t1 false) (h2 : Runs cfg w (f a) t1 r l2 t2 b) :
    Runs cfg w (x >>= f) t r (l1 ++ l2) t2 b :=
  ⟨h1.1.trans h2.1, fun ls => by rw [runM_bind_ok (h1.2 ls), h2.2, List.append_assoc]⟩

theorem Runs.bind_err {x : Rs.M LWorld α} {f : α → Rs.M LWorld β} {t t1 : State} {e : Rs.Err}
    {l1 : List Label} {b : Bool} (h1 : Runs cfg w x t (.error e) l1 t1 b) :
    Runs cfg w (x >>= f) t (.error e) l1 t1 b :=
  ⟨h1.1, fun ls => by rw [runM_bind_error (h1.2 ls)]⟩

theorem Runs.capture {x : Rs.M LWorld α} {t t1 : State} {r : Except Rs.Err α} {l1 : List Label}
    (h1 : Runs cfg w x t r l1 t1 false) : Runs cfg w (Rs.capture x) t (.ok r) l1 t1 false :=
  ⟨h1.1, fun ls => by rw [runM_capture_eq, h1.2]⟩

/-- an operation that is exactly ONE micro-step of `w`: the step labelled `l` with the effect `e`, answered by `r` -/
abbrev OneStep {α : Type} (cfg : Cfg) (w : Nat) (x : Rs.M LWorld α) (t : State) (r : Except Rs.Err α) (l : Label)
    (e : Effect) : Prop :=
  Runs cfg w x t r [l] (t.apply w (cfg.worker w).inode e) false

/-- `hx` takes the field equation `ltsExt_* ..` of the operation, so that callers need no `rw` -/
theorem Runs.tick {x : Rs.M LWorld α} {guard : State → Bool} {ans : State → Label → Except Rs.Err α} {t : State}
    {l : Label} {e : Effect} {r : Except Rs.Err α} (hx : x = tick cfg w guard ans) (hw : w < cfg.n) (hg : guard t = true)
    (hn : next cfg w (cfg.worker w) (t.pc w) (t.map (cfg.worker w).inode) t.calls t.dst = some (l, e))
    (hy : l.isYield = false) (hr : ans t l = r) :
    OneStep cfg w x t r l e := by
  subst hx hr
  refine ⟨.single (step_of_next hw hn) hy, fun ls => ?_⟩
  unfold GenLinkMemberLts.tick
  rw [runM_op]
  simp only [hg, step_of_next hw hn, ↓reduceIte]

theorem Runs.transport {x : Rs.M LWorld α} {guard : State → Bool} {a : α} {t : State} {o : Op} {fail : Bool}
    {perr : Pc} {eok : Effect} (hx : x = GenLinkMemberLts.tick cfg w guard (ansOp a)) (hw : w < cfg.n) (hg : guard t = true)
    (hn : next cfg w (cfg.worker w) (t.pc w) (t.map (cfg.worker w).inode) t.calls t.dst =
      if fail then some (.opErr o, { pc := perr }) else some (.opOk o, eok)) :
    if fail then OneStep cfg w x t (.error (errOf o)) (.opErr o) { pc := perr }
    else OneStep cfg w x t (.ok a) (.opOk o) eok := by
  cases fail <;> simp only [Bool.false_eq_true, ↓reduceIte] at hn ⊢ <;> exact Runs.tick hx hw hg hn rfl rfl

theorem Runs.check {x : Rs.M LWorld α} {guard : State → Bool} {a : α} {t : State} (hx : x = check w guard a)
    (hg : guard t = true) : Runs cfg w x t (.ok a) [] t false := by
  subst hx
  refine ⟨.nil _, fun ls => ?_⟩
  unfold GenLinkMemberLts.check
  rw [runM_op]
  simp only [hg, ↓reduceIte, List.append_nil]

end RunsGeneric

/-- worker `w` is a member of a link group run by the repaired code, and its transport operations have no await points -/
structure Member (cfg : Cfg) (w : Nat) : Prop where
  repaired : cfg.variant = .repaired
  lt : w < cfg.n
  linked : (cfg.worker w).linked = true
  yMkdir : (cfg.worker w).yMkdir = 0
  yCopy : (cfg.worker w).yCopy = 0
  yLink : (cfg.worker w).yLink = 0

section Ops
variable {cfg : Cfg} {w : Nat} (fuel : Nat) (hm : Member cfg w)
include hm
-- the guards compare identifiers that are the same numbers on both sides and test the program counter's class;
-- the transition is `next` at a known program counter
attribute [local simp] encInode encNotify Pc.atRead Pc.atNotify Pc.atCleanup next

theorem runs_get_none {t : State} (hpc : t.pc w = .start) (he : t.map (cfg.worker w).inode = none) :
    OneStep cfg w ((ltsExt cfg w fuel).map_get (cfg.worker w).inode) t (.ok none) .readNone
      { pc := .sawNone } :=
  Runs.tick (ltsExt_map_get ..) hm.lt (by simp [hpc]) (by rw [hpc, he]; simp [hm.linked]) rfl
    (by simp [he])

theorem runs_get_inProgress {t : State} {g : Nat} (hpc : t.pc w = .start)
    (he : t.map (cfg.worker w).inode = some (.inProgress g)) :
    OneStep cfg w ((ltsExt cfg w fuel).map_get (cfg.worker w).inode) t (.ok (some (.InProgress g))) (.readInProgress g)
      { pc := .sawInProgress g } :=
  Runs.tick (ltsExt_map_get ..) hm.lt (by simp [hpc]) (by rw [hpc, he]; simp [hm.linked]) rfl
    (by simp [he, encEntry])

theorem runs_get_completed {t : State} {p : Nat} (hpc : t.pc w = .start)
    (he : t.map (cfg.worker w).inode = some (.completed p)) :
    OneStep cfg w ((ltsExt cfg w fuel).map_get (cfg.worker w).inode) t (.ok (some (.Completed (encPath p))))
      (.readCompleted p)
      { pc := if (cfg.worker w).action = .update then .sameOp p else .linkOp p 0 } :=
  Runs.tick (ltsExt_map_get ..) hm.lt (by simp [hpc])
    (by rw [hpc, he]; simp [hm.linked, hm.yLink]) rfl (by simp [he, encEntry])

omit hm in
theorem runs_new {t : State} (hpc : t.pc w = .sawNone) :
    Runs cfg w ((ltsExt cfg w fuel).Notify_new ()) t (.ok w) [] t false :=
  Runs.check (ltsExt_Notify_new ..) (by simp [hpc])

omit hm in
/-- the claim's lock scope, read half: the entry is still absent — nothing happens yet -/
theorem runs_contains_false {t : State} (hpc : t.pc w = .sawNone) (he : t.map (cfg.worker w).inode = none) :
    Runs cfg w ((ltsExt cfg w fuel).map_contains (cfg.worker w).inode) t (.ok false) [] t false := by
  refine ⟨.nil _, fun ls => ?_⟩
  rw [ltsExt_map_contains, runM_op]
  simp [hpc, he]

/-- … write half: the step `claimOk` -/
theorem runs_insert_claim {t : State} (hpc : t.pc w = .sawNone) (he : t.map (cfg.worker w).inode = none) :
    OneStep cfg w ((ltsExt cfg w fuel).map_insert (cfg.worker w).inode (.InProgress w)) t (.ok ()) .claimOk
      { pc := if (cfg.worker w).action = .update then .syncOp 0 else .mkdirOp 0,
          map := some (some (.inProgress w)) } :=
  Runs.tick (ltsExt_map_insert_inProgress ..) hm.lt (by simp [hpc, he])
    (by rw [hpc, he]; simp [hm.yCopy, hm.yMkdir]) rfl rfl

theorem runs_notified {t : State} {g : Nat} (hpc : t.pc w = .sawInProgress g) :
    OneStep cfg w ((ltsExt cfg w fuel).notified g) t (.ok (t.calls g)) (.arm g)
      { pc := .armed g (t.calls g) } :=
  Runs.tick (ltsExt_notified ..) hm.lt (by simp [hpc]) (by rw [hpc]; simp [hm.repaired]) rfl rfl

theorem runs_recheck_same {t : State} {g snap : Nat} (hpc : t.pc w = .armed g snap)
    (he : t.map (cfg.worker w).inode = some (.inProgress g)) :
    OneStep cfg w ((ltsExt cfg w fuel).map_get (cfg.worker w).inode) t (.ok (some (.InProgress g))) .recheckSame
      { pc := .waiting g snap } :=
  Runs.tick (ltsExt_map_get ..) hm.lt (by simp [hpc]) (by rw [hpc, he]; simp) rfl
    (by simp [he, encEntry])

theorem runs_recheck_changed {t : State} {g snap : Nat} (hpc : t.pc w = .armed g snap)
    (he : t.map (cfg.worker w).inode ≠ some (.inProgress g)) :
    Runs cfg w ((ltsExt cfg w fuel).map_get (cfg.worker w).inode) t
      (.ok ((t.map (cfg.worker w).inode).map encEntry)) [.recheckChanged]
      (t.apply w (cfg.worker w).inode { pc := .start }) false :=
  Runs.tick (ltsExt_map_get ..) hm.lt (by simp [hpc]) (by rw [hpc]; simp [he]) rfl rfl

omit hm in
theorem runs_await_blocked {t : State} {g snap : Nat} (hpc : t.pc w = .waiting g snap) (hc : t.calls g = snap) :
    Runs cfg w ((ltsExt cfg w fuel).await_notified snap) t (.error blockedErr) [] t true ∧ step cfg t w = none := by
  have hs : step cfg t w = none := step_none_of_next (by rw [hpc]; simp [hc])
  refine ⟨⟨.nil _, fun ls => ?_⟩, hs⟩
  rw [ltsExt_await_notified, runM_op]
  simp [hpc, hs]

theorem runs_await_wake {t : State} {g snap : Nat} (hpc : t.pc w = .waiting g snap) (hc : t.calls g ≠ snap) :
    OneStep cfg w ((ltsExt cfg w fuel).await_notified snap) t (.ok ()) .wake
      { pc := .start } := by
  have hs : step cfg t w = some (.wake, t.apply w (cfg.worker w).inode { pc := .start }) :=
    step_of_next hm.lt (by rw [hpc]; simp [hc])
  refine ⟨.single hs rfl, fun ls => ?_⟩
  rw [ltsExt_await_notified, runM_op]
  simp [hpc, hs]

/-- what `same_inode(first, dest)` answers in the state `t` -/
def sameAns (t : State) (p w : Nat) : Bool :=
  match t.dst p, t.dst w with
  | some fp, some fw => decide (fp.ino = fw.ino)
  | _, _ => false

theorem runs_same_inode {t : State} {p : Nat} (self : Transferrer) (hpc : t.pc w = .sameOp p) :
    OneStep cfg w ((ltsExt cfg w fuel).same_inode self (encPath p) (encPath w)) t (.ok (sameAns t p w))
      (if sameAns t p w then .sameInode else .otherInode)
      { pc := if sameAns t p w then .done .ok else .removeOp p 0 } := by
  have hn : next cfg w (cfg.worker w) (.sameOp p) (t.map (cfg.worker w).inode) t.calls t.dst =
      some (if sameAns t p w then .sameInode else .otherInode,
        { pc := if sameAns t p w then .done .ok else .removeOp p 0 }) := by
    -- `sameAns` is the test of the `.sameOp` arm of `next`
    cases hp : t.dst p <;> cases hq : t.dst w <;> simp only [next, sameAns, hp, hq, hm.yMkdir]
    · rfl
    · rfl
    · rfl
    · split <;> simp [*]
  rw [← hpc] at hn
  cases h : sameAns t p w <;> rw [h] at hn <;>
    exact Runs.tick (ltsExt_same_inode ..) hm.lt (by simp [hpc]) hn rfl rfl

/-- the LTS has no fault bit or yield count of its own for `remove`: on an update `failMkdir` / `yMkdir` are those of
    `remove` (`WorkerCfg`) -/
theorem runs_t_remove {t : State} {p : Nat} (o : Rs.Opaque) (hpc : t.pc w = .removeOp p 0) :
    if (cfg.worker w).failMkdir || (t.dst w).isNone then
      OneStep cfg w ((ltsExt cfg w fuel).t_remove o (encPath w) false) t (.error (errOf .remove)) (.opErr .remove)
        { pc := .done (.err .remove) }
    else
      OneStep cfg w ((ltsExt cfg w fuel).t_remove o (encPath w) false) t (.ok ()) (.opOk .remove)
        { pc := .linkOp p 0, dst := .set none } :=
  Runs.transport (ltsExt_t_remove ..) hm.lt (by simp [hpc]) (by rw [hpc]; simp only [next, hm.yLink])

theorem runs_link {t : State} {p : Nat} (o : Rs.Opaque) (hpc : t.pc w = .linkOp p 0) :
    if (cfg.worker w).failLink then
      OneStep cfg w ((ltsExt cfg w fuel).t_create_hardlink o (encPath p) (encPath w)) t (.error (errOf .link))
        (.opErr .link) { pc := .done (.err .link) }
    else
      OneStep cfg w ((ltsExt cfg w fuel).t_create_hardlink o (encPath p) (encPath w)) t (.ok ()) (.opOk .link)
        { pc := .done .ok, dst := .set (t.dst p) } :=
  Runs.transport (ltsExt_t_create_hardlink ..) hm.lt (by simp [hpc]) (by rw [hpc]; rfl)

theorem failPc_member (o : Op) : failPc cfg (cfg.worker w) o = .cleanup o := by
  simp [failPc, hm.repaired, hm.linked]

/-- what `sync_file_with_delta` does to the destination in the state `t`: a fresh inode for an absent path, a large
    file, or an inode that another path of the run names; else a write through the existing inode -/
def syncEff (cfg : Cfg) (t : State) (w : Nat) : DstEff :=
  match t.dst w with
  | none => .set (some ⟨w, cfg.content (cfg.worker w).inode⟩)
  | some fw =>
    if (cfg.worker w).large || sharedIno cfg.n t.dst w fw.ino then .set (some ⟨w, cfg.content (cfg.worker w).inode⟩)
    else .through (cfg.content (cfg.worker w).inode)

theorem runs_sync {t : State} (o : Rs.Opaque) (src : Rs.Path) (hpc : t.pc w = .syncOp 0) :
    if (cfg.worker w).failCopy then
      OneStep cfg w ((ltsExt cfg w fuel).t_sync_file_with_delta o src (encPath w)) t (.error (errOf .sync))
        (.opErr .sync) { pc := .cleanup .sync }
    else
      OneStep cfg w ((ltsExt cfg w fuel).t_sync_file_with_delta o src (encPath w)) t (.ok default)
        (.opOk .sync) { pc := .metaOp, dst := syncEff cfg t w } :=
  Runs.transport (ltsExt_t_sync ..) hm.lt (by simp [hpc]) (by
    -- `syncEff` is the case distinction of the `.syncOp 0` arm of `next`
    rw [hpc]
    cases hd : t.dst w <;> simp only [next, syncEff, hd, failPc_member hm]
    split
    · rfl
    · split <;> rfl)

/-- `self.copy_file(src, dest)` = `create_dir_all(parent)` then `transport.copy_file`: two micro-steps -/
theorem runs_copy_file {t : State} (self : Transferrer) (src : Rs.Path) (hpc : t.pc w = .mkdirOp 0) :
    if (cfg.worker w).failMkdir then
      OneStep cfg w ((ltsExt cfg w fuel).transferrer_copy_file self src (encPath w)) t (.error (errOf .mkdir))
        (.opErr .mkdir) { pc := .cleanup .mkdir }
    else if (cfg.worker w).failCopy then
      Runs cfg w ((ltsExt cfg w fuel).transferrer_copy_file self src (encPath w)) t (.error (errOf .copy))
        [.opOk .mkdir, .opErr .copy]
        ((t.apply w (cfg.worker w).inode { pc := .copyOp 0 }).apply w (cfg.worker w).inode { pc := .cleanup .copy }) false
    else
      Runs cfg w ((ltsExt cfg w fuel).transferrer_copy_file self src (encPath w)) t (.ok default)
        [.opOk .mkdir, .opOk .copy]
        ((t.apply w (cfg.worker w).inode { pc := .copyOp 0 }).apply w (cfg.worker w).inode
          { pc := .metaOp, dst := .set (some ⟨w, cfg.content (cfg.worker w).inode⟩) }) false := by
  rw [ltsExt_copy_file]
  split
  · rename_i h1
    exact Runs.bind_err (Runs.tick rfl hm.lt (by simp [hpc]) (by rw [hpc]; simp [h1, failPc_member hm]) rfl rfl)
  · rename_i h1
    split
    · rename_i h2
      exact Runs.bind_ok (Runs.tick rfl hm.lt (by simp [hpc]) (by rw [hpc]; simp [h1, hm.yCopy]) rfl rfl)
        (Runs.tick rfl hm.lt (by simp [apply_pc_self]) (by simp [apply_pc_self, h2, failPc_member hm]) rfl rfl)
    · rename_i h2
      exact Runs.bind_ok (Runs.tick rfl hm.lt (by simp [hpc]) (by rw [hpc]; simp [h1, hm.yCopy]) rfl rfl)
        (Runs.tick rfl hm.lt (by simp [apply_pc_self]) (by simp [apply_pc_self, h2]) rfl rfl)

/-- the three attribute writers: ONE micro-step of the LTS, attributed to `write_xattrs` -/
theorem runs_xattrs {t : State} (self : Transferrer) (fe : FileEntry) (hpc : t.pc w = .metaOp) :
    if (cfg.worker w).failMeta then
      OneStep cfg w ((ltsExt cfg w fuel).write_xattrs self fe (encPath w)) t (.error (errOf .attrs)) (.opErr .attrs)
        { pc := .cleanup .attrs }
    else
      OneStep cfg w ((ltsExt cfg w fuel).write_xattrs self fe (encPath w)) t (.ok ()) (.opOk .attrs)
        { pc := .complete } :=
  Runs.transport (ltsExt_write_xattrs ..) hm.lt (by simp [hpc])
    (by rw [hpc]; simp only [next, failPc_member hm, hm.linked, ↓reduceIte])

omit hm in
theorem runs_acls {t : State} (self : Transferrer) (fe : FileEntry) (hpc : t.pc w = .complete) :
    Runs cfg w ((ltsExt cfg w fuel).write_acls self fe (encPath w)) t (.ok ()) [] t false :=
  Runs.check (ltsExt_write_acls ..) (by simp [hpc])

omit hm in
theorem runs_bsd_flags {t : State} (self : Transferrer) (fe : FileEntry) (hpc : t.pc w = .complete) :
    Runs cfg w ((ltsExt cfg w fuel).write_bsd_flags self fe (encPath w)) t (.ok ()) [] t false :=
  Runs.check (ltsExt_write_bsd_flags ..) (by simp [hpc])

theorem runs_insert_completed {t : State} (hpc : t.pc w = .complete) :
    OneStep cfg w ((ltsExt cfg w fuel).map_insert (cfg.worker w).inode (.Completed (encPath w))) t (.ok ()) .complete
      { pc := .notifyOk, map := some (some (.completed w)) } :=
  Runs.tick (ltsExt_map_insert_completed ..) hm.lt (by simp [hpc]) (by rw [hpc]; rfl) rfl rfl

theorem runs_notify_ok {t : State} (hpc : t.pc w = .notifyOk) :
    OneStep cfg w ((ltsExt cfg w fuel).notify_waiters w) t (.ok ()) .notify
      { pc := .done .ok, notify := true } :=
  Runs.tick (ltsExt_notify_waiters ..) hm.lt (by simp [hpc]) (by rw [hpc]; rfl) rfl rfl

theorem runs_remove_claim {t : State} {o : Op} (hpc : t.pc w = .cleanup o) :
    OneStep cfg w ((ltsExt cfg w fuel).map_remove (cfg.worker w).inode) t (.ok ()) .remove
      { pc := .failNotify o, map := some none } :=
  Runs.tick (ltsExt_map_remove ..) hm.lt (by simp [hpc]) (by rw [hpc]; rfl) rfl rfl

theorem runs_notify_fail {t : State} {o : Op} (hpc : t.pc w = .failNotify o) :
    OneStep cfg w ((ltsExt cfg w fuel).notify_waiters w) t (.ok ()) .notify
      { pc := .done (.err o), notify := true } :=
  Runs.tick (ltsExt_notify_waiters ..) hm.lt (by simp [hpc]) (by rw [hpc]; rfl) rfl rfl

end Ops

/-- how the run of the function ends, next to how the poll ends: `Ok` ↔ `ready ok`; the error of the operation `o` ↔
    `ready (err o)`; the blocked exit with the flag set ↔ `pending` -/
inductive Ended : Except Rs.Err (Option TransferResult) → Bool → PollOut → Prop where
  | ok (v : Option TransferResult) : Ended (.ok v) false (.ready .ok)
  | err (o : Op) : Ended (.error (errOf o)) false (.ready (.err o))
  | blocked : Ended (.error blockedErr) true .pending

theorem Ended.outcome {res : Except Rs.Err (Option TransferResult)} {b : Bool} {out : PollOut} (h : Ended res b out) :
    outcome res b = out := by
  cases h with
  | ok v => rfl
  | err o => simp [GenLinkMemberLts.outcome, decodeErr_errOf]
  | blocked => simp [GenLinkMemberLts.outcome]

/-- one round ends as the function does, its value under `finish` -/
def StepEnded (r : Except Rs.Err Step) (b : Bool) (out : PollOut) : Prop :=
  ∃ res, r = res.map finish ∧ Ended res b out

/-- the run of `x` from `t` IS the model's poll of `w` from `t` — from whatever program counter: the state, the labels,
    and (`E`) the way it ends -/
def PollsAs {α : Type} (cfg : Cfg) (w : Nat) (E : Except Rs.Err α → Bool → PollOut → Prop) (x : Rs.M LWorld α)
    (t : State) : Prop :=
  ∃ r b, (∀ ls, runM x ⟨t, ls, false⟩ = (r, ⟨(poll cfg t w).1, ls ++ (poll cfg t w).2.1, b⟩)) ∧
    E r b (poll cfg t w).2.2 ∧ PollEnd cfg w (poll cfg t w).1 (poll cfg t w).2.2

section PollsAs
variable {cfg : Cfg} {w : Nat} {α β : Type} {E : Except Rs.Err α → Bool → PollOut → Prop}

theorem PollsAs.of_runs {x : Rs.M LWorld α} {t t' : State} {r : Except Rs.Err α} {ls : List Label} {b : Bool}
    {out : PollOut} (h : Runs cfg w x t r ls t' b) (he : E r b out) (hp : PollEnd cfg w t' out) :
    PollsAs cfg w E x t := by
  unfold PollsAs
  rw [poll_of_steps h.1 hp]
  exact ⟨r, b, h.2, he, hp⟩

theorem PollsAs.pollEnd {x : Rs.M LWorld α} {t : State} (h : PollsAs cfg w E x t) :
    PollEnd cfg w (poll cfg t w).1 (poll cfg t w).2.2 :=
  h.elim fun _ h => h.elim fun _ h => h.2.2

theorem PollsAs.bind {E : Except Rs.Err β → Bool → PollOut → Prop} {x : Rs.M LWorld α} {f : α → Rs.M LWorld β}
    {t t1 : State} {a : α} {l1 : List Label} (h1 : Runs cfg w x t (.ok a) l1 t1 false) (h2 : PollsAs cfg w E (f a) t1) :
    PollsAs cfg w E (x >>= f) t := by
  obtain ⟨r, b, hrun, he, hp⟩ := h2
  unfold PollsAs
  rw [poll_steps h1.1]
  exact ⟨r, b, fun ls => by rw [runM_bind_ok (h1.2 ls), hrun, List.append_assoc], he, hp⟩

theorem PollsAs.ret {t : State} (v : Option TransferResult) (hd : t.pc w = .done .ok) :
    PollsAs cfg w StepEnded (pure (finish v)) t :=
  .of_runs (Runs.pure _ _) ⟨.ok v, rfl, .ok v⟩ (Or.inl ⟨_, rfl, hd⟩)

theorem PollsAs.fail {x : Rs.M LWorld α} {f : α → Rs.M LWorld Step} {t t1 : State} {o : Op} {l1 : List Label}
    (h1 : Runs cfg w x t (.error (errOf o)) l1 t1 false) (hd : t1.pc w = .done (.err o)) :
    PollsAs cfg w StepEnded (x >>= f) t :=
  .of_runs (Runs.bind_err h1) ⟨_, rfl, .err o⟩ (Or.inl ⟨_, rfl, hd⟩)

/-- state, labels and outcome of such a run, as `genPoll` reports them -/
theorem PollsAs.poll_eq {x : Rs.M LWorld (Option TransferResult)} {t : State} (h : PollsAs cfg w Ended x t) :
    ((runM x ⟨t, [], false⟩).2.s, (runM x ⟨t, [], false⟩).2.labels,
      outcome (runM x ⟨t, [], false⟩).1 (runM x ⟨t, [], false⟩).2.blocked) = poll cfg t w := by
  obtain ⟨res, b, hrun, hend, _⟩ := h
  simp only [hrun [], hend.outcome, List.nil_append]

end PollsAs

theorem isUpdate_true {cfg : Cfg} {w : Nat} (h : (cfg.worker w).action = .update) : isUpdate cfg w = true := by
  simp [isUpdate, h]
theorem isUpdate_false {cfg : Cfg} {w : Nat} (h : (cfg.worker w).action ≠ .update) : isUpdate cfg w = false := by
  simp [isUpdate, h]

section Arms
variable {cfg : Cfg} {w : Nat} (fuel : Nat) (hm : Member cfg w) (self : Transferrer) (source : FileEntry)
include hm

theorem release_ok_sim {t : State} (v : TransferResult) (hpc : t.pc w = .complete) :
    PollsAs cfg w StepEnded (release (ltsExt cfg w fuel) (encPath w) (cfg.worker w).inode w (.ok v)) t :=
  .bind (runs_insert_completed fuel hm hpc) (.bind (runs_notify_ok fuel hm (apply_pc_self ..))
    (.ret _ (apply_pc_self ..)))

theorem release_err_sim {t : State} (o : Op) (hpc : t.pc w = .cleanup o) :
    PollsAs cfg w StepEnded (release (ltsExt cfg w fuel) (encPath w) (cfg.worker w).inode w (.error (errOf o))) t :=
  .bind (runs_remove_claim fuel hm hpc) (.bind (runs_notify_fail fuel hm (apply_pc_self ..))
    (.of_runs ⟨.nil _, fun ls => by simp [Except.map]⟩ ⟨_, rfl, .err o⟩ (Or.inl ⟨_, rfl, apply_pc_self ..⟩)))

/-- the captured block and what follows it: the transfer and the attribute writers lead from `syncOp 0` (update) /
    `mkdirOp 0` (creation) to `complete` with `Ok`, or to `cleanup o` with the error of the operation `o` -/
theorem copyBlock_sim {t : State} {k : Except Rs.Err TransferResult → Rs.M LWorld Step}
    (hpc : t.pc w = if (cfg.worker w).action = .update then .syncOp 0 else .mkdirOp 0)
    (hok : ∀ v t', t'.pc w = .complete → PollsAs cfg w StepEnded (k (.ok v)) t')
    (herr : ∀ o t', t'.pc w = .cleanup o → PollsAs cfg w StepEnded (k (.error (errOf o))) t') :
    PollsAs cfg w StepEnded
      (Rs.capture (copyBlock (ltsExt cfg w fuel) self source (encPath w) (isUpdate cfg w)) >>= k) t := by
  -- after a transfer that went through: the attribute writers, from `metaOp`
  have tail : ∀ {x : Rs.M LWorld TransferResult} {t1 : State} {l1 : List Label} {v : TransferResult},
      Runs cfg w x t (.ok v) l1 t1 false → t1.pc w = .metaOp →
      PollsAs cfg w StepEnded (Rs.capture (x >>= fun result => do
          (ltsExt cfg w fuel).write_xattrs self source (encPath w)
          (ltsExt cfg w fuel).write_acls self source (encPath w)
          (ltsExt cfg w fuel).write_bsd_flags self source (encPath w)
          pure result) >>= k) t := by
    intro x t1 l1 v h0 h1
    have hx := runs_xattrs fuel hm self source h1
    split at hx
    · exact .bind (Runs.capture (Runs.bind_ok h0 (Runs.bind_err hx))) (herr .attrs _ (apply_pc_self ..))
    · have h2 : (t1.apply w (cfg.worker w).inode { pc := .complete }).pc w = .complete := apply_pc_self ..
      exact .bind (Runs.capture (Runs.bind_ok h0 (Runs.bind_ok hx (Runs.bind_ok (runs_acls fuel self source h2)
        (Runs.bind_ok (runs_bsd_flags fuel self source h2) (Runs.pure v _)))))) (hok v _ h2)
  unfold copyBlock
  by_cases ha : (cfg.worker w).action = .update
  · rw [isUpdate_true ha, if_pos rfl]
    rw [if_pos ha] at hpc
    have hs := runs_sync fuel hm self.transport source.path hpc
    split at hs
    · exact .bind (Runs.capture (Runs.bind_err hs)) (herr .sync _ (apply_pc_self ..))
    · exact tail hs (apply_pc_self ..)
  · rw [isUpdate_false ha, if_neg Bool.false_ne_true]
    rw [if_neg ha] at hpc
    have hc := runs_copy_file fuel hm self source.path hpc
    split at hc
    · exact .bind (Runs.capture (Runs.bind_err hc)) (herr .mkdir _ (apply_pc_self ..))
    · split at hc
      · exact .bind (Runs.capture (Runs.bind_err hc)) (herr .copy _ (apply_pc_self ..))
      · exact tail hc (apply_pc_self ..)

/-- the claim arm, from `sawNone` with the entry still absent (it is: nobody moved since the read): fresh Notify, the
    claim (ONE step for the two map operations), the block, the release -/
theorem claimArm_sim {t : State} (hpc : t.pc w = .sawNone) (he : t.map (cfg.worker w).inode = none) :
    PollsAs cfg w StepEnded
      (claimArm (ltsExt cfg w fuel) self source (encPath w) (cfg.worker w).inode (isUpdate cfg w)) t := by
  unfold claimArm
  refine .bind (runs_new fuel hpc) (.bind (runs_contains_false fuel hpc he) ?_)
  rw [if_neg Bool.false_ne_true]
  exact .bind (runs_insert_claim fuel hm hpc he) (copyBlock_sim fuel hm self source (apply_pc_self ..)
    (fun v _ h => release_ok_sim fuel hm v h) (fun o _ h => release_err_sim fuel hm o h))

theorem linkArm_sim {t : State} {p : Nat}
    (hpc : t.pc w = if (cfg.worker w).action = .update then .sameOp p else .linkOp p 0) :
    PollsAs cfg w StepEnded (linkArm (ltsExt cfg w fuel) self (encPath w) (isUpdate cfg w) (encPath p)) t := by
  have link : ∀ (t1 : State), t1.pc w = .linkOp p 0 → PollsAs cfg w StepEnded (do
      (ltsExt cfg w fuel).t_create_hardlink self.transport (encPath p) (encPath w)
      pure (finish (some zeroResult))) t1 := by
    intro t1 h1
    have hl := runs_link fuel hm self.transport h1
    split at hl
    · exact .fail hl (apply_pc_self ..)
    · exact .bind hl (.ret _ (apply_pc_self ..))
  unfold linkArm
  by_cases ha : (cfg.worker w).action = .update
  · rw [isUpdate_true ha, if_pos rfl]
    rw [if_pos ha] at hpc
    refine .bind (runs_same_inode fuel hm self hpc) ?_
    cases hsame : sameAns t p w with
    | true => exact .ret _ (apply_pc_self ..)
    | false =>
      simp only [Bool.false_eq_true, ↓reduceIte]
      have hrm := runs_t_remove fuel hm self.transport (p := p)
        (t := t.apply w (cfg.worker w).inode { pc := .removeOp p 0 }) (apply_pc_self ..)
      split at hrm
      · exact .fail hrm (apply_pc_self ..)
      · exact .bind hrm (link _ (apply_pc_self ..))
  · rw [isUpdate_false ha, if_neg Bool.false_ne_true]
    rw [if_neg ha] at hpc
    exact link t hpc

/-- the wait arm, from `sawInProgress g` with the entry still `InProgress(g)` (nobody moved since the read): REGISTER
    (snapshot of the counter), re-check (same), await — the counter is the snapshot just taken: BLOCKED -/
theorem waitArm_sim {t : State} {g : Nat} (hpc : t.pc w = .sawInProgress g)
    (he : t.map (cfg.worker w).inode = some (.inProgress g)) :
    ∃ (t' : State), Runs cfg w (waitArm (ltsExt cfg w fuel) (cfg.worker w).inode g) t (.error blockedErr)
        [.arm g, .recheckSame] t' true ∧ t'.pc w = .waiting g (t.calls g) ∧ step cfg t' w = none := by
  unfold waitArm
  have h1 := runs_notified fuel hm hpc
  have h2 := runs_recheck_same fuel hm (snap := t.calls g)
    (t := t.apply w (cfg.worker w).inode { pc := .armed g (t.calls g) }) (apply_pc_self ..) he
  have h3 := runs_await_blocked (cfg := cfg) fuel (g := g) (snap := t.calls g)
    (t := (t.apply w (cfg.worker w).inode { pc := .armed g (t.calls g) }).apply w (cfg.worker w).inode
      { pc := .waiting g (t.calls g) }) (apply_pc_self ..) rfl
  refine ⟨_, Runs.bind_ok h1 (Runs.bind_ok h2 ?_), apply_pc_self .., h3.2⟩
  simp only [beq_self_eq_true, ↓reduceIte]
  exact Runs.bind_err h3.1

theorem round_sim {t : State} (hpc : t.pc w = .start) :
    PollsAs cfg w StepEnded
      (round (ltsExt cfg w fuel) self source (encPath w) (cfg.worker w).inode (isUpdate cfg w)) t := by
  unfold round
  cases he : t.map (cfg.worker w).inode with
  | none => exact .bind (runs_get_none fuel hm hpc he) (claimArm_sim fuel hm self source (apply_pc_self ..) he)
  | some en =>
    cases en with
    | inProgress g =>
      obtain ⟨t', hr, hpc', hs⟩ := waitArm_sim fuel hm
        (t := t.apply w (cfg.worker w).inode { pc := .sawInProgress g }) (apply_pc_self ..) he
      exact .of_runs (Runs.bind_ok (runs_get_inProgress fuel hm hpc he) hr) ⟨_, rfl, .blocked⟩
        (Or.inr ⟨rfl, ⟨_, _, hpc'⟩, hs⟩)
    | completed p => exact .bind (runs_get_completed fuel hm hpc he) (linkArm_sim fuel hm self (apply_pc_self ..))

/-- **one run of the generated function from the top IS the model's poll** (any fuel ≥ 1, ANY state — reachable or
    not — in which the worker is at `start`) -/
theorem genCall_sim {t : State} (hpc : t.pc w = .start) (n : Nat) :
    PollsAs cfg w Ended (genCall cfg w (n + 1) self source) t := by
  obtain ⟨r, b, hrun, ⟨res, rfl, he⟩, hp⟩ := round_sim (n + 1) hm self source hpc
  unfold genCall encInode
  rw [transfer_link_member_rounds, ltsExt_fuel]
  refine ⟨res, b, fun ls => ?_, he, hp⟩
  rw [rounds_succ, hrun ls]
  cases res <;> rfl

/-- **resumption**: the worker is suspended at `notified.await`; the await is polled again and, when it completes, the
    code goes round the loop (`continue`), i.e. runs the function from its top -/
theorem resume_sim {t : State} {g snap : Nat} (hpc : t.pc w = .waiting g snap) (n : Nat) :
    PollsAs cfg w Ended
      ((ltsExt cfg w (n + 1)).await_notified snap >>= fun _ => genCall cfg w (n + 1) self source) t := by
  by_cases hc : t.calls g = snap
  · obtain ⟨hb, hs⟩ := runs_await_blocked (n + 1) hpc hc
    exact .of_runs (Runs.bind_err hb) .blocked (Or.inr ⟨rfl, ⟨g, snap, hpc⟩, hs⟩)
  · exact .bind (runs_await_wake (n + 1) hm hpc hc) (genCall_sim hm self source (apply_pc_self ..) n)

end Arms

/-- `OwnSteps cfg w x`: from EVERY world, whatever `x` answers, the state after the run is reached from the state before
    by micro-steps of worker `w` alone -/
def OwnSteps {α : Type} (cfg : Cfg) (w : Nat) (x : Rs.M LWorld α) : Prop :=
  ∀ lw : LWorld, ∃ k, Exec cfg lw.s (List.replicate k w) (runM x lw).2.s

section Own
variable {cfg : Cfg} {w : Nat} {α β : Type}

theorem OwnSteps.pure (a : α) : OwnSteps cfg w (pure a : Rs.M LWorld α) := fun _ => ⟨0, Exec.nil _⟩
theorem OwnSteps.throw (e : Rs.Err) : OwnSteps cfg w (throw e : Rs.M LWorld α) := fun _ => ⟨0, Exec.nil _⟩

theorem OwnSteps.bind {x : Rs.M LWorld α} {f : α → Rs.M LWorld β} (hx : OwnSteps cfg w x)
    (hf : ∀ a, OwnSteps cfg w (f a)) : OwnSteps cfg w (x >>= f) := by
  intro lw
  obtain ⟨k1, h1⟩ := hx lw
  rw [runM_bind]
  rcases hr : runM x lw with ⟨r, lw'⟩
  rw [hr] at h1
  cases r with
  | error e => exact ⟨k1, h1⟩
  | ok a =>
    obtain ⟨k2, h2⟩ := hf a lw'
    refine ⟨k1 + k2, ?_⟩
    rw [← List.replicate_append_replicate]
    exact exec_append h1 h2

theorem OwnSteps.ite {c : Prop} [Decidable c] {x y : Rs.M LWorld α} (hx : OwnSteps cfg w x) (hy : OwnSteps cfg w y) :
    OwnSteps cfg w (if c then x else y) := by
  split <;> assumption

theorem OwnSteps.capture {x : Rs.M LWorld α} (hx : OwnSteps cfg w x) : OwnSteps cfg w (Rs.capture x) := by
  intro lw
  rw [runM_capture_eq]
  exact hx lw

theorem OwnSteps.loopN {σ : Type} {b : σ → Rs.M LWorld (ForInStep σ)} (hb : ∀ s, OwnSteps cfg w (b s)) :
    ∀ (n : Nat) (s : σ), OwnSteps cfg w (loopN n b s)
  | 0, s => OwnSteps.pure s
  | n + 1, s => by
    unfold GenLinkMember.loopN
    refine OwnSteps.bind (hb s) fun r => ?_
    cases r with
    | done s' => exact OwnSteps.pure s'
    | yield s' => exact OwnSteps.loopN hb n s'

theorem OwnSteps.op {f : LWorld → Except Rs.Err α × LWorld}
    (h : ∀ lw, (f lw).2.s = lw.s ∨ ∃ l, step cfg lw.s w = some (l, (f lw).2.s)) : OwnSteps cfg w (op f) := by
  intro lw
  rw [runM_op]
  rcases h lw with he | ⟨l, hs⟩
  · rw [he]; exact ⟨0, Exec.nil _⟩
  · exact ⟨1, Exec.cons hs (Exec.nil _)⟩

theorem OwnSteps.tick (guard : State → Bool) (ans : State → Label → Except Rs.Err α) :
    OwnSteps cfg w (tick cfg w guard ans) := by
  refine OwnSteps.op fun lw => ?_
  split
  · cases hs : step cfg lw.s w with
    | none => exact Or.inl rfl
    | some p => exact Or.inr ⟨p.1, rfl⟩
  · exact Or.inl rfl

theorem OwnSteps.check (guard : State → Bool) (a : α) : OwnSteps cfg w (check w guard a) := by
  intro lw
  unfold GenLinkMemberLts.check
  rw [runM_op]
  split <;> exact ⟨0, Exec.nil _⟩

end Own

section OwnExt
variable (cfg : Cfg) (w fuel : Nat)

theorem own_map_contains (i : Nat) : OwnSteps cfg w ((ltsExt cfg w fuel).map_contains i) := by
  intro lw
  rw [ltsExt_map_contains, runM_op]
  split
  · split
    · exact OwnSteps.tick _ _ lw
    · exact ⟨0, Exec.nil _⟩
  · exact ⟨0, Exec.nil _⟩

theorem own_await (t : Nat) : OwnSteps cfg w ((ltsExt cfg w fuel).await_notified t) := by
  rw [ltsExt_await_notified]
  refine OwnSteps.op fun lw => ?_
  split
  · split
    · cases hs : step cfg lw.s w with
      | none => exact Or.inl rfl
      | some p => exact Or.inr ⟨p.1, rfl⟩
    · exact Or.inl rfl
  · exact Or.inl rfl

theorem own_map_insert (i : Nat) (st : InodeState) : OwnSteps cfg w ((ltsExt cfg w fuel).map_insert i st) := by
  cases st with
  | InProgress n => rw [ltsExt_map_insert_inProgress]; exact OwnSteps.tick _ _
  | Completed p => rw [ltsExt_map_insert_completed]; exact OwnSteps.tick _ _

variable (self : Transferrer) (source : FileEntry) (dest : Rs.Path) (inode : Nat) (upd : Bool)

theorem own_copyBlock : OwnSteps cfg w (copyBlock (ltsExt cfg w fuel) self source dest upd) := by
  unfold copyBlock
  simp only [ltsExt_t_sync, ltsExt_copy_file, ltsExt_write_xattrs, ltsExt_write_acls, ltsExt_write_bsd_flags]
  have attrs : ∀ r : TransferResult, OwnSteps cfg w (do
      tick cfg w (fun s => decide (s.pc w = .metaOp) && decide (dest = encPath w)) (ansOp ())
      check w (fun s => decide (s.pc w = .complete) && decide (dest = encPath w)) ()
      check w (fun s => decide (s.pc w = .complete) && decide (dest = encPath w)) ()
      pure r) := fun r =>
    OwnSteps.bind (OwnSteps.tick _ _) fun _ => OwnSteps.bind (OwnSteps.check _ _) fun _ =>
      OwnSteps.bind (OwnSteps.check _ _) fun _ => OwnSteps.pure r
  refine OwnSteps.ite (OwnSteps.bind (OwnSteps.tick _ _) attrs) (OwnSteps.bind ?_ attrs)
  exact OwnSteps.bind (OwnSteps.tick _ _) fun _ => OwnSteps.tick _ _

theorem own_round : OwnSteps cfg w (round (ltsExt cfg w fuel) self source dest inode upd) := by
  unfold round dispatch linkArm waitArm claimArm release
  simp only [ltsExt_map_get, ltsExt_same_inode, ltsExt_t_remove, ltsExt_t_create_hardlink, ltsExt_notified,
    ltsExt_Notify_new, ltsExt_map_remove, ltsExt_notify_waiters]
  refine OwnSteps.bind (OwnSteps.tick _ _) fun st => ?_
  split
  · refine OwnSteps.ite ?_ ?_
    · refine OwnSteps.bind (OwnSteps.tick _ _) fun same => OwnSteps.ite (OwnSteps.pure _) ?_
      exact OwnSteps.bind (OwnSteps.tick _ _) fun _ => OwnSteps.bind (OwnSteps.tick _ _) fun _ => OwnSteps.pure _
    · exact OwnSteps.bind (OwnSteps.tick _ _) fun _ => OwnSteps.pure _
  · refine OwnSteps.bind (OwnSteps.tick _ _) fun t => OwnSteps.bind (OwnSteps.tick _ _) fun st => ?_
    exact OwnSteps.ite (OwnSteps.bind (own_await cfg w fuel t) fun _ => OwnSteps.pure _) (OwnSteps.pure _)
  · refine OwnSteps.bind (OwnSteps.check _ _) fun notify => OwnSteps.bind (own_map_contains cfg w fuel inode) fun taken =>
      OwnSteps.ite (OwnSteps.pure _) ?_
    refine OwnSteps.bind (own_map_insert cfg w fuel inode _) fun _ =>
      OwnSteps.bind (OwnSteps.capture (own_copyBlock cfg w fuel self source dest upd)) fun copied => ?_
    split
    · exact OwnSteps.bind (own_map_insert cfg w fuel inode _) fun _ =>
        OwnSteps.bind (OwnSteps.tick _ _) fun _ => OwnSteps.pure _
    · exact OwnSteps.bind (OwnSteps.tick _ _) fun _ => OwnSteps.bind (OwnSteps.tick _ _) fun _ => OwnSteps.throw _

/-- **every run of the GENERATED function on `ltsExt` — any world, any fuel, any arguments — is an execution of the LTS
    whose schedule names `w` only**: no other worker's step comes between two operations of one run -/
theorem own_generated :
    OwnSteps cfg w (Transferrer.transfer_link_member (ltsExt cfg w fuel) self source dest inode upd) := by
  rw [transfer_link_member_rounds]
  unfold rounds
  refine OwnSteps.bind (OwnSteps.loopN (fun _ => own_round cfg w fuel self source dest inode upd) _ _) fun s => ?_
  unfold conclude
  split
  · exact OwnSteps.pure _
  · exact OwnSteps.throw _

end OwnExt

/-- `contains_key` answered "absent": NOTHING has happened yet (state, log and flag are what they were) — the mutex is
    held, the write half follows in the same run -/
theorem contains_false_holds_lock (cfg : Cfg) (w fuel i : Nat) (lw lw' : LWorld)
    (h : runM ((ltsExt cfg w fuel).map_contains i) lw = (.ok false, lw')) : lw' = lw := by
  rw [ltsExt_map_contains, runM_op] at h
  split at h
  · split at h
    · unfold GenLinkMemberLts.tick at h
      rw [runM_op] at h
      simp only [↓reduceIte] at h
      split at h <;> simp at h
    · simp at h; exact h.symm
  · simp at h

/-- `insert(inode, InProgress(n))` went through: it was called at `sawNone` with the entry absent, `n` is the worker's own
    Notify, and what happened is exactly the LTS's step `claimOk` of `w` from the state the read half saw -/
theorem insert_claim_is_claimOk (cfg : Cfg) (w fuel i n : Nat) (lw lw' : LWorld)
    (h : runM ((ltsExt cfg w fuel).map_insert i (.InProgress n)) lw = (.ok (), lw')) :
    i = (cfg.worker w).inode ∧ n = w ∧ lw.s.pc w = .sawNone ∧ lw.s.map i = none ∧
      step cfg lw.s w = some (.claimOk, lw'.s) ∧ lw'.labels = lw.labels ++ [.claimOk] ∧ lw'.blocked = lw.blocked := by
  rw [ltsExt_map_insert_inProgress] at h
  unfold GenLinkMemberLts.tick at h
  rw [runM_op] at h
  split at h
  · rename_i hg
    simp only [Bool.and_eq_true, decide_eq_true_eq, Option.isNone_iff_eq_none, encInode, encNotify] at hg
    obtain ⟨⟨⟨hi, hn⟩, hpc⟩, he⟩ := hg
    replace hi : i = (cfg.worker w).inode := of_decide_eq_true hi
    replace hn : n = w := of_decide_eq_true hn
    cases hs : step cfg lw.s w with
    | none => rw [hs] at h; simp at h
    | some p =>
      obtain ⟨l, s'⟩ := p
      rw [hs] at h
      simp only [Prod.mk.injEq, true_and] at h
      subst h
      obtain ⟨_, e, hnext, _⟩ := step_eq_some hs
      rw [hpc, ← hi, he] at hnext
      simp only [next, Option.some.injEq, Prod.mk.injEq] at hnext
      rw [← hnext.1]
      exact ⟨hi, hn, hpc, he, rfl, rfl, rfl⟩
  · simp at h

theorem pollSched_exec (cfg : Cfg) : ∀ (ws : List Nat) (s : State), ∃ sched, Exec cfg s sched (pollSched cfg s ws)
  | [], s => ⟨[], Exec.nil s⟩
  | w :: ws, s => by
    obtain ⟨k, hk⟩ := poll_exec cfg s w
    obtain ⟨sched, hs⟩ := pollSched_exec cfg ws (poll cfg s w).1
    exact ⟨_, exec_append hk hs⟩

theorem pollSched_append (cfg : Cfg) : ∀ (a b : List Nat) (s : State),
    pollSched cfg s (a ++ b) = pollSched cfg (pollSched cfg s a) b
  | [], _, _ => rfl
  | w :: a, b, s => pollSched_append cfg a b (poll cfg s w).1

end SyModel.Lemmas.GenLinkMemberLts
