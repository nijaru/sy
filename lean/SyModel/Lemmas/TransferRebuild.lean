/-
  Results of the two rebuild strategies (`SyModel.Transfer.BlockCompare`): projections of the
  folds, the rebuilt bytes (both strategies are region writes of the source: `fold_write_spec`, an instance of
  `writeRegions_spec` of `Lemmas/Sparse`), counters, write logs, and the fixed-size view of the comparison list.
-/
import SyModel.Lemmas.TransferBlocks
import SyModel.Lemmas.Sparse
namespace SyModel.Transfer
open SyModel SyModel.Compress

def changedOf (B : List Blk) : Nat := (B.filter Blk.differs).length
def literalOf (B : List Blk) : Nat := ((B.filter Blk.differs).map (·.s.length)).sum

theorem changedOf_cons (b : Blk) (B : List Blk) :
    changedOf (b :: B) = (if b.differs then 1 else 0) + changedOf B := by
  unfold changedOf
  by_cases h : b.differs = true <;> simp [h] <;> omega

theorem literalOf_cons (b : Blk) (B : List Blk) :
    literalOf (b :: B) = (if b.differs then b.s.length else 0) + literalOf B := by
  unfold literalOf
  by_cases h : b.differs = true <;> simp [h]

theorem foldl_stepW (wr : Blk → Bool) (B : List Blk) (st : Loop) :
    (B.foldl (stepW wr) st).temp = B.foldl (fun t b => if wr b then writeAt t b.off b.s else t) st.temp ∧
    (B.foldl (stepW wr) st).changed = st.changed + changedOf B ∧
    (B.foldl (stepW wr) st).literal = st.literal + literalOf B ∧
    (B.foldl (stepW wr) st).writes = ((B.filter wr).map fun b => (b.off, b.s)).reverse ++ st.writes := by
  induction B generalizing st with
  | nil => simp [changedOf, literalOf]
  | cons b B ih =>
    obtain ⟨h1, h2, h3, h4⟩ := ih (stepW wr st b)
    simp only [List.foldl_cons]
    refine ⟨h1, ?_, ?_, ?_⟩
    · rw [h2, changedOf_cons]; simp only [stepW]; split <;> omega
    · rw [h3, literalOf_cons]; simp only [stepW]; split <;> omega
    · rw [h4]; unfold stepW
      by_cases h : wr b = true <;> simp [h]

/-- final `offset` (= `bytes_written`) of either fold over the comparison list: the end of the source -/
theorem cmp_fold_offset (step : Loop → Blk → Loop) (hstep : ∀ st b, (step st b).offset = b.off + b.s.length)
    (k : Nat → Nat) (hk : ∀ p, 0 < k p) (off : Nat) (srest drest : Bytes) (st : Loop) (h : st.offset = off) :
    ((cmpBlocksGo k off srest drest).foldl step st).offset = off + srest.length := by
  fun_induction cmpBlocksGo k off srest drest generalizing st with
  | case1 off srest drest sb hnil =>
    rcases List.take_eq_nil_iff.mp (hnil : srest.take (k off) = []) with h0 | h0
    · have := hk off; omega
    · simp [h0, h]
  | case2 off srest drest sb hne ih =>
    have hle : sb.length ≤ srest.length := by simp only [sb, List.length_take]; omega
    rw [List.foldl_cons, ih _ (hstep _ _), List.length_drop]
    omega

theorem sum_length_flatMap (B : List Blk) : (B.map (·.s.length)).sum = (B.flatMap (·.s)).length := by
  induction B with
  | nil => rfl
  | cons b B ih => simp only [List.map_cons, List.sum_cons, List.flatMap_cons, List.length_append, ih]

/-! ### the rebuilt bytes -/

theorem rebuildInPlaceK_eq (k : Nat → Nat) (src dst : Bytes) :
    rebuildInPlaceK k src dst =
      (cmpBlocks k src dst).foldl stepInPlace
        { temp := setLen [] src.length, offset := 0, changed := 0, literal := 0, writes := [] } := by
  unfold rebuildInPlaceK cmpBlocks
  exact go_eq_foldl _ _ k (inPlaceGo_unfold k) (stepW_offset _) src dst 0 _ dst (Or.inr (Or.inl ⟨rfl, rfl⟩))

theorem cowGo_start_eq (k : Nat → Nat) (src dst : Bytes) :
    cowGo k src dst 0 { temp := dst, offset := 0, changed := 0, literal := 0, writes := [] } =
      (cmpBlocks k src dst).foldl stepCow
        { temp := dst, offset := 0, changed := 0, literal := 0, writes := [] } := by
  unfold cmpBlocks
  exact go_eq_foldl _ _ k (cowGo_unfold k) (stepW_offset _) src dst 0 _ dst (Or.inr (Or.inl ⟨rfl, rfl⟩))

/-- the part of the working file a block is written to -/
def Blk.region (b : Blk) : Region := ⟨b.off, b.s.length⟩

/-- selective block writes are region writes (`writeRegions`) of any `content` that holds the blocks' source bytes -/
theorem foldl_write_regions (content : Bytes) (wr : Blk → Bool) (B : List Blk) (t : Bytes)
    (hs : ∀ b ∈ B, b.s = slice content b.region) :
    B.foldl (fun t b => if wr b then writeAt t b.off b.s else t) t =
      writeRegions content t ((B.filter wr).map Blk.region) := by
  unfold writeRegions
  induction B generalizing t with
  | nil => rfl
  | cons b B ih =>
    rw [List.foldl_cons, ih _ (fun x hx => hs x (List.mem_cons_of_mem _ hx)), List.filter_cons]
    split
    · rw [List.map_cons, List.foldl_cons, ← hs b List.mem_cons_self]; rfl
    · rfl

theorem Chain.covers {off : Nat} {B : List Blk} (h : Chain off B) (i : Nat) (h1 : off ≤ i)
    (h2 : i < off + (B.flatMap (·.s)).length) : ∃ b ∈ B, b.off ≤ i ∧ i < b.off + b.s.length := by
  induction B generalizing off with
  | nil => simp at h2; omega
  | cons b B ih =>
    obtain ⟨hb, ht⟩ := h
    by_cases hi : i < off + b.s.length
    · exact ⟨b, List.mem_cons_self, by omega, by omega⟩
    · simp only [List.flatMap_cons, List.length_append] at h2
      obtain ⟨x, hx, hxi⟩ := ih ht (by omega) (by omega)
      exact ⟨x, List.mem_cons_of_mem _ hx, hxi⟩

/-- a compared block lies inside the source and holds its bytes there; so it does in the source followed by anything -/
theorem cmpBlocks_slice (k : Nat → Nat) (src dst ext : Bytes) (b : Blk) (hb : b ∈ cmpBlocks k src dst) :
    b.off + b.s.length ≤ src.length ∧ b.s = slice (src ++ ext) b.region := by
  obtain ⟨_, hs, _, hne⟩ := cmpBlocksGo_mem k src dst 0 b hb
  have hl : b.s.length ≤ src.length - b.off := by rw [hs, List.length_take, List.length_drop]; omega
  have hpos := List.length_pos_iff.mpr hne
  refine ⟨by omega, ?_⟩
  simp only [slice, Blk.region]
  rw [List.drop_append_of_le_length (by omega), List.take_append_of_le_length (by rw [List.length_drop]; exact hl)]
  conv => lhs; rw [hs]
  rw [hs, List.length_take, ← List.take_eq_take_min]

/-- **Both strategies are region writes of the source** (`writeRegions_spec`, the theorem of the sparse copiers): block
    writes over any initial working file `t0`, selected by `wr`, leave the source's bytes at every position of the source,
    provided a block that is not written already holds them there.  The content written into is the source continued by
    what `t0` holds beyond it. -/
theorem fold_write_spec (k : Nat → Nat) (hk : ∀ p, 0 < k p) (src dst : Bytes) (wr : Blk → Bool) (t0 : Bytes)
    (hskip : ∀ b ∈ cmpBlocks k src dst, wr b = false → ∀ i, b.off ≤ i → i < b.off + b.s.length → at0 t0 i = at0 src i) :
    let r := (cmpBlocks k src dst).foldl (fun t b => if wr b then writeAt t b.off b.s else t) t0
    r.length ≤ src.length + (t0.length - src.length) ∧ t0.length ≤ r.length ∧ ∀ i, i < src.length → at0 r i = at0 src i := by
  intro r
  have hB := fun b hb => cmpBlocks_slice k src dst (t0.drop src.length) b hb
  have hc : ∀ i, at0 (src ++ t0.drop src.length) i = if i < src.length then at0 src i else at0 t0 i := by
    intro i; rw [at0_append, at0_drop]; split
    · rfl
    · congr 1; omega
  obtain ⟨h1, h2, h3⟩ := writeRegions_spec (src ++ t0.drop src.length)
    (((cmpBlocks k src dst).filter wr).map Blk.region) t0
    (by
      intro x hx; obtain ⟨b, hb, rfl⟩ := List.mem_map.mp hx
      have := (hB b (List.mem_filter.mp hb).1).1
      simp only [List.length_append]; exact Nat.le_trans this (Nat.le_add_right _ _))
    (by simp only [List.length_append, List.length_drop]; omega)
    (by
      intro i _ hne
      rw [hc] at hne
      split at hne
      · rename_i hi
        obtain ⟨b, hb, h1, h2⟩ := (cmpBlocksGo_chain k 0 src dst).covers i (Nat.zero_le _)
          (by rw [cmpBlocksGo_join k hk]; omega)
        refine ⟨_, List.mem_map_of_mem (List.mem_filter.mpr ⟨hb, ?_⟩), h1, h2⟩
        rw [← Bool.not_eq_false]
        exact fun hw => hne (hskip b hb hw i h1 h2)
      · exact absurd rfl hne)
  rw [← foldl_write_regions _ _ _ _ (fun b hb => (hB b hb).2)] at h1 h2 h3
  simp only [List.length_append, List.length_drop] at h1
  refine ⟨h1, h2, fun i hi => ?_⟩
  rw [h3 i (by simp only [List.length_append]; omega), hc, if_pos hi]

theorem inplace_temp (k : Nat → Nat) (hk : ∀ p, 0 < k p) (src dst : Bytes) :
    (rebuildInPlaceK k src dst).temp = src := by
  rw [rebuildInPlaceK_eq, (foldl_stepW _ _ _).1]
  obtain ⟨h1, h2, h3⟩ := fold_write_spec k hk src dst (fun _ => true) (setLen [] src.length) (fun _ _ h => nomatch h)
  rw [length_setLen] at h1 h2
  exact ext_at0 _ _ (by show List.length (List.foldl _ (setLen [] src.length) _) = _; omega) h3

theorem inplace_offset (k : Nat → Nat) (hk : ∀ p, 0 < k p) (src dst : Bytes) :
    (rebuildInPlaceK k src dst).offset = src.length := by
  rw [rebuildInPlaceK_eq]
  exact (cmp_fold_offset _ (stepW_offset _) k hk 0 src dst _ rfl).trans (Nat.zero_add _)

theorem cow_temp (k : Nat → Nat) (hk : ∀ p, 0 < k p) (src dst : Bytes) :
    (rebuildCowK k src dst).temp = src ∧ (rebuildCowK k src dst).offset = src.length := by
  have hoff : (cowGo k src dst 0 { temp := dst, offset := 0, changed := 0, literal := 0, writes := [] }).offset
      = src.length := by
    rw [cowGo_start_eq]
    exact (cmp_fold_offset _ (stepW_offset _) k hk 0 src dst _ rfl).trans (Nat.zero_add _)
  unfold rebuildCowK
  refine ⟨?_, hoff⟩
  show setLen _ _ = src
  rw [hoff, cowGo_start_eq, (foldl_stepW _ _ _).1]
  -- a matching block of the clone holds what the source holds there
  obtain ⟨_, _, h3⟩ := fold_write_spec k hk src dst Blk.differs dst (by
    intro b hb hd i h1 h2
    obtain ⟨_, hs, hdd, _⟩ := cmpBlocksGo_mem k src dst 0 b hb
    have e : at0 b.d (i - b.off) = at0 b.s (i - b.off) := by rw [(Blk.differs_false_iff b).mp hd]
    have hlen : i - b.off < k b.off := by
      have : b.s.length ≤ k b.off := by rw [hs, List.length_take]; omega
      omega
    rw [hs, hdd, at0_take, at0_take, if_pos hlen, if_pos hlen, at0_drop, at0_drop,
      show b.off + (i - b.off) = i by omega] at e
    exact e)
  apply ext_at0 _ _ (length_setLen _ _)
  intro i hi
  rw [at0_setLen, if_pos hi, h3 i hi]

/-! ### counters and write logs -/

theorem inplace_counters (k : Nat → Nat) (src dst : Bytes) :
    (rebuildInPlaceK k src dst).changed = changedOf (cmpBlocks k src dst) ∧
    (rebuildInPlaceK k src dst).literal = literalOf (cmpBlocks k src dst) ∧
    (rebuildInPlaceK k src dst).writes.reverse = (cmpBlocks k src dst).map fun b => (b.off, b.s) := by
  rw [rebuildInPlaceK_eq]
  obtain ⟨_, h2, h3, h4⟩ := foldl_stepW (fun _ => true) (cmpBlocks k src dst)
    { temp := setLen [] src.length, offset := 0, changed := 0, literal := 0, writes := [] }
  refine ⟨by rw [h2]; simp, by rw [h3]; simp, by rw [h4, List.filter_eq_self.mpr fun _ _ => rfl]; simp⟩

theorem cow_counters (k : Nat → Nat) (src dst : Bytes) :
    (rebuildCowK k src dst).changed = changedOf (cmpBlocks k src dst) ∧
    (rebuildCowK k src dst).literal = literalOf (cmpBlocks k src dst) ∧
    (rebuildCowK k src dst).writes.reverse =
      ((cmpBlocks k src dst).filter Blk.differs).map fun b => (b.off, b.s) := by
  unfold rebuildCowK
  show (cowGo k src dst 0 _).changed = _ ∧ (cowGo k src dst 0 _).literal = _ ∧ (cowGo k src dst 0 _).writes.reverse = _
  rw [cowGo_start_eq]
  obtain ⟨_, h2, h3, h4⟩ := foldl_stepW Blk.differs (cmpBlocks k src dst)
    { temp := dst, offset := 0, changed := 0, literal := 0, writes := [] }
  refine ⟨by rw [h2]; simp, by rw [h3]; simp, by rw [h4]; simp⟩

theorem foldl_stepW_replay (wr : Blk → Bool) (B : List Blk) (st : Loop) :
    (B.foldl (stepW wr) st).temp = ((B.filter wr).map fun b => (b.off, b.s)).foldl (fun t w => writeAt t w.1 w.2) st.temp := by
  rw [(foldl_stepW _ _ _).1, List.foldl_map, List.foldl_filter]

theorem cow_temp_replay (k : Nat → Nat) (src dst : Bytes) :
    (rebuildCowK k src dst).temp =
      setLen ((rebuildCowK k src dst).writes.reverse.foldl (fun t w => writeAt t w.1 w.2) dst)
        (rebuildCowK k src dst).offset := by
  rw [(cow_counters k src dst).2.2]
  unfold rebuildCowK
  show setLen _ _ = setLen _ _
  rw [cowGo_start_eq, foldl_stepW_replay]

theorem inplace_temp_replay (k : Nat → Nat) (src dst : Bytes) :
    (rebuildInPlaceK k src dst).temp =
      (rebuildInPlaceK k src dst).writes.reverse.foldl (fun t w => writeAt t w.1 w.2) (setLen [] src.length) := by
  rw [(inplace_counters k src dst).2.2, rebuildInPlaceK_eq, foldl_stepW_replay, List.filter_eq_self.mpr fun _ _ => rfl]

/-! ### zero changed blocks -/

theorem changedOf_eq_zero_iff (B : List Blk) : changedOf B = 0 ↔ ∀ b ∈ B, b.s = b.d := by
  unfold changedOf
  rw [List.length_eq_zero_iff, List.filter_eq_nil_iff]
  constructor
  · intro h b hb; exact (Blk.differs_false_iff b).mp (by simpa using h b hb)
  · intro h b hb; rw [(Blk.differs_false_iff b).mpr (h b hb)]; simp

theorem literalOf_le (B : List Blk) : literalOf B ≤ (B.map (·.s.length)).sum := by
  induction B with
  | nil => simp [literalOf]
  | cons b B ih => rw [literalOf_cons]; simp only [List.map_cons, List.sum_cons]; split <;> omega

theorem prefix_of_all_equal (k : Nat → Nat) (hk : ∀ p, 0 < k p) (off : Nat) (srest drest : Bytes)
    (h : ∀ b ∈ cmpBlocksGo k off srest drest, b.s = b.d) : srest <+: drest := by
  fun_induction cmpBlocksGo k off srest drest with
  | case1 off srest drest sb hnil =>
    have : srest.take (k off) = [] := hnil
    rcases List.take_eq_nil_iff.mp this with h | h
    · have := hk off; omega
    · subst h; exact List.nil_prefix
  | case2 off srest drest sb hne ih =>
    have h0 : sb = drest.take (k off) := h _ (List.mem_cons_self)
    have hrest := ih (fun b hb => h b (List.mem_cons_of_mem _ hb))
    have hs : srest = sb ++ srest.drop sb.length := (take_append_drop_length_take srest (k off)).symm
    have hd : drest = sb ++ drest.drop sb.length := by
      rw [h0]; exact (take_append_drop_length_take drest (k off)).symm
    rw [hs, hd]
    exact (List.prefix_append_right_inj sb).mpr hrest

theorem all_equal_of_same (k : Nat → Nat) (off : Nat) (srest drest : Bytes) (he : srest = drest) :
    ∀ b ∈ cmpBlocksGo k off srest drest, b.s = b.d := by
  fun_induction cmpBlocksGo k off srest drest with
  | case1 => simp
  | case2 off srest drest sb hne ih =>
    intro b hb
    rcases List.mem_cons.mp hb with rfl | hb
    · subst he; rfl
    · exact ih (by rw [he]) b hb

/-! ### fixed-size view -/

theorem cmpBlocksGo_plain (k : Nat → Nat) (bs : Nat) (hbs : 0 < bs) (hk : ∀ i, k (i * bs) = bs)
    (src dst : Bytes) (i : Nat) :
    cmpBlocksGo k (i * bs) (src.drop (i * bs)) (dst.drop (i * bs)) =
      (List.range' i ((src.length + bs - 1) / bs - i)).map fun j =>
        { off := j * bs, s := (src.drop (j * bs)).take bs, d := (dst.drop (j * bs)).take bs } := by
  generalize hn : (src.length + bs - 1) / bs - i = n
  induction n generalizing i with
  | zero =>
    have hle : (src.length + bs - 1) / bs ≤ i := by omega
    have : src.length ≤ i * bs := by
      have h1 : (src.length + bs - 1) / bs * bs ≤ i * bs := Nat.mul_le_mul_right bs hle
      have h2 : src.length + bs - 1 < ((src.length + bs - 1) / bs + 1) * bs := by
        rw [Nat.mul_comm]; exact Nat.lt_mul_div_succ _ hbs
      rw [Nat.add_mul] at h2
      omega
    rw [List.drop_of_length_le this, cmpBlocksGo_nil]; rfl
  | succ n ih =>
    have hlt : i < (src.length + bs - 1) / bs := by omega
    have hpos : i * bs < src.length := by
      have h1 : (i + 1) * bs ≤ (src.length + bs - 1) / bs * bs := Nat.mul_le_mul_right bs (by omega)
      have h2 : (src.length + bs - 1) / bs * bs ≤ src.length + bs - 1 := Nat.div_mul_le_self _ _
      rw [Nat.add_mul] at h1
      omega
    rw [cmpBlocksGo]
    have hne : (src.drop (i * bs)).take (k (i * bs)) ≠ [] := by
      rw [hk]
      intro h
      rcases List.take_eq_nil_iff.mp h with h | h
      · omega
      · have := congrArg List.length h; simp at this; omega
    rw [hk] at hne
    simp only [hk, hne, ↓reduceDIte, List.range'_succ, List.map_cons]
    have hl : ((src.drop (i * bs)).take bs).length = min bs (src.length - i * bs) := by simp
    by_cases hfull : bs ≤ src.length - i * bs
    · rw [hl, Nat.min_eq_left hfull]
      rw [List.drop_drop, List.drop_drop, show i * bs + bs = (i + 1) * bs by rw [Nat.add_mul]; omega]
      rw [ih (i + 1) (by omega)]
    · rw [hl, Nat.min_eq_right (by omega)]
      have hn0 : n = 0 := by
        have : (src.length + bs - 1) / bs < i + 2 := by
          apply Nat.div_lt_of_lt_mul
          have e : bs * (i + 2) = i * bs + bs + bs := by rw [Nat.mul_add, Nat.mul_comm bs i]; omega
          rw [e]; omega
        omega
      subst hn0
      rw [List.drop_drop, show i * bs + (src.length - i * bs) = src.length by omega,
        List.drop_length, cmpBlocksGo_nil]
      rfl

theorem cmpBlocks_plain (k : Nat → Nat) (bs : Nat) (hbs : 0 < bs) (hk : ∀ i, k (i * bs) = bs)
    (src dst : Bytes) : cmpBlocks k src dst = plainBlocks bs src dst := by
  have := cmpBlocksGo_plain k bs hbs hk src dst 0
  simp only [Nat.zero_mul, List.drop_zero, Nat.sub_zero] at this
  unfold cmpBlocks plainBlocks
  rw [this, List.range_eq_range']

/-- with the production block size, full reads of 64 KiB and reads through the 256 KiB `BufReader` compare the same blocks.
    The translated code makes full reads (its `BufReader` is the identity in the vocabulary, `Rs.bufreader_with_capacity`),
    the model reads through `chunkAt`: for 64 KiB blocks that changes nothing. -/
theorem cmpBlocks_production (src dst : Bytes) :
    cmpBlocks (fun _ => 65536) src dst = cmpBlocks (chunkAt BUF_CAP LOCAL_BLOCK_SIZE) src dst := by
  rw [cmpBlocks_plain (fun _ => 65536) 65536 (by decide) (fun _ => rfl),
    cmpBlocks_plain (chunkAt BUF_CAP LOCAL_BLOCK_SIZE) 65536 (by decide) (fun i => chunkAt_of_dvd _ _ i ⟨4, by decide⟩)]

end SyModel.Transfer
