/-
  Lemmas.GenSparseCopy — the world in which the translated sparse copiers of the local transport
  (`SyModel/Generated/Code/SparseCopy.lean`: `is_file_sparse`, `copy_sparse_file_seek`, `copy_sparse_file_blocks`,
  `copy_sparse_file` of src/transport/local.rs:14-170) are run, the instance `sparseExt seekSupported : Ext SWorld`
  giving every operation its POSIX meaning, and the lemmas that execute the translated code in it.

  PART 1 (`SWorld` … `sparseExt`) IS TRUSTED: the bridge theorems of `Props/GenSparseCopy.lean` are statements about
  `copy_sparse_file… (sparseExt b)`, so a wrong operation here misrepresents the operating system.  It is kept small
  and every operation carries the POSIX / std fact it encodes.  Everything after PART 1 is proved.

  Simplifications:
    * the name space is flat and holds regular files only (no directories, symlinks, permissions): `File::create`
      cannot fail, `Path::exists` is "there is a regular file";
    * an open file description refers to the file by its PATH (not by inode): unlinking a file that is open is outside
      the model — the translated code unlinks the destination BEFORE it creates and opens it, and never the source;
      every theorem about a run of a copier carries `source ≠ dest`;
    * the kernel's data map of a file (`dataMap`) is an input; it is only ever queried (lseek SEEK_DATA / SEEK_HOLE) on
      the source, which the code opens read-only and never writes — it is not updated by writes;
    * `io::Error` values keep the one bit the code looks at (is the errno EINVAL): `Rs.Err` has no errno payload;
    * durability is not modelled: `sync_all` changes no content (it is logged, so that ORDER statements can name it);
    * no fault injection: an operation fails only for the stated POSIX reason.
-/
import SyModel.Generated.Code.SparseCopy
import SyModel.Lemmas.Sparse
import SyModel.Lemmas.RsMonad
import SyModel.Lemmas.RsLoops
import SyModel.Lemmas.ByteData
set_option autoImplicit false
namespace SyModel.SparseCopy
open SyModel SyModel.Generated SyModel.Generated.SparseCopy SyModel.Compress

/-! ## PART 1 — the world of one call of a sparse copier (trusted) -/

/-- point update of a function -/
def upd {κ ν : Type} [DecidableEq κ] (f : κ → ν) (k : κ) (v : ν) : κ → ν := fun x => if x = k then v else f x

/-- an open file description: the file it refers to, its file position, and whether it was opened for writing
    (`File::open` is O_RDONLY, `File::create` is O_WRONLY|O_CREAT|O_TRUNC) -/
structure OpenFile where
  path     : Rs.Path
  pos      : Nat
  writable : Bool
  deriving DecidableEq, Repr

/-- the mutating system calls as they appear in the log -/
inductive MutOp where
  /-- `unlink(path)` -/
  | unlink
  /-- `open(path, O_WRONLY|O_CREAT|O_TRUNC)` -/
  | create
  /-- `write` of `len > 0` bytes at file offset `off` -/
  | write (off len : Nat)
  /-- `ftruncate(n)` -/
  | setLen (n : Nat)
  /-- `fsync` -/
  | sync
  deriving DecidableEq, Repr

/-- one line of the log: the call, the file it reached, and the content of that file right AFTER the call
    (`none`: the path does not exist).  The `after` fields of the log are exactly the states of the file that a
    process killed between two system calls can leave behind. -/
structure LogEntry where
  path  : Rs.Path
  op    : MutOp
  after : Option (List Nat)
  deriving DecidableEq, Repr

/-- What one call can see and change.  Bytes are natural numbers, as in the translated code (`Vec<u8>` is `List Nat`). -/
structure SWorld where
  /-- regular files: path ↦ content -/
  files   : Rs.Path → Option (List Nat)
  /-- the kernel's data map of each file: the extents it reports as DATA; everything else is a hole.  (`Covers content
      (dataMap p)` is the contract the theorems assume of it: extents inside the file, holes read as zeros.) -/
  dataMap : Rs.Path → List Region
  /-- `st_blocks` of each file (512-byte units) — only reported by `metadata()`, never interpreted -/
  blocks  : Rs.Path → Nat
  /-- open files: handles `1 … opened` have been handed out (`as_raw_fd` is the identity on handles) -/
  opened  : Nat
  handle  : Nat → Option OpenFile
  /-- the thread's `errno`: set by a failing libc call, read by `io::Error::last_os_error()` -/
  errno   : Int
  /-- every mutating call so far, oldest first -/
  log     : List LogEntry

def EBADF : Int := 9
def ENXIO : Int := 6
def EIO : Int := 5

def zerosN (n : Nat) : List Nat := List.replicate n 0

/-- `pwrite(data, pos)` with `data` non-empty: overwrite, extend the file when the range passes its end; a position
    beyond the end leaves a gap that reads as zeros (POSIX `write`/`lseek`) -/
def pwrite (file : List Nat) (pos : Nat) (data : List Nat) : List Nat :=
  (file ++ zerosN (pos - file.length)).take pos ++ data ++ file.drop (pos + data.length)

/-- `ftruncate(n)`: cut, or extend with zeros -/
def truncate (file : List Nat) (n : Nat) : List Nat := file.take n ++ zerosN (n - file.length)

/-- offset `i` lies in an extent the kernel reports as data -/
def isData (rs : List Region) (i : Nat) : Bool :=
  rs.any fun r => decide (r.offset ≤ i) && decide (i < r.offset + r.length)

/-- `lseek(fd, off, SEEK_DATA)` for `off < size`: the least offset `≥ off` (and `< size`) that lies in data; `none`
    (ENXIO) when only a hole follows.  On a sorted list of disjoint extents: `max off (start of the first extent ending
    after off)`. -/
def seekData (rs : List Region) (size off : Nat) : Option Nat :=
  (List.range' off (size - off)).find? (isData rs)

/-- `lseek(fd, off, SEEK_HOLE)` for `off < size`: the least offset `≥ off` that lies in a hole; the end of the file
    counts as a hole.  On a sorted list of disjoint extents: the end of the extent containing `off`, `off` itself in a
    hole. -/
def seekHole (rs : List Region) (size off : Nat) : Nat :=
  ((List.range' off (size - off)).find? (fun i => !isData rs i)).getD size

/-- the open file behind a handle, with the file's content (the file must still exist) -/
def SWorld.target (w : SWorld) (h : Nat) : Option (OpenFile × List Nat) :=
  match w.handle h with
  | some f => (w.files f.path).map fun c => (f, c)
  | none => none

/-- move the position behind a handle -/
def SWorld.setPos (w : SWorld) (h : Nat) (p : Nat) : SWorld :=
  { w with handle := upd w.handle h ((w.handle h).map ({ · with pos := p })) }

/-- a libc call fails: result `-1`, `errno` set -/
def failWith (w : SWorld) (e : Int) : Except Rs.Err Int × SWorld := (.ok (-1), { w with errno := e })

/-- `File::open(p)`: ENOENT on a missing file; read-only, position 0 -/
def openOp (p : Rs.Path) : Rs.M SWorld Nat := fun w =>
  match w.files p with
  | none => (.error .io, w)
  | some _ => (.ok (w.opened + 1),
      { w with opened := w.opened + 1, handle := upd w.handle (w.opened + 1) (some ⟨p, 0, false⟩) })

/-- `File::create(p)`: the file exists afterwards and is EMPTY (created, or truncated); write-only, position 0 -/
def createOp (p : Rs.Path) : Rs.M SWorld Nat := fun w =>
  (.ok (w.opened + 1),
    { w with files := upd w.files p (some []), opened := w.opened + 1,
             handle := upd w.handle (w.opened + 1) (some ⟨p, 0, true⟩),
             log := w.log ++ [⟨p, .create, some []⟩] })

/-- `fs::remove_file(p)`: ENOENT on a missing file -/
def removeOp (p : Rs.Path) : Rs.M SWorld Unit := fun w =>
  match w.files p with
  | none => (.error .io, w)
  | some _ => (.ok (), { w with files := upd w.files p none, log := w.log ++ [⟨p, .unlink, none⟩] })

/-- `libc::lseek(fd, off, whence)` — never an `Err` of Rust: the result is `-1` and `errno` is set.
    * SEEK_SET (0): the position becomes `off` (EINVAL when negative);
    * SEEK_DATA (3) / SEEK_HOLE (4): EINVAL on a file system without support (`seekSupported = false`); ENXIO when `off`
      is negative or at / beyond the end of the file, and for SEEK_DATA when only a hole follows; otherwise the position
      becomes the answer (`seekData` / `seekHole`);
    * any other `whence`: EINVAL;  a bad descriptor: EBADF. -/
def lseekOp (seekSupported : Bool) (h : Nat) (off whence : Int) : Rs.M SWorld Int := fun w =>
  match w.target h with
  | none => failWith w EBADF
  | some (f, c) =>
    if whence = 0 then
      if off < 0 then failWith w EINVAL else (.ok off, w.setPos h off.toNat)
    else if whence = 3 then
      if !seekSupported then failWith w EINVAL
      else if off < 0 ∨ (c.length : Int) ≤ off then failWith w ENXIO
      else match seekData (w.dataMap f.path) c.length off.toNat with
        | none => failWith w ENXIO
        | some d => (.ok (d : Int), w.setPos h d)
    else if whence = 4 then
      if !seekSupported then failWith w EINVAL
      else if off < 0 ∨ (c.length : Int) ≤ off then failWith w ENXIO
      else (.ok (seekHole (w.dataMap f.path) c.length off.toNat : Int),
            w.setPos h (seekHole (w.dataMap f.path) c.length off.toNat))
    else failWith w EINVAL

/-- `io::Error::last_os_error()`: the error built from `errno`.  `Rs.Err` has no errno payload: `.other` IS the error
    whose `raw_os_error()` is `Some(EINVAL)`, `.io` stands for every other OS error. -/
def lastOsError (e : Int) : Rs.Err := if e = EINVAL then .other else .io

/-- `io::Error::raw_os_error()` on those values (`EIO` stands for "an errno that is not EINVAL") -/
def rawOsError : Rs.Err → Option Int
  | .other => some EINVAL
  | .io => some EIO
  | .config _ => none

/-- `src_file.read(&mut buffer[..n])`: a FULL read — `min n (bytes left)` bytes arrive at the front of the buffer (the
    rest of the buffer is unchanged), the position advances; EBADF on a handle opened write-only.  (`read` may return
    fewer bytes on pipes or when interrupted; on regular files Linux returns short only at end of file.) -/
def readUptoOp (h : Nat) (buf : List Nat) (n : Nat) : Rs.M SWorld (Nat × List Nat) := fun w =>
  match w.target h with
  | none => (.error .io, w)
  | some (f, c) =>
    if f.writable then (.error .io, w)
    else
      let k := min (min n buf.length) (c.length - f.pos)
      (.ok (k, (c.drop f.pos).take k ++ buf.drop k), w.setPos h (f.pos + k))

/-- `File::metadata()`: size and `st_blocks` -/
def metadataOp (h : Nat) : Rs.M SWorld SMeta := fun w =>
  match w.target h with
  | none => (.error .io, w)
  | some (f, c) => (.ok ⟨c.length, w.blocks f.path⟩, w)

/-- `write_all(data)`: nothing at all for empty data (no `write` is issued); otherwise `pwrite` at the position of the
    handle, which advances; EBADF on a handle opened read-only -/
def writeAllOp (h : Nat) (data : List Nat) : Rs.M SWorld Unit := fun w =>
  if data.isEmpty then (.ok (), w)
  else match w.target h with
    | none => (.error .io, w)
    | some (f, c) =>
      if f.writable then
        (.ok (), { (w.setPos h (f.pos + data.length)) with
                     files := upd w.files f.path (some (pwrite c f.pos data)),
                     log := w.log ++ [⟨f.path, .write f.pos data.length, some (pwrite c f.pos data)⟩] })
      else (.error .io, w)

/-- `File::set_len(n)` (`ftruncate`): the position does not move; EINVAL/EBADF on a handle opened read-only -/
def setLenOp (h : Nat) (n : Nat) : Rs.M SWorld Unit := fun w =>
  match w.target h with
  | none => (.error .io, w)
  | some (f, c) =>
    if f.writable then
      (.ok (), { w with files := upd w.files f.path (some (truncate c n)),
                        log := w.log ++ [⟨f.path, .setLen n, some (truncate c n)⟩] })
    else (.error .io, w)

/-- `File::sync_all()` (`fsync`): no content changes -/
def syncOp (h : Nat) : Rs.M SWorld Unit := fun w =>
  match w.target h with
  | none => (.error .io, w)
  | some (f, c) => (.ok (), { w with log := w.log ++ [⟨f.path, .sync, some c⟩] })

/-- `File::seek`: a negative result is EINVAL -/
def seekOp (h : Nat) (s : Rs.SeekFrom) : Rs.M SWorld Nat := fun w =>
  match w.target h with
  | none => (.error .io, w)
  | some (f, c) =>
    let p : Int := match s with
      | .Start n => n
      | .End k => c.length + k
      | .Current k => f.pos + k
    if p < 0 then (.error .io, w) else (.ok p.toNat, w.setPos h p.toNat)

/-- THE INSTANCE: every operation of the translated sparse copiers in the world above.  `seekSupported = false` is a
    file system whose `lseek` rejects SEEK_DATA / SEEK_HOLE with EINVAL. -/
def sparseExt (seekSupported : Bool) : Ext SWorld where
  raw_os_error := rawOsError
  File_open := openOp
  File_create := createOp
  fs_remove_file := removeOp
  libc_lseek := lseekOp seekSupported
  std_io_Error_last_os_error _ := fun w => (.ok (lastOsError w.errno), w)
  h_read_upto := readUptoOp
  h_metadata := metadataOp
  path_exists p := fun w => (.ok (w.files p).isSome, w)      -- `Path::exists`: a regular file is there
  h_read h buf := readUptoOp h buf buf.length                 -- `read(&mut buf)` = the bounded read with the whole buffer
  h_write_all := writeAllOp
  h_seek := seekOp
  h_set_len := setLenOp
  h_sync_all := syncOp

/-! ## PART 2 — executing the translated code in that world (all proved) -/

section proj
variable (b : Bool)
theorem ext_raw : (sparseExt b).raw_os_error = rawOsError := rfl
theorem ext_open : (sparseExt b).File_open = openOp := rfl
theorem ext_create : (sparseExt b).File_create = createOp := rfl
theorem ext_remove : (sparseExt b).fs_remove_file = removeOp := rfl
theorem ext_lseek : (sparseExt b).libc_lseek = lseekOp b := rfl
theorem ext_last : (sparseExt b).std_io_Error_last_os_error = fun _ w => (.ok (lastOsError w.errno), w) := rfl
theorem ext_read_upto : (sparseExt b).h_read_upto = readUptoOp := rfl
theorem ext_metadata : (sparseExt b).h_metadata = metadataOp := rfl
theorem ext_exists : (sparseExt b).path_exists = fun p w => (.ok (w.files p).isSome, w) := rfl
theorem ext_write_all : (sparseExt b).h_write_all = writeAllOp := rfl
theorem ext_seek : (sparseExt b).h_seek = seekOp := rfl
theorem ext_set_len : (sparseExt b).h_set_len = setLenOp := rfl
theorem ext_sync : (sparseExt b).h_sync_all = syncOp := rfl
end proj

/-! ### effectful loops with `break` -/

section loops
variable {m : Type → Type} [Monad m] {σ : Type}
/-- this unit's own copy of `GenDeltaStream.iterM` (Lemmas/RsLoops); the normal forms `blocksTail` / `seekTail`
    below are written with it.  `forIn_range_of_loop`, stated there for any loop function with these two equations,
    gives its range rule. -/
def iterM (step : σ → m (ForInStep σ)) : Nat → σ → m σ
  | 0, s => pure s
  | k + 1, s => step s >>= fun r => match r with
    | .done s' => pure s'
    | .yield s' => iterM step k s'

theorem forIn_range_M (n : Nat) (s : σ) (step : σ → m (ForInStep σ)) :
    forIn [0:n] s (fun _ s => step s) = iterM step n s :=
  GenDeltaStream.forIn_range_of_loop step (iterM step) (fun _ => rfl) (fun _ _ => rfl) _ (fun _ _ => rfl) n s
end loops

/-! ### bytes as numbers -/

def ofU8 (l : Bytes) : List Nat := l.map UInt8.toNat

attribute [reducible] ofU8
open SyModel.Data
theorem ofU8_zeros (n : Nat) : ofU8 (zeros n) = zerosN n := by simp [ofU8, zeros, zerosN]
theorem pwrite_ofU8 (f d : Bytes) (off : Nat) (hd : d ≠ []) :
    pwrite (ofU8 f) off (ofU8 d) = ofU8 (writeAt f off d) := by
  unfold writeAt pwrite
  have : d.isEmpty = false := by cases d <;> simp_all
  rw [this]
  simp only [Bool.false_eq_true, if_false, List.map_append, List.map_take, List.map_drop, ofU8_zeros, List.length_map]

theorem truncate_ofU8 (f : Bytes) (n : Nat) : truncate (ofU8 f) n = ofU8 (setLen f n) := by
  simp only [truncate, setLen, List.map_append, List.map_take, ofU8_zeros, List.length_map]

/-! ### point updates; running the monad -/

@[simp] theorem upd_eq : @upd = @Data.upd := rfl

-- the next three are `Rs.run_pure`, `Rs.run_throw`, `Rs.run_capture` (Lemmas/RsMonad) under this unit's name, with the
-- same statements; `Rs.run_bind` and its corollaries are used under their own names
theorem run_pure {W α : Type} (a : α) (w : W) : (pure a : Rs.M W α) w = (.ok a, w) := Rs.run_pure a w
theorem run_throw {W α : Type} (e : Rs.Err) (w : W) : (throw e : Rs.M W α) w = (.error e, w) := Rs.run_throw e w
theorem run_capture {W α : Type} (x : Rs.M W α) (w : W) : Rs.capture x w = (.ok (x w).1, (x w).2) := Rs.run_capture x w

/-! ### a loop that ends through its own exit gives the same result for every sufficient fuel -/

section fuel
variable {W σ : Type} {step : σ → Rs.M W (ForInStep σ)} {s s' : σ} {w w' : W}

theorem iterM_done (h : step s w = (.ok (.done s'), w')) {fuel : Nat} (hf : 0 < fuel) :
    iterM step fuel s w = (.ok s', w') := by
  cases fuel with
  | zero => omega
  | succ k =>
    rw [iterM, Rs.run_bind_ok h]
    rfl

theorem iterM_yield (h : step s w = (.ok (.yield s'), w')) {n : Nat} {r : Except Rs.Err σ × W}
    (ih : ∀ fuel, n < fuel → iterM step fuel s' w' = r) {fuel : Nat} (hf : n + 1 < fuel) :
    iterM step fuel s w = r := by
  cases fuel with
  | zero => omega
  | succ k =>
    rw [iterM, Rs.run_bind_ok h]
    exact ih k (by omega)
end fuel

/-! ### the world while a copier runs -/

/-- the world while (and after) a copier runs from `w0`: the source open read-only under the next handle at position
    `ps`, the destination created, holding `out`, open write-only under the handle after that at position `pd`; `errno`
    is `err` and the log is `lg`; nothing else differs from `w0` -/
def cw (w0 : SWorld) (src dst : Rs.Path) (ps pd : Nat) (out : List Nat) (err : Int) (lg : List LogEntry) : SWorld :=
  { w0 with files := upd w0.files dst (some out), opened := w0.opened + 2,
            handle := upd (upd w0.handle (w0.opened + 1) (some ⟨src, ps, false⟩)) (w0.opened + 2) (some ⟨dst, pd, true⟩),
            errno := err, log := lg }

section ops
variable (w0 : SWorld) (src dst : Rs.Path)

theorem cw_target_dst (ps pd : Nat) (out : List Nat) (err : Int) (lg : List LogEntry) :
    (cw w0 src dst ps pd out err lg).target (w0.opened + 2) = some (⟨dst, pd, true⟩, out) := by
  simp [SWorld.target, cw]

theorem cw_setPos_src (ps pd p : Nat) (out : List Nat) (err : Int) (lg : List LogEntry) :
    (cw w0 src dst ps pd out err lg).setPos (w0.opened + 1) p = cw w0 src dst p pd out err lg := by
  simp [SWorld.setPos, cw, upd_ne, upd_shadow]

theorem cw_setPos_dst (ps pd p : Nat) (out : List Nat) (err : Int) (lg : List LogEntry) :
    (cw w0 src dst ps pd out err lg).setPos (w0.opened + 2) p = cw w0 src dst ps p out err lg := by
  simp [SWorld.setPos, cw]

theorem cw_seek_dst (ps pd n : Nat) (out : List Nat) (err : Int) (lg : List LogEntry) :
    seekOp (w0.opened + 2) (.Start n) (cw w0 src dst ps pd out err lg) = (.ok n, cw w0 src dst ps n out err lg) := by
  unfold seekOp
  rw [cw_target_dst]
  have h1 : ¬ ((n : Int) < 0) := by omega
  simp only [h1, if_false, Int.toNat_natCast, cw_setPos_dst]

theorem cw_write (ps pd : Nat) (out : List Nat) (err : Int) (lg : List LogEntry) (data : List Nat) (hd : data ≠ []) :
    writeAllOp (w0.opened + 2) data (cw w0 src dst ps pd out err lg) =
      (.ok (), cw w0 src dst ps (pd + data.length) (pwrite out pd data) err
        (lg ++ [⟨dst, .write pd data.length, some (pwrite out pd data)⟩])) := by
  unfold writeAllOp
  have : data.isEmpty = false := by cases data <;> simp_all
  rw [this, cw_target_dst]
  simp only [Bool.false_eq_true, if_false, if_true, cw_setPos_dst]
  simp [cw]

theorem cw_setLen (ps pd n : Nat) (out : List Nat) (err : Int) (lg : List LogEntry) :
    setLenOp (w0.opened + 2) n (cw w0 src dst ps pd out err lg) =
      (.ok (), cw w0 src dst ps pd (truncate out n) err (lg ++ [⟨dst, .setLen n, some (truncate out n)⟩])) := by
  unfold setLenOp
  rw [cw_target_dst]
  simp [cw]

theorem cw_sync (ps pd : Nat) (out : List Nat) (err : Int) (lg : List LogEntry) :
    syncOp (w0.opened + 2) (cw w0 src dst ps pd out err lg) =
      (.ok (), cw w0 src dst ps pd out err (lg ++ [⟨dst, .sync, some out⟩])) := by
  unfold syncOp
  rw [cw_target_dst]
  simp [cw]

variable (c : List Nat) (hsrc : w0.files src = some c) (hne : src ≠ dst)
include hsrc hne

theorem cw_target_src (ps pd : Nat) (out : List Nat) (err : Int) (lg : List LogEntry) :
    (cw w0 src dst ps pd out err lg).target (w0.opened + 1) = some (⟨src, ps, false⟩, c) := by
  simp [SWorld.target, cw, upd_ne, hne, hsrc]

theorem cw_read (ps pd : Nat) (out : List Nat) (err : Int) (lg : List LogEntry) (buf : List Nat) (n : Nat)
    (hn : n ≤ buf.length) :
    readUptoOp (w0.opened + 1) buf n (cw w0 src dst ps pd out err lg) =
      (.ok (((c.drop ps).take n).length, (c.drop ps).take n ++ buf.drop ((c.drop ps).take n).length),
       cw w0 src dst (ps + ((c.drop ps).take n).length) pd out err lg) := by
  have hk : min (min n buf.length) (c.length - ps) = ((c.drop ps).take n).length := by
    rw [List.length_take, List.length_drop, Nat.min_eq_left hn]
  rw [readUptoOp, cw_target_src w0 src dst c hsrc hne]
  simp only [Bool.false_eq_true, if_false, cw_setPos_src, hk, take_length_take]

theorem cw_seek_src (ps pd n : Nat) (out : List Nat) (err : Int) (lg : List LogEntry) :
    seekOp (w0.opened + 1) (.Start n) (cw w0 src dst ps pd out err lg) = (.ok n, cw w0 src dst n pd out err lg) := by
  unfold seekOp
  rw [cw_target_src w0 src dst c hsrc hne]
  have h1 : ¬ ((n : Int) < 0) := by omega
  simp only [h1, if_false, Int.toNat_natCast, cw_setPos_src]

end ops

/-! ### `copy_sparse_file_blocks` -/

/-- one round of `while pos < file_size` of `copy_sparse_file_blocks` (local.rs:149-166) on the loop state
    `(buffer, pos)`, in the shape of the generated code -/
def blockStep {W : Type} (ext : Ext W) (hs hd size : Nat) (s : List Nat × Nat) : Rs.M W (ForInStep (List Nat × Nat)) :=
  if (!decide (s.2 < size)) = true then pure (ForInStep.done (s.1, s.2))
  else
    ext.h_read_upto hs s.1 ((Rs.cast (size - s.2) : Nat).min 4096) >>= fun r =>
      if (r.1 == 0) = true then pure (ForInStep.done (r.2, s.2))
      else if (Rs.all (Rs.slice r.2 0 r.1) fun b => b == 0) = true then
        pure (ForInStep.yield (r.2, s.2 + Rs.cast r.1))
      else
        ext.h_seek hd (Rs.SeekFrom.Start s.2) >>= fun _ =>
          ext.h_write_all hd (Rs.slice r.2 0 r.1) >>= fun _ =>
            pure (ForInStep.yield (r.2, s.2 + Rs.cast r.1))

/-- `copy_sparse_file_blocks` after `File::create`: `set_len(file_size)` FIRST, the loop, `sync_all` -/
def blocksTail {W : Type} (ext : Ext W) (fuel : Nat → Nat) (hs size hd : Nat) : Rs.M W Nat :=
  ext.h_set_len hd size >>= fun _ =>
    iterM (blockStep ext hs hd size) (fuel size) (List.replicate 4096 0, 0) >>= fun _ =>
      ext.h_sync_all hd >>= fun _ => pure size

/-- what both copiers start with: open the source, `metadata().len()`, remove an existing destination, create it;
    `K source_handle file_size dest_handle` is the rest -/
def prologue {W : Type} (ext : Ext W) (s d : Rs.Path) (K : Nat → Nat → Nat → Rs.M W Nat) : Rs.M W Nat :=
  ext.File_open s >>= fun hs => ext.h_metadata hs >>= fun md => ext.path_exists d >>= fun ex =>
    if ex = true then ext.fs_remove_file d >>= fun _ => ext.File_create d >>= fun hd => K hs (Rs.len md) hd
    else ext.File_create d >>= fun hd => K hs (Rs.len md) hd

/-- NORMAL FORM of the translated `copy_sparse_file_blocks` for every `Ext`, with the fuel of the loop as a parameter -/
def blocksNF {W : Type} (ext : Ext W) (fuel : Nat → Nat) (s d : Rs.Path) : Rs.M W Nat :=
  prologue ext s d (blocksTail ext fuel)

/-- the translated function is its normal form; nothing else about `copy_sparse_file_blocks` depends on the shape of
    the generated code.  `· + 2` is the fuel the translation gives the loop (`file_size + 2`); that any fuel above the
    file size does is `copy_sparse_file_blocks_fuel_sufficient` of Props/GenSparseCopy -/
theorem blocks_nf {W : Type} (ext : Ext W) (s d : Rs.Path) : copy_sparse_file_blocks ext s d = blocksNF ext (· + 2) s d := by
  unfold copy_sparse_file_blocks
  simp only [forIn_range_M]
  rfl

/-- a `write` of the block copier on `dst`: it leaves a file of the FINAL size -/
def BlockWrite (dst : Rs.Path) (size : Nat) (e : LogEntry) : Prop :=
  ∃ off len c, e = ⟨dst, .write off len, some c⟩ ∧ c.length = size

/-- what `block_step` and `inner_step` take from one read of a non-empty chunk -/
theorem cw_read_chunk (w0 : SWorld) (src dst : Rs.Path) (content : Bytes) (hsrc : w0.files src = some (ofU8 content))
    (hne : src ≠ dst) (ps pd : Nat) (out : List Nat) (err : Int) (lg : List LogEntry) (buf : List Nat) (n : Nat)
    (blk : Bytes) (hblk : blk = (content.drop ps).take n) (hn : n ≤ buf.length) (hb0 : 0 < blk.length) :
    readUptoOp (w0.opened + 1) buf n (cw w0 src dst ps pd out err lg) =
        (.ok (blk.length, ofU8 blk ++ buf.drop blk.length), cw w0 src dst (ps + blk.length) pd out err lg) ∧
      Rs.slice (ofU8 blk ++ buf.drop blk.length) 0 blk.length = ofU8 blk ∧ (blk.length == 0) = false ∧
      ofU8 blk ≠ [] ∧ blk ≠ [] ∧ (ofU8 blk ++ buf.drop blk.length).length = buf.length := by
  have hread := cw_read w0 src dst _ hsrc hne ps pd out err lg buf n hn
  rw [← List.map_drop, ← List.map_take, ← hblk, List.length_map] at hread
  have hslice := slice_append_left (ofU8 blk) (buf.drop blk.length)
  rw [List.length_map] at hslice
  have hle : blk.length ≤ buf.length := by
    rw [hblk, List.length_take]
    exact Nat.le_trans (Nat.min_le_left _ _) hn
  refine ⟨hread, hslice, beq_eq_false_iff_ne.mpr (Nat.ne_of_gt hb0), ?_, List.length_pos_iff.mp hb0, ?_⟩
  · rw [← List.length_pos_iff, List.length_map]
    exact hb0
  · rw [List.length_append, List.length_map, List.length_drop, Nat.add_sub_cancel' hle]

theorem blockStep_done {W : Type} (ext : Ext W) (hs hd size pos : Nat) (buf : List Nat) (h : size ≤ pos) (w : W) :
    blockStep ext hs hd size (buf, pos) w = (.ok (.done (buf, pos)), w) := by
  have hg : (!decide (pos < size)) = true := by
    simp only [Bool.not_eq_true', decide_eq_false_iff_not]
    omega
  rw [blockStep, if_pos hg]
  rfl

section blocks
variable (w0 : SWorld) (src dst : Rs.Path) (content : Bytes) (hsrc : w0.files src = some (ofU8 content)) (hne : src ≠ dst)
include hsrc hne

theorem block_step (b : Bool) (pos pd : Nat) (buf : List Nat) (file blk : Bytes) (err : Int) (lg : List LogEntry)
    (hbuf : buf.length = 4096) (hpos : pos < content.length) (hfile : file.length = content.length)
    (hblk : blk = (content.drop pos).take 4096) :
    ∃ buf' pd' ws,
      blockStep (sparseExt b) (w0.opened + 1) (w0.opened + 2) content.length (buf, pos)
          (cw w0 src dst pos pd (ofU8 file) err lg) =
        (.ok (.yield (buf', pos + blk.length)),
         cw w0 src dst (pos + blk.length) pd'
           (ofU8 (if blk.all (· == 0) = true then file else writeAt file pos blk)) err (lg ++ ws)) ∧
      buf'.length = 4096 ∧ (if blk.all (· == 0) = true then file else writeAt file pos blk).length = content.length ∧
      ∀ e ∈ ws, BlockWrite dst content.length e := by
  obtain ⟨hb0, hb2⟩ : 0 < blk.length ∧ pos + blk.length ≤ content.length := by
    rw [hblk, List.length_take, List.length_drop]
    omega
  obtain ⟨hread, hslice, hr0, hnz, hnz', hbuf'⟩ := cw_read_chunk w0 src dst content hsrc hne pos pd (ofU8 file) err lg buf
    (min (content.length - pos) 4096) blk
    (by rw [hblk, List.take_eq_take_min, List.length_drop, Nat.min_comm]) (hbuf ▸ Nat.min_le_right _ _) hb0
  rw [hbuf] at hbuf'
  have hg : (!decide (pos < content.length)) = false := by
    simp [hpos]
  unfold blockStep
  simp only [hg, Bool.false_eq_true, if_false, Rs.run_bind, ext_read_upto, Rs.cast, id, hread, hr0, hslice, Rs.all,
    all_zero_ofU8]
  by_cases hz : blk.all (· == 0) = true
  · exact ⟨_, pd, [], by rw [if_pos hz, if_pos hz, List.append_nil]; rfl, hbuf', by rw [if_pos hz]; exact hfile, by simp⟩
  · have hlen : (writeAt file pos blk).length = content.length := by
      rw [length_writeAt, if_neg hnz', hfile]
      omega
    refine ⟨_, pos + blk.length, [⟨dst, .write pos blk.length, some (ofU8 (writeAt file pos blk))⟩], ?_, hbuf',
      by rw [if_neg hz]; exact hlen, ?_⟩
    · rw [if_neg hz, if_neg hz]
      simp only [Rs.run_bind, ext_seek, ext_write_all, cw_seek_dst, cw_write w0 src dst _ _ _ _ _ _ hnz, run_pure,
        pwrite_ofU8 _ _ _ hnz', List.length_map]
    · intro e he
      rw [List.mem_singleton] at he
      exact ⟨_, _, _, he, by rw [List.length_map, hlen]⟩

/-- LOOP INVARIANT + FUEL of the block copier: from position `pos` with the destination holding `file`, there is ONE
    outcome that EVERY fuel above `file_size - pos` produces: the loop ends through its own test with the destination
    holding what the model's loop `blocksGo` computes; the log grows by writes only, each leaving a file of the final size -/
theorem blocks_loop (b : Bool) (m : Nat) :
    ∀ (pos pd : Nat) (buf : List Nat) (file rest : Bytes) (err : Int) (lg : List LogEntry),
      buf.length = 4096 → pos ≤ content.length → rest = content.drop pos → rest.length = m →
      file.length = content.length →
      ∃ buf' pd' ws,
        (∀ fuel, m < fuel →
          iterM (blockStep (sparseExt b) (w0.opened + 1) (w0.opened + 2) content.length) fuel (buf, pos)
              (cw w0 src dst pos pd (ofU8 file) err lg) =
            (.ok (buf', content.length),
             cw w0 src dst content.length pd' (ofU8 (blocksGo 4096 file pos rest)) err (lg ++ ws))) ∧
        ∀ e ∈ ws, BlockWrite dst content.length e := by
  induction m using Nat.strongRecOn with
  | _ m ih =>
    intro pos pd buf file rest err lg hbuf hpos hrest hm hfile
    have hrl : rest.length = content.length - pos := by
      rw [hrest, List.length_drop]
    by_cases hr : rest = []
    · have hpe : pos = content.length := by
        rw [hr, List.length_nil] at hrl
        omega
      subst hpe
      refine ⟨buf, pd, [], ?_, by simp⟩
      intro fuel hf
      rw [hr, blocksGo_nil, List.append_nil]
      exact iterM_done (blockStep_done _ _ _ _ _ _ (Nat.le_refl _) _) (by omega)
    · have hrp : 0 < rest.length := List.length_pos_iff.mpr hr
      obtain ⟨buf1, pd1, ws1, hstep, hbuf1, hfile1, hws1⟩ := block_step w0 src dst content hsrc hne b pos pd buf file
        (rest.take 4096) err lg hbuf (by omega) hfile (by rw [hrest])
      have hbl : (rest.take 4096).length = min 4096 rest.length := List.length_take
      obtain ⟨buf', pd', ws, h1, h2⟩ := ih (rest.drop 4096).length (by rw [List.length_drop]; omega)
        (pos + (rest.take 4096).length) pd1 buf1 _ (rest.drop 4096) err (lg ++ ws1) hbuf1 (by omega)
        (by rw [hrest, ← drop_drop_take_length]) rfl hfile1
      refine ⟨buf', pd', ws1 ++ ws, ?_, ?_⟩
      · intro fuel hf
        rw [blocksGo_step _ _ _ _ (by decide) hr, ← List.append_assoc]
        exact iterM_yield hstep h1 (by rw [List.length_drop]; omega)
      · exact List.forall_mem_append.mpr ⟨hws1, h2⟩
end blocks

/-! ### `copy_sparse_file_seek`: normal form -/

/-- one round of `while remaining > 0` (local.rs:109-117) on the loop state `(remaining, buffer)` -/
def innerStep {W : Type} (ext : Ext W) (hs hd : Nat) (s : Nat × List Nat) : Rs.M W (ForInStep (Nat × List Nat)) :=
  if (!decide (s.1 > 0)) = true then pure (ForInStep.done (s.1, s.2))
  else
    ext.h_read_upto hs s.2 (s.1.min (Rs.len s.2)) >>= fun r =>
      if (r.1 == 0) = true then pure (ForInStep.done (s.1, r.2))
      else ext.h_write_all hd (Rs.slice r.2 0 r.1) >>= fun _ =>
        pure (ForInStep.yield (Rs.saturating_sub s.1 r.1, r.2))

/-- `data_end` (local.rs:96-100) -/
def dataEnd (size : Nat) (hole_start : Int) : Int :=
  if (decide (hole_start < 0) || decide (hole_start > (Rs.cast size : Int))) = true then (Rs.cast size : Int) else hole_start

/-- one round of `while pos < file_size_i64` (local.rs:86-120) on the loop state `pos`; `fi` is the fuel of the inner loop -/
def outerStep {W : Type} (ext : Ext W) (fi hs hd size : Nat) (pos : Int) : Rs.M W (ForInStep Int) :=
  if (!decide (pos < (Rs.cast size : Int))) = true then pure (ForInStep.done pos)
  else
    ext.libc_lseek (id hs) pos 3 >>= fun ds =>
      if decide (ds < 0) = true then pure (ForInStep.done pos)
      else if decide (ds ≥ (Rs.cast size : Int)) = true then pure (ForInStep.done pos)
      else
        ext.libc_lseek (id hs) ds 4 >>= fun hole =>
          ext.h_seek hs (Rs.SeekFrom.Start (Rs.cast ds)) >>= fun _ =>
            ext.h_seek hd (Rs.SeekFrom.Start (Rs.cast ds)) >>= fun _ =>
              iterM (innerStep ext hs hd) fi ((Rs.cast (dataEnd size hole - ds) : Nat), List.replicate (1024 * 1024) 0) >>= fun _ =>
                pure (ForInStep.yield (dataEnd size hole))

/-- `copy_sparse_file_seek` after `File::create`: the probe, the all-hole exit, the walk, `set_len`, `sync_all` -/
def seekTail {W : Type} (ext : Ext W) (fo fi : Nat → Nat) (hs size hd : Nat) : Rs.M W Nat :=
  ext.libc_lseek (id hs) 0 3 >>= fun first =>
    if decide (first < 0) = true then
      ext.std_io_Error_last_os_error () >>= fun err =>
        if (ext.raw_os_error err == some EINVAL) = true then throw err
        else ext.h_set_len hd size >>= fun _ => pure size
    else
      ext.libc_lseek (id hs) 0 SEEK_SET >>= fun _ =>
        ext.h_seek hs (Rs.SeekFrom.Start 0) >>= fun _ =>
          iterM (outerStep ext (fi size) hs hd size) (fo size) 0 >>= fun _ =>
            ext.h_set_len hd size >>= fun _ => ext.h_sync_all hd >>= fun _ => pure size

/-- NORMAL FORM of the translated `copy_sparse_file_seek` for every `Ext`, with the fuels of the two loops as parameters -/
def seekNF {W : Type} (ext : Ext W) (fo fi : Nat → Nat) (s d : Rs.Path) : Rs.M W Nat :=
  prologue ext s d (seekTail ext fo fi)

theorem throw_bind {W α β : Type} (e : Rs.Err) (f : α → Rs.M W β) : (throw e : Rs.M W α) >>= f = throw e := rfl

theorem seek_nf {W : Type} (ext : Ext W) (s d : Rs.Path) :
    copy_sparse_file_seek ext s d = seekNF ext (· + 2) (· + 2) s d := by
  unfold copy_sparse_file_seek
  simp only [forIn_range_M, pure_bind]
  rfl

/-! ### the prologue and the block copier in the world -/

/-- what the prologue appends to the log: `unlink` when the destination existed, then `create` -/
def preLog (w : SWorld) (dst : Rs.Path) : List LogEntry :=
  (if (w.files dst).isSome then [⟨dst, .unlink, none⟩] else []) ++ [⟨dst, .create, some []⟩]

theorem prologue_run (b : Bool) (w : SWorld) (src dst : Rs.Path) (c : List Nat) (hsrc : w.files src = some c)
    (K : Nat → Nat → Nat → Rs.M SWorld Nat) :
    prologue (sparseExt b) src dst K w =
      K (w.opened + 1) c.length (w.opened + 2) (cw w src dst 0 0 [] w.errno (w.log ++ preLog w dst)) := by
  unfold prologue
  have hopen : openOp src w = (.ok (w.opened + 1),
      { w with opened := w.opened + 1, handle := upd w.handle (w.opened + 1) (some ⟨src, 0, false⟩) }) := by
    simp [openOp, hsrc]
  have hmeta : metadataOp (w.opened + 1)
      { w with opened := w.opened + 1, handle := upd w.handle (w.opened + 1) (some ⟨src, 0, false⟩) } =
      (.ok ⟨c.length, w.blocks src⟩,
       { w with opened := w.opened + 1, handle := upd w.handle (w.opened + 1) (some ⟨src, 0, false⟩) }) := by
    simp [metadataOp, SWorld.target, hsrc]
  simp only [ext_open, ext_metadata, ext_exists, ext_remove, ext_create, Rs.run_bind, hopen, hmeta, Rs.len]
  cases hd : w.files dst with
  | none =>
    simp only [Option.isSome_none, Bool.false_eq_true, if_false, Rs.run_bind, createOp, preLog, hd, List.nil_append]
    rfl
  | some prior =>
    simp only [Option.isSome_some, if_true, Rs.run_bind, removeOp, hd, createOp, preLog, upd_eq, upd_upd, List.append_assoc,
      List.singleton_append]
    rfl

section blocksRun
variable (w : SWorld) (src dst : Rs.Path) (content : Bytes) (hsrc : w.files src = some (ofU8 content)) (hne : src ≠ dst)
include hsrc hne

/-- the translated block copier in the world: ONE outcome for every fuel above the file size — it succeeds, answers
    the size, the destination holds the source bytes (the MODEL's `localBlocks content`, which is `content`), and the
    log of the run is `[unlink]? create, set_len(size) ↦ zeros, writes…, sync` -/
theorem blocksNF_run (b : Bool) :
    ∃ ps pd ws,
      (∀ fuel : Nat → Nat, content.length < fuel content.length →
        blocksNF (sparseExt b) fuel src dst w =
          (.ok content.length,
           cw w src dst ps pd (ofU8 content) w.errno
             (w.log ++ (preLog w dst ++ ⟨dst, .setLen content.length, some (zerosN content.length)⟩ :: ws ++
               [⟨dst, .sync, some (ofU8 content)⟩])))) ∧
      ∀ e ∈ ws, BlockWrite dst content.length e := by
  have hz : truncate [] content.length = zerosN content.length := by simp [truncate]
  obtain ⟨buf', pd', ws, h1, h2⟩ := blocks_loop w src dst content hsrc hne b content.length 0 0
    (List.replicate 4096 0) (setLen [] content.length) content w.errno
    (w.log ++ preLog w dst ++ [⟨dst, .setLen content.length, some (zerosN content.length)⟩])
    List.length_replicate (Nat.zero_le _) rfl rfl (length_setLen _ _)
  refine ⟨content.length, pd', ws, ?_, h2⟩
  intro fuel hfuel
  have h1' := h1 (fuel content.length) (by omega)
  rw [(truncate_ofU8 [] _).symm.trans hz, show blocksGo 4096 (setLen [] content.length) 0 content = content from
    localBlocks_eq content] at h1'
  rw [blocksNF, prologue_run b w src dst _ hsrc, List.length_map, blocksTail]
  simp only [ext_set_len, ext_sync, Rs.run_bind, cw_setLen, hz, h1', cw_sync, run_pure]
  simp only [List.append_assoc, List.singleton_append]

end blocksRun

/-! ### the invariant of the seek copier: the file is a prefix of the source, and the source holds only zeros from
    there up to the position of the next write -/

def ZeroOn (content : Bytes) (q p : Nat) : Prop := ∀ i, q ≤ i → i < p → at0 content i = 0

theorem ZeroOn.take_eq {content : Bytes} {q p : Nat} (hz : ZeroOn content q p) (hq : q ≤ p)
    (hp : p ≤ content.length) : content.take q ++ zeros (p - q) = content.take p := by
  apply ext_at0
  · simp only [List.length_append, List.length_take, zeros, List.length_replicate]
    omega
  · intro i hi
    rw [at0_append, at0_take, at0_take, at0_zeros, List.length_take, Nat.min_eq_left (by omega)]
    rw [List.length_take] at hi
    by_cases h : i < q
    · rw [if_pos h, if_pos h, if_pos (by omega)]
    · rw [if_neg h, if_pos (by omega), hz i (by omega) (by omega)]

theorem ZeroOn.extend {content : Bytes} {q p p' : Nat} (h : ZeroOn content q p) (h' : ∀ i, p ≤ i → i < p' → at0 content i = 0) :
    ZeroOn content q p' := by
  intro i h1 h2
  by_cases hp : i < p
  · exact h i h1 hp
  · exact h' i (by omega) h2

theorem writeAt_prefix (content : Bytes) (q p k : Nat) (hq : q ≤ p) (hz : ZeroOn content q p) (hk : 0 < k)
    (hle : p + k ≤ content.length) :
    writeAt (content.take q) p ((content.drop p).take k) = content.take (p + k) := by
  have hlen : (content.take q).length = q := by
    rw [List.length_take]
    omega
  have hne : ((content.drop p).take k).isEmpty = false := by
    rw [List.isEmpty_eq_false_iff, ← List.length_pos_iff, List.length_take, List.length_drop]
    omega
  rw [writeAt, hne, if_neg Bool.false_ne_true, List.drop_eq_nil_of_le (as := content.take q) (by omega), hlen,
    hz.take_eq hq (by omega), List.take_take, Nat.min_self, List.append_nil, List.take_add]

theorem setLen_prefix (content : Bytes) (q : Nat) (hq : q ≤ content.length) (hz : ZeroOn content q content.length) :
    setLen (content.take q) content.length = content := by
  rw [setLen, List.length_take, Nat.min_eq_left hq, List.take_take, Nat.min_eq_right hq, hz.take_eq hq (Nat.le_refl _),
    List.take_length]

/-! ### SEEK_DATA / SEEK_HOLE answers; the contract `Covers` -/

theorem seekData_some {rs : List Region} {size off d : Nat} (h : seekData rs size off = some d) :
    off ≤ d ∧ d < size ∧ isData rs d = true ∧ ∀ j, off ≤ j → j < d → isData rs j = false := by
  unfold seekData at h
  obtain ⟨h1, h2, h3⟩ := List.find?_range'_eq_some.mp h
  rw [List.mem_range'_1] at h2
  refine ⟨h2.1, by omega, h1, ?_⟩
  intro j hj1 hj2
  simpa using h3 j hj1 hj2

theorem seekData_none {rs : List Region} {size off : Nat} (h : seekData rs size off = none) :
    ∀ i, off ≤ i → i < size → isData rs i = false := by
  unfold seekData at h
  intro i h1 h2
  simpa using List.find?_range'_eq_none.mp h i h1 (by omega)

theorem seekHole_spec (rs : List Region) (size d : Nat) (hd : d < size) (hdata : isData rs d = true) :
    d < seekHole rs size d ∧ seekHole rs size d ≤ size ∧ ∀ j, d ≤ j → j < seekHole rs size d → isData rs j = true := by
  unfold seekHole
  cases h : (List.range' d (size - d)).find? (fun i => !isData rs i) with
  | none =>
    simp only [Option.getD_none]
    refine ⟨hd, Nat.le_refl _, ?_⟩
    intro j h1 h2
    simpa using List.find?_range'_eq_none.mp h j h1 (by omega)
  | some x =>
    simp only [Option.getD_some]
    obtain ⟨h1, h2, h3⟩ := List.find?_range'_eq_some.mp h
    rw [List.mem_range'_1] at h2
    have hx : x ≠ d := by intro e; subst e; simp [hdata] at h1
    refine ⟨by omega, by omega, ?_⟩
    intro j hj1 hj2
    simpa using h3 j hj1 hj2

theorem covers_hole_zero {content : Bytes} {rs : List Region} (h : Covers content rs) (i : Nat)
    (hi : isData rs i = false) : at0 content i = 0 := by
  by_cases hl : i < content.length
  · apply Classical.byContradiction
    intro hne
    obtain ⟨r, hr, h1, h2⟩ := h.holesZero i hl hne
    have : isData rs i = true := by
      unfold isData
      rw [List.any_eq_true]
      exact ⟨r, hr, by simp [h1, h2]⟩
    rw [hi] at this; cases this
  · exact at0_of_le _ _ (by omega)

/-! ### `lseek` in the world -/

section lseek
variable (w0 : SWorld) (src dst : Rs.Path) (c : List Nat) (hsrc : w0.files src = some c) (hne : src ≠ dst)
include hsrc hne

theorem cw_lseek_data (ps pd : Nat) (out : List Nat) (err : Int) (lg : List LogEntry) (off : Nat) :
    lseekOp true (w0.opened + 1) (off : Int) 3 (cw w0 src dst ps pd out err lg) =
      match (if off < c.length then seekData (w0.dataMap src) c.length off else none) with
      | none => (.ok (-1), cw w0 src dst ps pd out ENXIO lg)
      | some d => (.ok (d : Int), cw w0 src dst d pd out err lg) := by
  unfold lseekOp
  rw [cw_target_src w0 src dst c hsrc hne]
  have h0 : ¬ ((off : Int) < 0) := by omega
  by_cases hlt : off < c.length
  · have h1 : ¬ ((off : Int) < 0 ∨ (c.length : Int) ≤ off) := by omega
    simp only [if_pos hlt, h1, if_false, Int.toNat_natCast, Bool.not_true, Bool.false_eq_true,
      show ¬ ((3 : Int) = 0) by decide, if_true]
    have hdm : (cw w0 src dst ps pd out err lg).dataMap src = w0.dataMap src := rfl
    rw [hdm]
    cases seekData (w0.dataMap src) c.length off with
    | none => rfl
    | some d => simp only [cw_setPos_src]
  · have h1 : ((off : Int) < 0 ∨ (c.length : Int) ≤ off) := by omega
    simp only [if_neg hlt, h1, if_true, Bool.not_true, Bool.false_eq_true, if_false,
      show ¬ ((3 : Int) = 0) by decide]
    rfl

theorem cw_lseek_data_unsupported (ps pd : Nat) (out : List Nat) (err : Int) (lg : List LogEntry) (off : Int) :
    lseekOp false (w0.opened + 1) off 3 (cw w0 src dst ps pd out err lg) =
      (.ok (-1), cw w0 src dst ps pd out EINVAL lg) := by
  unfold lseekOp
  rw [cw_target_src w0 src dst c hsrc hne]
  simp only [show ¬ ((3 : Int) = 0) by decide, if_false, if_true, Bool.not_false]
  rfl

theorem cw_lseek_hole (ps pd : Nat) (out : List Nat) (err : Int) (lg : List LogEntry) (off : Nat) (hlt : off < c.length) :
    lseekOp true (w0.opened + 1) (off : Int) 4 (cw w0 src dst ps pd out err lg) =
      (.ok (seekHole (w0.dataMap src) c.length off : Int),
       cw w0 src dst (seekHole (w0.dataMap src) c.length off) pd out err lg) := by
  unfold lseekOp
  rw [cw_target_src w0 src dst c hsrc hne]
  have h1 : ¬ ((off : Int) < 0 ∨ (c.length : Int) ≤ off) := by omega
  have hdm : (cw w0 src dst ps pd out err lg).dataMap src = w0.dataMap src := rfl
  simp only [h1, if_false, Int.toNat_natCast, Bool.not_true, Bool.false_eq_true,
    show ¬ ((4 : Int) = 0) by decide, show ¬ ((4 : Int) = 3) by decide, if_true, cw_setPos_src, hdm]

theorem cw_lseek_set (b : Bool) (ps pd : Nat) (out : List Nat) (err : Int) (lg : List LogEntry) :
    lseekOp b (w0.opened + 1) 0 SEEK_SET (cw w0 src dst ps pd out err lg) =
      (.ok 0, cw w0 src dst 0 pd out err lg) := by
  unfold lseekOp
  rw [cw_target_src w0 src dst c hsrc hne]
  simp only [SEEK_SET, if_true, show ¬ ((0 : Int) < 0) by decide, if_false, Int.toNat_zero, cw_setPos_src]

end lseek

/-! ### the two loops of `copy_sparse_file_seek` in the world -/

theorem cast_nat_int (n : Nat) : (Rs.cast n : Int) = (n : Int) := rfl
theorem cast_int_nat (i : Int) : (Rs.cast i : Nat) = i.toNat := rfl

/-- a `write` of the seek copier on `dst`: `len > 0` bytes at `off`, and the file it leaves is exactly the PREFIX of
    the source up to the end of that write -/
def SeekWrite (dst : Rs.Path) (content : Bytes) (e : LogEntry) : Prop :=
  ∃ off len, 0 < len ∧ off + len ≤ content.length ∧
    e = ⟨dst, .write off len, some (ofU8 (content.take (off + len)))⟩

theorem innerStep_done {W : Type} (ext : Ext W) (hs hd : Nat) (buf : List Nat) (w : W) :
    innerStep ext hs hd (0, buf) w = (.ok (.done (0, buf)), w) := rfl

section seek
variable (w0 : SWorld) (src dst : Rs.Path) (content : Bytes) (hsrc : w0.files src = some (ofU8 content)) (hne : src ≠ dst)
include hsrc hne

theorem inner_step (b : Bool) (e p q : Nat) (buf : List Nat) (err : Int) (lg : List LogEntry)
    (hbuf : 0 < buf.length) (hpe : p < e) (he : e ≤ content.length) (hq : q ≤ p) (hz : ZeroOn content q p) :
    ∃ k buf', 0 < k ∧ p + k ≤ e ∧
      innerStep (sparseExt b) (w0.opened + 1) (w0.opened + 2) (e - p, buf)
          (cw w0 src dst p p (ofU8 (content.take q)) err lg) =
        (.ok (.yield (e - (p + k), buf')),
         cw w0 src dst (p + k) (p + k) (ofU8 (content.take (p + k))) err
           (lg ++ [⟨dst, .write p k, some (ofU8 (content.take (p + k)))⟩])) ∧
      buf'.length = buf.length := by
  obtain ⟨k, hk⟩ : ∃ k, k = min (e - p) buf.length := ⟨_, rfl⟩
  obtain ⟨hk0, hke, hkb⟩ : 0 < k ∧ p + k ≤ e ∧ k ≤ buf.length := by
    omega
  have hkl : p + k ≤ content.length := Nat.le_trans hke he
  have hdl : ((content.drop p).take k).length = k := by
    rw [List.length_take, List.length_drop, Nat.min_eq_left (Nat.le_sub_of_add_le' hkl)]
  obtain ⟨hread, hslice, hr0, hnz', hnz, hbuf'⟩ := cw_read_chunk w0 src dst content hsrc hne p p (ofU8 (content.take q))
    err lg buf k _ rfl hkb (hdl.symm ▸ hk0)
  rw [hdl] at hread hslice hr0 hbuf'
  have hg : (!decide (e - p > 0)) = false := by
    simp only [gt_iff_lt, Bool.not_eq_false', decide_eq_true_eq]
    exact Nat.sub_pos_of_lt hpe
  refine ⟨k, ofU8 ((content.drop p).take k) ++ buf.drop k, hk0, hke, ?_, hbuf'⟩
  unfold innerStep
  simp only [hg, Bool.false_eq_true, if_false, Rs.run_bind, ext_read_upto, ext_write_all, Rs.len, ← hk, hread, hr0,
      hslice, cw_write w0 src dst _ _ _ _ _ _ hnz', run_pure, pwrite_ofU8 _ _ _ hnz,
      writeAt_prefix content q p k hq hz hk0 hkl, List.length_map, hdl, Rs.saturating_sub, Nat.sub_sub]

/-- INNER LOOP (one extent `[p, e)` through the buffer, of any size but 0), invariant + fuel: the destination holds the prefix
    `content.take q` with only zeros between `q` and the common position `p` of both handles; there is ONE outcome that
    every fuel above `e - p` produces: the loop ends through `remaining > 0` failing, the positions at `e`, the
    destination again a prefix with only zeros up to there -/
theorem inner_loop (b : Bool) (e : Nat) (he : e ≤ content.length) (m : Nat) :
    ∀ (p q : Nat) (buf : List Nat) (err : Int) (lg : List LogEntry),
      0 < buf.length → e - p = m → p ≤ e → q ≤ p → ZeroOn content q p →
      ∃ buf' q' ws,
        (∀ fuel, m < fuel →
          iterM (innerStep (sparseExt b) (w0.opened + 1) (w0.opened + 2)) fuel (m, buf)
              (cw w0 src dst p p (ofU8 (content.take q)) err lg) =
            (.ok (0, buf'), cw w0 src dst e e (ofU8 (content.take q')) err (lg ++ ws))) ∧
        q' ≤ e ∧ ZeroOn content q' e ∧ ∀ x ∈ ws, SeekWrite dst content x := by
  induction m using Nat.strongRecOn with
  | _ m ih =>
    intro p q buf err lg hbuf hm hpe hq hz
    by_cases hlt : p < e
    · obtain ⟨k, buf1, hk0, hke, hstep, hbuf1⟩ := inner_step w0 src dst content hsrc hne b e p q buf err lg hbuf hlt he
        hq hz
      obtain ⟨buf', q', ws, h1, h2, h3, h4⟩ := ih (e - (p + k)) (by omega) (p + k) (p + k) buf1 err
        (lg ++ [⟨dst, .write p k, some (ofU8 (content.take (p + k)))⟩]) (hbuf1 ▸ hbuf) rfl hke (Nat.le_refl _)
        (fun i h1 h2 => absurd h2 (Nat.not_lt.mpr h1))
      rw [List.append_assoc, List.singleton_append] at h1
      rw [hm] at hstep
      refine ⟨buf', q', ⟨dst, .write p k, some (ofU8 (content.take (p + k)))⟩ :: ws, ?_, h2, h3, ?_⟩
      · intro fuel hf
        exact iterM_yield hstep h1 (by omega)
      · exact List.forall_mem_cons.mpr ⟨⟨p, k, hk0, Nat.le_trans hke he, rfl⟩, h4⟩
    · have hpe' : p = e := Nat.le_antisymm hpe (Nat.le_of_not_lt hlt)
      subst hpe'
      rw [Nat.sub_self] at hm
      subst hm
      refine ⟨buf, q, [], ?_, hq, hz, by simp⟩
      intro fuel hf
      rw [List.append_nil]
      exact iterM_done (innerStep_done _ _ _ _ _) hf

omit hsrc hne in
theorem outerStep_done {W : Type} (ext : Ext W) (fi hs hd size : Nat) (w : W) :
    outerStep ext fi hs hd size (size : Int) w = (.ok (.done (size : Int)), w) := by
  have hg : (!decide ((size : Int) < (Rs.cast size : Int))) = true := by
    rw [cast_nat_int, Bool.not_eq_true', decide_eq_false_iff_not]
    exact Int.lt_irrefl _
  rw [outerStep, if_pos hg]
  rfl

/-- a round of the outer loop from `p` when only a hole follows: SEEK_DATA fails with ENXIO, `break` -/
theorem outer_step_hole (fi p ps pd : Nat) (out : List Nat) (err : Int) (lg : List LogEntry) (hp : p < content.length)
    (hsd : seekData (w0.dataMap src) content.length p = none) :
    outerStep (sparseExt true) fi (w0.opened + 1) (w0.opened + 2) content.length (p : Int)
        (cw w0 src dst ps pd out err lg) =
      (.ok (.done (p : Int)), cw w0 src dst ps pd out ENXIO lg) := by
  have hg : (!decide ((p : Int) < (Rs.cast content.length : Int))) = false := by
    rw [cast_nat_int, Bool.not_eq_false', decide_eq_true_eq]
    exact Int.ofNat_lt.mpr hp
  have hseek := cw_lseek_data w0 src dst _ hsrc hne ps pd out err lg p
  rw [List.length_map, if_pos hp, hsd] at hseek
  unfold outerStep
  simp only [hg, Bool.false_eq_true, if_false, Rs.run_bind, ext_lseek, id, hseek,
    show decide ((-1 : Int) < 0) = true by decide, if_true, run_pure]

/-- a round of the outer loop from `p` when data follows at `d`: the extent `[d, e)` up to the next hole is copied
    by the inner loop, the destination becomes a prefix with only zeros up to `e`, and `pos` becomes `e` -/
theorem outer_step_data (hcov : Covers content (w0.dataMap src)) (p q ps pd d : Nat) (err : Int) (lg : List LogEntry)
    (hp : p < content.length) (hq : q ≤ p) (hz : ZeroOn content q p)
    (hsd : seekData (w0.dataMap src) content.length p = some d) :
    ∃ e q' ws,
      (∀ fi, content.length < fi →
        outerStep (sparseExt true) fi (w0.opened + 1) (w0.opened + 2) content.length (p : Int)
            (cw w0 src dst ps pd (ofU8 (content.take q)) err lg) =
          (.ok (.yield (e : Int)), cw w0 src dst e e (ofU8 (content.take q')) err (lg ++ ws))) ∧
      p < e ∧ e ≤ content.length ∧ q' ≤ e ∧ ZeroOn content q' e ∧ ∀ x ∈ ws, SeekWrite dst content x := by
  obtain ⟨hd1, hd2, hd3, hd4⟩ := seekData_some hsd
  obtain ⟨hh1, hh2, _⟩ := seekHole_spec (w0.dataMap src) content.length d hd2 hd3
  obtain ⟨e, he⟩ : ∃ e, e = seekHole (w0.dataMap src) content.length d := ⟨_, rfl⟩
  rw [← he] at hh1 hh2
  have hg : (!decide ((p : Int) < (Rs.cast content.length : Int))) = false := by
    rw [cast_nat_int, Bool.not_eq_false', decide_eq_true_eq]
    exact Int.ofNat_lt.mpr hp
  have hc1 : decide ((d : Int) < 0) = false := by
    simp
  have hc2 : decide ((d : Int) ≥ (Rs.cast content.length : Int)) = false := by
    rw [cast_nat_int, decide_eq_false_iff_not]
    exact Int.not_le.mpr (Int.ofNat_lt.mpr hd2)
  have hde : dataEnd content.length (e : Int) = (e : Int) := by
    rw [dataEnd, cast_nat_int, if_neg]
    simp only [Bool.or_eq_true, decide_eq_true_eq]
    omega
  have hlen : ((e : Int) - (d : Int)).toNat = e - d := Int.toNat_sub e d
  have hseek := cw_lseek_data w0 src dst _ hsrc hne ps pd (ofU8 (content.take q)) err lg p
  rw [List.length_map, if_pos hp, hsd] at hseek
  have hhole := cw_lseek_hole w0 src dst _ hsrc hne d pd (ofU8 (content.take q)) err lg d
    (by rw [List.length_map]; exact hd2)
  rw [List.length_map, ← he] at hhole
  obtain ⟨buf', q', ws, hi1, hi2, hi3, hi4⟩ := inner_loop w0 src dst content hsrc hne true e hh2 (e - d) d q
    (List.replicate (1024 * 1024) 0) err lg (by rw [List.length_replicate]; decide) rfl (Nat.le_of_lt hh1)
    (Nat.le_trans hq hd1)
    (hz.extend fun i h1 h2 => covers_hole_zero hcov i (hd4 i h1 h2))
  refine ⟨e, q', ws, ?_, by omega, hh2, hi2, hi3, hi4⟩
  intro fi hfi
  unfold outerStep
  simp only [hg, Bool.false_eq_true, if_false, Rs.run_bind, ext_lseek, id, hseek, hc1, hc2, hhole, ext_seek, cast_int_nat,
    Int.toNat_natCast, cw_seek_src w0 src dst _ hsrc hne, cw_seek_dst, hde, hlen, hi1 fi (by omega), run_pure]

/-- OUTER LOOP (the SEEK_DATA / SEEK_HOLE walk), invariant + fuel, under the contract `Covers`: from `pos = p` with
    the destination a prefix `content.take q` and only zeros between `q` and `p`, there is ONE outcome that every fuel
    above `file_size - p` (with any inner fuel above `file_size`) produces: the loop ends through one of its own exits,
    the destination a prefix with only zeros from there TO THE END of the file; the log grows by `SeekWrite`s only -/
theorem outer_loop (hcov : Covers content (w0.dataMap src)) (m : Nat) :
    ∀ (p q ps pd : Nat) (err : Int) (lg : List LogEntry),
      content.length - p = m → p ≤ content.length → q ≤ p → ZeroOn content q p →
      ∃ (p' : Int) (q' ps' pd' : Nat) (err' : Int) (ws : List LogEntry),
        (∀ fi, content.length < fi → ∀ fuel, m < fuel →
          iterM (outerStep (sparseExt true) fi (w0.opened + 1) (w0.opened + 2) content.length) fuel (p : Int)
              (cw w0 src dst ps pd (ofU8 (content.take q)) err lg) =
            (.ok p', cw w0 src dst ps' pd' (ofU8 (content.take q')) err' (lg ++ ws))) ∧
        q' ≤ content.length ∧ ZeroOn content q' content.length ∧ ∀ x ∈ ws, SeekWrite dst content x := by
  induction m using Nat.strongRecOn with
  | _ m ih =>
    intro p q ps pd err lg hm hp hq hz
    by_cases hlt : p < content.length
    · cases hsd : seekData (w0.dataMap src) content.length p with
      | none =>
        refine ⟨p, q, ps, pd, ENXIO, [], ?_, Nat.le_trans hq hp,
          hz.extend fun i h1 h2 => covers_hole_zero hcov i (seekData_none hsd i h1 h2), by simp⟩
        intro fi _ fuel hf
        rw [List.append_nil]
        exact iterM_done (outer_step_hole w0 src dst content hsrc hne fi p ps pd _ err lg hlt hsd) (by omega)
      | some d =>
        obtain ⟨e, q1, ws1, hstep, he1, he2, hq1, hz1, hws1⟩ := outer_step_data w0 src dst content hsrc hne hcov p q ps pd d
          err lg hlt hq hz hsd
        obtain ⟨p', q', ps', pd', err', ws, h1, h2, h3, h4⟩ := ih (content.length - e) (by omega) e q1 e e err
          (lg ++ ws1) rfl he2 hq1 hz1
        refine ⟨p', q', ps', pd', err', ws1 ++ ws, ?_, h2, h3, ?_⟩
        · intro fi hfi fuel hf
          rw [← List.append_assoc]
          exact iterM_yield (hstep fi hfi) (h1 fi hfi) (by omega)
        · exact List.forall_mem_append.mpr ⟨hws1, h4⟩
    · have hpe : p = content.length := Nat.le_antisymm hp (Nat.le_of_not_lt hlt)
      subst hpe
      refine ⟨(content.length : Int), q, ps, pd, err, [], ?_, hq, hz, by simp⟩
      intro fi _ fuel hf
      rw [List.append_nil]
      exact iterM_done (outerStep_done _ _ _ _ _ _) (by omega)

end seek

/-! ### `copy_sparse_file_seek` in the world -/

theorem cw_errno (w0 : SWorld) (src dst : Rs.Path) (ps pd : Nat) (out : List Nat) (err : Int) (lg : List LogEntry) :
    (cw w0 src dst ps pd out err lg).errno = err := rfl
theorem lastOsError_ENXIO : lastOsError ENXIO = .io := by decide
theorem lastOsError_EINVAL : lastOsError EINVAL = .other := by decide
theorem raw_last_ENXIO : (rawOsError (lastOsError ENXIO) == some EINVAL) = false := by decide
theorem raw_last_EINVAL : (rawOsError (lastOsError EINVAL) == some EINVAL) = true := by decide
theorem raw_io_ne : (rawOsError .io == some EINVAL) = false := by decide
theorem raw_other_eq : (rawOsError .other == some EINVAL) = true := by decide

/-- the error test after a failed probe: `EINVAL` is returned (as THE error with that errno), anything else goes on -/
theorem last_err_branch (b : Bool) {α : Type} (K : Rs.M SWorld α) (w' : SWorld) :
    ((sparseExt b).std_io_Error_last_os_error () >>= fun err =>
        if ((sparseExt b).raw_os_error err == some EINVAL) = true then throw err else K) w' =
      if w'.errno = EINVAL then (.error .other, w') else K w' := by
  rw [Rs.run_bind]
  show (if (rawOsError (lastOsError w'.errno) == some EINVAL) = true then throw (lastOsError w'.errno) else K) w' = _
  unfold lastOsError
  by_cases h : w'.errno = EINVAL
  · rw [if_pos h, if_pos h, if_pos raw_other_eq]
    rfl
  · rw [if_neg h, if_neg h, if_neg (Bool.eq_false_iff.mp raw_io_ne)]

section seekRun
variable (w : SWorld) (src dst : Rs.Path) (content : Bytes) (hsrc : w.files src = some (ofU8 content)) (hne : src ≠ dst)
include hsrc hne

/-- the translated seek copier on a file system WITH SEEK_DATA, under the contract `Covers`: ONE outcome for all
    fuels above the file size — it succeeds, answers the size, the destination holds the source bytes, and the log of
    the run is `[unlink]? create, SeekWrite…, set_len(size) ↦ content` followed by `sync` — or by nothing, on the
    all-hole exit (no data at all: no write, no sync) -/
theorem seekNF_run (hcov : Covers content (w.dataMap src)) :
    ∃ ps pd err ws tail,
      (∀ fo fi : Nat → Nat, content.length < fo content.length → content.length < fi content.length →
        seekNF (sparseExt true) fo fi src dst w =
          (.ok content.length,
           cw w src dst ps pd (ofU8 content) err
             (w.log ++ (preLog w dst ++ ws ++ [⟨dst, .setLen content.length, some (ofU8 content)⟩] ++ tail)))) ∧
      (∀ e ∈ ws, SeekWrite dst content e) ∧
      ((tail = [] ∧ ws = [] ∧ ∀ i, isData (w.dataMap src) i = true → content.length ≤ i) ∨
       tail = [⟨dst, .sync, some (ofU8 content)⟩]) := by
  have h0 := cw_lseek_data w src dst _ hsrc hne 0 0 [] w.errno (w.log ++ preLog w dst) 0
  rw [List.length_map] at h0
  simp only [Int.natCast_zero] at h0
  have hnil : ([] : List Nat) = ofU8 (content.take 0) := rfl
  cases hsd : (if 0 < content.length then seekData (w.dataMap src) content.length 0 else none) with
  | none =>
    -- no data at all (or an empty file): ENXIO, `set_len`, return
    rw [hsd] at h0
    have hnodata : ∀ i, i < content.length → isData (w.dataMap src) i = false := by
      intro i hi
      have : 0 < content.length := by omega
      rw [if_pos this] at hsd
      exact seekData_none hsd i (by omega) hi
    have hzero : ZeroOn content 0 content.length := fun i _ hi => covers_hole_zero hcov i (hnodata i hi)
    have hfin : truncate [] content.length = ofU8 content := by
      rw [hnil, truncate_ofU8, setLen_prefix content 0 (by omega) hzero]
    refine ⟨0, 0, ENXIO, [], [], ?_, by simp, Or.inl ⟨rfl, rfl, ?_⟩⟩
    · intro fo fi _ _
      rw [seekNF, prologue_run true w src dst _ hsrc, List.length_map, seekTail, Rs.run_bind]
      simp only [ext_lseek, id, h0, show decide ((-1 : Int) < 0) = true by decide, if_true]
      rw [last_err_branch, cw_errno, if_neg (by decide)]
      simp only [Rs.run_bind, ext_set_len, cw_setLen, hfin, run_pure, List.append_nil, List.append_assoc]
    · intro i hi
      apply Classical.byContradiction
      intro hlt
      rw [hnodata i (by omega)] at hi; cases hi
  | some d =>
    rw [hsd] at h0
    have hd0 : decide ((d : Int) < 0) = false := by simp
    obtain ⟨p', q', ps', pd', err', ws, h1, h3, h4, h5⟩ := outer_loop w src dst content hsrc hne hcov
      content.length 0 0 0 0 w.errno (w.log ++ preLog w dst) rfl (Nat.zero_le _) (Nat.le_refl _)
      (fun i h1 h2 => absurd h2 (Nat.not_lt.mpr h1))
    have hfin : truncate (ofU8 (content.take q')) content.length = ofU8 content := by
      rw [truncate_ofU8, setLen_prefix content q' h3 h4]
    refine ⟨ps', pd', err', ws, [⟨dst, .sync, some (ofU8 content)⟩], ?_, h5, Or.inr rfl⟩
    intro fo fi hfo hfi
    have h1' := h1 (fi content.length) hfi (fo content.length) hfo
    rw [Int.natCast_zero, ← hnil] at h1'
    simp only [seekNF, prologue_run true w src dst _ hsrc, List.length_map, seekTail, Rs.run_bind, ext_lseek, id, h0, hd0,
      Bool.false_eq_true, if_false, cw_lseek_set w src dst _ hsrc hne, ext_seek, cw_seek_src w src dst _ hsrc hne, h1',
      ext_set_len, ext_sync, cw_setLen, hfin, cw_sync, run_pure]
    simp only [List.append_assoc]

/-- … and on a file system WITHOUT it: the first probe answers EINVAL and the function returns THE error whose
    `raw_os_error()` is `Some(EINVAL)`, leaving the destination created and EMPTY (prior content gone) -/
theorem seekNF_unsupported (fo fi : Nat → Nat) :
    seekNF (sparseExt false) fo fi src dst w =
      (.error .other, cw w src dst 0 0 [] EINVAL (w.log ++ preLog w dst)) := by
  rw [seekNF, prologue_run false w src dst _ hsrc, seekTail, Rs.run_bind]
  simp only [ext_lseek, id, cw_lseek_data_unsupported w src dst _ hsrc hne,
    show decide ((-1 : Int) < 0) = true by decide, if_true]
  rw [last_err_branch, cw_errno, if_pos rfl]

end seekRun

end SyModel.SparseCopy
