/-
  `ListRel Q as bs`: lists of equal length related element by element.  It carries the namespace of the bisync bridge
  because that bridge's statements name it; its users are the resolver bridge (`Props/GenBisync`) and the planning loop
  (`planLoop_coupled` of `Props/GenEnginePlan`, which `plan_loop_eq_model` there and `planLoop_plans` of
  `Lemmas/GenEngineRunPlan` take apart).
-/
namespace SyModel.Props.GenBisync

inductive ListRel {α β : Type} (Q : α → β → Prop) : List α → List β → Prop
  | nil : ListRel Q [] []
  | cons {a b as bs} : Q a b → ListRel Q as bs → ListRel Q (a :: as) (b :: bs)

theorem ListRel.append {α β : Type} {Q : α → β → Prop} {as bs as' bs'} (h : ListRel Q as bs)
    (h' : ListRel Q as' bs') : ListRel Q (as ++ as') (bs ++ bs') := by
  induction h with
  | nil => exact h'
  | cons hq _ ih => exact .cons hq ih

theorem ListRel.length_eq {α β : Type} {Q : α → β → Prop} {as bs} (h : ListRel Q as bs) :
    as.length = bs.length := by
  induction h with
  | nil => rfl
  | cons _ _ ih => simp [ih]

theorem ListRel.map_eq {α β γ : Type} {Q : α → β → Prop} {g : α → γ} {h : β → γ} {as bs} (hp : ListRel Q as bs)
    (hr : ∀ a b, a ∈ as → b ∈ bs → Q a b → g a = h b) : as.map g = bs.map h := by
  induction hp with
  | nil => rfl
  | cons hab _ ih =>
    simp only [List.map_cons]
    rw [hr _ _ (by simp) (by simp) hab, ih (fun a b ha hb => hr a b (by simp [ha]) (by simp [hb]))]

theorem ListRel.forall_left {α β : Type} {Q : α → β → Prop} {as bs} (hp : ListRel Q as bs) :
    ∀ a ∈ as, ∃ b ∈ bs, Q a b := by
  induction hp with
  | nil => intro a ha; cases ha
  | cons hab _ ih =>
    intro a ha
    rcases List.mem_cons.1 ha with rfl | ha
    · exact ⟨_, by simp, hab⟩
    · obtain ⟨b, hb, hr⟩ := ih a ha
      exact ⟨b, by simp [hb], hr⟩

theorem ListRel.countP_eq {α β : Type} {Q : α → β → Prop} {p : α → Bool} {q : β → Bool} {as bs}
    (h : ListRel Q as bs) (hpq : ∀ a b, Q a b → p a = q b) : as.countP p = bs.countP q := by
  induction h with
  | nil => rfl
  | cons hq _ ih => simp only [List.countP_cons, ih, hpq _ _ hq]

theorem ListRel.sum_map_eq {α β : Type} {Q : α → β → Prop} {f : α → Nat} {g : β → Nat} {as bs}
    (h : ListRel Q as bs) (hfg : ∀ a b, Q a b → f a = g b) : (as.map f).sum = (bs.map g).sum := by
  induction h with
  | nil => rfl
  | cons hq _ ih => simp only [List.map_cons, List.sum_cons, ih, hfg _ _ hq]

end SyModel.Props.GenBisync
