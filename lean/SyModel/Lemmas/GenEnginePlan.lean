/-
  Lemmas.GenEnginePlan — vocabulary and helper lemmas of `Props/GenEnginePlan.lean`: the bridge for the TRANSLATED
  round of the planning loop of `SyncEngine::sync` (`Generated/Code/EnginePlan.lean`, `plan_round`, regenerated on every
  run from src/sync/mod.rs, `for file in &source_files { … }`).  The generated do-block IS the structured program
  `roundSpec` = `plannerCall → override1 → override2 → push`, as an equation between computations, for ANY instance of
  `Ext W` (`plan_round_eq_spec`); on the instance `ext2 p`, whose planner operations ARE the generated functions of unit
  PlannerFx on `extOf`, one round is the pure function `roundOut` of the world (`plan_round_run`).  Also here:
  `Rs.path_starts_with` on joined texts against the model's component-wise `isPrefix`, and the destination links above
  a path (`hasLinkAbove`, `pruneLinks`, `NothingBelowLinks`).
-/
import SyModel.Generated.Code.EnginePlan
import SyModel.Lemmas.EnginePath
import SyModel.Lemmas.GenPlannerFx
namespace SyModel.Lemmas.GenEnginePlan
open SyModel SyModel.Engine SyModel.Generated SyModel.Generated.EnginePlan
open SyModel.Lemmas.GenPlannerFx (PlanWorld runM runM_pure runM_bind runM_map extOf compsOf)

section anyInstance
variable {W : Type}

/-- `matches!(a, SyncAction::Skip | SyncAction::Create)` -/
def isSkipOrCreate : SyncAction → Bool
  | .Skip | .Create => true
  | _ => false

/-- `matches!(a, SyncAction::Skip)` -/
def isSkip : SyncAction → Bool
  | .Skip => true
  | _ => false

/-- the answer of override 1's `read_link` probe that forces the transfer: `Ok(Some(_)) | Err(_)` -/
def hit1 : Except Rs.Err (Option Rs.Path) → Bool
  | .ok (some _) => true
  | .ok none => false
  | .error _ => true

/-- the answer of override 2's `read_link` probe that makes the path a replaced link: `Ok(Some(_))` only -/
def hit2 : Except Rs.Err (Option Rs.Path) → Bool
  | .ok (some _) => true
  | .ok none => false
  | .error _ => false

@[simp] theorem hit1_some (t : Rs.Path) : hit1 (.ok (some t)) = true := rfl
@[simp] theorem hit1_none : hit1 (.ok none) = false := rfl
@[simp] theorem hit1_error (e : Rs.Err) : hit1 (.error e) = true := rfl
@[simp] theorem hit2_some (t : Rs.Path) : hit2 (.ok (some t)) = true := rfl
@[simp] theorem hit2_none : hit2 (.ok none) = false := rfl
@[simp] theorem hit2_error (e : Rs.Err) : hit2 (.error e) = false := rfl

/-- `task.action = a` -/
def setAct (t : SyncTask) (a : SyncAction) : SyncTask := { t with action := a }

/-- the planner call of the round: `plan_symlink` for symlink entries, `plan_file_async` for all others -/
def plannerCall (ext : Ext W) (self : SyncEngine) (file : FileEntry) (destination : Rs.Path) (planner : Rs.Opaque)
    (db : Option Rs.Opaque) : Rs.M W SyncTask :=
  if file.is_symlink then ext.plan_symlink self file destination planner db
  else ext.plan_file_async planner file destination self.transport db

/-- the condition under which override 1 asks its probe (the three conjuncts to the left of the `read_link` call) -/
def probe1Asked (file : FileEntry) (task : SyncTask) : Bool :=
  (!file.is_dir) && isSkipOrCreate task.action && Rs.is_some_and task.source (fun f => !f.is_symlink)

/-- override 1 (fixes 0eacf0e, 90eec9e): a destination symlink — or an unanswered probe — at the path of a
    non-directory, non-symlink source planned Skip/Create ⇒ Update.  The probe runs ONLY under `probe1Asked`. -/
def override1 (ext : Ext W) (self : SyncEngine) (file : FileEntry) (task : SyncTask) : Rs.M W SyncTask :=
  if probe1Asked file task then do
    let r ← Rs.capture (ext.t_read_link self.transport task.dest_path)
    pure (if hit1 r then setAct task .Update else task)
  else pure task

/-- `replaced_links.iter().any(|link| task.dest_path.starts_with(link))` -/
def belowReplaced (rl : List Rs.Path) (p : Rs.Path) : Bool := rl.any fun link => Rs.path_starts_with p link

/-- `nothing_to_transfer` (fix 135a0e1) -/
def nothingToTransfer (self : SyncEngine) (task : SyncTask) : Bool :=
  isSkip task.action && (self.symlink_mode != SymlinkMode.Preserve) && Rs.is_some_and task.source (fun f => f.is_symlink)

/-- override 2 (fixes 862af11, 135a0e1): below a replaced link ⇒ Create (unless nothing is transferred), with NO probe;
    else, for a directory entry only, the probe: a symlink there ⇒ Update and the path joins `replaced_links` -/
def override2 (ext : Ext W) (self : SyncEngine) (file : FileEntry) (task : SyncTask) (rl : List Rs.Path) :
    Rs.M W (SyncTask × List Rs.Path) :=
  if belowReplaced rl task.dest_path then
    pure (if nothingToTransfer self task then task else setAct task .Create, rl)
  else if file.is_dir then do
    let r ← Rs.capture (ext.t_read_link self.transport task.dest_path)
    pure (if hit2 r then (setAct task .Update, rl ++ [task.dest_path]) else (task, rl))
  else pure (task, rl)

/-- one round: planner call → override 1 → override 2 → push -/
def roundSpec (ext : Ext W) (self : SyncEngine) (file : FileEntry) (destination : Rs.Path) (planner : Rs.Opaque)
    (db : Option Rs.Opaque) (tasks : List SyncTask) (rl : List Rs.Path) :
    Rs.M W (Unit × List SyncTask × List Rs.Path) := do
  let t0 ← plannerCall ext self file destination planner db
  let t1 ← override1 ext self file t0
  let r ← override2 ext self file t1 rl
  pure ((), tasks ++ [r.1], r.2)

theorem hit1_eq (r : Except Rs.Err (Option Rs.Path)) :
    (match r with | .ok (some _) | .error _ => true | _ => false) = hit1 r := by
  rcases r with e | (_ | _) <;> rfl

theorem hit2_eq (r : Except Rs.Err (Option Rs.Path)) :
    (match r with | .ok (some _) => true | _ => false) = hit2 r := by
  rcases r with e | (_ | _) <;> rfl

/-- The generated code computes override 1's condition first and assigns afterwards; whatever follows (`k`) sees the
    task `override1` returns. -/
theorem override1_bind {β : Type} (ext : Ext W) (self : SyncEngine) (file : FileEntry) (task : SyncTask)
    (k : SyncTask → Rs.M W β) :
    ((if probe1Asked file task then
        Rs.capture (ext.t_read_link self.transport task.dest_path) >>= fun r =>
          pure (match r with | .ok (some _) | .error _ => true | _ => false)
      else pure false) >>= fun b =>
      if b then k (setAct task .Update) else k task) = override1 ext self file task >>= k := by
  unfold override1
  split
  · simp only [bind_assoc, pure_bind, hit1_eq]
    refine bind_congr fun r => ?_
    cases hit1 r <;> rfl
  · simp only [pure_bind, Bool.false_eq_true, if_false]

/-- the same for override 2, whose continuation sees the task and the new `replaced_links` -/
theorem override2_bind {β : Type} (ext : Ext W) (self : SyncEngine) (file : FileEntry) (task : SyncTask)
    (rl : List Rs.Path) (k : List Rs.Path → SyncTask → Rs.M W β) :
    (if Rs.any rl (fun link => Rs.path_starts_with task.dest_path link) then
      if !nothingToTransfer self task then k rl (setAct task .Create) else k rl task
    else
      (if file.is_dir then
        Rs.capture (ext.t_read_link self.transport task.dest_path) >>= fun r =>
          pure (match r with | .ok (some _) => true | _ => false)
      else pure false) >>= fun b =>
      if b then k (rl ++ [task.dest_path]) (setAct task .Update) else k rl task) =
      override2 ext self file task rl >>= fun r => k r.2 r.1 := by
  unfold override2 belowReplaced Rs.any
  split
  · cases nothingToTransfer self task <;> rfl
  · split
    · simp only [bind_assoc, pure_bind, hit2_eq]
      refine bind_congr fun r => ?_
      cases hit2 r <;> rfl
    · simp only [pure_bind, Bool.false_eq_true, if_false]

/-- both arms of the generated `if file.is_symlink` bind their result and pass it to the same continuation -/
theorem ite_bind_pure_bind {m : Type → Type} [Monad m] [LawfulMonad m] {α β : Type} (c : Prop) [Decidable c]
    (x y : m α) (k : α → m β) :
    (if c then x >>= fun a => pure a >>= k else y >>= fun a => pure a >>= k) = (if c then x else y) >>= k := by
  split <;> simp only [pure_bind]

theorem plan_round_eq_spec (ext : Ext W) (self : SyncEngine) (file : FileEntry) (destination : Rs.Path)
    (planner : Rs.Opaque) (db : Option Rs.Opaque) (tasks : List SyncTask) (rl : List Rs.Path) :
    plan_round ext self file destination planner db tasks rl =
      roundSpec ext self file destination planner db tasks rl := by
  unfold roundSpec plannerCall
  refine Eq.trans ?_ (bind_congr fun task => (override1_bind ext self file task _).trans (bind_congr fun t1 =>
    override2_bind ext self file t1 rl fun rl' t => pure ((), tasks ++ [t], rl')))
  exact ite_bind_pure_bind (m := Rs.M W) (file.is_symlink = true) _ _ _

end anyInstance

/-! ## composition with unit PlannerFx

  The two units are translated separately, each with its own copy of `FileEntry`, `SyncTask`, `SyncAction`,
  `SymlinkMode` and its own view of `SyncEngine` (same fields).  `ext2 p` is the `Ext` of THIS unit whose
  `plan_file_async` / `plan_symlink` ARE the translated functions of unit PlannerFx, run on that unit's instance `extOf`
  over `PlanWorld`, through the field-by-field conversions below.  The planner is an opaque handle in this unit
  (the loop only passes it on); in unit PlannerFx it is the record `StrategyPlanner`: `ext2` is indexed by the planner
  value `p` the handle stands for.  `source_checksum` / `dest_checksum` are opaque here (`Checksum`): their presence is
  kept, their value is not (the planning loop never reads them). -/

def toPMode : SymlinkMode → PlannerFx.SymlinkMode
  | .Preserve => .Preserve | .Follow => .Follow | .Skip => .Skip

def toPEngine (s : SyncEngine) : PlannerFx.SyncEngine := { symlink_mode := toPMode s.symlink_mode, transport := s.transport }

def toPEntry (e : FileEntry) : PlannerFx.FileEntry :=
  { path := e.path, relative_path := e.relative_path, size := e.size, modified := e.modified, is_dir := e.is_dir,
    is_symlink := e.is_symlink, symlink_target := e.symlink_target, is_sparse := e.is_sparse,
    allocated_size := e.allocated_size, xattrs := e.xattrs, inode := e.inode, nlink := e.nlink, acls := e.acls,
    bsd_flags := e.bsd_flags }

def ofPEntry (e : PlannerFx.FileEntry) : FileEntry :=
  { path := e.path, relative_path := e.relative_path, size := e.size, modified := e.modified, is_dir := e.is_dir,
    is_symlink := e.is_symlink, symlink_target := e.symlink_target, is_sparse := e.is_sparse,
    allocated_size := e.allocated_size, xattrs := e.xattrs, inode := e.inode, nlink := e.nlink, acls := e.acls,
    bsd_flags := e.bsd_flags }

def ofPAct : PlannerFx.SyncAction → SyncAction
  | .Skip => .Skip | .Create => .Create | .Update => .Update | .Delete => .Delete

def toPAct : SyncAction → PlannerFx.SyncAction
  | .Skip => .Skip | .Create => .Create | .Update => .Update | .Delete => .Delete

def ofPTask (t : PlannerFx.SyncTask) : SyncTask :=
  { source := t.source.map ofPEntry, dest_path := t.dest_path, action := ofPAct t.action,
    source_checksum := t.source_checksum.map fun _ => ⟨⟩, dest_checksum := t.dest_checksum.map fun _ => ⟨⟩ }

/-- back to unit PlannerFx's task type (checksum VALUES are not kept by `ofPTask`; none of the abstraction maps reads
    them) -/
def toPTask (t : SyncTask) : PlannerFx.SyncTask :=
  { source := t.source.map toPEntry, dest_path := t.dest_path, action := toPAct t.action,
    source_checksum := none, dest_checksum := none }

@[simp] theorem toPEntry_ofPEntry (e : PlannerFx.FileEntry) : toPEntry (ofPEntry e) = e := rfl
@[simp] theorem ofPEntry_toPEntry (e : FileEntry) : ofPEntry (toPEntry e) = e := rfl
@[simp] theorem toPAct_ofPAct (a : PlannerFx.SyncAction) : toPAct (ofPAct a) = a := by cases a <;> rfl
@[simp] theorem ofPAct_toPAct (a : SyncAction) : ofPAct (toPAct a) = a := by cases a <;> rfl

/-- THE COMPOSED INSTANCE: the planner operations are the generated functions of unit PlannerFx on `extOf`; the link
    probe is that unit's `extOf.t_read_link` (`read_link` does not follow; that it never answers `Err` is an assumption
    of the world `PlanWorld`, see the head of `Lemmas/GenPlannerFx.lean`) -/
def ext2 (p : PlannerFx.StrategyPlanner) : Ext PlanWorld where
  plan_symlink self file dest _ db :=
    ofPTask <$> PlannerFx.SyncEngine.plan_symlink extOf (toPEngine self) (toPEntry file) dest p db
  plan_file_async _ file dest t db := ofPTask <$> p.plan_file_async extOf (toPEntry file) dest t db
  t_read_link := extOf.t_read_link

open SyModel.Lemmas.GenPlannerFx (planAt linkPlan plan_file_async_run plan_symlink_run)

/-- what unit PlannerFx plans for the entry (world-level reading of `plan_symlink` / `plan_file_async`); `useDb` is
    `db.isSome`, as in Lemmas/GenPlannerFx -/
def plannedTask (w : PlanWorld) (p : PlannerFx.StrategyPlanner) (self : SyncEngine) (file : FileEntry) (useDb : Bool) :
    PlannerFx.SyncTask :=
  if file.is_symlink then linkPlan w (toPEngine self) (toPEntry file) p useDb
  else
    { source := some (toPEntry file), dest_path := Rs.join w.root file.relative_path,
      action := (planAt w p (toPEntry file) useDb).1, source_checksum := (planAt w p (toPEntry file) useDb).2.1,
      dest_checksum := (planAt w p (toPEntry file) useDb).2.2 }

/-- override 1 on this world: the probe answers `Ok(linkAt path)`, never `Err` -/
def fix1 (w : PlanWorld) (file : FileEntry) (t : SyncTask) : SyncTask :=
  if probe1Asked file t && (w.linkAt t.dest_path).isSome then setAct t .Update else t

/-- override 2 on this world -/
def fix2 (w : PlanWorld) (self : SyncEngine) (file : FileEntry) (t : SyncTask) (rl : List Rs.Path) :
    SyncTask × List Rs.Path :=
  if belowReplaced rl t.dest_path then (if nothingToTransfer self t then t else setAct t .Create, rl)
  else if file.is_dir && (w.linkAt t.dest_path).isSome then (setAct t .Update, rl ++ [t.dest_path])
  else (t, rl)

/-- the task the round appends and the `replaced_links` it leaves -/
def roundOut (w : PlanWorld) (p : PlannerFx.StrategyPlanner) (self : SyncEngine) (file : FileEntry) (useDb : Bool)
    (rl : List Rs.Path) : SyncTask × List Rs.Path :=
  fix2 w self file (fix1 w file (ofPTask (plannedTask w p self file useDb))) rl

theorem plannerCall_run (p : PlannerFx.StrategyPlanner) (self : SyncEngine) (file : FileEntry) (w : PlanWorld)
    (pl : Rs.Opaque) (db : Option Rs.Opaque) :
    runM (plannerCall (ext2 p) self file w.root pl db) w = (.ok (ofPTask (plannedTask w p self file db.isSome)), w) := by
  unfold plannerCall plannedTask ext2
  cases file.is_symlink
  · simp only [Bool.false_eq_true, if_false, runM_map, plan_file_async_run]
    rfl
  · simp only [if_true, runM_map, plan_symlink_run]

theorem read_link_run (p : PlannerFx.StrategyPlanner) (t : Rs.Opaque) (path : Rs.Path) (w : PlanWorld) :
    runM (Rs.capture ((ext2 p).t_read_link t path)) w = (.ok (.ok (w.linkAt path)), w) := by
  simp [ext2]

theorem override1_run (p : PlannerFx.StrategyPlanner) (self : SyncEngine) (file : FileEntry) (t : SyncTask)
    (w : PlanWorld) : runM (override1 (ext2 p) self file t) w = (.ok (fix1 w file t), w) := by
  unfold override1 fix1
  cases probe1Asked file t
  · rfl
  · simp only [if_true, runM_bind, read_link_run, runM_pure, Bool.true_and]
    cases w.linkAt t.dest_path <;> rfl

theorem override2_run (p : PlannerFx.StrategyPlanner) (self : SyncEngine) (file : FileEntry) (t : SyncTask)
    (rl : List Rs.Path) (w : PlanWorld) :
    runM (override2 (ext2 p) self file t rl) w = (.ok (fix2 w self file t rl), w) := by
  unfold override2 fix2
  cases belowReplaced rl t.dest_path
  · cases file.is_dir
    · rfl
    · simp only [Bool.false_eq_true, if_false, if_true, runM_bind, read_link_run, runM_pure, Bool.true_and]
      cases w.linkAt t.dest_path <;> rfl
  · rfl

theorem plan_round_run (p : PlannerFx.StrategyPlanner) (self : SyncEngine) (file : FileEntry) (w : PlanWorld)
    (pl : Rs.Opaque) (db : Option Rs.Opaque) (tasks : List SyncTask) (rl : List Rs.Path) :
    runM (plan_round (ext2 p) self file w.root pl db tasks rl) w =
      (.ok ((), tasks ++ [(roundOut w p self file db.isSome rl).1], (roundOut w p self file db.isSome rl).2), w) := by
  rw [plan_round_eq_spec]
  unfold roundSpec roundOut
  simp only [runM_bind, plannerCall_run, override1_run, override2_run, runM_pure]

/-- text-level "equal, or continues after a separator" IS component-wise prefix — for ALL texts -/
theorem text_prefix_eq_isPrefix (a b : Rs.Str) :
    (a == b || (b ++ ['/']).isPrefixOf a) = isPrefix (compsOf b) (compsOf a) := by
  rw [Bool.eq_iff_iff]
  simp only [Bool.or_eq_true, beq_iff_eq, List.isPrefixOf_iff_prefix, isPrefix_iff]
  exact PathText.text_prefix_iff a b

/-- FAITHFULNESS of the Prelude's `Rs.path_starts_with` on the paths the engine builds: for `destination.join(a)` and
    `destination.join(b)` with a non-empty relative text `b` it is the component-wise prefix test on the relative
    paths.  (The `q.isEmpty` clause of `path_starts_with` is dead on this domain: `join root b` is empty only when both
    `root` and `b` are.) -/
theorem path_starts_with_join (root a b : Rs.Path) (hb : b ≠ []) :
    Rs.path_starts_with (Rs.join root a) (Rs.join root b) = isPrefix (compsOf b) (compsOf a) := by
  rw [← text_prefix_eq_isPrefix]
  unfold Rs.path_starts_with Rs.join
  cases root with
  | nil =>
    have : b.isEmpty = false := by cases b <;> simp_all
    simp [this]
  | cons x t =>
    have hemp : ((x :: t) ++ '/' :: b).isEmpty = false := by simp
    have e1 : ((x :: t) ++ '/' :: b) ++ ['/'] = ((x :: t) ++ ['/']) ++ (b ++ ['/']) := by simp
    have e2 : ((x :: t) ++ '/' :: a) = ((x :: t) ++ ['/']) ++ a := by simp
    rw [Bool.eq_iff_iff]
    simp only [List.isEmpty_cons, Bool.false_eq_true, if_false, hemp, Bool.or_false, Bool.or_eq_true, beq_iff_eq,
      List.isPrefixOf_iff_prefix]
    rw [e1, e2, List.prefix_append_right_inj]
    simp

/-- the destination map holds a symlink node at the key -/
def isLinkNode : Option DNode → Bool
  | some (.symlink _) => true
  | _ => false

theorem isLinkNode_false {o : Option DNode} (h : isLinkNode o = false) (t : String) : o ≠ some (.symlink t) := by
  rintro rfl
  cases h

theorem isLinkNode_true {o : Option DNode} (h : isLinkNode o = true) : ∃ t, o = some (.symlink t) := by
  rcases o with _ | (_ | _ | t)
  · cases h
  · cases h
  · cases h
  · exact ⟨t, rfl⟩

/-- some strict (non-root) ancestor of the key is a symlink node of the map: the key is reached THROUGH a link -/
def hasLinkAbove (m : Map DNode) (q : Engine.Path) : Bool := (ancestors q).any fun a => isLinkNode (m.get? a)

/-- the destination as the MODEL has it: links are not resolved, so nothing is listed below a symlink node.  Whatever
    the world lists below one is what probes see THROUGH the link; the model's map is the world's with that removed. -/
def pruneLinks (m : Map DNode) : Map DNode := m.filter fun kv => !hasLinkAbove m kv.1

theorem get?_pruneLinks (m : Map DNode) (q : Engine.Path) :
    (pruneLinks m).get? q = if hasLinkAbove m q then none else m.get? q := by
  unfold pruneLinks
  rw [Map.get?_filter_key m (fun k => !hasLinkAbove m k) q]
  cases hasLinkAbove m q <;> rfl

/-- the map lists nothing strictly below a (non-root) symlink node -/
def NothingBelowLinks (m : Map DNode) : Prop :=
  ∀ link q s, m.get? link = some (.symlink s) → link ≠ [] → isPrefix link q = true → q ≠ link → m.get? q = none

/-- only listed keys matter: it suffices that no listed key lies strictly below a listed symlink node (decidable on a
    concrete map) -/
theorem nothingBelowLinks_of_keys (m : Map DNode)
    (h : ∀ link ∈ m.keys, ∀ q ∈ m.keys, isLinkNode (m.get? link) = true → link ≠ [] → isPrefix link q = true → q = link) :
    NothingBelowLinks m := by
  intro link q s hl h0 hp hne
  cases hq : m.get? q with
  | none => rfl
  | some n =>
    have hlk : link ∈ m.keys := (Map.mem_keys_iff m link).2 (by rw [hl]; exact Option.some_ne_none _)
    have hqk : q ∈ m.keys := (Map.mem_keys_iff m q).2 (by rw [hq]; exact Option.some_ne_none _)
    exact absurd (h link hlk q hqk (by rw [hl]; rfl) h0 hp) hne

theorem pruneLinks_nothingBelow (m : Map DNode) : NothingBelowLinks (pruneLinks m) := by
  intro link q s hl h0 hp hne
  rw [get?_pruneLinks] at hl ⊢
  cases hla : hasLinkAbove m link
  · rw [hla] at hl
    simp only [Bool.false_eq_true, if_false] at hl
    have : hasLinkAbove m q = true := by
      unfold hasLinkAbove
      exact List.any_eq_true.2 ⟨link, mem_ancestors.2 ⟨h0, hp, Ne.symm hne⟩, by rw [hl]; rfl⟩
    simp [this]
  · rw [hla] at hl; simp at hl

end SyModel.Lemmas.GenEnginePlan
