/-
  A small program logic for translated effectful code, `Rs.M W α`, stated once for every world type.

  Two judgements.  Applied with `refine` / `exact` they serve every bridge module, whatever it calls its running function
  (`runM x w`, `exec x w`, `run x w` all unfold to the application `x w`); a unit that REWRITES with a loop rule states it
  under its own `runM` (`GenBisyncEngine.runM_forIn_rec`, `GenPlannerFx.runM_forIn_yield`):
    * `wp m Q E w` — the run of `m` from `w` ends in `Q a w'` when it answers `Ok(a)` and in `E e w'` when it answers
      `Err(e)`.  A program is run FORWARDS with it, one operation at a time: `wp_bind_run` / `wp_bind_fail` when the
      answer of the head is known, `wp_bind_of` when only a postcondition of the head is, `wp_ite_*`, `wp_capture`,
      and `wp_forIn_list` (an invariant) for a loop; `run_of_wp`, `run_eq_of_wp` read a run off it.
    * `Pres m` — `m` leaves every world as it found it, whatever it answers; closed under everything the translation
      produces, so that "read-only" follows the shape of a body.
  `run_bind_eq` is the big-step rule for a run whose answer is written down, `run_forIn_rec` the one loop rule for such a
  run (`run_forIn_yield`: the loop that is a fold in one world); `run_bind_eq_ok`, `run_bind_eq_error` take a `>>=` apart.
  Declared in the Prelude's namespace `SyModel.Generated.Rs`; nothing here is trusted.
-/
import SyModel.Lemmas.RsMonad
namespace SyModel.Generated.Rs
variable {W α β γ : Type}

/-- the head of a program is run (`hx`), the rest is the new goal -/
theorem run_bind_eq {x : M W α} {f : α → M W β} {w w' : W} {a : α} {r : Except Err β × W}
    (hx : x w = (.ok a, w')) (h : f a w' = r) : (x >>= f) w = r :=
  (run_bind_ok hx).trans h

theorem run_bind_eq_ok {x : M W α} {f : α → M W β} {w wf : W} {b : β} (h : (x >>= f) w = (.ok b, wf)) :
    ∃ a w', x w = (.ok a, w') ∧ f a w' = (.ok b, wf) := by
  rw [run_bind] at h
  rcases hx : x w with ⟨_ | a, w'⟩ <;> rw [hx] at h
  · cases h
  · exact ⟨a, w', rfl, h⟩

theorem run_bind_eq_error {x : M W α} {f : α → M W β} {w wf : W} {e : Err} (h : (x >>= f) w = (.error e, wf)) :
    x w = (.error e, wf) ∨ ∃ a w', x w = (.ok a, w') ∧ f a w' = (.error e, wf) := by
  rw [run_bind] at h
  rcases hx : x w with ⟨e' | a, w'⟩ <;> rw [hx] at h
  · exact .inl (by dsimp only at h; cases h; rfl)
  · exact .inr ⟨a, w', rfl, h⟩

/-- a `for` loop over a list whose body never fails and never breaks, against ANY function `F` of the list that follows the
    body one element at a time — a left fold, or a model function that is itself recursive on the list, so that no copy of
    the body has to be written down; `P` is what is known of every element, `I` of every world the loop passes through -/
theorem run_forIn_rec {σ : Type} (P : γ → Prop) (I : W → Prop) (F : List γ → σ × W → σ × W)
    {f : γ → σ → M W (ForInStep σ)} (hnil : ∀ x, F [] x = x)
    (hcons : ∀ c cs s w, P c → I w →
      ∃ s' w', f c s w = (.ok (.yield s'), w') ∧ I w' ∧ F (c :: cs) (s, w) = F cs (s', w'))
    (cs : List γ) (hP : ∀ c ∈ cs, P c) (s0 : σ) (w : W) (hI : I w) :
    forIn cs s0 f w = (.ok (F cs (s0, w)).1, (F cs (s0, w)).2) := by
  induction cs generalizing s0 w with
  | nil => rw [hnil]; rfl
  | cons c cs ih =>
    obtain ⟨s', w', hrun, hI', hF⟩ := hcons c cs s0 w (hP c List.mem_cons_self) hI
    rw [List.forIn_cons, run_bind_ok hrun, hF]
    exact ih (fun x hx => hP x (List.mem_cons_of_mem _ hx)) _ _ hI'

theorem run_forIn_yield (l : List γ) (body : γ → β → M W (ForInStep β)) (g : γ → β → β) (w : W)
    (h : ∀ x ∈ l, ∀ s, body x s w = (.ok (.yield (g x s)), w)) (init : β) :
    (forIn l init body) w = (.ok (l.foldl (fun s x => g x s) init), w) :=
  run_forIn_rec (· ∈ l) (· = w) (fun cs x => (cs.foldl (fun s x => g x s) x.1, x.2)) (fun _ => rfl)
    (fun c _ s _ hc hw => ⟨g c s, w, hw ▸ h c hc s, rfl, hw ▸ rfl⟩) l (fun _ hc => hc) init w rfl

def wp (m : M W α) (Q : α → W → Prop) (E : Err → W → Prop) (w : W) : Prop :=
  match m w with
  | (.ok a, w') => Q a w'
  | (.error e, w') => E e w'

section
variable {m x : M W α} {f : α → M W β} {Q Q' : α → W → Prop} {R : β → W → Prop} {E E' : Err → W → Prop} {w w' : W}
  {a : α} {e : Err} {c : Prop} [Decidable c] {p q : M W α}

theorem wp_of_run (hm : m w = (.ok a, w')) (h : Q a w') : wp m Q E w := by
  unfold wp; rw [hm]; exact h

theorem wp_of_fail (hm : m w = (.error e, w')) (h : E e w') : wp m Q E w := by
  unfold wp; rw [hm]; exact h

theorem wp_mono (h : wp m Q E w) (hq : ∀ a w', Q a w' → Q' a w') (he : ∀ e w', E e w' → E' e w') : wp m Q' E' w := by
  unfold wp at *
  generalize m w = r at h
  rcases r with ⟨_ | _, _⟩
  · exact he _ _ h
  · exact hq _ _ h

theorem wp_bind (x : M W α) (f : α → M W β) (R : β → W → Prop) (E : Err → W → Prop) (w : W) :
    wp (x >>= f) R E w = wp x (fun a w' => wp (f a) R E w') E w := by
  unfold wp; rw [run_bind]
  rcases x w with ⟨_ | _, _⟩ <;> rfl

theorem wp_capture (x : M W α) (Q : Except Err α → W → Prop) (E : Err → W → Prop) (w : W) :
    wp (capture x) Q E w = wp x (fun a w' => Q (.ok a) w') (fun e w' => Q (.error e) w') w := by
  unfold wp; rw [run_capture]
  rcases x w with ⟨_ | _, _⟩ <;> rfl

theorem wp_bind_of (hx : wp x Q E w) (hf : ∀ a w', Q a w' → wp (f a) R E w') : wp (x >>= f) R E w := by
  rw [wp_bind]; exact wp_mono hx hf fun _ _ h => h

theorem wp_bind_run (hx : x w = (.ok a, w')) (h : wp (f a) R E w') : wp (x >>= f) R E w := by
  rw [wp_bind]; exact wp_of_run hx h

theorem wp_bind_fail (hx : x w = (.error e, w')) (h : E e w') : wp (x >>= f) R E w := by
  rw [wp_bind]; exact wp_of_fail hx h

theorem wp_ite_pos (hc : c) (h : wp p Q E w) : wp (if c then p else q) Q E w := by rw [if_pos hc]; exact h

theorem wp_ite_neg (hc : ¬ c) (h : wp q Q E w) : wp (if c then p else q) Q E w := by rw [if_neg hc]; exact h

theorem wp_ite_self (h : wp p Q E w) : wp (if c then p else p) Q E w := by rw [ite_self]; exact h

theorem run_of_wp {v : α} {P : W → Prop} (h : wp m (fun a w' => a = v ∧ P w') (fun _ _ => False) w) :
    ∃ w', m w = (.ok v, w') ∧ P w' := by
  unfold wp at h
  rcases hm : m w with ⟨e | a, w'⟩ <;> rw [hm] at h
  · exact h.elim
  · exact ⟨w', by rw [h.1], h.2⟩

theorem run_eq_of_wp {r : Except Err α × W} (h : wp m (fun a w' => r = (.ok a, w')) (fun e w' => r = (.error e, w')) w) :
    m w = r := by
  unfold wp at h
  rcases hm : m w with ⟨x, w'⟩
  rw [hm] at h
  cases x <;> exact h.symm

end

/-- the loop rule: an invariant of the WORLD that every iteration preserves (whatever the loop state), and that is all
    the code after the loop needs -/
theorem wp_forIn_list (Inv : W → Prop) (l : List γ) (f : γ → β → M W (ForInStep β)) (b0 : β)
    (Q : β → W → Prop) (E : Err → W → Prop) (w0 : W) (h0 : Inv w0)
    (hstep : ∀ x b w, Inv w → wp (f x b) (fun _ w' => Inv w') E w)
    (hend : ∀ b w, Inv w → Q b w) : wp (forIn l b0 f) Q E w0 := by
  induction l generalizing b0 w0 with
  | nil => exact hend b0 w0 h0
  | cons x t ih =>
    rw [List.forIn_cons]
    refine wp_bind_of (hstep x b0 w0 h0) fun s w' hw' => ?_
    cases s with
    | done b' => exact hend b' w' hw'
    | yield b' => exact ih b' w' hw'

/-- a computation that leaves every world as it found it, whatever it answers (also when it fails) -/
def Pres (x : M W α) : Prop := ∀ w, (x w).2 = w

theorem Pres.wp {x : M W α} (h : Pres x) (w : W) : wp x (fun _ w' => w' = w) (fun _ w' => w' = w) w := by
  have := h w
  unfold Rs.wp
  generalize x w = r at this
  rcases r with ⟨_ | _, _⟩ <;> exact this

theorem Pres.of_wp {x : M W α} (h : ∀ w, Rs.wp x (fun _ w' => w' = w) (fun _ w' => w' = w) w) : Pres x := fun w => by
  have := h w
  unfold Rs.wp at this
  generalize x w = r at this
  rcases r with ⟨_ | _, _⟩ <;> exact this

theorem Pres.pure (a : α) : Pres (pure a : M W α) := fun _ => rfl
theorem Pres.throw (e : Err) : Pres (throw e : M W α) := fun _ => rfl
theorem Pres.liftE (r : Except Err α) : Pres (liftE r : M W α) := by intro w; cases r <;> rfl
theorem Pres.capture {x : M W α} (h : Pres x) : Pres (capture x) := h

theorem Pres.bind {x : M W α} {f : α → M W β} (hx : Pres x) (hf : ∀ a, Pres (f a)) : Pres (x >>= f) :=
  .of_wp fun w => wp_bind_of (hx.wp w) fun a _ h => h ▸ (hf a).wp w

theorem Pres.ite {c : Prop} [Decidable c] {x y : M W α} (hx : Pres x) (hy : Pres y) : Pres (if c then x else y) := by
  split <;> assumption

/-- also when the loop `break`s or fails -/
theorem Pres.forIn (l : List γ) (init : β) {body : γ → β → M W (ForInStep β)} (h : ∀ x s, Pres (body x s)) :
    Pres (forIn l init body) :=
  .of_wp fun w => wp_forIn_list (· = w) l body init _ _ w rfl (fun x b _ hw => hw ▸ (h x b).wp w) fun _ _ hw => hw

end SyModel.Generated.Rs
