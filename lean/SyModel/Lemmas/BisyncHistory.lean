/-
  The invariant `Inv` along histories (repaired code).
-/
import SyModel.Lemmas.BisyncWorld
namespace SyModel.Bisync

def editResult (now : Nat) (op : EditOp) (x : Option File) : Option File :=
  match op, x with
  | .create sz, none => some ⟨now, sz, now⟩
  | .modSize, some f => some ⟨now, f.size + 1, now⟩
  | .modSame, some f => some ⟨now, f.size, now⟩
  | .delete, some _ => none
  | .touch, some f => some { f with mtime := now }
  | _, x => x

theorem aget_editRoot (now : Nat) (p q : Path) (op : EditOp) (r : Root) :
    aget q (editRoot now p op r) = if q = p then editResult now op (aget p r) else aget q r := by
  unfold editRoot editResult
  by_cases h : q = p
  · subst h
    cases op <;> cases hx : aget q r <;> simp [aget_aset, aget_aerase, hx]
  · cases op <;> cases hx : aget p r <;> simp [aget_aset, aget_aerase, h]

theorem editResult_cases (now : Nat) (op : EditOp) (x : Option File) :
    editResult now op x = x ∨ editResult now op x = none ∨ ∃ f, editResult now op x = some f ∧ f.mtime = now := by
  cases op <;> cases x <;> simp [editResult]

theorem editRoot_files {now : Nat} {p q : Path} {op : EditOp} {r : Root} {f : File}
    (h : aget q (editRoot now p op r) = some f) : aget q r = some f ∨ f.mtime = now := by
  rw [aget_editRoot] at h
  split at h
  · rename_i hq
    subst hq
    rcases editResult_cases now op (aget q r) with e | e | ⟨g, e, hg⟩
    · rw [e] at h; exact .inl h
    · rw [e] at h; cases h
    · rw [e] at h; cases h; exact .inr hg
  · exact .inl h

theorem Inv.rows_some {t : Trace} (h : Inv t) {p : Path} {rl rr : Row} (hr : t.w.rows p = (some rl, some rr)) :
    ∃ a b, t.agreed p = some (a, b) ∧ rl = a.meta ∧ rr = b.meta := by
  have := h.rows p
  rw [hr] at this
  cases ha : t.agreed p with
  | none => simp [ha] at this
  | some ab =>
    obtain ⟨a, b⟩ := ab
    simp only [ha, Prod.mk.injEq, Option.some.injEq] at this
    exact ⟨a, b, rfl, this.1, this.2⟩

/-- a file younger than the sync at which `a` was agreed is modified against `a`'s row: an unmodified one is `a` -/
theorem unmodified_eq {f a : File} {c : Nat} (hn : f = a ∨ c < f.mtime) (ho : a.mtime ≤ c)
    (hm : isModified f.entry a.meta = false) : f = a := by
  rcases hn with e | e
  · exact e
  · simp [isModified, File.entry, File.meta] at hm
    omega

theorem chg_none (x : Option File) : chg x none = true ↔ x ≠ none := by
  cases x <;> simp [chg]

/-- against the row of a version `a` that only `a` itself matches, "changed" means "no longer `a`" -/
theorem chg_agreed {x : Option File} {a : File} (hx : ∀ f, x = some f → isModified f.entry a.meta = false → f = a) :
    chg x (some a.meta) = true ↔ x ≠ some a := by
  cases x with
  | none => exact ⟨fun _ => nofun, fun _ => rfl⟩
  | some f =>
    refine ⟨fun hm e => ?_, fun hne => ?_⟩
    · cases e
      have : isModified a.entry a.meta = true := hm
      rw [isModified_self] at this
      cases this
    · cases hm : isModified f.entry a.meta
      · exact absurd (congrArg some (hx f rfl hm)) hne
      · exact hm

/-- under the invariant the classifier's "changed" is the history's: a side differs from its row exactly when it
    no longer holds the agreed version -/
theorem Inv.chg_left {t : Trace} (h : Inv t) (p : Path) :
    chg (t.w.view p).l (t.w.view p).rl = true ↔ t.changedL p := by
  show chg (aget p t.w.left) (t.w.rows p).1 = true ↔ aget p t.w.left ≠ _
  rw [h.rows p]
  cases ha : t.agreed p with
  | none => exact chg_none _
  | some ab => exact chg_agreed fun f hf => unmodified_eq (h.newerL p _ _ ha f hf) (h.old p _ _ ha).1

theorem Inv.chg_right {t : Trace} (h : Inv t) (p : Path) :
    chg (t.w.view p).r (t.w.view p).rr = true ↔ t.changedR p := by
  show chg (aget p t.w.right) (t.w.rows p).2 = true ↔ aget p t.w.right ≠ _
  rw [h.rows p]
  cases ha : t.agreed p with
  | none => exact chg_none _
  | some ab => exact chg_agreed fun f hf => unmodified_eq (h.newerR p _ _ ha f hf) (h.old p _ _ ha).2

theorem Inv.consistent {t : Trace} (h : Inv t) : Consistent t.w := by
  refine ⟨?_, ?_⟩
  · intro p
    have := h.rows p
    cases ha : t.agreed p with
    | none => simp [ha] at this; simp [this]
    | some ab => obtain ⟨a, b⟩ := ab; simp [ha] at this; simp [this]
  · intro p l r rl rr hl hr hrows m1 m2
    obtain ⟨a, b, ha, rfl, rfl⟩ := h.rows_some hrows
    have e1 := unmodified_eq (h.newerL p a b ha l hl) (h.old p a b ha).1 m1
    have e2 := unmodified_eq (h.newerR p a b ha r hr) (h.old p a b ha).2 m2
    subst e1; subst e2
    exact h.agree p _ _ ha

theorem agreed_nil {t : Trace} (hL : t.baseL = []) (p : Path) : t.agreed p = none := by
  simp [Trace.agreed, hL, aget]

theorem inv_init {t : Trace} (h : t.Init) : Inv t := by
  have ha : ∀ p, t.agreed p = none := agreed_nil h.baseL
  refine ⟨?_, ?_, ?_, h.clock, ?_, ?_, h.past⟩
  · intro p; rw [ha p]; simp [World.rows, h.db, aget]
  · intro p a b e; rw [ha p] at e; cases e
  · intro p a b e; rw [ha p] at e; cases e
  · intro p a b e; rw [ha p] at e; cases e
  · intro p a b e; rw [ha p] at e; cases e

theorem inv_edit {t : Trace} (h : Inv t) (cfg : Cfg) (side : Side) (p : Path) (op : EditOp) :
    Inv (t.step cfg (.edit side p op)) := by
  have hclk := h.clock
  cases side with
  | source =>
    refine ⟨h.rows, h.agree, h.old, ?_, ?_, h.newerR, ?_⟩
    · show t.syncClock < t.w.clock + 1; omega
    · intro q a b ha f hf
      rcases editRoot_files (show aget q (editRoot t.w.clock p op t.w.left) = some f from hf) with hf' | hm
      · exact h.newerL q a b ha f hf'
      · right; show t.syncClock < f.mtime; omega
    · intro q f hf
      show f.mtime < t.w.clock + 1
      rcases hf with hf | hf
      · rcases editRoot_files (show aget q (editRoot t.w.clock p op t.w.left) = some f from hf) with hf' | hm
        · have := h.past q f (.inl hf'); omega
        · omega
      · have := h.past q f (.inr hf); omega
  | dest =>
    refine ⟨h.rows, h.agree, h.old, ?_, h.newerL, ?_, ?_⟩
    · show t.syncClock < t.w.clock + 1; omega
    · intro q a b ha f hf
      rcases editRoot_files (show aget q (editRoot t.w.clock p op t.w.right) = some f from hf) with hf' | hm
      · exact h.newerR q a b ha f hf'
      · right; show t.syncClock < f.mtime; omega
    · intro q f hf
      show f.mtime < t.w.clock + 1
      rcases hf with hf | hf
      · have := h.past q f (.inl hf); omega
      · rcases editRoot_files (show aget q (editRoot t.w.clock p op t.w.right) = some f from hf) with hf' | hm
        · have := h.past q f (.inr hf'); omega
        · omega

theorem sync_file_mtimes (strat : Strategy) (md stamp : Nat) (w : World) (hf : Fresh w stamp)
    (hnr : (sync .repaired strat md stamp w).refused = false)
    (hpast : ∀ p f, (aget p w.left = some f ∨ aget p w.right = some f) → f.mtime < w.clock) (q : Path) (f : File)
    (h : aget q (sync .repaired strat md stamp w).world.left = some f ∨
         aget q (sync .repaired strat md stamp w).world.right = some f) :
    f.mtime ≤ w.clock := by
  obtain ⟨hs, _, _⟩ := sync_spec .repaired rfl strat md stamp w hf hnr
  have h' : ((sync .repaired strat md stamp w).world.view q).l = some f ∨
      ((sync .repaired strat md stamp w).world.view q).r = some f := h
  rcases hs.view_cases q with ⟨hq, e⟩ | ⟨p, -, e⟩ | ⟨p, -, e⟩ | e <;> rw [e] at h'
  · rw [stepView_eq] at h'
    rcases Win.files_old h' with e | e | e
    · omega
    · exact Nat.le_of_lt (hpast q f (Or.inl e))
    · exact Nat.le_of_lt (hpast q f (Or.inr e))
  · simp only [or_false, reduceCtorEq] at h'
    split at h'
    · exact Nat.le_of_lt (hpast p f (Or.inl h'))
    · cases h'
  · simp only [false_or, reduceCtorEq] at h'
    split at h'
    · exact Nat.le_of_lt (hpast p f (Or.inr h'))
    · cases h'
  · simp [View.empty] at h'

/-- a trace that starts at a world a sync has just left, with that world as its base, satisfies the invariant:
    nothing of what came before the sync is needed -/
theorem PostSync.inv {w' : World} {c : Nat} (hps : PostSync w') (hwc : w'.clock = c + 1)
    (hmt : ∀ q f, (aget q w'.left = some f ∨ aget q w'.right = some f) → f.mtime ≤ c) :
    Inv ⟨w', w'.left, w'.right, c⟩ := by
  have hag : ∀ {p a b}, Trace.agreed ⟨w', w'.left, w'.right, c⟩ p = some (a, b) →
      aget p w'.left = some a ∧ aget p w'.right = some b := by
    intro p a b hab
    unfold Trace.agreed at hab
    dsimp only at hab
    cases hl : aget p w'.left <;> cases hr2 : aget p w'.right <;> rw [hl, hr2] at hab <;> cases hab
    exact ⟨rfl, rfl⟩
  refine ⟨?_, ?_, ?_, ?_, ?_, ?_, ?_⟩
  · intro p
    have hp := hps.paired p
    show _ = match Trace.agreed ⟨w', w'.left, w'.right, c⟩ p with
      | some (a, b) => _
      | none => _
    unfold Trace.agreed
    dsimp only
    rcases hl : aget p w'.left with _ | a <;> rcases hr2 : aget p w'.right with _ | b <;>
      simp only [hl, hr2] at hp ⊢
    · exact hp
    · exact hp
    · exact hp
    · exact hp.1
  · intro p a b hab
    have hp := hps.paired p
    rw [(hag hab).1, (hag hab).2] at hp
    exact hp.2
  · intro p a b hab
    obtain ⟨hl, hr2⟩ := hag hab
    exact ⟨hmt p _ (Or.inl hl), hmt p _ (Or.inr hr2)⟩
  · show c < w'.clock; omega
  · intro p a b hab f hfl
    rw [(hag hab).1] at hfl
    exact .inl (Option.some.inj hfl).symm
  · intro p a b hab f hfr
    rw [(hag hab).2] at hfr
    exact .inl (Option.some.inj hfr).symm
  · intro p f hpf
    show f.mtime < w'.clock
    have := hmt p f hpf; omega

theorem inv_sync {t : Trace} (h : Inv t) (strat : Strategy) (md stamp : Nat) (hf : Fresh t.w stamp) :
    Inv (t.step .repaired (.sync strat md stamp)) := by
  have hclk := h.clock
  cases hr : (sync .repaired strat md stamp t.w).refused with
  | true =>
    have hstep : t.step .repaired (.sync strat md stamp) = { t with w := (sync .repaired strat md stamp t.w).world } := by
      simp [Trace.step, hr]
    have hw := congrArg SyncResult.world (sync_of_refused hr)
    rw [hstep, hw]
    refine ⟨h.rows, h.agree, h.old, ?_, h.newerL, h.newerR, ?_⟩
    · show t.syncClock < t.w.clock + 1; omega
    · intro q f hq
      show f.mtime < t.w.clock + 1
      have := h.past q f hq; omega
  | false =>
    have hstep : t.step .repaired (.sync strat md stamp) =
        { w := (sync .repaired strat md stamp t.w).world,
          baseL := (sync .repaired strat md stamp t.w).world.left,
          baseR := (sync .repaired strat md stamp t.w).world.right, syncClock := t.w.clock } := by
      simp [Trace.step, hr]
    rw [hstep]
    exact (sync_postSync strat md stamp t.w h.consistent hf hr).inv (sync_clock ..)
      (sync_file_mtimes strat md stamp t.w hf hr h.past)

theorem freshRun_cons (cfg : Cfg) (e : Event) (h : List Event) (t : Trace) :
    FreshRun cfg (e :: h) t ↔
      (match e with
       | .sync _ _ stamp => Fresh t.w stamp
       | _ => True) ∧ FreshRun cfg h (t.step cfg e) := by
  unfold FreshRun Fresh
  cases e <;> simp [freshRunB]

theorem inv_run (h : List Event) : ∀ (t : Trace), Inv t → FreshRun .repaired h t → Inv (run .repaired h t) := by
  induction h with
  | nil => intro t hi _; exact hi
  | cons e h ih =>
    intro t hi hfr
    obtain ⟨hf, hrest⟩ := (freshRun_cons _ _ _ _).mp hfr
    show Inv (run .repaired h (t.step .repaired e))
    apply ih _ _ hrest
    cases e with
    | edit side p op => exact inv_edit hi _ side p op
    | sync strat md stamp => exact inv_sync hi strat md stamp hf

end SyModel.Bisync
