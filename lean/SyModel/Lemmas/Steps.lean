/-
  SyModel.Lemmas.Steps — helper lemmas for the step-level model (`SyModel.Engine.Steps`):
  frame and locality of steps, commutation of independent steps, shuffles, crash decomposition.
-/
import SyModel.Engine.Steps
namespace SyModel.Engine

@[simp] theorem upd_same (w : SWorld) (p : Path) (v : Option SNode) : upd w p v p = v := by simp [upd]

theorem upd_ne (w : SWorld) (p x : Path) (v : Option SNode) (h : x ≠ p) : upd w p v x = w x := by
  simp [upd, h]

theorem upd_apply (w : SWorld) (p x : Path) (v : Option SNode) :
    upd w p v x = if x = p then v else w x := rfl

theorem upd_self (w : SWorld) (p : Path) : upd w p (w p) = w := by
  funext x
  rw [upd_apply]
  split
  · rename_i h; rw [h]
  · rfl

theorem ofMap_apply (dst : Map DNode) (x : Path) : ofMap dst x = (dst.get? x).map embed := rfl

theorem ofMap_file {dst : Map DNode} {p : Path} {d : FileMeta} (h : dst.get? p = some (.file d)) :
    ofMap dst p = some (.file d.content d.size d.mtime) := by
  rw [ofMap_apply, h]
  rfl

def Step.single : Step → Bool
  | .rename .. => false
  | .removeTree _ => false
  | _ => true

theorem apply_single (s : Step) (h : s.single = true) (w : SWorld) :
    s.apply w = upd w s.path (s.nodeFn (w s.path)) := by
  cases s <;> first | rfl | simp [Step.single] at h

theorem touches_single (s : Step) (h : s.single = true) (x : Path) :
    s.touches x = (x == s.path) := by
  cases s <;> first | rfl | simp [Step.single] at h

theorem apply_rename (q p : Path) (c sz mt : Nat) (w : SWorld) :
    (Step.rename q p c sz mt).apply w =
      if w q = some (.temp c) then upd (upd w p (some (.file c sz mt))) q none else w := rfl

theorem apply_removeTree (p : Path) (w : SWorld) :
    (Step.removeTree p).apply w = fun x => if isPrefix p x then none else w x := rfl

theorem apply_mkdir (q : Path) (w : SWorld) :
    (Step.mkdir q).apply w = upd w q (match w q with | none => some .dir | some v => some v) := rfl

theorem nodeFn_dir (s : Step) : s.nodeFn (some .dir) = some .dir := by
  cases s <;> rfl

theorem nodeFn_unlink (p : Path) (n : Option SNode) :
    (Step.unlink p).nodeFn n = if n = some .dir then some .dir else none := by
  cases n with
  | none => rfl
  | some v => cases v <;> rfl

theorem nodeFn_openTrunc (p : Path) (c now : Nat) (n : Option SNode) :
    (Step.openTrunc p c now).nodeFn n = if n = some .dir then some .dir else some (.file c 0 now) := by
  cases n with
  | none => rfl
  | some v => cases v <;> rfl

theorem nodeFn_createTemp (q : Path) (c : Nat) (n : Option SNode) :
    (Step.createTemp q c).nodeFn n = if n = some .dir then some .dir else some (.temp c) := by
  cases n with
  | none => rfl
  | some v => cases v <;> rfl

theorem apply_frame (s : Step) (w : SWorld) (x : Path) (h : s.touches x = false) :
    s.apply w x = w x := by
  by_cases hs : s.single = true
  · rw [touches_single s hs] at h
    rw [apply_single s hs, upd_ne]
    simpa using h
  · cases s <;> simp [Step.single] at hs
    case rename q p c sz mt =>
      simp only [Step.touches, Bool.or_eq_false_iff, beq_eq_false_iff_ne] at h
      rw [apply_rename]; split
      · rw [upd_ne _ _ _ _ h.1, upd_ne _ _ _ _ h.2]
      · rfl
    case removeTree p =>
      simp only [Step.touches] at h
      simp [apply_removeTree, h]

theorem apply_local (s : Step) (w w' : SWorld) (h : ∀ x, s.touches x = true → w x = w' x)
    (x : Path) (hx : s.touches x = true) : s.apply w x = s.apply w' x := by
  by_cases hs : s.single = true
  · have hp := h s.path (by rw [touches_single s hs]; simp)
    rw [touches_single s hs, beq_iff_eq] at hx
    rw [apply_single s hs, apply_single s hs, hx, upd_same, upd_same, hp]
  · cases s <;> simp [Step.single] at hs
    case rename q p c sz mt =>
      rw [apply_rename, apply_rename, ← h q (by simp [Step.touches])]
      split
      · simp only [Step.touches, Bool.or_eq_true, beq_iff_eq] at hx
        rcases hx with rfl | rfl <;> simp [upd_apply]
      · exact h x hx
    case removeTree p =>
      simp only [Step.touches] at hx
      simp [apply_removeTree, hx]

theorem apply_after_disjoint (s t : Step) (h : ∀ y, s.touches y = true → t.touches y = false)
    (w : SWorld) (x : Path) (hx : s.touches x = true) : s.apply (t.apply w) x = s.apply w x :=
  apply_local s _ _ (fun y hy => apply_frame t w y (h y hy)) x hx

theorem commute_disjoint (s t : Step) (h : ∀ x, ¬ (s.touches x = true ∧ t.touches x = true))
    (w : SWorld) : s.apply (t.apply w) = t.apply (s.apply w) := by
  have hst : ∀ y, s.touches y = true → t.touches y = false :=
    fun y hy => Bool.eq_false_iff.mpr fun hty => h y ⟨hy, hty⟩
  have hts : ∀ y, t.touches y = true → s.touches y = false :=
    fun y hy => Bool.eq_false_iff.mpr fun hsy => h y ⟨hsy, hy⟩
  funext x
  cases hs : s.touches x with
  | true => rw [apply_after_disjoint s t hst w x hs, apply_frame t _ x (hst x hs)]
  | false =>
    rw [apply_frame s _ x hs]
    cases ht : t.touches x with
    | true => rw [apply_after_disjoint t s hts w x ht]
    | false => rw [apply_frame t _ x ht, apply_frame t _ x ht, apply_frame s _ x hs]

theorem unlink_removeTree_comm (a b : Path) (w : SWorld) :
    (Step.unlink a).apply ((Step.removeTree b).apply w) =
      (Step.removeTree b).apply ((Step.unlink a).apply w) := by
  funext x
  simp only [apply_single (Step.unlink a) rfl, apply_removeTree, Step.path, upd_apply]
  by_cases hxa : x = a
  · subst hxa
    by_cases hbx : isPrefix b x = true <;> simp [hbx, nodeFn_unlink]
  · simp [hxa]

theorem commute_deletions (s t : Step) (hs : s.isDeletion = true) (ht : t.isDeletion = true)
    (w : SWorld) : s.apply (t.apply w) = t.apply (s.apply w) := by
  cases s <;> first | exact Bool.noConfusion hs | skip
  all_goals cases t <;> first | exact Bool.noConfusion ht | skip
  case unlink.unlink a b =>
    by_cases hab : a = b
    · subst hab; rfl
    · apply commute_disjoint
      intro x ⟨h1, h2⟩
      simp only [Step.touches, beq_iff_eq] at h1 h2
      exact hab (h1 ▸ h2)
  case unlink.removeTree a b => exact unlink_removeTree_comm a b w
  case removeTree.unlink b a => exact (unlink_removeTree_comm a b w).symm
  case removeTree.removeTree a b =>
    funext x
    simp only [apply_removeTree]
    by_cases h1 : isPrefix a x = true <;> by_cases h2 : isPrefix b x = true <;> simp [h1, h2]

theorem commute_indep (s t : Step) (h : Indep s t) (w : SWorld) :
    s.apply (t.apply w) = t.apply (s.apply w) := by
  rcases h with h | ⟨p, rfl, rfl⟩ | ⟨h1, h2⟩
  · exact commute_disjoint s t h w
  · rfl
  · exact commute_deletions s t h1 h2 w

theorem Indep.symm {s t : Step} (h : Indep s t) : Indep t s := by
  rcases h with h | ⟨p, h1, h2⟩ | ⟨h1, h2⟩
  · exact Or.inl fun x hx => h x ⟨hx.2, hx.1⟩
  · exact Or.inr (Or.inl ⟨p, h2, h1⟩)
  · exact Or.inr (Or.inr ⟨h2, h1⟩)

@[simp] theorem applyAll_nil (w : SWorld) : applyAll [] w = w := rfl
@[simp] theorem applyAll_cons (s : Step) (l : List Step) (w : SWorld) :
    applyAll (s :: l) w = applyAll l (s.apply w) := rfl
theorem applyAll_append (a b : List Step) (w : SWorld) :
    applyAll (a ++ b) w = applyAll b (applyAll a w) := by simp [applyAll, List.foldl_append]

theorem apply_applyAll_comm (s : Step) (a : List Step) (h : ∀ t ∈ a, Indep s t) (w : SWorld) :
    applyAll a (s.apply w) = s.apply (applyAll a w) := by
  induction a generalizing w with
  | nil => rfl
  | cons t a ih =>
    simp only [applyAll_cons]
    rw [← commute_indep s t (h t (by simp)) w]
    exact ih (fun u hu => h u (by simp [hu])) _

theorem applyAll_swap (a b : List Step) (h : IndepLists a b) (w : SWorld) :
    applyAll (a ++ b) w = applyAll (b ++ a) w := by
  induction a generalizing w with
  | nil => simp
  | cons s a ih =>
    have hs : ∀ t ∈ b, Indep s t := fun t ht => h s (by simp) t ht
    have ha : IndepLists a b := fun u hu t ht => h u (by simp [hu]) t ht
    simp only [List.cons_append, applyAll_cons]
    rw [ih ha, applyAll_append, applyAll_append, apply_applyAll_comm s b hs]
    rfl

theorem applyAll_frame (l : List Step) (w : SWorld) (x : Path)
    (h : ∀ s ∈ l, s.touches x = false) : applyAll l w x = w x := by
  induction l generalizing w with
  | nil => rfl
  | cons s l ih =>
    simp only [applyAll_cons]
    rw [ih _ (fun t ht => h t (by simp [ht])), apply_frame s w x (h s (by simp))]

section shuffle
variable {α : Type}

theorem Shuffle.mem_iff {a b σ : List α} (h : Shuffle a b σ) (x : α) : x ∈ σ ↔ x ∈ a ∨ x ∈ b := by
  induction h with
  | nil => simp
  | left _ ih => simp [ih, or_assoc]
  | right _ ih => simp [ih, or_left_comm]

theorem ShuffleN.mem_iff {ls : List (List α)} {σ : List α} (h : ShuffleN ls σ) (x : α) :
    x ∈ σ ↔ ∃ l ∈ ls, x ∈ l := by
  induction h with
  | nil => simp
  | cons _ hs ih => rw [hs.mem_iff, ih]; simp

theorem Shuffle.nil_left {b : List α} : Shuffle [] b b := by
  induction b with
  | nil => exact .nil
  | cons s b ih => exact .right ih

theorem Shuffle.nil_right {a : List α} : Shuffle a [] a := by
  induction a with
  | nil => exact .nil
  | cons s a ih => exact .left ih

theorem Shuffle.eq_of_nil_left {b σ : List α} (h : Shuffle [] b σ) : σ = b := by
  generalize ha : ([] : List α) = a at h
  induction h with
  | nil => rfl
  | left _ _ => cases ha
  | right _ ih => rw [ih ha]

theorem Shuffle.split {a b σ : List α} (h : Shuffle a b σ) (k : Nat) :
    ∃ a1 a2 b1 b2, a = a1 ++ a2 ∧ b = b1 ++ b2 ∧ Shuffle a1 b1 (σ.take k) := by
  induction h generalizing k with
  | nil => exact ⟨[], [], [], [], rfl, rfl, by simpa using .nil⟩
  | @left a b σ s h ih =>
    cases k with
    | zero => exact ⟨[], s :: a, [], b, rfl, rfl, by simpa using .nil⟩
    | succ k =>
      obtain ⟨a1, a2, b1, b2, ha, hb, h1⟩ := ih k
      exact ⟨s :: a1, a2, b1, b2, by simp [ha], hb, by simpa using .left h1⟩
  | @right a b σ s h ih =>
    cases k with
    | zero => exact ⟨[], a, [], s :: b, rfl, rfl, by simpa using .nil⟩
    | succ k =>
      obtain ⟨a1, a2, b1, b2, ha, hb, h1⟩ := ih k
      exact ⟨a1, a2, s :: b1, b2, ha, by simp [hb], by simpa using .right h1⟩

/-- how far every list got: (done, rest) -/
abbrev Progress (α : Type) := List (List α × List α)
def Progress.wholes (g : Progress α) : List (List α) := g.map fun d => d.1 ++ d.2
def Progress.dones (g : Progress α) : List (List α) := g.map (·.1)

theorem ShuffleN.split {ls : List (List α)} {σ : List α} (h : ShuffleN ls σ) (k : Nat) :
    ∃ g : Progress α, g.wholes = ls ∧ ShuffleN g.dones (σ.take k) := by
  induction h generalizing k with
  | nil => exact ⟨[], rfl, by simpa [Progress.dones] using .nil⟩
  | @cons l ls τ σ hN hS ih =>
    obtain ⟨l1, l2, t1, t2, hl, ht, h1⟩ := hS.split k
    obtain ⟨g, hg, hd⟩ := ih t1.length
    rw [ht, List.take_left] at hd
    refine ⟨(l1, l2) :: g, ?_, .cons hd h1⟩
    rw [hl, ← hg]
    rfl

theorem ShuffleN.pick {pre post : List (List α)} {l : List α} {s : α} {σ : List α}
    (h : ShuffleN (pre ++ l :: post) σ) : ShuffleN (pre ++ (s :: l) :: post) (s :: σ) := by
  induction pre generalizing σ with
  | nil =>
    cases h with
    | cons hN hS => exact .cons hN (.left hS)
  | cons a pre ih =>
    cases h with
    | cons hN hS => exact .cons (ih hN) (.right hS)

theorem shuffleN_of_all_nil {ls : List (List α)} (h : ∀ l ∈ ls, l = []) : ShuffleN ls [] := by
  induction ls with
  | nil => exact .nil
  | cons l ls ih =>
    have : l = [] := h l (by simp)
    subst this
    exact .cons (ih fun l hl => h l (by simp [hl])) .nil

theorem Interleaving.toShuffleN {ls : List (List α)} {σ : List α} (h : Interleaving ls σ) :
    ShuffleN ls σ := by
  induction h with
  | done h => exact shuffleN_of_all_nil h
  | pick h1 h2 _ ih => subst h1; subst h2; exact ih.pick

theorem Interleaving.cons_shuffle {a τ σ : List α} {ls : List (List α)} (hS : Shuffle a τ σ)
    (hI : Interleaving ls τ) : Interleaving (a :: ls) σ := by
  induction hS generalizing ls with
  | nil =>
    cases hI with
    | done h => exact .done (by intro l hl; rcases List.mem_cons.mp hl with h' | h'; exact h'; exact h l h')
  | @left a b σ s _ ih =>
    exact .pick (pre := []) (post := ls) (l := a) rfl rfl (ih hI)
  | @right a b σ s _ ih =>
    cases hI with
    | @pick _ ls' pre post l _ _ h1 h2 h3 =>
      subst h1; subst h2
      exact .pick (pre := a :: pre) (post := post) (l := l) rfl rfl (ih h3)

theorem ShuffleN.toInterleaving {ls : List (List α)} {σ : List α} (h : ShuffleN ls σ) :
    Interleaving ls σ := by
  induction h with
  | nil => exact .done (by simp)
  | cons _ hS ih => exact Interleaving.cons_shuffle hS ih

end shuffle

theorem shuffle_eq_seq {a b σ : List Step} (h : Shuffle a b σ) (hind : IndepLists a b) (w : SWorld) :
    applyAll σ w = applyAll (a ++ b) w := by
  induction h generalizing w with
  | nil => rfl
  | @left a b σ s _ ih =>
    simp only [List.cons_append, applyAll_cons]
    exact ih (fun u hu t ht => hind u (by simp [hu]) t ht) _
  | @right a b σ s _ ih =>
    simp only [applyAll_cons]
    rw [ih (fun u hu t ht => hind u hu t (by simp [ht]))]
    rw [applyAll_append, applyAll_append, applyAll_cons]
    have : ∀ t ∈ a, Indep s t := fun t ht => (hind t ht s (by simp)).symm
    rw [apply_applyAll_comm s a this]

theorem shuffleN_eq_seq {ls : List (List Step)} {σ : List Step} (h : ShuffleN ls σ)
    (hind : PairwiseIndep ls) (w : SWorld) : applyAll σ w = applyAll ls.flatten w := by
  induction h generalizing w with
  | nil => rfl
  | @cons l ls τ σ hN hS ih =>
    have hp := List.pairwise_cons.mp hind
    have hlt : IndepLists l τ := by
      intro s hs t ht
      obtain ⟨l', hl', htl'⟩ := (hN.mem_iff t).mp ht
      exact hp.1 l' hl' s hs t htl'
    rw [shuffle_eq_seq hS hlt, List.flatten_cons, applyAll_append, applyAll_append, ih hp.2]

theorem IndepLists.symm {a b : List Step} (h : IndepLists a b) : IndepLists b a :=
  fun s hs t ht => (h t ht s hs).symm

theorem pairwise_split {pre post : List (List Step)} {L : List Step}
    (h : PairwiseIndep (pre ++ L :: post)) : ∀ l ∈ pre ++ post, IndepLists L l := by
  unfold PairwiseIndep at h
  rw [List.pairwise_append] at h
  obtain ⟨_, h2, h3⟩ := h
  have h2' := List.pairwise_cons.mp h2
  intro l hl
  rcases List.mem_append.mp hl with hl | hl
  · exact (h3 l hl L (by simp)).symm
  · exact h2'.1 l hl

theorem pairwise_drop_mid {pre post : List (List Step)} {L : List Step}
    (h : PairwiseIndep (pre ++ L :: post)) : PairwiseIndep (pre ++ post) := by
  unfold PairwiseIndep at h ⊢
  rw [List.pairwise_append] at h ⊢
  obtain ⟨h1, h2, h3⟩ := h
  exact ⟨h1, (List.pairwise_cons.mp h2).2, fun a ha b hb => h3 a ha b (by simp [hb])⟩

theorem indepLists_flatten {L : List Step} {ls : List (List Step)} (h : ∀ l ∈ ls, IndepLists L l) :
    IndepLists L ls.flatten := by
  intro s hs t ht
  obtain ⟨l, hl, htl⟩ := List.mem_flatten.mp ht
  exact h l hl s hs t htl

theorem flatten_front {pre post : List (List Step)} {L : List Step}
    (h : PairwiseIndep (pre ++ L :: post)) (w : SWorld) :
    applyAll (pre ++ L :: post).flatten w = applyAll (L ++ (pre ++ post).flatten) w := by
  have hs := pairwise_split h
  have : IndepLists pre.flatten L :=
    (indepLists_flatten (fun l hl => hs l (by simp [hl]))).symm
  simp only [List.flatten_append, List.flatten_cons]
  rw [← List.append_assoc, applyAll_append, applyAll_swap _ _ this, ← applyAll_append]
  simp [List.append_assoc]

theorem progress_dones_indep {g : Progress Step} (h : PairwiseIndep g.wholes) :
    PairwiseIndep g.dones := by
  unfold PairwiseIndep Progress.wholes Progress.dones at *
  rw [List.pairwise_map] at h ⊢
  exact h.imp fun {a b} hab s hs t ht => hab s (by simp [hs]) t (by simp [ht])

theorem indep_touch {s t : Step} {x : Path} (h : Indep s t) (hs : s.touches x = true)
    (ht : t.touches x = true) :
    (s = .mkdir x ∧ t = .mkdir x) ∨ (s.isDeletion = true ∧ t.isDeletion = true) := by
  rcases h with h | ⟨p, rfl, rfl⟩ | h
  · exact absurd ⟨hs, ht⟩ (h x)
  · simp [Step.touches] at hs; subst hs; exact Or.inl ⟨rfl, rfl⟩
  · exact Or.inr h

theorem exclusive_of_step {pre post : List (List Step)} {L : List Step}
    (hind : PairwiseIndep (pre ++ L :: post)) {s : Step} (hs : s ∈ L) {x : Path}
    (hx : s.touches x = true) (hm : s.isMkdir = false) (hd : s.isDeletion = false) :
    ∀ l ∈ pre ++ post, ∀ t ∈ l, t.touches x = false := by
  refine fun l hl t ht => Bool.eq_false_iff.mpr fun htx => ?_
  rcases indep_touch (pairwise_split hind l hl s hs t ht) hx htx with ⟨h, _⟩ | ⟨h, _⟩
  · rw [h] at hm; cases hm
  · rw [h] at hd; cases hd

theorem touch_classes {ls : List (List Step)} (hind : PairwiseIndep ls) (x : Path) :
    (∃ pre L post, ls = pre ++ L :: post ∧ ∀ l ∈ pre ++ post, ∀ s ∈ l, s.touches x = false) ∨
    (∀ l ∈ ls, ∀ s ∈ l, s.touches x = true → s = .mkdir x) ∨
    (∀ l ∈ ls, ∀ s ∈ l, s.touches x = true → s.isDeletion = true) := by
  by_cases hM : ∀ l ∈ ls, ∀ s ∈ l, s.touches x = true → s = .mkdir x
  · exact Or.inr (Or.inl hM)
  by_cases hD : ∀ l ∈ ls, ∀ s ∈ l, s.touches x = true → s.isDeletion = true
  · exact Or.inr (Or.inr hD)
  -- `s1` touches `x` and is not `mkdir x`, `s2` touches `x` and is not a deletion: the list of `s1` owns `x`
  simp only [Classical.not_forall] at hM hD
  obtain ⟨l1, hl1, s1, hs1, ht1, hn1⟩ := hM
  obtain ⟨l2, hl2, s2, hs2, ht2, hn2⟩ := hD
  obtain ⟨pre, post, rfl⟩ := List.append_of_mem hl1
  refine Or.inl ⟨pre, l1, post, rfl, fun l hl t ht => Bool.eq_false_iff.mpr fun htx => ?_⟩
  have hsp := pairwise_split hind
  -- `t` in another list touches `x`: against `s1` both are deletions, so `s2` is not in a third list …
  rcases indep_touch (hsp l hl s1 hs1 t ht) ht1 htx with ⟨h, _⟩ | ⟨_, hdt⟩
  · exact hn1 h
  have h2 : l2 ∈ pre ++ post ∨ l2 = l1 := by
    simp only [List.mem_append, List.mem_cons] at hl2 ⊢
    rcases hl2 with h | h | h
    · exact Or.inl (Or.inl h)
    · exact Or.inr h
    · exact Or.inl (Or.inr h)
  rcases h2 with h2 | rfl
  · rcases indep_touch (hsp l2 h2 s1 hs1 s2 hs2) ht1 ht2 with ⟨h, _⟩ | ⟨_, h⟩
    · exact hn1 h
    · exact hn2 h
  -- … but in the list of `s1`, where against `t` it would have to be `mkdir x` like `t`
  · rcases indep_touch (hsp l hl s2 hs2 t ht) ht2 htx with ⟨_, h⟩ | ⟨h, _⟩
    · rw [h] at hdt; cases hdt
    · exact hn2 h

/-- used for completed runs, and — with the done parts as the lists — for crash states -/
theorem shuffle_owned {pre post : List (List Step)} {L τ : List Step}
    (hind : PairwiseIndep (pre ++ L :: post)) (hτ : ShuffleN (pre ++ L :: post) τ) (x : Path)
    (hx : ∀ l ∈ pre ++ post, ∀ s ∈ l, s.touches x = false) (w : SWorld) :
    applyAll τ w x = applyAll L w x := by
  rw [shuffleN_eq_seq hτ hind, flatten_front hind, applyAll_append]
  apply applyAll_frame
  intro s hs
  obtain ⟨l, hl, hsl⟩ := List.mem_flatten.mp hs
  exact hx l hl s hsl

/-- `v` is absorbing for `s` at `x`: `s` leaves the node at `x` alone or makes it `v`, and keeps `v` -/
def Absorbs (v : Option SNode) (x : Path) (s : Step) : Prop :=
  ∀ w : SWorld, (s.apply w x = w x ∨ s.apply w x = v) ∧ (w x = v → s.apply w x = v)

theorem absorbs_of_not_touch (v : Option SNode) (x : Path) (s : Step) (h : s.touches x = false) :
    Absorbs v x s := fun w => by rw [apply_frame s w x h]; exact ⟨Or.inl rfl, id⟩

theorem absorbs_mkdir (x : Path) : Absorbs (some .dir) x (.mkdir x) := by
  intro w
  rw [apply_mkdir, upd_same]
  cases w x <;> simp

theorem absorbs_deletion (x : Path) (s : Step) (h : s.isDeletion = true) : Absorbs none x s := by
  intro w
  cases s <;> first | exact Bool.noConfusion h | skip
  case unlink p =>
    rw [apply_single _ rfl, upd_apply, Step.path, nodeFn_unlink]
    by_cases hx : x = p
    · subst hx
      by_cases hd : w x = some .dir <;> simp [hd]
    · simp [hx]
  case removeTree p =>
    rw [apply_removeTree]
    by_cases hx : isPrefix p x = true <;> simp [hx]

theorem absorbs_mkdir_only {L : List Step} {x : Path} (h : ∀ s ∈ L, s.touches x = true → s = .mkdir x) :
    ∀ s ∈ L, Absorbs (some .dir) x s := by
  intro s hs
  cases htx : s.touches x with
  | false => exact absorbs_of_not_touch _ x s htx
  | true => rw [h s hs htx]; exact absorbs_mkdir x

theorem absorbs_deletion_only {L : List Step} {x : Path} (h : ∀ s ∈ L, s.touches x = true → s.isDeletion = true) :
    ∀ s ∈ L, Absorbs none x s := by
  intro s hs
  cases htx : s.touches x with
  | false => exact absorbs_of_not_touch _ x s htx
  | true => exact absorbs_deletion x s (h s hs htx)

theorem absorbed_stays {v : Option SNode} {x : Path} {σ : List Step} (h : ∀ s ∈ σ, Absorbs v x s)
    (w : SWorld) (hw : w x = v) : applyAll σ w x = v := by
  induction σ generalizing w with
  | nil => exact hw
  | cons s σ ih =>
    exact ih (fun t ht => h t (by simp [ht])) _ ((h s (by simp) w).2 hw)

theorem absorbing_crash {v : Option SNode} {x : Path} {σ : List Step} (h : ∀ s ∈ σ, Absorbs v x s)
    (k : Nat) (w : SWorld) :
    applyAll (σ.take k) w x = w x ∨ applyAll (σ.take k) w x = applyAll σ w x := by
  induction σ generalizing w k with
  | nil => left; simp
  | cons s σ ih =>
    cases k with
    | zero => left; rfl
    | succ k =>
      simp only [List.take_succ_cons, applyAll_cons]
      have hσ : ∀ t ∈ σ, Absorbs v x t := fun t ht => h t (by simp [ht])
      rcases ih hσ k (s.apply w) with h1 | h1
      · rcases (h s (by simp) w).1 with h2 | h2
        · left; rw [h1, h2]
        · right
          rw [h1, h2, absorbed_stays hσ _ h2]
      · right; exact h1

end SyModel.Engine
