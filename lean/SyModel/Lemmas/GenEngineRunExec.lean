/-
  Lemmas.GenEngineRunExec — the EXECUTION stage of the capstone: one task (`run_task_step`: the per-task bridge of
  Lemmas/GenEngineTask with `Left` collapsed by `NoResidue`, and what the statistics theorems of Props/GenEngineTask say of
  verification failures and error records), then the fold (`execLoop_eq_foldl`).  The loop `execLoop`, `TaskOK`,
  `NoResidue`, `FailClean` and `AllErrAbs` are in Lemmas/GenEngineRun.lean, which the glue and the planning stage build on
  without this module: the two stages meet in Props/GenEngineRun.lean.  Declared in the namespace of
  Lemmas/GenEngineRun.lean, like GenEngineRunGlue and GenEngineRunPlan.
-/
import SyModel.Lemmas.GenEngineRun
import SyModel.Props.GenEngineTask
namespace SyModel.Lemmas.GenEngineRun
open SyModel SyModel.Engine SyModel.Generated SyModel.Generated.EngineTask SyModel.GenEngineTask
open SyModel.Lemmas.GenTransfer

section step
variable (cfg : Cfg) (ew : EWorld) (task : SyncTask) (k : Engine.Path) (transferrer verifier : Rs.Opaque)
  (stats : SyncStats) (mode : ChecksumType) (limiter pm : Option Rs.Opaque)

theorem run_task_step (hok : TaskOK cfg ew.xw task k)
    (hfc : perform cfg ew.xw.w (absTaskE cfg ew.xw task k) = none → NoResidue ew.xw.w.dst k) :
    ∃ res st' ew',
      runM (run_task (engineExt cfg) task transferrer verifier stats cfg.dryRun true mode limiter pm) ew =
        (.ok (res, st'), ew') ∧
      SameEnv ew.xw ew'.xw ∧
      absExec ew' st' = execTask cfg noFaults (absExec ew stats) (absTaskE cfg ew.xw task k) ∧
      (mode = .None → st'.verification_failures = stats.verification_failures) ∧
      (AllErrAbs ew.xw.root stats → AllErrAbs ew.xw.root st') := by
  obtain ⟨res, st', ew', h1, henv, hb, hokc, herrc⟩ :=
    run_task_eq_execTask cfg ew task k transferrer verifier stats mode limiter pm hok.clean hok.dest hok.src hok.work
  refine ⟨res, st', ew', h1, henv, ?_, fun hm => ?_, fun hall => ?_⟩
  · rcases res with er | u
    · -- a failed call: the model keeps its world, and so does the instance, nothing being left behind
      obtain ⟨hw, hl, hp⟩ := herrc er rfl
      show Exec.mk _ _ = _
      rw [show absBook _ _ _ = _ from hb, left_eq_of_noResidue hl (hfc hp), ← hw]
    · exact hokc u rfl
  · exact ((SyModel.Props.GenEngineTask.verification_iff_due (engineExt cfg) task transferrer verifier stats
      cfg.dryRun true mode limiter pm h1).2 (by rintro ⟨_, _, _, _, _, _, hne, _⟩; exact hne hm)).2
  · have he := SyModel.Props.GenEngineTask.errors_iff_err (engineExt cfg) task transferrer verifier stats
      cfg.dryRun true mode limiter pm h1
    rcases res with er | u
    · simp only [] at he
      intro r hr
      rw [he] at hr
      rcases List.mem_append.1 hr with hr | hr
      · exact hall r hr
      · have : r = SyModel.Props.GenEngineTask.errorRecord task er := by simpa using hr
        rw [this]
        unfold SyModel.Props.GenEngineTask.errorRecord
        rw [errAbs_record ew task k hok.clean hok.dest er]; rfl
    · simp only [] at he
      intro r hr; rw [he] at hr; exact hall r hr

end step

theorem execLoop_eq_foldl (cfg : Cfg) (transferrer verifier : Rs.Opaque) (mode : ChecksumType)
    (limiter pm : Option Rs.Opaque) :
    ∀ (tks : List (SyncTask × Engine.Path)) (ew : EWorld) (stats : SyncStats) (rs : List (Except Rs.Err Unit)),
      (∀ tk ∈ tks, TaskOK cfg ew.xw tk.1 tk.2) →
      FailClean cfg (absExec ew stats) (absTasksE cfg ew.xw tks) →
      ∃ st' rs' ew',
        runM (execLoop (engineExt cfg) transferrer verifier cfg.dryRun true mode limiter pm (tks.map (·.1)) stats rs)
          ew = (.ok (st', rs ++ rs'), ew') ∧
        SameEnv ew.xw ew'.xw ∧
        absExec ew' st' = (absTasksE cfg ew.xw tks).foldl (execTask cfg noFaults) (absExec ew stats) ∧
        rs'.length = tks.length ∧
        (mode = .None → st'.verification_failures = stats.verification_failures) ∧
        (AllErrAbs ew.xw.root stats → AllErrAbs ew.xw.root st') := by
  intro tks
  induction tks with
  | nil =>
    intro ew stats rs _ _
    exact ⟨stats, [], ew, by simp [execLoop], SameEnv.refl _, rfl, rfl, fun _ => rfl, fun h => h⟩
  | cons tk tks ih =>
    intro ew stats rs hok hfc
    obtain ⟨t, k⟩ := tk
    -- `(absExec ew stats).w` is `ew.xw.w` and `(absTaskE … k).rel` is `k` by `rfl`: the first clause of `FailClean` is
    -- the `hfc` of `run_task_step`
    have hfc' : (perform cfg (absExec ew stats).w (absTaskE cfg ew.xw t k) = none →
        NoResidue (absExec ew stats).w.dst (absTaskE cfg ew.xw t k).rel) ∧
        FailClean cfg (execTask cfg noFaults (absExec ew stats) (absTaskE cfg ew.xw t k)) (absTasksE cfg ew.xw tks) :=
      hfc
    obtain ⟨res, st1, ew1, h1, henv, habs, hv1, he1⟩ :=
      run_task_step cfg ew t k transferrer verifier stats mode limiter pm (hok (t, k) (by simp)) hfc'.1
    have hok1 : ∀ tk ∈ tks, TaskOK cfg ew1.xw tk.1 tk.2 := fun tk htk => (hok tk (by simp [htk])).congr henv
    have hfc1 : FailClean cfg (absExec ew1 st1) (absTasksE cfg ew1.xw tks) := by
      rw [absTasksE_congr cfg tks henv, habs]; exact hfc'.2
    obtain ⟨st', rs', ew', h2, henv2, habs2, hlen, hv2, he2⟩ := ih ew1 st1 (rs ++ [res]) hok1 hfc1
    refine ⟨st', res :: rs', ew', ?_, henv.trans henv2, ?_, by simp [hlen], fun hm => (hv2 hm).trans (hv1 hm),
      fun hall => by have := he2 (by rw [henv.1]; exact he1 hall); rwa [henv.1] at this⟩
    · simp only [List.map_cons, execLoop]
      rw [runM_bind_ok h1, h2]
      simp
    · rw [habs2, absTasksE_congr cfg tks henv, habs]
      rfl

end SyModel.Lemmas.GenEngineRun
