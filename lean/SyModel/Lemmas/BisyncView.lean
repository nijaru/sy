/-
  One path under the repaired code (`Cfg.repaired`): the three-way merge table `merge_table` (by which sides changed,
  what the classifier answers and who prevails), `stepView_eq` (what the winner leaves), and what is read off them:
  the path ends in sync (`stepView_synced`), and what becomes of each file it held (`loss_cases`).
-/
import SyModel.Lemmas.BisyncSync
namespace SyModel.Bisync

theorem contentEqual_repaired (a b : File) :
    contentEqual .repaired a.entry b.entry = true ↔ a.content = b.content := by
  simp only [contentEqual, Cfg.repaired, File.entry, File.content, Prod.mk.injEq]
  by_cases h : a.size = b.size
  · simp [h]
  · simp [h]

theorem isModified_self (a : File) : isModified a.entry a.meta = false := by
  simp [isModified, File.entry, File.meta]

@[simp] theorem File.entry_isDir (f : File) : f.entry.isDir = false := rfl

/-- has the side changed since its row was written, as far as the classifier can tell: a file that `isModified`,
    a file without a row, a row without a file -/
def chg (x : Option File) (row : Option Row) : Bool :=
  match x, row with
  | none, none => false
  | some f, some r => isModified f.entry r
  | _, _ => true

theorem mem_allPaths_of_chg {w : World} {p : Path}
    (h : chg (w.view p).l (w.view p).rl = true ∨ chg (w.view p).r (w.view p).rr = true) : p ∈ w.allPaths := by
  have some_of : ∀ {x : Option File} {row : Option Row}, chg x row = true → x ≠ none ∨ row ≠ none := by
    intro x row hc
    cases x <;> cases row
    · cases hc
    · exact .inr nofun
    all_goals exact .inl nofun
  rw [mem_allPaths]
  rcases h with h | h
  · exact (some_of h).elim .inl fun h => .inr (.inr (.inl h))
  · exact (some_of h).elim (fun h => .inr (.inl h)) fun h => .inr (.inr (.inr h))

/-- who prevails at a path: nobody (nothing is done), the left side (its file, or its absence, goes to the right),
    the right side, or both (each file becomes a conflict copy and the path is vacated) -/
inductive Win | keep | left | right | both

def restamp (now : Nat) (f : File) : File := { f with mtime := now }

/-- the two files of the path once `w` has prevailed -/
def Win.files (now : Nat) (l r : Option File) : Win → Option File × Option File
  | .keep => (l, r)
  | .left => (l, l.map (restamp now))
  | .right => (r.map (restamp now), r)
  | .both => (none, none)

def Action.win : Action → Win
  | .copyToDest .. | .deleteFromDest _ => .left
  | .copyToSource .. | .deleteFromSource _ => .right
  | .renameConflict .. => .both

def winOf : Option Action → Win
  | none => .keep
  | some a => a.win

theorem RcSpec.own {p : Path} {stamp now : Nat} {l r : Option File} {a : Action}
    (h : RcSpec p (l.map File.entry) (r.map File.entry) stamp a) :
    own now (some a) l r = a.win.files now l r := by
  cases a <;> cases l <;> cases r <;> simp_all [RcSpec, Bisync.own, Action.win, Win.files, restamp]

theorem stepView_eq (cfg : Cfg) (strat : Strategy) (stamp now : Nat) (p : Path) (v : View) :
    stepView cfg strat stamp now p v =
      (let f := (winOf (v.action cfg strat stamp p)).files now v.l v.r
       ⟨f.1, f.2, rowsOf f.1 f.2 .source, rowsOf f.1 f.2 .dest⟩) := by
  unfold stepView
  cases h : v.action cfg strat stamp p with
  | none => rfl
  | some a => rw [(action_rcSpec h).own]; rfl

/-- **the merge table**, one row for each answer to "has the left side changed, has the right side": what the
    classifier says (`ct`) and who prevails (`w`). A user picks its row by rewriting the two Booleans. -/
def MergeRow (strat : Strategy) (stamp : Nat) (p : Path) (v : View) (ct : Option ChangeType) (w : Win) :
    Bool → Bool → Prop
  | false, false => ct = none ∧ w = .keep
  | true, false => ∃ c, ct = some c ∧ c.isConflict = false ∧ w = .left
  | false, true => ∃ c, ct = some c ∧ c.isConflict = false ∧ w = .right
  | true, true =>
    (ct = none ∧ w = .keep ∧ v.l.map File.content = v.r.map File.content) ∨
    ∃ c, ct = some c ∧ c.isConflict = true ∧ v.l.map File.content ≠ v.r.map File.content ∧
      w = (resolveConflict strat p (v.l.map File.entry) (v.r.map File.entry) stamp).win

/-- the form both arms of the classifier with two changed files reduce to (`createCreate` without rows, `modifiedBoth`
    with them) -/
theorem both_row (strat : Strategy) (stamp : Nat) (p : Path) (a b : File) (rl rr : Option Row) (c : ChangeType)
    (hc : c.isConflict = true) :
    MergeRow strat stamp p ⟨some a, some b, rl, rr⟩
      (if contentEqual .repaired a.entry b.entry = true then none else some c)
      (winOf ((if contentEqual .repaired a.entry b.entry = true then none else some c).bind fun ct =>
        resolveOne strat stamp ⟨p, ct, some a.entry, some b.entry⟩)) true true := by
  by_cases h : a.content = b.content
  · rw [if_pos ((contentEqual_repaired a b).mpr h)]
    exact .inl ⟨rfl, rfl, congrArg some h⟩
  · rw [if_neg (mt (contentEqual_repaired a b).mp h)]
    refine .inr ⟨c, rfl, hc, fun e => h (Option.some.inj e), ?_⟩
    cases c <;> first | rfl | cases hc

theorem merge_table (strat : Strategy) (stamp : Nat) (p : Path) (v : View) (hp : v.rl = none ↔ v.rr = none) :
    MergeRow strat stamp p v (v.ctype .repaired) (winOf (v.action .repaired strat stamp p))
      (chg v.l v.rl) (chg v.r v.rr) := by
  obtain ⟨l, r, rl, rr⟩ := v
  unfold View.action
  rcases rl with _ | ra <;> rcases rr with _ | rb
  · rcases l with _ | a <;> rcases r with _ | b
    · exact ⟨rfl, rfl⟩
    · exact ⟨_, rfl, rfl, rfl⟩
    · exact ⟨_, rfl, rfl, rfl⟩
    · exact both_row strat stamp p a b none none .createCreate rfl
  · exact absurd (hp.mp rfl) nofun
  · exact absurd (hp.mpr rfl) nofun
  · rcases l with _ | a <;> rcases r with _ | b
    · exact .inl ⟨rfl, rfl, rfl⟩
    · cases h : isModified b.entry rb <;>
        simp only [View.ctype, classifySingle, Option.map, Option.getD, File.entry_isDir, Bool.or_false,
          Bool.false_eq_true, if_false, if_true, chg, h]
      · exact ⟨_, rfl, rfl, rfl⟩
      · exact .inr ⟨_, rfl, rfl, nofun, rfl⟩
    · cases h : isModified a.entry ra <;>
        simp only [View.ctype, classifySingle, Option.map, Option.getD, File.entry_isDir, Bool.or_false,
          Bool.false_eq_true, if_false, if_true, chg, h]
      · exact ⟨_, rfl, rfl, rfl⟩
      · exact .inr ⟨_, rfl, rfl, nofun, rfl⟩
    · cases h1 : isModified a.entry ra <;> cases h2 : isModified b.entry rb <;>
        simp only [View.ctype, classifySingle, Option.map, Option.getD, File.entry_isDir, Bool.or_false,
          Bool.false_eq_true, if_false, chg, h1, h2]
      · exact ⟨rfl, rfl⟩
      · exact ⟨_, rfl, rfl, rfl⟩
      · exact ⟨_, rfl, rfl, rfl⟩
      · exact both_row strat stamp p a b (some ra) (some rb) .modifiedBoth rfl

theorem Action.win_ne_keep (a : Action) : a.win ≠ .keep := by cases a <;> nofun

theorem isRen_iff_win (o : Option Action) : isRen o = true ↔ winOf o = .both := by
  rcases o with _ | a
  · simp [isRen, winOf]
  · cases a <;> simp [isRen, winOf, Action.win, Action.isRename]

theorem Action.discardsRight_iff (a : Action) : a.discardsRight = true ↔ a.win = .left := by
  cases a <;> simp [Action.discardsRight, Action.win]

theorem Action.discardsLeft_iff (a : Action) : a.discardsLeft = true ↔ a.win = .right := by
  cases a <;> simp [Action.discardsLeft, Action.win]

/-- rows in pairs, and two files that both match their rows agree. -/
def ViewOK (v : View) : Prop :=
  (v.rl = none ↔ v.rr = none) ∧
  ∀ l r rl rr, v.l = some l → v.r = some r → v.rl = some rl → v.rr = some rr →
    isModified l.entry rl = false → isModified r.entry rr = false → l.content = r.content

/-- a path as a successful sync leaves it: the same content on both sides with truthful rows,
    or nothing at all. -/
def Synced (v : View) : Prop :=
  match v.l, v.r with
  | some a, some b => a.content = b.content ∧ v.rl = some a.meta ∧ v.rr = some b.meta
  | none, none => v.rl = none ∧ v.rr = none
  | _, _ => False

theorem Synced.cases {v : View} (h : Synced v) :
    v = View.empty ∨ ∃ a b, a.content = b.content ∧ v = ⟨some a, some b, some a.meta, some b.meta⟩ := by
  obtain ⟨l, r, rl, rr⟩ := v
  cases l <;> cases r <;> simp only [Synced] at h
  · obtain ⟨rfl, rfl⟩ := h
    exact .inl rfl
  · obtain ⟨h0, rfl, rfl⟩ := h
    exact .inr ⟨_, _, h0, rfl⟩

theorem synced_empty : Synced View.empty := ⟨rfl, rfl⟩

theorem synced_contents {v : View} (h : Synced v) : v.l.map File.content = v.r.map File.content := by
  rcases h.cases with rfl | ⟨a, b, hc, rfl⟩
  · rfl
  · exact congrArg some hc

theorem Synced.viewOK {v : View} (h : Synced v) : ViewOK v := by
  rcases h.cases with rfl | ⟨a, b, hc, rfl⟩
  · exact ⟨Iff.rfl, nofun⟩
  · refine ⟨by simp, ?_⟩
    intro l r rl rr e1 e2 _ _ _ _
    cases e1; cases e2; exact hc

theorem Synced.chg {v : View} (h : Synced v) : chg v.l v.rl = false ∧ chg v.r v.rr = false := by
  rcases h.cases with rfl | ⟨a, b, -, rfl⟩
  · exact ⟨rfl, rfl⟩
  · exact ⟨isModified_self a, isModified_self b⟩

theorem synced_rowsOf {l r : Option File} (h : l.map File.content = r.map File.content) :
    Synced ⟨l, r, rowsOf l r .source, rowsOf l r .dest⟩ := by
  cases l <;> cases r <;> first | cases h | skip
  · exact ⟨rfl, rfl⟩
  · exact ⟨Option.some.inj h, rfl, rfl⟩

theorem Win.files_content (now : Nat) (l r : Option File) (w : Win)
    (h : w = .keep → l.map File.content = r.map File.content) :
    (w.files now l r).1.map File.content = (w.files now l r).2.map File.content := by
  cases w
  · exact h rfl
  · cases l <;> rfl
  · cases r <;> rfl
  · rfl

theorem Win.files_old {now : Nat} {w : Win} {l r : Option File} {f : File}
    (h : (w.files now l r).1 = some f ∨ (w.files now l r).2 = some f) :
    f.mtime = now ∨ l = some f ∨ r = some f := by
  have stamped : ∀ {x : Option File}, x.map (restamp now) = some f → f.mtime = now := by
    intro x hx
    obtain ⟨g, -, rfl⟩ := Option.map_eq_some_iff.mp hx
    rfl
  cases w
  · exact .inr h
  · exact h.elim (fun h => .inr (.inl h)) fun h => .inl (stamped h)
  · exact h.elim (fun h => .inl (stamped h)) fun h => .inr (.inr h)
  · exact h.elim nofun nofun

theorem idle_content {v : View} (hok : ViewOK v) (hl : chg v.l v.rl = false) (hr : chg v.r v.rr = false) :
    v.l.map File.content = v.r.map File.content := by
  obtain ⟨l, r, rl, rr⟩ := v
  rcases l with _ | a <;> rcases rl with _ | ra <;> first | cases hl | skip
  all_goals rcases r with _ | b <;> rcases rr with _ | rb <;> first | cases hr | skip
  · rfl
  · exact absurd (hok.1.mp rfl) nofun
  · exact absurd (hok.1.mpr rfl) nofun
  · exact congrArg some (hok.2 a b ra rb rfl rfl rfl rfl hl hr)

theorem stepView_synced (strat : Strategy) (stamp now : Nat) (p : Path) (v : View) (hok : ViewOK v) :
    Synced (stepView .repaired strat stamp now p v) := by
  rw [stepView_eq]
  refine synced_rowsOf (Win.files_content _ _ _ _ fun hw => ?_)
  have ht := merge_table strat stamp p v hok.1
  rw [hw] at ht
  cases hl : chg v.l v.rl <;> cases hr : chg v.r v.rr <;> rw [hl, hr] at ht
  · exact idle_content hok hl hr
  · obtain ⟨_, _, _, h⟩ := ht; cases h
  · obtain ⟨_, _, _, h⟩ := ht; cases h
  · rcases ht with ⟨_, _, h⟩ | ⟨_, _, _, _, h⟩
    · exact h
    · exact absurd h.symm (Action.win_ne_keep _)

theorem synced_ctype {v : View} (h : Synced v) : v.ctype .repaired = none := by
  -- the verdict column of the table does not depend on strategy, stamp or path: any will do
  have ht := merge_table .newer 0 [] v h.viewOK.1
  rw [h.chg.1, h.chg.2] at ht
  exact ht.1

theorem synced_action {v : View} (h : Synced v) (strat : Strategy) (stamp : Nat) (p : Path) :
    v.action .repaired strat stamp p = none := by
  unfold View.action; rw [synced_ctype h]; rfl

/-- the rows of a path in sync are the ones the repaired state update would write again -/
theorem Synced.rowsOf_eq {v : View} (h : Synced v) : ⟨v.l, v.r, rowsOf v.l v.r .source, rowsOf v.l v.r .dest⟩ = v := by
  rcases h.cases with rfl | ⟨a, b, -, rfl⟩ <;> rfl

/-- no lemma refers to this: `synced_sync_noop`, which assumes no `Fresh`, cannot reach `stepView` through `sync_spec` -/
theorem synced_stepView {v : View} (h : Synced v) (strat : Strategy) (stamp now : Nat) (p : Path) :
    stepView .repaired strat stamp now p v = v := by
  unfold stepView
  rw [synced_action h]
  exact h.rowsOf_eq

/-- `f` (held on one side of the path) survives at the path itself. -/
def KeptV (now : Nat) (w : Win) (l r : Option File) (f : File) : Prop :=
  ∃ g, ((w.files now l r).1 = some g ∨ (w.files now l r).2 = some g) ∧ g.cid = f.cid

def SupersededV (v : View) (f : File) : Prop :=
  ∃ rl rr, v.rl = some rl ∧ v.rr = some rr ∧
    ((v.l = some f ∧ isModified f.entry rl = false ∧
        (v.r = none ∨ ∃ g, v.r = some g ∧ isModified g.entry rr = true)) ∨
     (v.r = some f ∧ isModified f.entry rr = false ∧
        (v.l = none ∨ ∃ g, v.l = some g ∧ isModified g.entry rl = true)))

def LoserV (strat : Strategy) (stamp : Nat) (p : Path) (v : View) (f : File) : Prop :=
  ∃ ct, v.ctype .repaired = some ct ∧ ct.isConflict = true ∧
    ((v.l = some f ∧
        (resolveConflict strat p (v.l.map File.entry) (v.r.map File.entry) stamp).discardsLeft = true) ∨
     (v.r = some f ∧
        (resolveConflict strat p (v.l.map File.entry) (v.r.map File.entry) stamp).discardsRight = true))

/-- an unchanged file on one side of a changed other side, both with rows: the superseded base version -/
theorem superseded_of_chg {x y : Option File} {rx ry : Option Row} {f : File} (hp : rx = none ↔ ry = none)
    (hx : x = some f) (hcx : chg x rx = false) (hcy : chg y ry = true) :
    ∃ a b, rx = some a ∧ ry = some b ∧ isModified f.entry a = false ∧
      (y = none ∨ ∃ g, y = some g ∧ isModified g.entry b = true) := by
  subst hx
  rcases rx with _ | a
  · cases hcx
  · rcases ry with _ | b
    · exact absurd (hp.mpr rfl) nofun
    · refine ⟨a, b, rfl, rfl, hcx, ?_⟩
      rcases y with _ | g
      · exact .inl rfl
      · exact .inr ⟨g, rfl, hcy⟩

theorem KeptV.left {now : Nat} {w : Win} {l r : Option File} {f : File} (h : l = some f)
    (hw : w = .keep ∨ w = .left) : KeptV now w l r f := by
  rcases hw with rfl | rfl <;> exact ⟨f, .inl h, rfl⟩

theorem KeptV.right {now : Nat} {w : Win} {l r : Option File} {f : File} (h : r = some f)
    (hw : w = .keep ∨ w = .right) : KeptV now w l r f := by
  rcases hw with rfl | rfl <;> exact ⟨f, .inr h, rfl⟩

/-- C11 `no_silent_loss` at one path: a file of the path stays there, or goes to a conflict copy, or is lost for one
    of the two stated reasons; the table row by row -/
theorem loss_cases (strat : Strategy) (stamp now : Nat) (p : Path) (v : View)
    (hp : v.rl = none ↔ v.rr = none) (f : File) (hf : v.l = some f ∨ v.r = some f) :
    KeptV now (winOf (v.action .repaired strat stamp p)) v.l v.r f ∨
    isRen (v.action .repaired strat stamp p) = true ∨
    SupersededV v f ∨ LoserV strat stamp p v f := by
  have ht := merge_table strat stamp p v hp
  rw [isRen_iff_win]
  generalize winOf (v.action .repaired strat stamp p) = w at ht ⊢
  cases hl : chg v.l v.rl <;> cases hr : chg v.r v.rr <;> rw [hl, hr] at ht
  · exact .inl (hf.elim (KeptV.left · (.inl ht.2)) (KeptV.right · (.inl ht.2)))
  · obtain ⟨_, _, _, hw⟩ := ht
    refine hf.elim (fun h => ?_) fun h => .inl (KeptV.right h (.inr hw))
    obtain ⟨a, b, e1, e2, m, hy⟩ := superseded_of_chg hp h hl hr
    exact .inr (.inr (.inl ⟨a, b, e1, e2, .inl ⟨h, m, hy⟩⟩))
  · obtain ⟨_, _, _, hw⟩ := ht
    refine hf.elim (fun h => .inl (KeptV.left h (.inr hw))) fun h => ?_
    obtain ⟨b, a, e2, e1, m, hy⟩ := superseded_of_chg hp.symm h hr hl
    exact .inr (.inr (.inl ⟨a, b, e1, e2, .inr ⟨h, m, hy⟩⟩))
  · rcases ht with ⟨_, hw, _⟩ | ⟨c, hc, hcc, _, hw⟩
    · exact .inl (hf.elim (KeptV.left · (.inl hw)) (KeptV.right · (.inl hw)))
    · -- a conflict: the side the strategy discards is the chosen loser, unless both become conflict copies
      have loser : _ → LoserV strat stamp p v f := fun h => ⟨c, hc, hcc, h⟩
      cases w
      · exact absurd hw.symm (Action.win_ne_keep _)
      · exact hf.elim (fun h => .inl (KeptV.left h (.inr rfl))) fun h =>
          .inr (.inr (.inr (loser (.inr ⟨h, (Action.discardsRight_iff _).mpr hw.symm⟩))))
      · exact hf.elim (fun h => .inr (.inr (.inr (loser (.inl ⟨h, (Action.discardsLeft_iff _).mpr hw.symm⟩)))))
          fun h => .inl (KeptV.right h (.inr rfl))
      · exact .inr (.inl rfl)

end SyModel.Bisync
