/-
  Lemmas about `FilterRule::matches`, `FilterEngine::should_include` and the rule-list
  construction order.
-/
import SyModel.Lemmas.FilterGlob
namespace SyModel.Filter

theorem any_ancestorsSkip1 (p : RelPath) (f : RelPath → Bool) :
    (ancestorsSkip1 p).any f = true ↔ ∃ k, k < p.length ∧ f (p.take k) = true := by
  unfold ancestorsSkip1
  simp only [List.any_eq_true, List.mem_map, List.mem_reverse, List.mem_range]
  constructor
  · rintro ⟨q, ⟨k, hk, rfl⟩, hf⟩; exact ⟨k, hk, hf⟩
  · rintro ⟨k, hk, hf⟩; exact ⟨_, ⟨k, hk, rfl⟩, hf⟩

theorem matchesBase_nil (toks : List Token) : matchesBase toks [] = false := rfl

theorem pathStr_ne_nil_of_clean {p : RelPath} (hp : CleanPath p) (hne : p ≠ []) : pathStr p ≠ [] := by
  cases p with
  | nil => exact absurd rfl hne
  | cons a rest =>
    have ha : cleanName a = true := hp a List.mem_cons_self
    have ha' : a ≠ [] := by
      intro e; subst e; simp [cleanName] at ha
    cases rest with
    | nil => simpa [pathStr] using ha'
    | cons b rest =>
      simp only [pathStr]
      intro h
      cases a with
      | nil => exact ha' rfl
      | cons x xs => simp at h

theorem cleanPath_take {p : RelPath} (hp : CleanPath p) (k : Nat) : CleanPath (p.take k) :=
  fun n hn => hp n (List.mem_of_mem_take hn)

theorem take_eq_self_iff_len {α} (p : List α) (k : Nat) (hk : k ≤ p.length) :
    p.take k = p ↔ k = p.length := by
  constructor
  · intro h
    have := congrArg List.length h
    simp [List.length_take] at this; omega
  · intro h; subst h; simp

theorem Rule.new_ok {incl : Bool} {pat : List Char} {r : Rule} (h : Rule.new incl pat = .ok r) :
    r.isInclude = incl ∧ r.patternStr = pat ∧
    r.dirOnly = (pat.getLast? == some '/') ∧
    r.glob = (if (pat.getLast? == some '/') then trimEndSlash pat else pat) ∧
    r.hasSlash = r.glob.contains '/' ∧
    parse r.glob = .ok r.toks := by
  unfold Rule.new at h
  simp only at h
  split at h
  · cases h
  · rename_i toks hp
    cases h
    exact ⟨rfl, rfl, rfl, rfl, rfl, hp⟩

/-- a pattern that does not end in `/`: matched as written, against entries of either kind -/
theorem Rule.new_plain {incl : Bool} {pat : List Char} {r : Rule} (h : Rule.new incl pat = .ok r)
    (hend : (pat.getLast? == some '/') = false) :
    r.dirOnly = false ∧ r.glob = pat ∧ r.hasSlash = pat.contains '/' := by
  obtain ⟨_, _, hdo, hg, hhs, _⟩ := Rule.new_ok h
  rw [hend] at hdo hg
  rw [hhs, hg]
  exact ⟨hdo, rfl, rfl⟩

/-- a pattern that ends in `/`: directory-only, matched without the trailing `/` -/
theorem Rule.new_dir {incl : Bool} {pat : List Char} {r : Rule} (h : Rule.new incl pat = .ok r)
    (hend : pat.getLast? = some '/') : r.dirOnly = true ∧ r.glob = trimEndSlash pat := by
  obtain ⟨_, _, hdo, hg, _, _⟩ := Rule.new_ok h
  rw [hend] at hdo hg
  exact ⟨hdo, hg⟩

theorem Rule.new_wf {incl : Bool} {pat : List Char} {r : Rule} (h : Rule.new incl pat = .ok r) :
    WF r.toks := parse_wf' (Rule.new_ok h).2.2.2.2.2

theorem Rule.matches_basename (r : Rule) (p : RelPath) (d : Bool)
    (hs : r.hasSlash = false) (hd : r.dirOnly = false) :
    r.matches p d = matchesBase r.toks p := by
  simp [Rule.matches, hs, hd]

theorem Rule.matches_fullpath (r : Rule) (p : RelPath) (d : Bool)
    (hs : r.hasSlash = true) (hd : r.dirOnly = false) :
    r.matches p d = globMatch r.toks (pathStr p) := by
  simp [Rule.matches, hs, hd]

theorem Rule.matches_star_slash (r : Rule) (p : RelPath) (d : Bool)
    (hs : r.hasSlash = false) (hd : r.dirOnly = true) (hg : r.glob = ['*']) :
    r.matches p d = (d && matchesBase r.toks p) := by
  simp [Rule.matches, hs, hd, hg]

/-- "the entry itself if it is a directory, or a proper ancestor" as one quantifier over the prefixes of the path; `M`
    is the test on a directory's path, false on the empty path -/
theorem self_or_ancestor_iff (M : RelPath → Bool) (hM : M [] = false) (p : RelPath) (d : Bool) (hne : p ≠ []) :
    (d && M p || (ancestorsSkip1 p).any M) = true ↔
      ∃ k, 0 < k ∧ k ≤ p.length ∧ (k = p.length → d = true) ∧ M (p.take k) = true := by
  rw [Bool.or_eq_true, Bool.and_eq_true, any_ancestorsSkip1]
  constructor
  · rintro (⟨hdir, hm⟩ | ⟨k, hk, hm⟩)
    · exact ⟨p.length, List.length_pos_iff.mpr hne, Nat.le_refl _, fun _ => hdir, by rw [List.take_length]; exact hm⟩
    · refine ⟨k, Nat.pos_of_ne_zero fun h0 => ?_, Nat.le_of_lt hk, fun h => absurd h (Nat.ne_of_lt hk), hm⟩
      rw [h0, List.take_zero, hM] at hm
      cases hm
  · rintro ⟨k, _, hkl, hdir, hm⟩
    rcases Nat.lt_or_eq_of_le hkl with hk | hk
    · exact .inr ⟨k, hk, hm⟩
    · rw [hk, List.take_length] at hm
      exact .inl ⟨hdir hk, hm⟩

theorem Rule.matches_dironly (r : Rule) (p : RelPath) (d : Bool)
    (hd : r.dirOnly = true) (hg : r.glob ≠ ['*']) (hp : CleanPath p) (hne : p ≠ []) :
    r.matches p d = true ↔
      ∃ k, 0 < k ∧ k ≤ p.length ∧ (k = p.length → d = true) ∧ r.matchesDirPath (p.take k) = true := by
  unfold Rule.matches Rule.matchesDirPath
  rw [hd, if_pos rfl]
  cases r.hasSlash
  · -- base-name variant
    rw [if_neg Bool.false_ne_true, if_neg (fun h => hg (beq_iff_eq.mp h))]
    exact self_or_ancestor_iff _ (matchesBase_nil r.toks) p d hne
  · -- full-path variant: the code skips the empty ancestor by its empty text; no other prefix of a clean path has one
    rw [if_pos rfl]
    have hN : ∀ q, CleanPath q → q ≠ [] →
        (!(pathStr q).isEmpty && globMatch r.toks (pathStr q)) = globMatch r.toks (pathStr q) := fun q hq hq0 => by
      rw [List.isEmpty_eq_false_iff.mpr (pathStr_ne_nil_of_clean hq hq0)]
      rfl
    rw [← hN p hp hne]
    refine (self_or_ancestor_iff (fun a => !(pathStr a).isEmpty && globMatch r.toks (pathStr a)) rfl p d hne).trans ?_
    refine exists_congr fun k => and_congr_right fun hk0 => and_congr_right fun _ => and_congr_right fun _ => ?_
    rw [hN _ (cleanPath_take hp k) fun h => ?_]
    · exact Iff.rfl
    rcases List.take_eq_nil_iff.mp h with h | h
    · exact absurd h (Nat.ne_of_gt hk0)
    · exact hne h

theorem shouldIncludeLoop_eq (p : RelPath) (d : Bool) (rs : List Rule) :
    shouldIncludeLoop p d rs =
      match rs.find? (fun r => r.matches p d) with
      | some r => r.isInclude
      | none => true := by
  induction rs with
  | nil => rfl
  | cons r rest ih =>
    simp only [shouldIncludeLoop, List.find?]
    cases h : r.matches p d <;> simp [ih]

def Compiled (rs : List Rule) : Prop := ∀ r ∈ rs, Rule.new r.isInclude r.patternStr = .ok r

/-- what every stage of the construction does: `rs'` continues `rs` by rules with the keys `ks`, each compiled from its
    own key.  Stages compose (`Extends.trans`), so the order of the whole list is the order of the stages. -/
def Extends (rs rs' : List Rule) (ks : List (Bool × List Char)) : Prop :=
  rs'.map Rule.key = rs.map Rule.key ++ ks ∧ (Compiled rs → Compiled rs')

theorem Extends.refl (rs : List Rule) : Extends rs rs [] := ⟨(List.append_nil _).symm, id⟩

theorem Extends.trans {a b c : List Rule} {k1 k2 : List (Bool × List Char)} (h1 : Extends a b k1)
    (h2 : Extends b c k2) : Extends a c (k1 ++ k2) :=
  ⟨by rw [h2.1, h1.1, List.append_assoc], fun hc => h2.2 (h1.2 hc)⟩

theorem addPattern_extends {rs rs' : List Rule} {incl : Bool} {pat : List Char}
    (h : addPattern rs incl pat = .ok rs') : Extends rs rs' [(incl, pat)] := by
  unfold addPattern at h
  split at h
  · rename_i r hr
    cases h
    have hk := Rule.new_ok hr
    refine ⟨?_, fun hc x hx => ?_⟩
    · rw [List.map_append, List.map_singleton, Rule.key, hk.1, hk.2.1]
    · rcases List.mem_append.mp hx with hx | hx
      · exact hc x hx
      · cases List.mem_singleton.mp hx
        rw [hk.1, hk.2.1]
        exact hr
  · cases h

theorem addRule_extends {rs rs' : List Rule} {line : List Char} (h : addRule rs line = .ok rs') :
    Extends rs rs' (specKey line) := by
  unfold addRule at h
  unfold specKey
  split at h
  · cases h
  · rename_i hs
    cases h
    rw [hs]
    exact Extends.refl rs
  · rename_i incl pat hs
    rw [hs]
    exact addPattern_extends h

theorem addPatternLine_extends {incl : Bool} {rs rs' : List Rule} {line : List Char}
    (h : addPatternLine incl rs line = .ok rs') : Extends rs rs' (patLineKey incl line) := by
  unfold addPatternLine at h
  unfold patLineKey
  simp only at h ⊢
  split at h
  · rename_i hc
    cases h
    rw [if_pos hc]
    exact Extends.refl rs
  · rename_i hc
    rw [if_neg hc]
    exact addPattern_extends h

theorem addAll_extends (f : List Rule → List Char → Except RuleErr (List Rule))
    (g : List Char → List (Bool × List Char)) (hf : ∀ rs rs' x, f rs x = .ok rs' → Extends rs rs' (g x))
    (xs : List (List Char)) (rs rs' : List Rule) (h : addAll f rs xs = .ok rs') : Extends rs rs' (xs.flatMap g) := by
  induction xs generalizing rs with
  | nil =>
    cases h
    exact Extends.refl _
  | cons x xs ih =>
    rw [addAll] at h
    split at h
    · cases h
    · rename_i r1 h1
      exact List.flatMap_cons ▸ (hf _ _ _ h1).trans (ih _ h)

theorem addAllOpt_extends (f : List Rule → List Char → Except RuleErr (List Rule))
    (g : List Char → List (Bool × List Char)) (hf : ∀ rs rs' x, f rs x = .ok rs' → Extends rs rs' (g x))
    (o : Option (List (List Char))) (rs rs' : List Rule) (h : addAllOpt f rs o = .ok rs') :
    Extends rs rs' ((o.getD []).flatMap g) := by
  cases o with
  | none =>
    cases h
    exact Extends.refl rs
  | some ls => exact addAll_extends f g hf ls rs rs' h

theorem addRule_ok_iff (rs : List Rule) (line : List Char) :
    (∃ rs', addRule rs line = .ok rs') ↔ lineOk line = true := by
  unfold lineOk addRule
  cases hs : ruleSpec line with
  | error e => simp
  | ok o =>
    cases o with
    | none => simp
    | some k =>
      obtain ⟨incl, pat⟩ := k
      simp only [addPattern]
      cases hr : Rule.new incl pat <;> simp

theorem addAllLenient_extends (xs : List (List Char)) (rs : List Rule) :
    Extends rs (addAllLenient addRule rs xs) ((xs.takeWhile lineOk).flatMap specKey) := by
  induction xs generalizing rs with
  | nil => exact Extends.refl rs
  | cons x xs ih =>
    rw [addAllLenient]
    cases h : addRule rs x with
    | error e =>
      have hl : lineOk x = false := by
        cases hl : lineOk x
        · rfl
        · obtain ⟨rs', h'⟩ := (addRule_ok_iff rs x).mpr hl
          rw [h] at h'
          cases h'
      rw [List.takeWhile_cons, hl]
      exact Extends.refl rs
    | ok rs' =>
      rw [List.takeWhile_cons, (addRule_ok_iff rs x).mp ⟨rs', h⟩, if_pos rfl, List.flatMap_cons]
      exact (addRule_extends h).trans (ih rs')

theorem foldl_lenient_extends (ts : List (List (List Char))) (rs : List Rule) :
    Extends rs (ts.foldl (fun rs ls => addAllLenient addRule rs ls) rs)
      (ts.flatMap fun ls => (ls.takeWhile lineOk).flatMap specKey) := by
  induction ts generalizing rs with
  | nil => exact Extends.refl rs
  | cons t ts ih =>
    rw [List.foldl_cons, List.flatMap_cons]
    exact (addAllLenient_extends t rs).trans (ih _)

end SyModel.Filter
