/-
  Lemmas.GenLocalCopyStrip — the xattr strip loop of the translated unit `LocalCopy`
  (`if let Ok(list) = xattr::list(p) { for name in list { let _ = xattr::remove(p, &name); } }`, local.rs) as a function on
  worlds: `strip_forIn` (the loop IS `stripGo`, unconditionally), `stripGo_spec` (without a pending fault, on a regular
  file: every listed attribute is gone, one `removexattr` is logged per attribute actually present, nothing else changes).
-/
import SyModel.Lemmas.GenLocalCopy
set_option autoImplicit false
namespace SyModel.LocalCopy
open SyModel.Generated.Rs (run_bind run_capture)
open SyModel SyModel.Generated SyModel.Generated.LocalCopy
open SyModel.Data

/-- the world after `let _ = xattr::remove(p, a)` for every `a` of the list, in order (errors are dropped) -/
def stripGo (p : Rs.Path) : List Rs.Str → LWorld → LWorld
  | [], W => W
  | a :: t, W => stripGo p t (prim (xattrRemoveAct p a) W).2

theorem strip_forIn (cfg : Cfg) (p : Rs.Path) (l : List Rs.Str) :
    (forIn l PUnit.unit (fun attr_name __s => do
        let _ := (← Rs.capture ((posix cfg).xattr_remove p attr_name))
        pure (ForInStep.yield PUnit.unit)) : Rs.M LWorld PUnit) = fun W => (.ok PUnit.unit, stripGo p l W) := by
  induction l with
  | nil => funext W; rfl
  | cons a t ih =>
    funext W
    rw [List.forIn_cons, run_bind, run_bind, run_capture]
    simp only [run_pure]
    rw [ih]
    rfl

/-- the attribute names for which a `removexattr` is actually performed: those present at that moment -/
def stripNames : List Rs.Str → List Rs.Str → List Rs.Str
  | _, [] => []
  | xs, a :: t => if a ∈ xs then a :: stripNames (xs.filter (· ≠ a)) t else stripNames xs t

theorem filter_strip_cons_mem (xs : List Rs.Str) (a : Rs.Str) (t : List Rs.Str) :
    (xs.filter (· ≠ a)).filter (fun x => decide (x ∉ t)) = xs.filter (fun x => decide (x ∉ a :: t)) := by
  rw [List.filter_filter]
  apply List.filter_congr
  intro x _
  by_cases hx : x = a <;> simp [hx]

theorem filter_strip_cons_not_mem (xs : List Rs.Str) (a : Rs.Str) (t : List Rs.Str) (ha : a ∉ xs) :
    xs.filter (fun x => decide (x ∉ t)) = xs.filter (fun x => decide (x ∉ a :: t)) := by
  apply List.filter_congr
  intro x hx
  have : x ≠ a := fun e => ha (e ▸ hx)
  simp [this]

theorem stripGo_spec (p : Rs.Path) (i : Nat) (l : List Rs.Str) (W : LWorld) (n : Inode) (hnf : W.fault = none)
    (hn : W.names p = some (.file i)) (hi : W.inodes i = some n) :
    stripGo p l W = { W with inodes := upd W.inodes i (some { n with xattrs := n.xattrs.filter (fun x => decide (x ∉ l)) }),
                             log := W.log ++ (stripNames n.xattrs l).map (Op.xattrRemove i) } := by
  induction l generalizing W n with
  | nil =>
    rcases W with ⟨nm, ino, ni, hs, nh, g, lg, now, F⟩
    simp only at hi
    have hu : upd ino i (some { n with xattrs := n.xattrs.filter (fun x => decide (x ∉ ([] : List Rs.Str))) }) = ino := by
      funext x; simp only [upd]; split
      · rename_i h; rw [h, hi]; cases n; simp
      · rfl
    simp only [stripGo, stripNames, List.map_nil, List.append_nil, hu]
  | cons a t ih =>
    rw [stripGo, prim_nf _ _ hnf]
    simp only [xattrRemoveAct, hn, hi]
    by_cases ha : a ∈ n.xattrs
    · simp only [ha, if_true]
      rw [ih _ { n with xattrs := n.xattrs.filter (· ≠ a) } (by simp [hnf]) (by simpa using hn) (by simp)]
      simp only [upd_eq, logOp_inodes, logOp_log, upd_upd, stripNames, ha, if_true, List.map_cons, List.append_assoc, List.singleton_append,
        filter_strip_cons_mem]
      rfl
    · simp only [ha, if_false]
      rw [ih W n hnf hn hi]
      simp only [stripNames, ha, if_false, filter_strip_cons_not_mem _ a t ha]

/-- listing what is there and removing it leaves no attribute -/
theorem filter_not_mem_self (xs : List Rs.Str) : xs.filter (fun x => decide (x ∉ xs)) = [] := by
  apply List.filter_eq_nil_iff.mpr
  intro x hx; simp [hx]

/-- every removal of the strip loop is a removal of an attribute that was there -/
theorem stripNames_subset (xs l : List Rs.Str) : ∀ a ∈ stripNames xs l, a ∈ xs := by
  induction l generalizing xs with
  | nil => intro a h; simp [stripNames] at h
  | cons b t ih =>
    intro a h
    simp only [stripNames] at h
    split at h
    · rename_i hb
      rcases List.mem_cons.mp h with h | h
      · rw [h]; exact hb
      · exact (List.mem_filter.mp (ih _ a h)).1
    · exact ih _ a h

end SyModel.LocalCopy
