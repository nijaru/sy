/-
  Scripted runs of the GENERATED `transfer_link_member` (`Generated/Code/LinkMember.lean`), evaluated by the kernel: a
  tracing instance records every call and answers from a script; the eleven `trace_*` theorems are the call sequences of
  the paths through the function.  `gen_run` (the range of the translated `for` read as a list, then evaluation) also
  serves the scenarios of Lemmas/GenLinkMemberScen.lean.  (Namespace `SyModel.Lemmas.GenLinkMember`, shared with
  Lemmas/GenLinkMember.lean.)
-/
import SyModel.Generated.Code.LinkMember
import SyModel.Lemmas.GenTransfer
namespace SyModel.Lemmas.GenLinkMember
open SyModel SyModel.Generated SyModel.Generated.LinkMember
open SyModel.Lemmas.GenTransfer (runM op)

/-- the calls of the hand-off, as recorded by the tracing instance -/
inductive Call where
  | get | new | contains | insertInProgress (n : Nat) | insertCompleted (p : Rs.Path) | remove
  | sameInode | tRemove | link (first : Rs.Path) | sync | copy | xattrs | acls | flags
  | notified (n : Nat) | await (t : Nat) | notifyWaiters (n : Nat)
  deriving DecidableEq, Repr

/-- the script of a traced run: the answers of the successive `map_get`s, of `contains_key`, of `same_inode`, and which
    operations fail; `log` is the trace (oldest call first) -/
structure TWorld where
  log : List Call := []
  gets : List (Option InodeState) := []
  taken : Bool := false
  same : Bool := false
  failCopy : Bool := false
  failLink : Bool := false
  failRemove : Bool := false
  deriving DecidableEq, Repr

def TWorld.say (t : TWorld) (c : Call) : TWorld := { t with log := t.log ++ [c] }

/-- every operation records itself and answers from the script; `Notify::new` answers 7,
    `notified(n)` answers the future `n + 100` -/
def traceExt (fuel : Nat) : Ext TWorld where
  fuel := fuel
  Notify_new _ := op fun t => (.ok 7, t.say .new)
  map_get _ := op fun t => (.ok (t.gets.head?.getD none), { t.say .get with gets := t.gets.tail })
  map_contains _ := op fun t => (.ok t.taken, t.say .contains)
  map_insert _ st := op fun t => (.ok (), t.say (match st with | .InProgress n => .insertInProgress n | .Completed p => .insertCompleted p))
  map_remove _ := op fun t => (.ok (), t.say .remove)
  same_inode _ _ _ := op fun t => (.ok t.same, t.say .sameInode)
  t_remove _ _ _ := op fun t => (if t.failRemove then .error .io else .ok (), t.say .tRemove)
  t_create_hardlink _ first _ := op fun t => (if t.failLink then .error .io else .ok (), t.say (.link first))
  t_sync_file_with_delta _ _ _ := op fun t => (if t.failCopy then .error .io else .ok default, t.say .sync)
  transferrer_copy_file _ _ _ := op fun t => (if t.failCopy then .error .io else .ok default, t.say .copy)
  write_xattrs _ _ _ := op fun t => (.ok (), t.say .xattrs)
  write_acls _ _ _ := op fun t => (.ok (), t.say .acls)
  write_bsd_flags _ _ _ := op fun t => (.ok (), t.say .flags)
  notified n := op fun t => (.ok (n + 100), t.say (.notified n))
  await_notified n := op fun t => (.ok (), t.say (.await n))
  notify_waiters n := op fun t => (.ok (), t.say (.notifyWaiters n))

/-- the trace and the answer of a scripted run (creation or update of the entry `default` at the path `['d']`, inode 3) -/
def traced (fuel : Nat) (upd : Bool) (t : TWorld) : List Call × Bool :=
  let r := runM (Transferrer.transfer_link_member (traceExt fuel) default default ['d'] 3 upd) t
  (r.2.log, r.1.toBool)


/-- The library's loop over a range is defined by well-founded recursion, which evaluation does not unfold; as an
    INSTANCE it is the loop over the list of the range's elements.  (A closed term, so `rw` finds it under the binders
    of the scripted runs; `forIn_range_eq_loopN`, whose loop stands free, rests on the same library equation
    `Std.Legacy.Range.forIn_eq_forIn_range'`.) -/
theorem rangeForIn_eq_list {m : Type → Type} [Monad m] :
    (instForInOfForIn' : ForIn m Std.Legacy.Range Nat) =
      ⟨fun r init f => forIn (List.range' r.start r.size r.step) init f⟩ := by
  unfold instForInOfForIn'
  congr
  funext β r init f
  exact Std.Legacy.Range.forIn_eq_forIn_range' r init f

/-- evaluate a run of the GENERATED function: unfold the listed definitions down to it, turn the `for` over the fuel
    range into a list iteration, then the kernel computes -/
macro "gen_run" ds:(ppSpace colGt ident)* : tactic => `(tactic|
  (unfold $ds* Transferrer.transfer_link_member
   rw [rangeForIn_eq_list]
   decide))

/-- the owner's copy fails (creation): the claim is removed, the waiters of the Notify that was inserted are woken, `Err` -/
theorem trace_owner_failure :
    traced 3 false { failCopy := true } =
      ([.get, .new, .contains, .insertInProgress 7, .copy, .remove, .notifyWaiters 7], false) := by gen_run traced
/-- … update: `sync_file_with_delta` instead of `copy_file` -/
theorem trace_owner_failure_update :
    traced 3 true { failCopy := true } =
      ([.get, .new, .contains, .insertInProgress 7, .sync, .remove, .notifyWaiters 7], false) := by gen_run traced
/-- the owner's copy succeeds: the three attribute writers, THEN `Completed(dest)`, then the wake-up -/
theorem trace_owner_success :
    traced 3 false {} =
      ([.get, .new, .contains, .insertInProgress 7, .copy, .xattrs, .acls, .flags, .insertCompleted ['d'],
        .notifyWaiters 7], true) := by gen_run traced
/-- a waiter whose re-check still sees the same `InProgress`: registered BEFORE the re-check, awaits the registered
    future, then starts over and links -/
theorem trace_waiter_waits :
    traced 3 false { gets := [some (.InProgress 5), some (.InProgress 5), some (.Completed ['f'])] } =
      ([.get, .notified 5, .get, .await 105, .get, .link ['f']], true) := by gen_run traced
/-- a waiter whose re-check sees the completion: NO await -/
theorem trace_waiter_sees_completion :
    traced 3 false { gets := [some (.InProgress 5), some (.Completed ['f']), some (.Completed ['f'])] } =
      ([.get, .notified 5, .get, .get, .link ['f']], true) := by gen_run traced
/-- a waiter whose re-check sees ANOTHER worker's claim (the first owner failed, a third member took over): no await on
    the stale future -/
theorem trace_waiter_sees_other_claim :
    traced 3 false { gets := [some (.InProgress 5), some (.InProgress 6), some (.Completed ['f'])] } =
      ([.get, .notified 5, .get, .get, .link ['f']], true) := by gen_run traced
/-- the double-check: the key was taken between the read and the claim ⇒ nothing inserted, nothing copied -/
theorem trace_lost_claim :
    traced 3 false { gets := [none, some (.Completed ['f'])], taken := true } =
      ([.get, .new, .contains, .get, .link ['f']], true) := by gen_run traced
/-- update of a later member whose path already names the group's inode: the test, nothing else -/
theorem trace_update_same_inode :
    traced 3 true { gets := [some (.Completed ['f'])], same := true } = ([.get, .sameInode], true) := by gen_run traced
/-- … another inode: the test, the removal, the link -/
theorem trace_update_other_inode :
    traced 3 true { gets := [some (.Completed ['f'])] } = ([.get, .sameInode, .tRemove, .link ['f']], true) := by gen_run traced
/-- … the removal fails: no link is attempted, `Err` -/
theorem trace_update_remove_fails :
    traced 3 true { gets := [some (.Completed ['f'])], failRemove := true } = ([.get, .sameInode, .tRemove], false) := by
  gen_run traced
/-- the fuel runs out while waiting: `Err` after exactly `fuel` rounds -/
theorem trace_out_of_fuel :
    traced 2 false { gets := [some (.InProgress 5), some (.InProgress 5), some (.InProgress 5), some (.InProgress 5)] } =
      ([.get, .notified 5, .get, .await 105, .get, .notified 5, .get, .await 105], false) := by gen_run traced

end SyModel.Lemmas.GenLinkMember
