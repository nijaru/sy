/-
  Lemmas.GenPlannerFx — the world the translated planner (`Generated/Code/PlannerFx.lean`: the effect unit
  made of `StrategyPlanner::{plan_file_async, compute_checksums_local, needs_update, mtime_matches,
  plan_deletions}`, src/sync/strategy.rs, and `SyncEngine::plan_symlink`, src/sync/mod.rs) is run in, the abstraction maps to the handwritten engine model
  (`Engine/Model.lean`, `Engine/Caches.lean`), and the helper lemmas of `Props/GenPlannerFx.lean`.

  ## The world `PlanWorld`

  The translated code lives in `Rs.M W = ExceptT Rs.Err (StateM W)` and talks to the outside through
  `Ext W`.  Every operation the planner performs is a READ-ONLY probe, so the instance `extOf` below is made of
  `probe f = fun w => (f w, w)` only.  The world is:

    * `root`    — the text of the destination root (`dest_root`);
    * `dst`     — the destination tree AS THE MODEL HAS IT: `Engine.Map DNode`, keyed by relative component paths;
    * `through` — for a destination path that holds a symlink node: what following the link yields
                  (`LinkTarget`: dangling / a directory / a regular file with its meta).  The real probes
                  (`LocalTransport::{exists, metadata, file_info}`, `Path::exists`, `std::fs::metadata`,
                  src/transport/local.rs:218-229, src/transport/mod.rs:107-120) all FOLLOW links
                  (`tokio::fs::try_exists` / `tokio::fs::metadata` = `stat`), so a symlink node answers as its
                  target does; `read_link` (src/transport/local.rs:995-1010) does NOT follow: it answers the text of
                  a symlink node (`linkAt`), `None` for every other node or nothing.  ASSUMED: the real function
                  answers `Err` for every error kind but EINVAL / ENOENT; this world has no such failure, so on it
                  `read_link` never fails (what an `Err` does to the round is proved for ANY instance:
                  `GenEnginePlan.override1_probe_error_forces_update`, `dir_probe_error_keeps_plan`);
    * `dirInfo` — the size and mtime the inode of a directory reports (arbitrary: `file_info` succeeds on a directory);
    * `outside` — what a path text that is NOT below `root` resolves to (this is where the source files live;
                  the planner only asks `Path::exists` and `compute_file_checksum` about them);
    * `srcRoot` — the text of the source root: the checksum database is keyed by the path text of source files
                  (`db.store_checksum(&file.path, …)`, src/sync/mod.rs:1472), the model's `Db` by relative
                  component paths (`seenContent db e.rel m`), so the row of text `p` is the row of
                  `p.strip_prefix(srcRoot)`;
    * `db`      — the checksum database as the model's `Db` (all rows are of type "fast": the database is only
                  opened with `--checksum`, and `with_comparison_flags` builds a `Fast` verifier).

  Path texts and component paths: `compsOf` splits a text at `/` (`Rs.split`, the Prelude's `str::split`), `textOf`
  joins components with `/`.  `compsOf` is injective on ALL texts (`compsOf_injective`), and
  `compsOf (textOf k) = k` for clean keys (`CleanPath`: non-empty, no empty component, no `/` inside a component —
  what `strip_prefix` of a walked path yields), `compsOf_textOf`.
-/
import SyModel.Generated.Code.PlannerFx
import SyModel.Generated.Consts
import SyModel.Engine.Caches
import SyModel.Lemmas.EngineCompare
import SyModel.Lemmas.RsLogic
import SyModel.Lemmas.PathText
import SyModel.Lemmas.RsMap
namespace SyModel.Lemmas.GenPlannerFx
open SyModel SyModel.Engine SyModel.Generated SyModel.Generated.PlannerFx

/-- a path text as the model's component path: the pieces between `/` -/
def compsOf (t : Rs.Path) : Engine.Path := (Rs.split t '/').map String.ofList

/-- a component path as text: components joined with `/` -/
def textOf : Engine.Path → Rs.Path
  | [] => []
  | [c] => c.toList
  | c :: d :: rest => c.toList ++ '/' :: textOf (d :: rest)

/-- keys a directory walk can produce: at least one component, none empty, none containing `/` -/
def CleanPath (k : Engine.Path) : Prop := k ≠ [] ∧ ∀ c ∈ k, c.toList ≠ [] ∧ '/' ∉ c.toList

instance (k : Engine.Path) : Decidable (CleanPath k) := by unfold CleanPath; infer_instance

open PathText (strip_prefix_join)

theorem textOf_eq : ∀ k, textOf k = PathText.textOf k
  | [] => rfl
  | [_] => rfl
  | c :: d :: rest => congrArg (c.toList ++ '/' :: ·) (textOf_eq (d :: rest))

theorem compsOf_injective {a b : Rs.Path} (h : compsOf a = compsOf b) : a = b := PathText.compsOf_injective h

theorem compsOf_ne_nil (t : Rs.Str) : compsOf t ≠ [] := PathText.compsOf_ne_nil t

theorem compsOf_of_no_sep (n : Rs.Str) (h : '/' ∉ n) : compsOf n = [String.ofList n] := PathText.compsOf_of_no_sep n h

theorem compsOf_textOf (k : Engine.Path) (h : CleanPath k) : compsOf (textOf k) = k := by
  rw [textOf_eq]
  exact PathText.compsOf_textOf k h

theorem textOf_compsOf (t : Rs.Path) : textOf (compsOf t) = t := by
  rw [textOf_eq]
  exact PathText.textOf_compsOf t

/-- what the planner can see of the file systems and of the checksum database (see the head of this file) -/
structure PlanWorld where
  root    : Rs.Path
  dst     : Map DNode
  through : Engine.Path → LinkTarget
  dirInfo : Rs.Path → Nat × Nat
  outside : Rs.Path → LinkTarget
  srcRoot : Rs.Path
  db      : Db

/-- the relative component path of a path text below the destination root (`strip_prefix(dest_root)`) -/
def PlanWorld.relOf (w : PlanWorld) (p : Rs.Path) : Option Engine.Path :=
  match Rs.strip_prefix p w.root with
  | .ok r => some (compsOf r)
  | .error _ => none

/-- what a destination key resolves to when links are followed: the node itself, or for a symlink node its target -/
def PlanWorld.resolve (w : PlanWorld) (k : Engine.Path) : LinkTarget :=
  match w.dst.get? k with
  | none => .dangling
  | some .dir => .dir
  | some (.file d) => .file d
  | some (.symlink _) => w.through k

/-- `stat(2)` of a path text: nothing (`dangling`), a directory, or a regular file -/
def PlanWorld.stat (w : PlanWorld) (p : Rs.Path) : LinkTarget :=
  match w.relOf p with
  | some k => w.resolve k
  | none => w.outside p

/-- `try_exists` / `Path::exists` -/
def PlanWorld.existsAt (w : PlanWorld) (p : Rs.Path) : Bool :=
  match w.stat p with | .dangling => false | _ => true

/-- `fs::metadata` (kind, mtime, size of what the path resolves to); fails on a missing path -/
def PlanWorld.metaAt (w : PlanWorld) (p : Rs.Path) : Except Rs.Err Rs.Metadata :=
  match w.stat p with
  | .dangling => .error .io
  | .dir => .ok ⟨true, (w.dirInfo p).2, (w.dirInfo p).1⟩
  | .file d => .ok ⟨false, d.mtime, d.size⟩

/-- `Transport::file_info`: the default implementation over `metadata` (src/transport/mod.rs:107-120) -/
def PlanWorld.infoAt (w : PlanWorld) (p : Rs.Path) : Except Rs.Err FileInfo :=
  match w.metaAt p with
  | .ok m => .ok ⟨m.size, m.mtime⟩
  | .error e => .error e

/-- `IntegrityVerifier::compute_file_checksum` (src/integrity/mod.rs:100-112): the content id of a readable regular
    file; `ChecksumType::None` answers the constant `Checksum::None` without opening anything -/
def PlanWorld.cksumAt (w : PlanWorld) (v : IntegrityVerifier) (p : Rs.Path) : Except Rs.Err Nat :=
  match v.ctype with
  | .None => .ok 0
  | _ => match w.stat p with | .file d => .ok d.content | _ => .error .io

/-- the row key of a path text: its path relative to the source root -/
def PlanWorld.keyOf (w : PlanWorld) (p : Rs.Path) : Option Engine.Path :=
  match Rs.strip_prefix p w.srcRoot with
  | .ok r => some (compsOf r)
  | .error _ => none

/-- `ChecksumDatabase::get_checksum(path, mtime, size, type)` (src/sync/checksumdb.rs:73): a row for the path with equal
    mtime and size; rows are of type "fast", any other requested type is a miss -/
def PlanWorld.dbSeen (w : PlanWorld) (p : Rs.Path) (mtime size : Nat) (ty : Rs.Str) : Option Nat :=
  if ty = ['f', 'a', 's', 't'] then
    match w.keyOf p with
    | some k => w.db.lookup k mtime size
    | none => none
  else none

/-- the `FileEntry` the walk of the destination yields for one node (`StreamingScanner::next`,
    src/sync/scanner.rs:254-340: `path` = the walked path, `relative_path` = `path.strip_prefix(root)`; lstat kind) -/
def PlanWorld.entryOf (w : PlanWorld) (k : Engine.Path) (n : DNode) : FileEntry :=
  { path := Rs.join w.root (textOf k), relative_path := textOf k,
    size := (match n with | .file d => d.size | _ => 0),
    modified := (match n with | .file d => d.mtime | _ => 0),
    is_dir := (match n with | .dir => true | _ => false),
    is_symlink := (match n with | .symlink _ => true | _ => false),
    symlink_target := (match n with | .symlink t => some t.toList | _ => none),
    is_sparse := false, allocated_size := 0, xattrs := none,
    inode := (match n with | .file d => some d.ino | _ => none), nlink := 1, acls := none, bsd_flags := none }

/-- `Scanner::new(root).scan_streaming()` flattened: one entry per destination node, in the order of the map (the real
    walk order is unspecified); the root itself is skipped by the iterator, another root has nothing the planner
    knows of -/
def PlanWorld.scanOf (w : PlanWorld) (r : Rs.Path) : List FileEntry :=
  if r = w.root then w.dst.map (fun kv => w.entryOf kv.1 kv.2) else []

/-- `LocalTransport::read_link` (src/transport/local.rs:995-1010) where it answers `Ok`: the link text when the path
    ITSELF is a symlink (it does not follow), `None` for anything else or nothing (EINVAL / ENOENT).  The `Err` the real
    function answers for any other error kind does not occur on this world (an assumption, see the head of this file).
    Only destination paths are asked; a path outside the destination answers `None` -/
def PlanWorld.linkAt (w : PlanWorld) (p : Rs.Path) : Option Rs.Path :=
  match w.relOf p with
  | some k => (match w.dst.get? k with | some (.symlink t) => some t.toList | _ => none)
  | none => none

/-- a read-only operation: answers from the world, leaves it as it is -/
def probe {W α : Type} (f : W → Except Rs.Err α) : Rs.M W α := ExceptT.mk (fun w => (f w, w))

/-- THE INSTANCE: every extern of the planner as a read-only probe of `PlanWorld` -/
def extOf : Ext PlanWorld where
  std_fs_metadata p := probe fun w => w.metaAt p
  Scanner_new p := p
  t_exists _ p := probe fun w => .ok (w.existsAt p)
  t_metadata _ p := probe fun w => w.metaAt p
  t_file_info _ p := probe fun w => w.infoAt p
  path_exists p := probe fun w => .ok (w.existsAt p)
  db_get_checksum _ p mtime size ty := probe fun w => .ok (w.dbSeen p mtime size ty)
  compute_file_checksum v p := probe fun w => w.cksumAt v p
  scan_streaming r := probe fun w => .ok (w.scanOf r)
  t_read_link _ p := probe fun w => .ok (w.linkAt p)

@[simp] theorem extOf_std_fs_metadata (p : Rs.Path) : extOf.std_fs_metadata p = probe fun w => w.metaAt p := rfl
@[simp] theorem extOf_Scanner_new (p : Rs.Path) : extOf.Scanner_new p = p := rfl
@[simp] theorem extOf_t_exists (t : Rs.Opaque) (p : Rs.Path) : extOf.t_exists t p = probe fun w => .ok (w.existsAt p) := rfl
@[simp] theorem extOf_t_metadata (t : Rs.Opaque) (p : Rs.Path) : extOf.t_metadata t p = probe fun w => w.metaAt p := rfl
@[simp] theorem extOf_t_file_info (t : Rs.Opaque) (p : Rs.Path) : extOf.t_file_info t p = probe fun w => w.infoAt p := rfl
@[simp] theorem extOf_path_exists (p : Rs.Path) : extOf.path_exists p = probe fun w => .ok (w.existsAt p) := rfl
@[simp] theorem extOf_db_get_checksum (o : Rs.Opaque) (p : Rs.Path) (mt sz : Nat) (ty : Rs.Str) :
    extOf.db_get_checksum o p mt sz ty = probe fun w => .ok (w.dbSeen p mt sz ty) := rfl
@[simp] theorem extOf_compute_file_checksum (v : IntegrityVerifier) (p : Rs.Path) :
    extOf.compute_file_checksum v p = probe fun w => w.cksumAt v p := rfl
@[simp] theorem extOf_scan_streaming (r : Rs.Path) : extOf.scan_streaming r = probe fun w => .ok (w.scanOf r) := rfl

@[simp] theorem extOf_t_read_link (t : Rs.Opaque) (p : Rs.Path) : extOf.t_read_link t p = probe fun w => .ok (w.linkAt p) := rfl

/-- run a translated computation from a world: its result and the world after it -/
def runM {W α : Type} (x : Rs.M W α) (w : W) : Except Rs.Err α × W := x.run.run w

@[simp] theorem runM_pure {W α : Type} (a : α) (w : W) : runM (pure a : Rs.M W α) w = (.ok a, w) := rfl

@[simp] theorem runM_probe {W α : Type} (f : W → Except Rs.Err α) (w : W) : runM (probe f) w = (f w, w) := rfl

@[simp] theorem runM_bind {W α β : Type} (x : Rs.M W α) (k : α → Rs.M W β) (w : W) :
    runM (x >>= k) w = match runM x w with
      | (.ok a, w') => runM (k a) w'
      | (.error e, w') => (.error e, w') :=
  Rs.run_bind x k w

/-- `f <$> x` (what `do pure (g (← x))` elaborates to): the effect of `x`, then `f` on its value -/
theorem runM_map {W α β : Type} (f : α → β) (x : Rs.M W α) (w : W) :
    runM (f <$> x) w = match runM x w with
      | (.ok a, w') => (.ok (f a), w')
      | (.error e, w') => (.error e, w') :=
  Rs.run_map f x w

@[simp] theorem runM_capture {W α : Type} (x : Rs.M W α) (w : W) :
    runM (Rs.capture x) w = (.ok (runM x w).1, (runM x w).2) :=
  Rs.run_capture x w

theorem runM_capture_probe_bind {W α β : Type} (f : W → Except Rs.Err α) (g : Except Rs.Err α → Rs.M W β) (w : W) :
    runM (Rs.capture (probe f) >>= g) w = runM (g (f w)) w := rfl

@[simp] theorem runM_ite {W α : Type} (c : Prop) [Decidable c] (x y : Rs.M W α) (w : W) :
    runM (if c then x else y) w = if c then runM x w else runM y w := by
  split <;> rfl

/-- the `checksum_type` text `compute_checksums_local` passes to the database -/
def tyText (v : IntegrityVerifier) : Rs.Str :=
  match v.ctype with
  | .None => ['n', 'o', 'n', 'e']
  | .Fast => ['f', 'a', 's', 't']
  | .Cryptographic => ['c', 'r', 'y', 'p', 't', 'o', 'g', 'r', 'a', 'p', 'h', 'i', 'c']

/-- database first (when one is open), then the file itself; `none` when neither answers.  `useDb` is `db.isSome`:
    all the planner reads of the database handle -/
def seenCk (w : PlanWorld) (v : IntegrityVerifier) (useDb : Bool) (p : Rs.Path) (mtime size : Nat) : Option Nat :=
  match (if useDb then w.dbSeen p mtime size (tyText v) else none) with
  | some c => some c
  | none => Rs.ok (w.cksumAt v p)

/-- the source checksum the planner ends up with -/
def srcSeen (w : PlanWorld) (v : IntegrityVerifier) (useDb : Bool) (src : FileEntry) : Option Nat :=
  if w.existsAt src.path then seenCk w v useDb src.path src.modified src.size else none

/-- the destination checksum the planner ends up with (database row keyed by the CURRENT mtime and size) -/
def dstSeen (w : PlanWorld) (v : IntegrityVerifier) (useDb : Bool) (dp : Rs.Path) : Option Nat :=
  if w.existsAt dp then
    match w.metaAt dp with
    | .ok m => seenCk w v useDb dp m.mtime m.size
    | .error _ => Rs.ok (w.cksumAt v dp)
  else none

theorem compute_checksums_local_run (p : StrategyPlanner) (src : FileEntry) (dp : Rs.Path) (v : IntegrityVerifier)
    (w : PlanWorld) (db : Option Rs.Opaque) :
    runM (p.compute_checksums_local extOf src dp v db) w =
      (.ok (srcSeen w v db.isSome src, dstSeen w v db.isSome dp), w) := by
  unfold StrategyPlanner.compute_checksums_local
  extract_lets ct jp
  have hty : ct = tyText v := rfl
  clear_value ct
  subst hty
  have hjp : ∀ sc, runM (jp sc) w = (.ok (sc, dstSeen w v db.isSome dp), w) := by
    intro sc
    simp only [jp, dstSeen, seenCk, extOf_path_exists, extOf_std_fs_metadata, extOf_db_get_checksum,
      extOf_compute_file_checksum, runM_bind, runM_probe, runM_capture, runM_ite]
    cases w.existsAt dp
    · rfl
    · cases w.metaAt dp <;> cases db <;>
        simp only [runM_capture_probe_bind, Rs.ok, Rs.modified, Rs.len, Rs.Len.len, Option.isSome, if_true]
      case ok.some m o =>
        cases w.dbSeen dp m.mtime m.size (tyText v)
        · simp only [runM_capture_probe_bind]
          cases w.cksumAt v dp <;> rfl
        · rfl
      all_goals cases w.cksumAt v dp <;> rfl
  clear_value jp
  simp only [srcSeen, seenCk, extOf_path_exists, extOf_db_get_checksum, extOf_compute_file_checksum, runM_bind,
    runM_probe, runM_ite, runM_pure, hjp]
  cases w.existsAt src.path
  · rfl
  · cases db <;> simp only [runM_capture_probe_bind, Rs.ok, Option.isSome, if_true]
    case some o =>
      cases w.dbSeen src.path src.modified src.size (tyText v)
      · simp only [runM_capture_probe_bind]
        cases w.cksumAt v src.path <;> exact hjp _
      · exact hjp _
    cases w.cksumAt v src.path <;> exact hjp _

/-- the two checksums of a file entry against a destination path (none without a verifier) -/
def cksumsAt (w : PlanWorld) (p : StrategyPlanner) (src : FileEntry) (useDb : Bool) : Option Nat × Option Nat :=
  match p.verifier with
  | some v => (srcSeen w v useDb src, dstSeen w v useDb (Rs.join w.root src.relative_path))
  | none => (none, none)

/-- both checksums known: equal ⇒ Skip, different ⇒ Update; otherwise what `needs_update` says -/
def decideAct (cks : Option Nat × Option Nat) (nu : Bool) : SyncAction :=
  match cks with
  | (some a, some b) => if a == b then .Skip else .Update
  | _ => if nu then .Update else .Skip

/-- action, source checksum, destination checksum of the task planned for `src`, by what `dest_root/relative_path`
    resolves to -/
def planAt (w : PlanWorld) (p : StrategyPlanner) (src : FileEntry) (useDb : Bool) :
    SyncAction × Option Nat × Option Nat :=
  match src.is_dir, w.stat (Rs.join w.root src.relative_path) with
  | true, .dir => (.Skip, none, none)
  | true, _ => (.Create, none, none)
  | false, .dangling => (.Create, none, none)
  | false, .dir => (.Update, none, none)
  | false, .file d =>
    (decideAct (cksumsAt w p src useDb) (p.needs_update src ⟨d.size, d.mtime⟩),
      (cksumsAt w p src useDb).1, (cksumsAt w p src useDb).2)

theorem plan_file_async_run (p : StrategyPlanner) (src : FileEntry) (w : PlanWorld) (t : Rs.Opaque)
    (db : Option Rs.Opaque) :
    runM (p.plan_file_async extOf src w.root t db) w =
      (.ok { source := some src, dest_path := Rs.join w.root src.relative_path,
             action := (planAt w p src db.isSome).1, source_checksum := (planAt w p src db.isSome).2.1,
             dest_checksum := (planAt w p src db.isSome).2.2 }, w) := by
  unfold StrategyPlanner.plan_file_async
  extract_lets dp jp
  have hjp : ∀ x, runM (jp x) w = (.ok ⟨some src, dp, x.1, x.2.1, x.2.2⟩, w) := fun x => rfl
  clear_value jp
  have hdp : dp = Rs.join w.root src.relative_path := rfl
  clear_value dp
  subst hdp
  unfold planAt
  cases hd : src.is_dir
  · simp only [extOf_t_file_info, extOf_t_metadata, runM_capture_probe_bind, Bool.false_eq_true, ↓reduceIte,
      PlanWorld.infoAt, PlanWorld.metaAt]
    cases hs : w.stat (Rs.join w.root src.relative_path) with
    | dangling => exact hjp _
    | dir =>
      simp only [runM_capture_probe_bind, hs, Rs.is_dir, if_true]
      exact hjp _
    | file d =>
      simp only [runM_capture_probe_bind, hs, Rs.is_dir, Bool.false_eq_true, if_false, cksumsAt]
      cases p.verifier with
      | none => exact hjp _
      | some v =>
        simp only [runM_bind, compute_checksums_local_run, pure_bind]
        cases srcSeen w v db.isSome src with
        | none => exact hjp _
        | some a =>
          cases dstSeen w v db.isSome (Rs.join w.root src.relative_path) with
          | none => exact hjp _
          | some b =>
            simp only [decideAct]
            cases a == b <;> exact hjp _
  · simp only [extOf_t_exists, extOf_t_metadata, runM_capture_probe_bind, ↓reduceIte, PlanWorld.existsAt,
      PlanWorld.metaAt, Rs.unwrap_or, Rs.UnwrapOr.unwrap_or]
    cases hs : w.stat (Rs.join w.root src.relative_path) with
    | dangling =>
      simp only [Bool.false_eq_true, if_false, pure_bind]
      exact hjp _
    | dir =>
      simp only [if_true, bind_assoc, runM_capture_probe_bind, hs, pure_bind]
      exact hjp _
    | file d =>
      simp only [if_true, bind_assoc, runM_capture_probe_bind, hs, pure_bind]
      exact hjp _

theorem runM_forIn_yield {W α σ : Type} (l : List α) (init : σ) (body : α → σ → Rs.M W (ForInStep σ))
    (f : α → σ → σ) (hb : ∀ x s, body x s = pure (ForInStep.yield (f x s))) (w : W) :
    runM (forIn l init body) w = (.ok (l.foldl (fun s x => f x s) init), w) :=
  Rs.run_forIn_yield l body f w (fun x _ s => congrFun (hb x s) w) init

/-- the deletion task of a destination entry -/
def delTask (e : FileEntry) : SyncTask :=
  { source := none, dest_path := e.path, action := SyncAction.Delete, source_checksum := none, dest_checksum := none }

/-- the scanned destination entries whose relative path text is not the relative path text of a source entry, in scan
    order, as deletion tasks -/
def delsOf (srcs entries : List FileEntry) : List SyncTask :=
  (entries.filter fun e => !((srcs.map (·.relative_path)).contains e.relative_path)).map delTask

theorem bloom_contains (l : List FileEntry) (s0 : Rs.HashSet Rs.Path) (x : Rs.Path) :
    Rs.contains (l.foldl (fun s f => Rs.set_insert s f.relative_path) s0) x
      = (s0.contains x || (l.map (·.relative_path)).contains x) := by
  rw [Bool.eq_iff_iff, ← List.foldl_map]
  simpa [Rs.contains, Rs.extend] using Rs.mem_extend s0 (l.map (·.relative_path)) x

theorem plan_deletions_run (p : StrategyPlanner) (srcs : List FileEntry) (w : PlanWorld) :
    runM (p.plan_deletions extOf srcs w.root) w = (.ok (delsOf srcs (w.scanOf w.root)), w) := by
  unfold StrategyPlanner.plan_deletions
  extract_lets dels0 thr jp bloom0 paths
  have hjp : ∀ u d, runM (jp u d) w = (.ok d, w) := fun _ _ => rfl
  clear_value jp
  by_cases hbig : decide (Rs.len srcs > thr) = true
  · simp only [hbig, ↓reduceIte, runM_bind, runM_capture, runM_probe, extOf_scan_streaming, extOf_Scanner_new,
      Rs.flatten]
    rw [runM_forIn_yield srcs bloom0 _ (fun file s => Rs.set_insert s file.relative_path) (fun _ _ => rfl)]
    simp only []
    rw [runM_forIn_yield (w.scanOf w.root) dels0 _
      (fun e s => if (!((srcs.map (·.relative_path)).contains e.relative_path)) = true then s ++ [delTask e] else s)]
    · simp only [hjp, Rs.foldl_push_if, dels0, List.nil_append, delsOf]
    · intro e s
      rw [bloom_contains]
      simp only [paths, Rs.collect, Rs.map, Rs.contains, delTask]
      -- whatever the filter answered before the insertions (nothing, or false positives): the exact test decides
      cases List.contains bloom0 e.relative_path <;>
        cases (srcs.map (·.relative_path)).contains e.relative_path <;> rfl
  · simp only [hbig, Bool.false_eq_true, ↓reduceIte, runM_bind, runM_capture, runM_probe, extOf_scan_streaming,
      extOf_Scanner_new, Rs.flatten]
    rw [runM_forIn_yield (w.scanOf w.root) dels0 _
      (fun e s => if (!((srcs.map (·.relative_path)).contains e.relative_path)) = true then s ++ [delTask e] else s)]
    · simp only [hjp, Rs.foldl_push_if, dels0, List.nil_append, delsOf]
    · intro e s
      simp only [paths, Rs.collect, Rs.map, Rs.contains, delTask]
      cases (srcs.map (·.relative_path)).contains e.relative_path <;> rfl

/-- `SyncAction ↦ Act` -/
def absAct : SyncAction → Act
  | .Skip => .skip
  | .Create => .create
  | .Update => .update
  | .Delete => .delete

theorem absAct_injective {a b : SyncAction} (h : absAct a = absAct b) : a = b := by
  cases a <;> cases b <;> first | rfl | cases h

theorem skip_update_iff {a : SyncAction} {c : Prop} [Decidable c] (h : absAct a = if c then .skip else .update) :
    (a = .Skip ↔ c) ∧ (a = .Update ↔ ¬c) := by
  by_cases hc : c
  · rw [if_pos hc] at h
    rw [absAct_injective (b := .Skip) h]
    exact ⟨iff_of_true rfl hc, iff_of_false (by decide) (fun h => h hc)⟩
  · rw [if_neg hc] at h
    rw [absAct_injective (b := .Update) h]
    exact ⟨iff_of_false (by decide) hc, iff_of_true rfl hc⟩

/-- the comparison mode a planner value stands for (the order of the `if`s of `needs_update`; as
    `Props.GenPlanner.modeOf` for the pure unit) -/
def modeOf (p : StrategyPlanner) : Compare :=
  if p.checksum then .checksum
  else if p.ignore_times then .ignoreTimes
  else if p.size_only then .sizeOnly
  else .default

/-- the planner was built by `StrategyPlanner::with_comparison_flags` (the constructor `SyncEngine::sync` uses,
    src/sync/mod.rs:518) or by `new()`: tolerance = the literal 1, and a `Fast` verifier exactly with `--checksum`
    (src/sync/strategy.rs:48-75; the fields are private, so the crate can build no other planner) -/
structure FromCli (p : StrategyPlanner) : Prop where
  tol : p.mtime_tolerance = MTIME_TOLERANCE_SECS
  ver : p.verifier = if p.checksum then some ⟨.Fast, false⟩ else none

/-- the content id of the regular file a path text resolves to (0 when it is not one) -/
def PlanWorld.contentAt (w : PlanWorld) (p : Rs.Path) : Nat :=
  match w.stat p with | .file m => m.content | _ => 0

/-- `FileEntry ↦ FileMeta`: size and mtime as scanned, the content the world holds at `path`; xattrs are not looked
    at by the planner (mapped to `[]`), `inode` is the class id -/
def absMeta (w : PlanWorld) (e : FileEntry) : FileMeta :=
  { content := w.contentAt e.path, size := e.size, mtime := e.modified, xattrs := [], ino := e.inode.getD 0 }

/-- `FileEntry ↦ SEntry` for the entries `plan_file_async` is called with (directories and regular files — or the
    dereferenced target entry built by `plan_symlink`; `plan_file_async` never reads `is_symlink`): relative path
    text ↦ components, `excluded = false` (the planner sees the filtered list) -/
def absEntry (w : PlanWorld) (e : FileEntry) : SEntry :=
  { rel := compsOf e.relative_path,
    kind := if e.is_dir then .dir else .file (absMeta w e) e.nlink,
    size := e.size, excluded := false }

/-- `SyncTask ↦ Task`: the action, the destination path relative to the root, and what is transferred -/
def absTask (w : PlanWorld) (t : SyncTask) : Task :=
  { act := absAct t.action,
    rel := (w.relOf t.dest_path).getD [],
    payload := match t.source with
      | some s => if s.is_dir then .dir else .file (absMeta w s) s.nlink
      | none => .nothing }

/-- no symlink node at a destination key (the probes FOLLOW links; the engine turns Skip/Create over a link into
    Update afterwards — `fixupOverLink` in Props/GenPlannerFx) -/
def NotLinkAt (w : PlanWorld) (k : Engine.Path) : Prop := ∀ t, w.dst.get? k ≠ some (.symlink t)

/-- every key of the destination map is a path a walk can produce -/
def CleanKeys (w : PlanWorld) : Prop := ∀ k ∈ w.dst.keys, CleanPath k

theorem relOf_join (w : PlanWorld) (rel : Rs.Path) : w.relOf (Rs.join w.root rel) = some (compsOf rel) := by
  simp [PlanWorld.relOf, strip_prefix_join]

theorem keyOf_join (w : PlanWorld) (rel : Rs.Path) : w.keyOf (Rs.join w.srcRoot rel) = some (compsOf rel) := by
  simp [PlanWorld.keyOf, strip_prefix_join]

theorem stat_join (w : PlanWorld) (rel : Rs.Path) : w.stat (Rs.join w.root rel) = w.resolve (compsOf rel) := by
  simp [PlanWorld.stat, relOf_join]

theorem mtime_matches_eq_absDiff (p : StrategyPlanner) (a b : Nat) :
    p.mtime_matches a b = decide (absDiff a b / 1000000000 ≤ p.mtime_tolerance) :=
  Rs.secs_apart a b fun s => decide (s ≤ p.mtime_tolerance)

theorem mtime_matches_eq_model' (p : StrategyPlanner) (hp : p.mtime_tolerance = MTIME_TOLERANCE_SECS)
    (a b : Rs.SystemTime) : p.mtime_matches a b = mtimeMatches a b := by
  rw [mtime_matches_eq_absDiff, hp]; rfl

theorem needs_update_eq_model' (p : StrategyPlanner) (hp : p.mtime_tolerance = MTIME_TOLERANCE_SECS)
    (src : FileEntry) (dst : FileInfo) :
    p.needs_update src dst = needsUpdate (modeOf p) src.size src.modified dst.size dst.modified := by
  unfold StrategyPlanner.needs_update modeOf needsUpdate
  rw [mtime_matches_eq_model' p hp]
  -- the flags in the order the `if`s test them
  cases p.checksum
  · cases p.ignore_times
    · cases p.size_only
      · cases (src.size != dst.size) <;> cases mtimeMatches src.modified dst.modified <;> rfl
      · rfl
    · cases (src.size != dst.size) <;> rfl
  · rfl

/-- the content id the planner compares for a file: the database row when one is open and has a matching "fast"
    row, else the real content `c`.  `seenCk` (an `Option`, any verifier) is the code's value; this is the same for the
    `Fast` verifier of `FromCli`, with the file's real content as the fall-back -/
def seenOr (w : PlanWorld) (useDb : Bool) (p : Rs.Path) (mtime size c : Nat) : Nat :=
  match (if useDb then w.dbSeen p mtime size ['f', 'a', 's', 't'] else none) with
  | some x => x
  | none => c

/-- a file meta with another content id -/
def withContent (m : FileMeta) (c : Nat) : FileMeta := { m with content := c }
@[simp] theorem withContent_content (m : FileMeta) (c : Nat) : (withContent m c).content = c := rfl
@[simp] theorem withContent_size (m : FileMeta) (c : Nat) : (withContent m c).size = m.size := rfl
@[simp] theorem withContent_mtime (m : FileMeta) (c : Nat) : (withContent m c).mtime = m.mtime := rfl
theorem withContent_self (m : FileMeta) : withContent m m.content = m := rfl

/-- what following links at a destination key yields, as the node the model's `planFileAct` is given, with the
    content the planner sees -/
def seenNode (w : PlanWorld) (useDb : Bool) (dp : Rs.Path) : LinkTarget → Option DNode
  | .dangling => none
  | .dir => some .dir
  | .file d => some (.file (withContent d (seenOr w useDb dp d.mtime d.size d.content)))

/-- the decision of `plan_file_async` for a file entry is the model's `planFileAct`, on the contents the planner
    sees, against what the destination path RESOLVES to -/
theorem planAt_file_eq_planFileAct (w : PlanWorld) (p : StrategyPlanner) (hp : FromCli p) (src : FileEntry)
    (useDb : Bool) (hd : src.is_dir = false)
    (hsrc : p.checksum = true → ∃ sm, w.stat src.path = .file sm)
    (cfg : Cfg) (hc : cfg.compare = modeOf p) :
    absAct (planAt w p src useDb).1 =
      planFileAct cfg
        (withContent (absMeta w src) (seenOr w useDb src.path src.modified src.size (w.contentAt src.path)))
        (seenNode w useDb (Rs.join w.root src.relative_path) (w.stat (Rs.join w.root src.relative_path))) := by
  unfold planAt
  rw [hd]
  cases hs : w.stat (Rs.join w.root src.relative_path) with
  | dangling => rfl
  | dir => rfl
  | file d =>
    simp only [seenNode, cksumsAt, hp.ver]
    cases hck : p.checksum
    · -- no verifier: `needs_update`
      have hm : cfg.compare ≠ .checksum := by
        rw [hc]; unfold modeOf; rw [hck]; simp only [Bool.false_eq_true, ↓reduceIte]
        split <;> (try split) <;> simp
      rw [planFileAct_file_nonck _ _ _ hm, hc]
      simp only [Bool.false_eq_true, ↓reduceIte, decideAct, needs_update_eq_model' p hp.tol, withContent_size,
        withContent_mtime, absMeta]
      by_cases h : needsUpdate (modeOf p) src.size src.modified d.size d.mtime = true <;> simp [h, absAct]
    · -- `--checksum`: both checksums are available
      obtain ⟨sm, hsm⟩ := hsrc hck
      have hmode : cfg.compare = .checksum := by rw [hc]; unfold modeOf; rw [hck]; rfl
      rw [planFileAct_file_ck _ _ _ hmode]
      simp only [↓reduceIte, srcSeen, dstSeen, seenCk, tyText, PlanWorld.existsAt, PlanWorld.metaAt,
        PlanWorld.cksumAt, hs, hsm, seenOr, PlanWorld.contentAt, withContent_content, Rs.ok]
      cases useDb
      · simp only [Bool.false_eq_true, ↓reduceIte, decideAct, beq_iff_eq]
        split <;> rfl
      · simp only [↓reduceIte]
        cases w.dbSeen src.path src.modified src.size ['f', 'a', 's', 't'] <;>
          cases w.dbSeen (Rs.join w.root src.relative_path) d.mtime d.size ['f', 'a', 's', 't'] <;>
          simp only [decideAct, beq_iff_eq] <;> split <;> rfl

theorem seenOr_miss (w : PlanWorld) (useDb : Bool) (p : Rs.Path) (mtime size c : Nat)
    (hmiss : useDb = true → w.dbSeen p mtime size ['f', 'a', 's', 't'] = none) :
    seenOr w useDb p mtime size c = c := by
  unfold seenOr
  cases useDb
  · rfl
  · rw [if_pos rfl, hmiss rfl]

theorem seenNode_resolve (w : PlanWorld) (useDb : Bool) (k : Engine.Path) (dp : Rs.Path) (h : NotLinkAt w k)
    (hmiss : useDb = true → ∀ d, w.dst.get? k = some (.file d) → w.dbSeen dp d.mtime d.size ['f', 'a', 's', 't'] = none) :
    seenNode w useDb dp (w.resolve k) = w.dst.get? k := by
  unfold PlanWorld.resolve
  cases hg : w.dst.get? k with
  | none => rfl
  | some n =>
    cases n with
    | dir => rfl
    | file d => simp only [seenNode, seenOr_miss w useDb dp _ _ _ fun hu => hmiss hu d hg, withContent_self]
    | symlink t => exact absurd hg (h t)

/-- `planAt_file_eq_planFileAct` when no link is at the key and neither lookup hits: the model's decision for the
    entry's own meta against the map's own node -/
theorem planAt_file_abs (w : PlanWorld) (p : StrategyPlanner) (hp : FromCli p) (src : FileEntry) (useDb : Bool)
    (hd : src.is_dir = false) (hnl : NotLinkAt w (compsOf src.relative_path))
    (hmissS : useDb = true → w.dbSeen src.path src.modified src.size ['f', 'a', 's', 't'] = none)
    (hmissD : useDb = true → ∀ d, w.dst.get? (compsOf src.relative_path) = some (.file d) →
      w.dbSeen (Rs.join w.root src.relative_path) d.mtime d.size ['f', 'a', 's', 't'] = none)
    (hsrc : p.checksum = true → ∃ sm, w.stat src.path = .file sm) (cfg : Cfg) (hc : cfg.compare = modeOf p) :
    absAct (planAt w p src useDb).1 = planFileAct cfg (absMeta w src) (w.dst.get? (compsOf src.relative_path)) := by
  have h := planAt_file_eq_planFileAct w p hp src useDb hd hsrc cfg hc
  rw [stat_join, seenNode_resolve w useDb _ _ hnl hmissD, seenOr_miss w useDb _ _ _ _ hmissS] at h
  exact h

theorem planAt_file_act (w : PlanWorld) (p : StrategyPlanner) (src : FileEntry) (useDb : Bool) :
    (planAt w p src useDb).1 = .Skip ∨ (planAt w p src useDb).1 = .Create ∨ (planAt w p src useDb).1 = .Update := by
  unfold planAt
  split <;> simp
  unfold decideAct
  split <;> split <;> simp

theorem entryOf_path (w : PlanWorld) (k : Engine.Path) (n : DNode) :
    (w.entryOf k n).path = Rs.join w.root (textOf k) := rfl
theorem entryOf_rel (w : PlanWorld) (k : Engine.Path) (n : DNode) : (w.entryOf k n).relative_path = textOf k := rfl

theorem mem_delsOf (w : PlanWorld) (srcs : List FileEntry) (t : SyncTask)
    (h : t ∈ delsOf srcs (w.scanOf w.root)) : ∃ k n, (k, n) ∈ w.dst ∧ t = delTask (w.entryOf k n) := by
  unfold delsOf PlanWorld.scanOf at h
  simp only [if_true, List.mem_map, List.mem_filter] at h
  obtain ⟨e, ⟨⟨kv, hkv, rfl⟩, _⟩, rfl⟩ := h
  exact ⟨kv.1, kv.2, hkv, rfl⟩

theorem absTask_delTask (w : PlanWorld) (k : Engine.Path) (n : DNode) (hk : CleanPath k) :
    absTask w (delTask (w.entryOf k n)) = ⟨.delete, k, .nothing⟩ := by
  simp [absTask, delTask, absAct, entryOf_path, relOf_join, compsOf_textOf k hk]

theorem contains_text_iff (w : PlanWorld) (srcs : List FileEntry) (k : Engine.Path) (hk : CleanPath k) :
    (srcs.map (·.relative_path)).contains (textOf k) = (srcs.map (absEntry w)).any (·.rel == k) := by
  rw [Bool.eq_iff_iff]
  simp only [List.contains_eq_mem, List.mem_map, decide_eq_true_eq, List.any_map, List.any_eq_true,
    Function.comp_apply, beq_iff_eq, absEntry]
  constructor
  · rintro ⟨e, he, h⟩; exact ⟨e, he, by rw [h, compsOf_textOf k hk]⟩
  · rintro ⟨e, he, h⟩
    refine ⟨e, he, compsOf_injective ?_⟩
    rw [h, compsOf_textOf k hk]

/-- the translated `plan_deletions`' result, abstracted, is the model's candidate list before the engine's `retain`:
    the destination keys that are no source path, in map order -/
theorem delsOf_abs (w : PlanWorld) (hw : CleanKeys w) (srcs : List FileEntry) :
    (delsOf srcs (w.scanOf w.root)).map (absTask w) =
      (w.dst.keys.filter fun k => !((srcs.map (absEntry w)).any (·.rel == k))).map
        fun k => ⟨.delete, k, .nothing⟩ := by
  unfold delsOf PlanWorld.scanOf Map.keys CleanKeys Map.keys at *
  simp only [↓reduceIte]
  generalize w.dst = m at hw
  induction m with
  | nil => rfl
  | cons kv rest ih =>
    have hk : CleanPath kv.1 := hw kv.1 (by simp)
    have ih' := ih (fun k hk' => hw k (by simp only [List.map_cons, List.mem_cons]; exact Or.inr hk'))
    simp only [List.map_cons, List.filter_cons, entryOf_rel, contains_text_iff w srcs kv.1 hk]
    cases (srcs.map (absEntry w)).any (·.rel == kv.1)
    · simp only [Bool.not_false, ↓reduceIte, List.map_cons, ih', List.cons.injEq, and_true]
      exact absTask_delTask w kv.1 kv.2 hk
    · simpa using ih'

/-- the engine's `retain` after `plan_deletions` (src/sync/mod.rs:590-596; NOT part of the translated unit, transcribed
    by hand): drop what any scanned source entry names and sy's own metadata files. -/
def retainDeletions (scanned : List SEntry) (ts : List Task) : List Task :=
  ts.filter fun t => !(scanned.any (·.rel == t.rel)) && !(ownMetadata.contains t.rel)

/-- … and the `retain` after it leaves the model's `planDeletions` -/
theorem retain_delsOf (w : PlanWorld) (hw : CleanKeys w) (srcs : List FileEntry) (scanned : List SEntry) :
    retainDeletions scanned ((delsOf srcs (w.scanOf w.root)).map (absTask w)) =
      planDeletions (srcs.map (absEntry w)) scanned w.dst := by
  rw [delsOf_abs w hw srcs]
  unfold retainDeletions planDeletions
  rw [List.filter_map, List.filter_filter]
  congr 1
  apply List.filter_congr
  intro k _
  simp only [Function.comp_apply, Bool.and_assoc]
  cases (srcs.map (absEntry w)).any (·.rel == k) <;> simp

/-- the entry `plan_symlink` builds in follow mode: the link's entry standing for the file it points to (size and
    mtime of the target, no inode group, not a link any more) -/
def followEntry (file : FileEntry) (m : Rs.Metadata) : FileEntry :=
  { file with is_symlink := false, symlink_target := none, size := m.size, modified := m.mtime, inode := none,
              nlink := 1 }

theorem absMeta_followEntry (w : PlanWorld) (file : FileEntry) (d : FileMeta) (hs : w.stat file.path = .file d) :
    absMeta w (followEntry file ⟨false, d.mtime, d.size⟩) = ⟨d.content, d.size, d.mtime, [], 0⟩ := by
  simp [absMeta, followEntry, PlanWorld.contentAt, hs]

/-- `simple(action)` of `plan_symlink` -/
def simpleTask (w : PlanWorld) (file : FileEntry) (a : SyncAction) : SyncTask :=
  { source := some file, dest_path := Rs.join w.root file.relative_path, action := a, source_checksum := none,
    dest_checksum := none }

/-- the preserve-mode decision from what `read_link` and `exists` answer for the destination path -/
def preserveAct (w : PlanWorld) (file : FileEntry) : SyncAction :=
  match w.linkAt (Rs.join w.root file.relative_path) with
  | some t => if some t == file.symlink_target then .Skip else .Update
  | none => if w.existsAt (Rs.join w.root file.relative_path) then .Update else .Create

/-- the task `plan_symlink` returns -/
def linkPlan (w : PlanWorld) (eng : SyncEngine) (file : FileEntry) (p : StrategyPlanner) (useDb : Bool) : SyncTask :=
  match eng.symlink_mode with
  | .Skip => simpleTask w file .Skip
  | .Preserve => simpleTask w file (preserveAct w file)
  | .Follow =>
    match w.metaAt file.path with
    | .ok m =>
      if m.dir then simpleTask w file .Skip
      else
        { source := some (followEntry file m), dest_path := Rs.join w.root file.relative_path,
          action := (planAt w p (followEntry file m) useDb).1,
          source_checksum := (planAt w p (followEntry file m) useDb).2.1,
          dest_checksum := (planAt w p (followEntry file m) useDb).2.2 }
    | .error _ => simpleTask w file .Skip

theorem plan_symlink_run (eng : SyncEngine) (file : FileEntry) (w : PlanWorld) (p : StrategyPlanner)
    (db : Option Rs.Opaque) :
    runM (eng.plan_symlink extOf file w.root p db) w = (.ok (linkPlan w eng file p db.isSome), w) := by
  unfold SyncEngine.plan_symlink linkPlan
  cases hm : eng.symlink_mode with
  | Skip => rfl
  | Preserve =>
    simp only [extOf_t_read_link, extOf_t_exists, runM_bind, runM_capture, runM_probe, preserveAct,
      simpleTask, Rs.unwrap_or, Rs.UnwrapOr.unwrap_or, Rs.is_some]
    cases hl : w.linkAt (Rs.join w.root file.relative_path) with
    | none => cases he : w.existsAt (Rs.join w.root file.relative_path) <;> simp [he]
    | some t => by_cases hq : (some t == file.symlink_target) = true <;> simp [hq]
  | Follow =>
    simp only [extOf_std_fs_metadata, runM_bind, runM_capture, runM_probe]
    cases hmeta : w.metaAt file.path with
    | error e => rfl
    | ok m =>
      cases hdir : m.dir
      · simp only [Rs.is_dir, hdir, Bool.not_false, ↓reduceIte, Rs.modified, Rs.len, Rs.Len.len, Bool.false_eq_true]
        rw [plan_file_async_run]
        rfl
      · simp [Rs.is_dir, hdir, simpleTask]

/-- `SymlinkMode ↦ LinkMode` -/
def absLinkMode : SymlinkMode → LinkMode
  | .Preserve => .preserve
  | .Follow => .follow
  | .Skip => .skip

/-- the link text of a scanned symlink entry (`symlink_target = read_link(path).ok()`, src/sync/scanner.rs) -/
def linkText (file : FileEntry) : String := String.ofList (file.symlink_target.getD [])

/-- what the source link resolves to, with the fields the generated `FileEntry` built by follow mode does not carry
    (xattrs, inode group: `target_entry.inode = None`) set as `absMeta` sets them -/
def absTarget : LinkTarget → LinkTarget
  | .file d => .file { content := d.content, size := d.size, mtime := d.mtime, xattrs := [], ino := 0 }
  | t => t

/-- `FileEntry ↦ SEntry` for a symlink entry: the link text, and what `std::fs::metadata(file.path)` (which follows)
    finds — the model's `tgt` -/
def absLinkEntry (w : PlanWorld) (file : FileEntry) : SEntry :=
  { rel := compsOf file.relative_path,
    kind := .symlink (linkText file) (absTarget (w.stat file.path)),
    size := file.size, excluded := false }

/-- `SyncTask ↦ Task` for tasks planned from symlink entries.  What a task whose source is still a symlink
    transfers depends on the mode the executor runs in: the link itself when preserving, nothing otherwise (skip mode;
    follow mode with a dangling link or a link to a directory).  A source that is not a symlink (the dereferenced
    entry of follow mode) is abstracted as by `absTask`. -/
def absLinkTask (mode : SymlinkMode) (w : PlanWorld) (t : SyncTask) : Task :=
  { act := absAct t.action,
    rel := (w.relOf t.dest_path).getD [],
    payload := match t.source with
      | some s =>
        if s.is_symlink then (match mode with | .Preserve => .symlink (linkText s) | _ => .nothing)
        else if s.is_dir then .dir else .file (absMeta w s) s.nlink
      | none => .nothing }

theorem absLinkTask_eq_absTask (mode : SymlinkMode) (w : PlanWorld) (t : SyncTask)
    (h : ∀ s, t.source = some s → s.is_symlink = false) : absLinkTask mode w t = absTask w t := by
  unfold absLinkTask absTask
  cases hs : t.source with
  | none => rfl
  | some s => simp [h s hs]

theorem linkAt_join (w : PlanWorld) (rel : Rs.Path) :
    w.linkAt (Rs.join w.root rel) =
      match w.dst.get? (compsOf rel) with | some (.symlink t) => some t.toList | _ => none := by
  simp [PlanWorld.linkAt, relOf_join]

theorem existsAt_join (w : PlanWorld) (rel : Rs.Path) :
    w.existsAt (Rs.join w.root rel) = (match w.resolve (compsOf rel) with | .dangling => false | _ => true) := by
  simp [PlanWorld.existsAt, stat_join]

/-- preserve mode, link text known: the decision from what `read_link` and `exists` answer for the destination path
    is the model's `.preserve` arm — nothing ⇒ create, a link with the same text ⇒ skip, anything else ⇒ update -/
theorem preserveAct_eq_planEntry (w : PlanWorld) (file : FileEntry) (text : Rs.Path) (ht : file.symlink_target = some text)
    (cfg : Cfg) (hc : cfg.links = .preserve) :
    (⟨absAct (preserveAct w file), compsOf file.relative_path, .symlink (linkText file)⟩ : Task) =
      planEntry cfg w.dst (absLinkEntry w file) := by
  simp only [planEntry, absLinkEntry, hc, preserveAct, linkAt_join, existsAt_join, PlanWorld.resolve, linkText, ht]
  cases hg : w.dst.get? (compsOf file.relative_path) with
  | none => rfl
  | some n =>
    cases n with
    | dir => rfl
    | file d => rfl
    | symlink t =>
      simp only [Task.mk.injEq, and_true]
      by_cases hq : t = String.ofList text
      · subst hq; simp [String.toList_ofList, absAct]
      · have : ¬ t.toList = text := fun h => hq (by rw [← h, String.ofList_toList])
        simp [hq, this, absAct]

end SyModel.Lemmas.GenPlannerFx
