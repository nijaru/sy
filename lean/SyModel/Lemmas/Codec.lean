/-
  Helper lemmas about the extension table, `Codec` and the magic test, and the two toy codecs of the examples
  (`toyZ`: identity with magic; `toyL`: lossless, no magic).
-/
import SyModel.Compress.Sniff
import SyModel.Generated.Code.Compress
namespace SyModel.Compress

/-- the model's table is the translated one, entry by entry: a string literal is `String.ofList` of its characters
    by definition, so nothing is evaluated. -/
theorem compressedExtensions_eq :
    compressedExtensions = Generated.Compress.COMPRESSED_EXTENSIONS.map String.ofList := rfl

/-- the extension test on the table of character lists (no `String.toList` left to evaluate) -/
theorem isCompressedExtension_eq (name : List Char) : isCompressedExtension name =
    Generated.Compress.COMPRESSED_EXTENSIONS.any (fun e => eqIgnoreAsciiCase (lastSegment name) e) := by
  rw [isCompressedExtension, compressedExtensions_eq, List.any_map]
  simp only [Function.comp_def, String.toList_ofList]

theorem hasZstdMagic_iff (l : Bytes) : hasZstdMagic l = true ↔ ∃ r, l = zstdMagic ++ r := by
  unfold hasZstdMagic zstdMagic
  constructor
  · intro h
    split at h
    · rename_i a b c d t
      simp only [Bool.and_eq_true, beq_iff_eq] at h
      obtain ⟨⟨⟨rfl, rfl⟩, rfl⟩, rfl⟩ := h
      exact ⟨t, rfl⟩
    · simp at h
  · rintro ⟨r, rfl⟩
    rfl

theorem hasZstdMagic_append (r : Bytes) : hasZstdMagic (zstdMagic ++ r) = true := rfl

theorem hasZstdMagic_short (l : Bytes) (h : l.length < 4) : hasZstdMagic l = false := by
  match l, h with
  | [], _ => rfl
  | [_], _ => rfl
  | [_, _], _ => rfl
  | [_, _, _], _ => rfl

/-- "identity with magic": `compress x = 28 B5 2F FD ++ x`. -/
def toyZ : Codec where
  compress x := zstdMagic ++ x
  decompress y := if hasZstdMagic y then some (y.drop 4) else none

theorem toyZ_sound : toyZ.Sound := ⟨fun _ => rfl, fun _ => rfl⟩

/-- a lossless codec without any magic (stands for lz4 size-prepended): one length-ish byte in front. -/
def toyL : Codec where
  compress x := 0x4C :: x
  decompress y := match y with | 0x4C :: t => some t | _ => none

theorem toyL_lossless : toyL.Lossless := fun _ => rfl

theorem sniff_compress (Z : Codec) (hZ : Z.Sound) (x : Bytes) : sniff Z (Z.compress x) = some x := by
  unfold sniff
  rw [hZ.framed x, if_pos rfl, hZ.lossless x]

theorem sniff_raw (Z : Codec) (x : Bytes) (h : hasZstdMagic x = false) : sniff Z x = some x := by
  unfold sniff
  rw [h]; rfl

end SyModel.Compress
