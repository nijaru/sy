/-
  Lemmas.GenLocalFs — the POSIX-level world the translated local transport
  (`Generated/Code/LocalFs.lean`: `LocalTransport::{exists, metadata, create_dir_all, remove, create_hardlink,
  create_symlink}`, `break_unshared_hard_link`, `remove_if_symlink`, src/transport/local.rs) is run in, the INSTANCE
  `posix` of its `Ext` that gives every primitive file-system call its POSIX meaning, and the helper lemmas of
  `Props/GenLocalFs.lean`.

  ## The world `PWorld` (TRUSTED, with `posix`)

    * `names`    — a finite map (association list, first binding wins) from path TEXTS (`Rs.Path`, the characters) to
                   what the name holds: a regular file (`file ino`: a name of inode `ino`), a directory, or a symbolic
                   link with its target text;
    * `inodes`   — per inode: content id, size, mtime, xattrs and the link count `nlink`;
    * `dirNlink` — the `st_nlink` the file system reports for directories (2 + subdirectories classically, 1 on
                   btrfs): a parameter, nothing depends on its value.

  ## What is simplified (say it once, here)

    * a name is its TEXT: there is no normalisation (`a//b`, `a/./b`, `..`) and NO aliasing through a symbolic link in
      an INTERMEDIATE component (`l/x` with `l -> d` is not the same name as `d/x`).  Symbolic links are resolved for
      the FINAL component only (`stat`), at most `maxLinks` = 40 hops (Linux `MAXSYMLINKS`; more is `ELOOP`); a relative
      target is taken relative to `Path::parent` of the link's name;
    * the parent of a top-level name is the empty text (that is what the vocabulary's `Rs.parent` answers for `/x` and
      for `x`): it stands for a directory that always exists and is never created or removed;
    * errors are not distinguished (`Rs.Err.io` for all of ENOENT, EEXIST, ENOTDIR, EISDIR, ELOOP); directories carry no
      mtime/size (`metadata` of a directory reports 0, 0); permissions, open handles and free space are outside;
    * one primitive is atomic.

  ## `posix : Ext PWorld` — the POSIX facts it encodes (checked against rustc 1.95 `std::fs` on Linux, see
  notes/GenLocalFs-INTEGRATION.md)

    try_exists p          `stat`: FOLLOWS a trailing link; `Ok(true)` on a node, `Ok(false)` on ENOENT (also of a dangling
                          link), `Err` on ELOOP
    tokio_fs_metadata p   `stat` (follows): kind/mtime/size of the node the path resolves to; `Err` when there is none
    *_symlink_metadata p  `lstat`: the entry ITSELF, never follows
    create_dir_all p      `mkdir -p`: every non-empty prefix of `p` (by `Path::parent`), shortest first, must be absent
                          (then it is created) or resolve to a directory (then nothing happens: idempotent); a prefix that
                          is a file, a dangling link or a link to a file fails (ENOTDIR / EEXIST); what was created
                          before the failing prefix stays
    remove_file p         `unlink`: removes the NAME `p` — a link itself, never its target; a regular file's inode loses
                          one link and every other name of it keeps the content; EISDIR on a directory; ENOENT on nothing
    remove_dir_all p      `std::fs::remove_dir_all`: `lstat` first — a symbolic link is unlinked ITSELF (documented: "does
                          not follow symbolic links"); a directory goes with every name below it (files below lose one
                          link each); ENOTDIR on a regular file; ENOENT on nothing
    hard_link s d         `linkat(s, d, 0)`: EEXIST when `d` holds anything (lstat); ENOENT when `d`'s parent is not a
                          directory; `s` is NOT followed: a regular file gets a second name and one more link, a link gets
                          a second name (Linux); EPERM on a directory
    symlink t d           EEXIST when `d` holds anything (lstat), ENOENT when the parent is not a directory; else the
                          name `d` is a link with text `t` (the text is stored as given, never resolved)
    tokio_fs_read_link p  the text of the link at `p` (lstat); EINVAL/ENOENT otherwise
    has_hard_links p      src/fs_util.rs:209-216: `std::fs::metadata(path).map(|m| m.nlink() > 1).unwrap_or(false)` — it
                          FOLLOWS a trailing link: `nlink > 1` of what the path resolves to, `false` on any error
    err_kind              opaque
-/
import SyModel.Generated.Code.LocalFs
import SyModel.Lemmas.GenTransfer
namespace SyModel.Lemmas.GenLocalFs
open SyModel SyModel.Generated SyModel.Generated.LocalFs
open SyModel.Lemmas.GenTransfer (op runM runM_op runM_pure runM_bind runM_map)
open SyModel.Lemmas.PathText (parent_length)

/-! ### the world -/

/-- what a name holds -/
inductive PNode where
  | file (ino : Nat)
  | dir
  | symlink (target : Rs.Path)
  deriving DecidableEq, Repr, Inhabited

/-- an inode of a regular file -/
structure Inode where
  content : Nat
  size    : Nat
  mtime   : Nat
  xattrs  : List (String × Nat)
  nlink   : Nat
  deriving DecidableEq, Repr, Inhabited

structure PWorld where
  names    : List (Rs.Path × PNode)
  inodes   : Nat → Inode
  dirNlink : Nat

/-- first binding of `p` in an association list -/
def lookup : List (Rs.Path × PNode) → Rs.Path → Option PNode
  | [], _ => none
  | (q, n) :: t, p => if q = p then some n else lookup t p

/-- `lstat`: what the NAME holds (never follows) -/
def PWorld.lstat (w : PWorld) (p : Rs.Path) : Option PNode := lookup w.names p

/-- where the link `p` with text `t` points: an absolute text as it is, a relative one below `p`'s parent -/
def linkDest (p t : Rs.Path) : Rs.Path :=
  if t.head? = some '/' then t else Rs.join ((Rs.parent p).getD []) t

/-- the result of resolving the final component -/
inductive Stat where
  | node (at_ : Rs.Path) (n : PNode)   -- the name reached and what it holds (never a `symlink`)
  | noent                              -- nothing there / dangling link
  | loop                               -- too many links (ELOOP)
  deriving DecidableEq, Repr

def resolve (w : PWorld) : Nat → Rs.Path → Stat
  | 0, _ => .loop
  | n + 1, p =>
    match w.lstat p with
    | none => .noent
    | some (.symlink t) => resolve w n (linkDest p t)
    | some nd => .node p nd

def maxLinks : Nat := 40

/-- `stat`: follows a trailing link -/
def PWorld.stat (w : PWorld) (p : Rs.Path) : Stat := resolve w (maxLinks + 1) p

/-- `stat(p)` is a directory -/
def PWorld.isDir (w : PWorld) (p : Rs.Path) : Bool := match w.stat p with | .node _ .dir => true | _ => false

/-- the directory a new name `p` is entered into exists (the empty parent text always does, head of this file) -/
def PWorld.parentOk (w : PWorld) (p : Rs.Path) : Bool :=
  match Rs.parent p with
  | some [] => true
  | some q => w.isDir q
  | none => false

/-- the names with `p` removed -/
def eraseName (l : List (Rs.Path × PNode)) (p : Rs.Path) : List (Rs.Path × PNode) := l.filter fun e => !(e.1 == p)

/-- `q` is `p` or a name below it -/
def under (p q : Rs.Path) : Bool := q == p || (p ++ ['/']).isPrefixOf q

def decLink (t : Nat → Inode) (i : Nat) : Nat → Inode :=
  fun j => if j = i then { t j with nlink := (t j).nlink - 1 } else t j
def incLink (t : Nat → Inode) (i : Nat) : Nat → Inode :=
  fun j => if j = i then { t j with nlink := (t j).nlink + 1 } else t j

/-- every regular-file name in `es` gives its link back -/
def dropLinks (t : Nat → Inode) (es : List (Rs.Path × PNode)) : Nat → Inode :=
  es.foldl (fun t e => match e.2 with | .file i => decLink t i | _ => t) t

/-- bind `p` (absent before) -/
def PWorld.enter (w : PWorld) (p : Rs.Path) (n : PNode) : PWorld := { w with names := (p, n) :: w.names }

/-- `unlink(p)` of a name that holds `n` (not a directory) -/
def PWorld.unlink (w : PWorld) (p : Rs.Path) (n : PNode) : PWorld :=
  { w with names := eraseName w.names p,
           inodes := match n with | .file i => decLink w.inodes i | _ => w.inodes }

/-- `Path::parent` chain of `p`, shortest first, without the empty text (fuel = length: each parent is shorter) -/
def prefixesAux : Nat → Rs.Path → List Rs.Path
  | 0, _ => []
  | n + 1, p =>
    if p = [] then [] else
    (match Rs.parent p with | some q => prefixesAux n q | none => []) ++ [p]
def prefixes (p : Rs.Path) : List Rs.Path := prefixesAux p.length p

/-- one `mkdir` of `create_dir_all`: absent ⇒ created; resolves to a directory ⇒ fine; anything else ⇒ failure.
    The state is (world so far, failed?) -/
def mkdirStep (acc : PWorld × Bool) (q : Rs.Path) : PWorld × Bool :=
  if acc.2 then acc else
  match acc.1.lstat q with
  | none => (acc.1.enter q .dir, false)
  | some _ => if acc.1.isDir q then acc else (acc.1, true)

/-- `create_dir_all`: the world after it and whether it failed -/
def mkdirP (w : PWorld) (p : Rs.Path) : PWorld × Bool := (prefixes p).foldl mkdirStep (w, false)

def fail {α : Type} (w : PWorld) : Except Rs.Err α × PWorld := (.error .io, w)

/-- `lstat` as `std::fs::Metadata` -/
def PWorld.lmeta (w : PWorld) : PNode → Rs.LMetadata
  | .file i => ⟨.file, (w.inodes i).nlink⟩
  | .dir => ⟨.dir, w.dirNlink⟩
  | .symlink _ => ⟨.symlink, 1⟩

def lstatOp (p : Rs.Path) : Rs.M PWorld Rs.LMetadata := op fun w =>
  match w.lstat p with
  | some n => (.ok (w.lmeta n), w)
  | none => fail w

/-- `remove_file` -/
def unlinkOp (p : Rs.Path) : Rs.M PWorld Unit := op fun w =>
  match w.lstat p with
  | some .dir => fail w
  | some n => (.ok (), w.unlink p n)
  | none => fail w

/-- the world without `p` and everything below it -/
def PWorld.removeTree (w : PWorld) (p : Rs.Path) : PWorld :=
  { w with names := w.names.filter fun e => !(under p e.1),
           inodes := dropLinks w.inodes (w.names.filter fun e => under p e.1) }

def posix : Ext PWorld where
  try_exists p := op fun w =>
    match w.stat p with
    | .node _ _ => (.ok true, w)
    | .noent => (.ok false, w)
    | .loop => fail w
  tokio_fs_metadata p := op fun w =>
    match w.stat p with
    | .node _ (.file i) => (.ok ⟨false, (w.inodes i).mtime, (w.inodes i).size⟩, w)
    | .node _ .dir => (.ok ⟨true, 0, 0⟩, w)
    | _ => fail w
  tokio_fs_symlink_metadata := lstatOp
  fs_symlink_metadata := lstatOp
  create_dir_all p := op fun w =>
    match mkdirP w p with
    | (w', false) => (.ok (), w')
    | (w', true) => fail w'
  remove_dir_all p := op fun w =>
    match w.lstat p with
    | some (.symlink t) => (.ok (), w.unlink p (.symlink t))
    | some .dir => (.ok (), w.removeTree p)
    | some (.file _) => fail w
    | none => fail w
  remove_file := unlinkOp
  hard_link s d := op fun w =>
    match w.lstat d, w.parentOk d, w.lstat s with
    | none, true, some (.file i) => (.ok (), { w.enter d (.file i) with inodes := incLink w.inodes i })
    | none, true, some (.symlink t) => (.ok (), w.enter d (.symlink t))
    | _, _, _ => fail w
  symlink t d := op fun w =>
    match w.lstat d, w.parentOk d with
    | none, true => (.ok (), w.enter d (.symlink t))
    | _, _ => fail w
  tokio_fs_read_link p := op fun w =>
    match w.lstat p with
    | some (.symlink t) => (.ok t, w)
    | _ => fail w
  has_hard_links p := op fun w =>
    match w.stat p with
    | .node _ (.file i) => (.ok (decide ((w.inodes i).nlink > 1)), w)
    | .node _ .dir => (.ok (decide (w.dirNlink > 1)), w)
    | _ => (.ok false, w)
  err_kind _ := pure default

/-! ### running the generated functions on `posix`: closed forms -/

@[simp] theorem runM_capture {W α : Type} (x : Rs.M W α) (w : W) :
    runM (Rs.capture x) w = (.ok (runM x w).1, (runM x w).2) := GenTransfer.runM_capture_eq x w

theorem create_dir_all_run (self : LocalTransport) (w : PWorld) (p : Rs.Path) :
    runM (LocalTransport.create_dir_all posix self p) w =
      match mkdirP w p with
      | (w', false) => (.ok (), w')
      | (w', true) => fail w' := rfl

theorem remove_run (self : LocalTransport) (w : PWorld) (p : Rs.Path) (isDir : Bool) :
    runM (LocalTransport.remove posix self p isDir) w =
      match w.lstat p with
      | none => fail w
      | some (.symlink t) => (.ok (), w.unlink p (.symlink t))
      | some .dir => if isDir then (.ok (), w.removeTree p) else fail w
      | some (.file i) => if isDir then fail w else (.ok (), w.unlink p (.file i)) := by
  unfold LocalTransport.remove
  cases isDir <;> simp only [runM_bind, posix, unlinkOp, runM_op, Bool.false_eq_true, ↓reduceIte]
  all_goals cases w.lstat p with
    | none => rfl
    | some n => cases n <;> rfl

theorem remove_if_symlink_run (w : PWorld) (p : Rs.Path) :
    runM (remove_if_symlink posix p) w =
      match w.lstat p with
      | some (.symlink t) => (.ok (), w.unlink p (.symlink t))
      | _ => (.ok (), w) := by
  unfold remove_if_symlink
  simp only [runM_bind, runM_capture, posix, lstatOp, unlinkOp, runM_op]
  cases h : w.lstat p with
  | none => rfl
  | some n => cases n <;> simp [h, PWorld.lmeta, Rs.l_is_symlink, Rs.l_file_type, runM_op, fail]

/-- `has_hard_links`: `nlink > 1` of what the path resolves to -/
def PWorld.hasLinks (w : PWorld) (p : Rs.Path) : Bool :=
  match w.stat p with
  | .node _ (.file i) => decide ((w.inodes i).nlink > 1)
  | .node _ .dir => decide (w.dirNlink > 1)
  | _ => false

theorem has_hard_links_run (w : PWorld) (p : Rs.Path) :
    runM (posix.has_hard_links p) w = (.ok (w.hasLinks p), w) := by
  unfold PWorld.hasLinks
  simp only [posix, runM_op]
  cases w.stat p with
  | node a n => cases n <;> rfl
  | _ => rfl

theorem break_unshared_hard_link_run (w : PWorld) (s d : Rs.Path) :
    runM (break_unshared_hard_link posix s d) w =
      match w.hasLinks d, w.lstat d with
      | true, some (.file i) => (.ok (), w.unlink d (.file i))
      | _, _ => (.ok (), w) := by
  unfold break_unshared_hard_link
  rw [runM_bind, has_hard_links_run]
  cases w.hasLinks d with
  | false => rfl
  | true =>
    simp only [↓reduceIte, runM_bind, runM_capture, posix, lstatOp, unlinkOp, runM_op]
    cases h : w.lstat d with
    | none => rfl
    | some n => cases n <;> simp [h, PWorld.lmeta, Rs.l_is_file, fail, runM_map]

theorem lookup_filter (l : List (Rs.Path × PNode)) (f : Rs.Path → Bool) (q : Rs.Path) :
    lookup (l.filter fun e => f e.1) q = if f q then lookup l q else none := by
  induction l with
  | nil => simp [lookup]
  | cons e l ih =>
    by_cases hf : f e.1 = true
    · by_cases he : e.1 = q
      · subst he; simp [hf, lookup]
      · simp [hf, lookup, he, ih]
    · by_cases he : e.1 = q
      · subst he; simp [hf, ih]
      · simp [hf, lookup, he, ih]

theorem lstat_unlink_same (w : PWorld) (p : Rs.Path) (n : PNode) : (w.unlink p n).lstat p = none := by
  simp only [PWorld.unlink, PWorld.lstat, eraseName]
  rw [lookup_filter w.names (fun x => !(x == p))]; simp

theorem lstat_unlink_ne (w : PWorld) (p q : Rs.Path) (n : PNode) (h : q ≠ p) :
    (w.unlink p n).lstat q = w.lstat q := by
  simp only [PWorld.unlink, PWorld.lstat, eraseName]
  rw [lookup_filter w.names (fun x => !(x == p))]; simp [h]

theorem lstat_removeTree (w : PWorld) (p q : Rs.Path) :
    (w.removeTree p).lstat q = if under p q then none else w.lstat q := by
  simp only [PWorld.removeTree, PWorld.lstat]
  rw [lookup_filter w.names (fun x => !(under p x))]; cases under p q <;> simp

theorem lstat_enter (w : PWorld) (p q : Rs.Path) (n : PNode) :
    (w.enter p n).lstat q = if p = q then some n else w.lstat q := rfl

set_option linter.unusedVariables false in
theorem unit_match {W : Type} (X : Except Rs.Err Unit × W) :
    (match X with | (.ok a, w') => ((.ok ()), w') | (.error e, w') => (.error e, w')) = X := by
  rcases X with ⟨r, w'⟩; cases r <;> rfl

theorem posix_create_dir_all_run (p : Rs.Path) (w : PWorld) :
    runM (posix.create_dir_all p) w = match mkdirP w p with
      | (w', false) => (.ok (), w')
      | (w', true) => fail w' := rfl

/-- the `create_dir_all(parent)` both link creators start with -/
def mkParent (w : PWorld) (d : Rs.Path) : PWorld × Bool :=
  match Rs.parent d with
  | some par => mkdirP w par
  | none => (w, false)

theorem create_hardlink_run (self : LocalTransport) (w : PWorld) (s d : Rs.Path) :
    runM (LocalTransport.create_hardlink posix self s d) w =
      match mkParent w d with
      | (w1, true) => fail w1
      | (w1, false) => runM (posix.hard_link s d) w1 := by
  unfold LocalTransport.create_hardlink mkParent
  cases hp : Rs.parent d with
  | none =>
    simp only [runM_bind, runM_pure]
    rcases runM (posix.hard_link s d) w with ⟨r, w'⟩
    cases r <;> rfl
  | some par =>
    simp only [runM_bind, runM_pure, posix_create_dir_all_run]
    rcases hm : mkdirP w par with ⟨w1, b⟩
    cases b
    · simp only []
      rcases runM (posix.hard_link s d) w1 with ⟨r, w'⟩
      cases r <;> rfl
    · rfl

/-- what `create_symlink` does after the parents exist, in the world `w1` -/
def placeLink (w1 : PWorld) (t d : Rs.Path) : Except Rs.Err Unit × PWorld :=
  match w1.lstat d with
  | some .dir => fail w1
  | some n =>
    if (w1.unlink d n).parentOk d then (.ok (), (w1.unlink d n).enter d (.symlink t)) else fail (w1.unlink d n)
  | none => if w1.parentOk d then (.ok (), w1.enter d (.symlink t)) else fail w1

theorem placeLink_lstat_ne (w1 : PWorld) (t d q : Rs.Path) (hq : q ≠ d) :
    (placeLink w1 t d).2.lstat q = w1.lstat q := by
  unfold placeLink
  cases w1.lstat d with
  | none => simp only; split <;> simp [fail, lstat_enter, Ne.symm hq]
  | some n =>
    cases n with
    | dir => rfl
    | file i => simp only; split <;> simp [fail, lstat_enter, Ne.symm hq, lstat_unlink_ne _ _ _ _ hq]
    | symlink t' => simp only; split <;> simp [fail, lstat_enter, Ne.symm hq, lstat_unlink_ne _ _ _ _ hq]

theorem placeLink_ok {w1 : PWorld} {t d : Rs.Path} (h : (placeLink w1 t d).1 = .ok ()) :
    (placeLink w1 t d).2.lstat d = some (.symlink t) := by
  revert h
  unfold placeLink
  cases w1.lstat d with
  | none => simp only; split <;> simp [fail, lstat_enter]
  | some n =>
    cases n with
    | dir => exact fun h => by cases h
    | file i => simp only; split <;> simp [fail, lstat_enter]
    | symlink t' => simp only; split <;> simp [fail, lstat_enter]

theorem placeLink_inodes (w1 : PWorld) (t d : Rs.Path) :
    ((placeLink w1 t d).2.inodes = w1.inodes ∨
      ∃ i, w1.lstat d = some (.file i) ∧ (placeLink w1 t d).2.inodes = decLink w1.inodes i) ∧
      (placeLink w1 t d).2.dirNlink = w1.dirNlink := by
  unfold placeLink
  cases hl : w1.lstat d with
  | none => simp only; split <;> exact ⟨.inl rfl, rfl⟩
  | some n =>
    cases n with
    | file i => simp only; split <;> exact ⟨.inr ⟨i, rfl, rfl⟩, rfl⟩
    | dir => exact ⟨.inl rfl, rfl⟩
    | symlink t' => simp only; split <;> exact ⟨.inl rfl, rfl⟩

theorem create_symlink_run (self : LocalTransport) (w : PWorld) (t d : Rs.Path) :
    runM (LocalTransport.create_symlink posix self t d) w =
      match mkParent w d with
      | (w1, true) => fail w1
      | (w1, false) => placeLink w1 t d := by
  unfold LocalTransport.create_symlink mkParent
  -- the code after the `create_dir_all(parent)` statement is a join point of both of its branches
  extract_lets afterProbe afterParents
  have hrest : ∀ u w1, runM (afterParents u) w1 = placeLink w1 t d := by
    intro u w1
    unfold afterParents afterProbe placeLink
    simp only [runM_bind, runM_capture, posix, lstatOp, unlinkOp, runM_op]
    -- by what `lstat d` finds: a directory stops; a file or link is unlinked first (then `lstat d = none`:
    -- `lstat_unlink_same`); `symlink` enters the name when its parent is a directory
    cases h : w1.lstat d with
    | none => cases hp : w1.parentOk d <;> simp [fail, h, hp]
    | some n =>
      cases n with
      | dir => simp [PWorld.lmeta, Rs.l_is_dir, fail, h]
      | file i =>
        cases hp : (w1.unlink d (.file i)).parentOk d <;>
          simp [PWorld.lmeta, Rs.l_is_dir, fail, h, hp, lstat_unlink_same, runM_bind, runM_op]
      | symlink t' =>
        cases hp : (w1.unlink d (.symlink t')).parentOk d <;>
          simp [PWorld.lmeta, Rs.l_is_dir, fail, h, hp, lstat_unlink_same, runM_bind, runM_op]
  clear_value afterParents afterProbe
  cases Rs.parent d with
  | none => exact hrest _ _
  | some par =>
    rw [runM_bind, posix_create_dir_all_run]
    show _ = match mkdirP w par with | (w1, true) => fail w1 | (w1, false) => placeLink w1 t d
    rcases mkdirP w par with ⟨w1, b⟩
    cases b
    · exact hrest _ _
    · rfl

/-! ### `create_dir_all`: only ever adds directories at absent names -/

/-- `w'` is `w` plus new directories at names that were absent, all of them in `S`; nothing else differs -/
structure Grew (w w' : PWorld) (S : Rs.Path → Prop) : Prop where
  inodes : w'.inodes = w.inodes
  dirNlink : w'.dirNlink = w.dirNlink
  names : ∀ q, w'.lstat q = w.lstat q ∨ (w.lstat q = none ∧ w'.lstat q = some .dir ∧ S q)

theorem Grew.refl (w : PWorld) (S : Rs.Path → Prop) : Grew w w S := ⟨rfl, rfl, fun _ => Or.inl rfl⟩

theorem Grew.mono {w w' : PWorld} {S T : Rs.Path → Prop} (h : Grew w w' S) (hst : ∀ q, S q → T q) : Grew w w' T :=
  ⟨h.inodes, h.dirNlink, fun q => (h.names q).imp id fun ⟨a, b, c⟩ => ⟨a, b, hst q c⟩⟩

theorem Grew.trans {a b c : PWorld} {S : Rs.Path → Prop} (h1 : Grew a b S) (h2 : Grew b c S) : Grew a c S := by
  refine ⟨h2.inodes.trans h1.inodes, h2.dirNlink.trans h1.dirNlink, fun q => ?_⟩
  rcases h1.names q with e1 | ⟨n1, d1, s1⟩ <;> rcases h2.names q with e2 | ⟨n2, d2, s2⟩
  · exact Or.inl (e2.trans e1)
  · exact Or.inr ⟨e1 ▸ n2, d2, s2⟩
  · exact Or.inr ⟨n1, e2.trans d1, s1⟩
  · rw [d1] at n2; cases n2

theorem Grew.keeps {w w' : PWorld} {S : Rs.Path → Prop} (h : Grew w w' S) {q : Rs.Path} {n : PNode}
    (hq : w.lstat q = some n) : w'.lstat q = some n := by
  rcases h.names q with e | ⟨a, _, _⟩
  · exact e.trans hq
  · rw [hq] at a; cases a

theorem Grew.was {w w' : PWorld} {S : Rs.Path → Prop} (h : Grew w w' S) {q : Rs.Path} {n : PNode}
    (hq : w'.lstat q = some n) (hn : n ≠ .dir) : w.lstat q = some n := by
  rcases h.names q with e | ⟨_, e, _⟩
  · rw [← e]; exact hq
  · rw [hq] at e; cases e; exact absurd rfl hn

theorem Grew.resolve_mono {w w' : PWorld} {S : Rs.Path → Prop} (h : Grew w w' S) (n : Nat) (q a : Rs.Path) (nd : PNode)
    (hr : resolve w n q = .node a nd) : resolve w' n q = .node a nd := by
  induction n generalizing q with
  | zero => simp [resolve] at hr
  | succ n ih =>
    unfold resolve at hr ⊢
    cases hl : w.lstat q with
    | none => simp [hl] at hr
    | some x =>
      rw [h.keeps hl]
      rw [hl] at hr
      cases x with
      | symlink t => exact ih _ hr
      | dir => exact hr
      | file i => exact hr

theorem Grew.isDir_mono {w w' : PWorld} {S : Rs.Path → Prop} (h : Grew w w' S) {q : Rs.Path} (hd : w.isDir q = true) :
    w'.isDir q = true := by
  unfold PWorld.isDir PWorld.stat at hd ⊢
  cases hr : resolve w (maxLinks + 1) q with
  | noent => simp [hr] at hd
  | loop => simp [hr] at hd
  | node a nd => rw [h.resolve_mono _ _ _ _ hr]; rw [hr] at hd; exact hd

theorem isDir_of_lstat_dir {w : PWorld} {q : Rs.Path} (h : w.lstat q = some .dir) : w.isDir q = true := by
  simp [PWorld.isDir, PWorld.stat, resolve, h]

theorem lstat_dir_of_isDir {w : PWorld} {q : Rs.Path} (h : w.isDir q = true) (hn : ∀ t, w.lstat q ≠ some (.symlink t)) :
    w.lstat q = some .dir := by
  unfold PWorld.isDir PWorld.stat resolve at h
  cases hl : w.lstat q with
  | none => simp [hl] at h
  | some x =>
    cases x with
    | symlink t => exact absurd hl (hn t)
    | dir => rfl
    | file i => simp [hl] at h

theorem mkdirStep_grew (w : PWorld) (b : Bool) (q : Rs.Path) : Grew w (mkdirStep (w, b) q).1 (· = q) := by
  unfold mkdirStep
  cases b with
  | true => exact Grew.refl _ _
  | false =>
    simp only [Bool.false_eq_true, ↓reduceIte]
    cases hl : w.lstat q with
    | none =>
      refine ⟨rfl, rfl, fun x => ?_⟩
      rw [lstat_enter]
      by_cases hx : q = x
      · subst hx; exact Or.inr ⟨hl, by simp, rfl⟩
      · exact Or.inl (by simp [hx])
    | some n => simp only; split <;> exact Grew.refl _ _

theorem foldl_mkdirStep_failed (qs : List Rs.Path) (w : PWorld) : (qs.foldl mkdirStep (w, true)) = (w, true) := by
  induction qs with
  | nil => rfl
  | cons q qs ih => simpa [mkdirStep] using ih

theorem foldl_mkdirStep_grew (qs : List Rs.Path) (w : PWorld) (b : Bool) :
    Grew w (qs.foldl mkdirStep (w, b)).1 (· ∈ qs) := by
  induction qs generalizing w b with
  | nil => exact Grew.refl _ _
  | cons q qs ih =>
    rw [List.foldl_cons]
    have h1 := (mkdirStep_grew w b q).mono (T := (· ∈ q :: qs)) (fun x hx => by simp [hx])
    have h2 := (ih (mkdirStep (w, b) q).1 (mkdirStep (w, b) q).2).mono (T := (· ∈ q :: qs))
      (fun x hx => List.mem_cons_of_mem _ hx)
    exact h1.trans h2

theorem foldl_mkdirStep_dirs (qs : List Rs.Path) (w : PWorld)
    (h : (qs.foldl mkdirStep (w, false)).2 = false) :
    ∀ q ∈ qs, (qs.foldl mkdirStep (w, false)).1.isDir q = true := by
  induction qs generalizing w with
  | nil => intro q hq; simp at hq
  | cons q qs ih =>
    rw [List.foldl_cons] at h ⊢
    rcases hs : mkdirStep (w, false) q with ⟨w1, b1⟩
    rw [hs] at h
    cases b1 with
    | true => rw [foldl_mkdirStep_failed] at h; cases h
    | false =>
      have hq1 : w1.isDir q = true := by
        unfold mkdirStep at hs
        simp only [Bool.false_eq_true, ↓reduceIte] at hs
        cases hl : w.lstat q with
        | none =>
          rw [hl] at hs
          simp only [Prod.mk.injEq, and_true] at hs
          subst hs
          exact isDir_of_lstat_dir (by simp [lstat_enter])
        | some n =>
          rw [hl] at hs
          simp only at hs
          by_cases hd : w.isDir q = true
          · simp only [hd, ↓reduceIte, Prod.mk.injEq, and_true] at hs; subst hs; exact hd
          · simp [hd] at hs
      intro x hx
      rcases List.mem_cons.1 hx with rfl | hx
      · exact (foldl_mkdirStep_grew qs w1 false).isDir_mono hq1
      · exact ih w1 h x hx

theorem mkdirP_grew (w : PWorld) (p : Rs.Path) : Grew w (mkdirP w p).1 (· ∈ prefixes p) :=
  foldl_mkdirStep_grew _ w false

theorem mkdirP_dirs {w : PWorld} {p : Rs.Path} (h : (mkdirP w p).2 = false) :
    ∀ q ∈ prefixes p, (mkdirP w p).1.isDir q = true := foldl_mkdirStep_dirs _ w h

theorem foldl_mkdirStep_of_dirs (qs : List Rs.Path) (w : PWorld) (h : ∀ q ∈ qs, w.isDir q = true) :
    qs.foldl mkdirStep (w, false) = (w, false) := by
  induction qs with
  | nil => rfl
  | cons q qs ih =>
    rw [List.foldl_cons]
    have hq := h q (List.mem_cons_self ..)
    have : mkdirStep (w, false) q = (w, false) := by
      unfold mkdirStep
      simp only [Bool.false_eq_true, ↓reduceIte]
      cases hl : w.lstat q with
      | none => simp [PWorld.isDir, PWorld.stat, resolve, hl] at hq
      | some n => simp [hq]
    rw [this]
    exact ih (fun x hx => h x (List.mem_cons_of_mem _ hx))

theorem mkdirP_idem {w : PWorld} {p : Rs.Path} (h : (mkdirP w p).2 = false) :
    mkdirP (mkdirP w p).1 p = ((mkdirP w p).1, false) :=
  foldl_mkdirStep_of_dirs _ _ (mkdirP_dirs h)

theorem prefixesAux_self (n : Nat) (p : Rs.Path) (hp : p ≠ []) : p ∈ prefixesAux (n + 1) p := by
  simp [prefixesAux, hp]

theorem self_mem_prefixes (p : Rs.Path) (hp : p ≠ []) : p ∈ prefixes p := by
  unfold prefixes
  cases p with
  | nil => exact absurd rfl hp
  | cons a t => exact prefixesAux_self _ _ hp

theorem parentOk_of_mkParent {w : PWorld} {d : Rs.Path} (hpar : Rs.parent d ≠ none) (h : (mkParent w d).2 = false) :
    (mkParent w d).1.parentOk d = true := by
  unfold mkParent at h ⊢
  unfold PWorld.parentOk
  cases hp : Rs.parent d with
  | none => exact absurd hp hpar
  | some par =>
    rw [hp] at h
    simp only at h ⊢
    cases par with
    | nil => rfl
    | cons a t => exact mkdirP_dirs h _ (self_mem_prefixes _ (by simp))

theorem mkParent_grew (w : PWorld) (d : Rs.Path) :
    Grew w (mkParent w d).1 (fun q => ∃ par, Rs.parent d = some par ∧ q ∈ prefixes par) := by
  unfold mkParent
  cases hp : Rs.parent d with
  | none => exact Grew.refl _ _
  | some par => exact (mkdirP_grew w par).mono (fun q hq => ⟨par, rfl, hq⟩)

theorem stat_of_lstat_file {w : PWorld} {p : Rs.Path} {i : Nat} (h : w.lstat p = some (.file i)) :
    w.stat p = .node p (.file i) := by
  simp [PWorld.stat, resolve, h]

theorem stat_of_lstat_dir {w : PWorld} {p : Rs.Path} (h : w.lstat p = some .dir) : w.stat p = .node p .dir := by
  simp [PWorld.stat, resolve, h]

theorem stat_of_lstat_none {w : PWorld} {p : Rs.Path} (h : w.lstat p = none) : w.stat p = .noent := by
  simp [PWorld.stat, resolve, h]

theorem mem_prefixesAux_length (n : Nat) (p x : Rs.Path) (hx : x ∈ prefixesAux n p) : x.length ≤ p.length := by
  induction n generalizing p with
  | zero => simp [prefixesAux] at hx
  | succ n ih =>
    unfold prefixesAux at hx
    by_cases hp : p = []
    · simp [hp] at hx
    · simp only [hp, ↓reduceIte, List.mem_append, List.mem_singleton] at hx
      rcases hx with hx | rfl
      · cases hq : Rs.parent p with
        | none => simp [hq] at hx
        | some q =>
          rw [hq] at hx
          have := ih q hx
          have := parent_length hq
          omega
      · exact Nat.le_refl _

theorem prefix_not_self {d par : Rs.Path} (hpar : Rs.parent d = some par) (hm : d ∈ prefixes par) : False := by
  have h1 := mem_prefixesAux_length _ _ _ hm
  have h2 := parent_length hpar
  omega

/-- unlinking `d` leaves the directory `d` is entered into in place, provided that directory is one ITSELF (not
    reached through a link that the unlink could take away) -/
theorem parentOk_unlink {w1 : PWorld} {d : Rs.Path} (hpok : w1.parentOk d = true)
    (hreal : ∀ par, Rs.parent d = some par → par ≠ [] → ∀ x, w1.lstat par ≠ some (.symlink x)) (n : PNode) :
    (w1.unlink d n).parentOk d = true := by
  unfold PWorld.parentOk at hpok ⊢
  cases hp : Rs.parent d with
  | none => rw [hp] at hpok; cases hpok
  | some par =>
    rw [hp] at hpok
    cases par with
    | nil => rfl
    | cons a r =>
      simp only at hpok ⊢
      have hd := lstat_dir_of_isDir hpok (hreal _ hp (by simp))
      have hne : (a :: r) ≠ d := fun e => by
        have := parent_length hp
        rw [e] at this
        omega
      exact isDir_of_lstat_dir (by rw [lstat_unlink_ne _ _ _ _ hne]; exact hd)

theorem under_self (p : Rs.Path) : under p p = true := by simp [under]

/-! ### the tie to the engine model: abstraction of a `PWorld` below a destination root -/

open SyModel.Engine
open SyModel.Lemmas.GenTransfer (textOf CleanPath destOf keyOf keyOf_destOf textOf_compsOf textOf_ne_nil textOf_eq
  parent_destOf_snoc parent_destOf_eq)
open SyModel.Lemmas.PathText (join_of_strip_prefix)

/-- a POSIX node as the engine model's destination node: a regular file with the data of its inode (the link count
    is not part of `FileMeta`; the inode id is the `ino` class), the link text as a `String` -/
def absNode (w : PWorld) : PNode → DNode
  | .file i => .file { content := (w.inodes i).content, size := (w.inodes i).size, mtime := (w.inodes i).mtime,
                       xattrs := (w.inodes i).xattrs, ino := i }
  | .dir => .dir
  | .symlink t => .symlink (String.ofList t)

/-- the abstraction function: the names of `w` below `root`, as the model's destination map (keys = the relative
    component paths `keyOf root`), in the order of `w.names` -/
def absDst (root : Rs.Path) (w : PWorld) : Map DNode :=
  w.names.filterMap fun e =>
    match keyOf root e.1 with
    | some k => if k = [] then none else some (k, absNode w e.2)
    | none => none

/-- a destination map `d` REPRESENTS the world below `root`: at every clean key it holds the abstraction of what
    `lstat` finds at the key's path text -/
def Abs (root : Rs.Path) (w : PWorld) (d : Map DNode) : Prop :=
  ∀ k, CleanPath k → d.get? k = (w.lstat (destOf root k)).map (absNode w)

theorem destOf_inj {root : Rs.Path} {k q : Engine.Path} (hk : CleanPath k) (hq : CleanPath q)
    (h : destOf root k = destOf root q) : k = q := by
  have := keyOf_destOf root k hk
  rw [h, keyOf_destOf root q hq] at this
  exact (Option.some.inj this).symm

/-- same inode data up to link counts ⇒ same abstraction of nodes -/
def SameData (t t' : Nat → Inode) : Prop := ∀ i, { t i with nlink := 0 } = { t' i with nlink := 0 }

theorem SameData.rfl' (t : Nat → Inode) : SameData t t := fun _ => rfl
theorem sameData_decLink (t : Nat → Inode) (i : Nat) : SameData (decLink t i) t := by
  intro j; unfold decLink; split <;> rfl
theorem SameData.trans {a b c : Nat → Inode} (h1 : SameData a b) (h2 : SameData b c) : SameData a c :=
  fun i => (h1 i).trans (h2 i)
theorem sameData_dropLinks (es : List (Rs.Path × PNode)) (t : Nat → Inode) : SameData (dropLinks t es) t := by
  unfold dropLinks
  induction es generalizing t with
  | nil => exact SameData.rfl' t
  | cons e es ih =>
    rw [List.foldl_cons]
    refine (ih _).trans ?_
    cases e.2 with
    | file i => exact sameData_decLink t i
    | dir => exact SameData.rfl' t
    | symlink x => exact SameData.rfl' t

theorem absNode_congr {w w' : PWorld} (h : SameData w'.inodes w.inodes) (n : PNode) : absNode w' n = absNode w n := by
  cases n with
  | dir => rfl
  | symlink t => rfl
  | file i =>
    have := h i
    simp only [Inode.mk.injEq] at this
    simp [absNode, this.1, this.2.1, this.2.2.1, this.2.2.2.1]

/-! #### path texts: "below" on texts is "prefix" on keys -/

/-- the text every destination path starts with -/
def rootPfx (root : Rs.Path) : Rs.Path := if root.isEmpty then [] else root ++ ['/']

theorem destOf_eq (root : Rs.Path) (k : Engine.Path) : destOf root k = rootPfx root ++ textOf k := by
  unfold destOf Rs.join rootPfx
  split <;> simp

theorem clean_of_prefix {k q : Engine.Path} (hq : CleanPath q) (hk : k ≠ []) (h : k <+: q) : CleanPath k :=
  ⟨hk, fun c hc => hq.2 c (h.subset hc)⟩

theorem under_destOf (root : Rs.Path) (k q : Engine.Path) (hk : CleanPath k) (hq : CleanPath q) :
    under (destOf root k) (destOf root q) = isPrefix k q := by
  rw [destOf_eq root k, destOf_eq root q]
  rw [Bool.eq_iff_iff, isPrefix_iff]
  unfold under
  simp only [Bool.or_eq_true, beq_iff_eq, List.isPrefixOf_iff_prefix, List.append_assoc, List.append_cancel_left_eq,
    List.prefix_append_right_inj]
  have := PathText.text_prefix_iff (textOf q) (textOf k)
  rwa [textOf_eq k, textOf_eq q, PathText.compsOf_textOf k hk, PathText.compsOf_textOf q hq, ← textOf_eq k,
    ← textOf_eq q] at this

/-! #### `remove` implements `t_remove` -/

theorem abs_unlink {root : Rs.Path} {w : PWorld} {d : Map DNode} (habs : Abs root w d) (k : Engine.Path)
    (hk : CleanPath k) (n : PNode) : Abs root (w.unlink (destOf root k) n) (d.erase k) := by
  intro q hq
  have hsd : SameData (w.unlink (destOf root k) n).inodes w.inodes := by
    cases n with
    | file i => exact sameData_decLink _ _
    | dir => exact SameData.rfl' _
    | symlink t => exact SameData.rfl' _
  rw [Map.get?_erase]
  by_cases h : k = q
  · subst h; simp [lstat_unlink_same]
  · have hne : destOf root q ≠ destOf root k := fun e => h (destOf_inj hk hq e.symm)
    rw [if_neg h, lstat_unlink_ne _ _ _ _ hne, habs q hq]
    cases w.lstat (destOf root q) with
    | none => rfl
    | some x => simp [absNode_congr hsd]

theorem abs_removeTree {root : Rs.Path} {w : PWorld} {d : Map DNode} (habs : Abs root w d) (k : Engine.Path)
    (hk : CleanPath k) : Abs root (w.removeTree (destOf root k)) (d.eraseSubtree k) := by
  intro q hq
  have hsd : SameData (w.removeTree (destOf root k)).inodes w.inodes := sameData_dropLinks _ _
  rw [Map.get?_eraseSubtree, lstat_removeTree, under_destOf root k q hk hq]
  cases isPrefix k q with
  | true => rfl
  | false =>
    simp only [Bool.false_eq_true, ↓reduceIte]
    rw [habs q hq]
    cases w.lstat (destOf root q) with
    | none => rfl
    | some x => simp [absNode_congr hsd]

/-! #### `create_dir_all` implements `mkdirAll` -/

theorem prefixesAux_fuel (n m : Nat) (q : Rs.Path) (hn : q.length ≤ n) (hm : q.length ≤ m) :
    prefixesAux n q = prefixesAux m q := by
  induction n generalizing m q with
  | zero =>
    have : q = [] := List.length_eq_zero_iff.1 (by omega)
    subst this
    cases m <;> simp [prefixesAux]
  | succ n ih =>
    by_cases hq : q = []
    · subst hq; cases m <;> simp [prefixesAux]
    · cases m with
      | zero => exact absurd (List.length_eq_zero_iff.1 (by omega)) hq
      | succ m =>
        simp only [prefixesAux, hq, ↓reduceIte]
        cases hp : Rs.parent q with
        | none => rfl
        | some r =>
          have := parent_length hp
          simp only
          rw [ih m r (by omega) (by omega)]

theorem prefixes_parent {p q : Rs.Path} (hp : p ≠ []) (h : Rs.parent p = some q) : prefixes p = prefixes q ++ [p] := by
  unfold prefixes
  cases hl : p.length with
  | zero => exact absurd (List.length_eq_zero_iff.1 hl) hp
  | succ n =>
    have := parent_length h
    simp only [prefixesAux, hp, ↓reduceIte, h]
    rw [prefixesAux_fuel n q.length q (by omega) (Nat.le_refl _)]

theorem destOf_ne_nil (root : Rs.Path) (k : Engine.Path) (hk : CleanPath k) : destOf root k ≠ [] := by
  rw [destOf_eq root k]
  have := textOf_ne_nil k hk
  intro e
  exact this (List.append_eq_nil_iff.1 e).2

theorem prefixes_destOf (root : Rs.Path) (k : Engine.Path) (hk : CleanPath k) :
    prefixes (destOf root k) = prefixes root ++ (ancestors k ++ [k]).map (destOf root) := by
  generalize hlen : k.length = n
  induction n generalizing k with
  | zero => exact absurd (List.length_eq_zero_iff.1 hlen) hk.1
  | succ n ih =>
    obtain ⟨ks, c, rfl⟩ := hk.exists_snoc
    have hp := parent_destOf_snoc root ks c hk
    rw [prefixes_parent (destOf_ne_nil root _ hk) hp]
    by_cases hks : ks = []
    · subst hks
      simp [ancestors]
    · have hcl : CleanPath ks := clean_of_prefix hk hks (List.prefix_append _ _)
      simp only [hks, ↓reduceIte]
      rw [ih ks hcl (by simpa using hlen), ancestors_snoc ks c hks]
      simp

theorem absNode_enter (w : PWorld) (p : Rs.Path) (n x : PNode) : absNode (w.enter p n) x = absNode w x := by
  cases x <;> rfl

theorem abs_enter {root : Rs.Path} {w : PWorld} {d : Map DNode} (habs : Abs root w d) (k : Engine.Path)
    (hk : CleanPath k) (n : PNode) : Abs root (w.enter (destOf root k) n) (d.set k (absNode w n)) := by
  intro q hq
  rw [Map.get?_set, lstat_enter]
  by_cases h : k = q
  · subst h; simp [absNode_enter]
  · have hne : destOf root k ≠ destOf root q := fun e => h (destOf_inj hk hq e)
    rw [if_neg h, if_neg hne, habs q hq]
    cases w.lstat (destOf root q) with
    | none => rfl
    | some x => simp [absNode_enter]

theorem sim_mkdir (root : Rs.Path) (qs : List Engine.Path) (pw : PWorld) (d : Map DNode) (habs : Abs root pw d)
    (hq : ∀ q ∈ qs, CleanPath q ∧ ∀ t, pw.lstat (destOf root q) ≠ some (.symlink t)) :
    match qs.foldl mkStep (some d) with
    | some d' => ∃ pw', (qs.map (destOf root)).foldl mkdirStep (pw, false) = (pw', false) ∧ Abs root pw' d' ∧
        Grew pw pw' (fun _ => True)
    | none => ((qs.map (destOf root)).foldl mkdirStep (pw, false)).2 = true := by
  induction qs generalizing pw d with
  | nil => exact ⟨pw, rfl, habs, Grew.refl _ _⟩
  | cons q qs ih =>
    obtain ⟨hqc, hqn⟩ := hq q (List.mem_cons_self ..)
    have hq' := fun x hx => hq x (List.mem_cons_of_mem _ hx)
    have hg := habs q hqc
    have hne : q ≠ [] := hqc.1
    rw [List.foldl_cons, List.map_cons, List.foldl_cons]
    cases hl : pw.lstat (destOf root q) with
    | none =>
      rw [hl] at hg
      have h1 : mkStep (some d) q = some (d.set q .dir) := by simp [mkStep, hne, hg]
      have h2 : mkdirStep (pw, false) (destOf root q) = (pw.enter (destOf root q) .dir, false) := by
        simp [mkdirStep, hl]
      rw [h1, h2]
      have hgrew : Grew pw (pw.enter (destOf root q) .dir) (fun _ => True) := by
        have := (mkdirStep_grew pw false (destOf root q)).mono (T := fun _ => True) (fun _ _ => trivial)
        rwa [h2] at this
      have := ih (pw.enter (destOf root q) .dir) (d.set q .dir) (abs_enter habs q hqc .dir) (fun x hx => by
        refine ⟨(hq' x hx).1, fun t ht => ?_⟩
        exact (hq' x hx).2 t (hgrew.was ht (by simp)))
      revert this
      cases qs.foldl mkStep (some (d.set q .dir)) with
      | none => exact id
      | some d' => rintro ⟨pw', a, b, c⟩; exact ⟨pw', a, b, hgrew.trans c⟩
    | some n =>
      rw [hl] at hg
      cases n with
      | symlink t => exact absurd hl (hqn t)
      | dir =>
        have h1 : mkStep (some d) q = some d := by simp [mkStep, hne, hg, absNode]
        have h2 : mkdirStep (pw, false) (destOf root q) = (pw, false) := by
          simp [mkdirStep, hl, isDir_of_lstat_dir hl]
        rw [h1, h2]
        exact ih pw d habs hq'
      | file i =>
        have h1 : mkStep (some d) q = none := by simp [mkStep, hne, hg, absNode]
        have h2 : mkdirStep (pw, false) (destOf root q) = (pw, true) := by
          simp [mkdirStep, hl, PWorld.isDir, stat_of_lstat_file hl]
        rw [h1, h2, foldl_mkStep_none, foldl_mkdirStep_failed]

/-- the chain of the destination root exists already (the root was created or checked before any task runs) -/
def RootOk (root : Rs.Path) (pw : PWorld) : Prop := ∀ q ∈ prefixes root, pw.isDir q = true

/-- no symbolic link at `k` or at an ancestor of `k` below the root (the engine model has no link resolution: a link
    to a directory on the chain is where POSIX `mkdir -p` succeeds and the model's `mkdirAll` fails) -/
def NoLinksTo (root : Rs.Path) (pw : PWorld) (k : Engine.Path) : Prop :=
  ∀ q, q ≠ [] → isPrefix q k = true → ∀ t, pw.lstat (destOf root q) ≠ some (.symlink t)

theorem mkdirP_sim (root : Rs.Path) (pw : PWorld) (d : Map DNode) (k : Engine.Path) (hk : CleanPath k)
    (hr : RootOk root pw) (hn : NoLinksTo root pw k) (habs : Abs root pw d) :
    match mkdirAll d k with
    | some d' => ∃ pw', mkdirP pw (destOf root k) = (pw', false) ∧ Abs root pw' d' ∧ Grew pw pw' (fun _ => True)
    | none => (mkdirP pw (destOf root k)).2 = true := by
  rw [mkdirAll_eq]
  unfold mkdirP
  rw [prefixes_destOf root k hk]
  have e : ∀ X : List Rs.Path, (prefixes root ++ X).foldl mkdirStep (pw, false) = X.foldl mkdirStep (pw, false) := by
    intro X; rw [List.foldl_append, foldl_mkdirStep_of_dirs _ _ hr]
  rw [e]
  apply sim_mkdir root _ pw d habs
  intro q hq
  have hq' : q ≠ [] ∧ isPrefix q k = true := by
    rcases mem_chain_self.1 hq with h | h
    · exact h
    · subst h; exact ⟨hk.1, isPrefix_refl _⟩
  exact ⟨clean_of_prefix hk hq'.1 ((isPrefix_iff _ _).1 hq'.2), hn q hq'.1 hq'.2⟩

/-! #### `create_symlink` implements `writeSymlink` -/

theorem mkParent_sim (root : Rs.Path) (pw : PWorld) (d : Map DNode) (k : Engine.Path) (hk : CleanPath k)
    (hr : RootOk root pw) (hn : NoLinksTo root pw (parentOf k)) (habs : Abs root pw d) :
    match mkdirAll d (parentOf k) with
    | some d1 => ∃ pw1, mkParent pw (destOf root k) = (pw1, false) ∧ Abs root pw1 d1 ∧ Grew pw pw1 (fun _ => True)
    | none => (mkParent pw (destOf root k)).2 = true := by
  unfold mkParent
  rw [parent_destOf_eq root k hk]
  by_cases hks : parentOf k = []
  · have h1 : mkdirAll d [] = some d :=
      mkdirAll_of_dirs d [] (fun x hx hp => absurd (isPrefix_nil_right hp) hx)
    simp only [hks, ↓reduceIte, h1]
    exact ⟨pw, foldl_mkdirStep_of_dirs _ _ hr, habs, Grew.refl _ _⟩
  · simp only [hks, ↓reduceIte]
    exact mkdirP_sim root pw d _ (clean_of_prefix hk hks (List.dropLast_prefix k)) hr hn habs

theorem placeLink_sim (root : Rs.Path) (pw1 : PWorld) (d1 : Map DNode) (k : Engine.Path) (t : Rs.Path)
    (hk : CleanPath k) (habs1 : Abs root pw1 d1) (hpok : pw1.parentOk (destOf root k) = true)
    (hreal : ∀ par, Rs.parent (destOf root k) = some par → par ≠ [] → ∀ x, pw1.lstat par ≠ some (.symlink x)) :
    (d1.get? k = some .dir → placeLink pw1 t (destOf root k) = (.error .io, pw1)) ∧
    (d1.get? k ≠ some .dir → ∃ pw', placeLink pw1 t (destOf root k) = (.ok (), pw') ∧
        Abs root pw' (d1.set k (.symlink (String.ofList t)))) := by
  have hg := habs1 k hk
  have hkeep := parentOk_unlink hpok hreal
  -- a file or link at the name is unlinked first: the model's `set` over the erased key is `set`
  have hrepl : ∀ n, Abs root ((pw1.unlink (destOf root k) n).enter (destOf root k) (.symlink t))
      (d1.set k (.symlink (String.ofList t))) := fun n => by
    have := abs_enter (abs_unlink habs1 k hk n) k hk (.symlink t)
    rwa [Map.set_erase_eq] at this
  unfold placeLink
  cases hl : pw1.lstat (destOf root k) with
  | none =>
    simp only [hpok, ↓reduceIte]
    exact ⟨fun h => (by rw [hl, h] at hg; cases hg), fun _ => ⟨_, rfl, abs_enter habs1 k hk (.symlink t)⟩⟩
  | some n =>
    rw [hl] at hg
    cases n with
    | dir => exact ⟨fun _ => rfl, fun h => absurd hg h⟩
    | file i =>
      simp only [hkeep, ↓reduceIte]
      exact ⟨fun h => (by rw [h] at hg; cases hg), fun _ => ⟨_, rfl, hrepl _⟩⟩
    | symlink t' =>
      simp only [hkeep, ↓reduceIte]
      exact ⟨fun h => (by rw [h] at hg; cases hg), fun _ => ⟨_, rfl, hrepl _⟩⟩

/-! #### the abstraction FUNCTION represents the world: `Abs root w (absDst root w)` -/

theorem eq_destOf_of_keyOf {root p : Rs.Path} {k : Engine.Path} (h : keyOf root p = some k) (hk : CleanPath k) :
    p = destOf root k := by
  unfold keyOf at h
  cases hs : Rs.strip_prefix p root with
  | error e => simp [hs] at h
  | ok r =>
    simp only [hs, Option.some.injEq] at h
    by_cases hr : r = []
    · simp [hr] at h; exact absurd h hk.1
    · simp only [hr, ↓reduceIte] at h
      subst h
      rw [destOf, textOf_compsOf]
      exact join_of_strip_prefix hs hr

theorem abs_absDst (root : Rs.Path) (w : PWorld) : Abs root w (absDst root w) := by
  intro k hk
  unfold absDst PWorld.lstat
  induction w.names with
  | nil => rfl
  | cons e l ih =>
    obtain ⟨p, n⟩ := e
    simp only [List.filterMap_cons, lookup]
    cases hkey : keyOf root p with
    | none =>
      have hne : p ≠ destOf root k := fun e => by rw [e, keyOf_destOf root k hk] at hkey; cases hkey
      simp only [hne, ↓reduceIte]; exact ih
    | some k' =>
      by_cases hk' : k' = []
      · have hne : p ≠ destOf root k := fun e => by
          rw [e, keyOf_destOf root k hk] at hkey; exact hk.1 ((Option.some.inj hkey).trans hk')
        simp only [hk', ↓reduceIte, hne]; exact ih
      · simp only [hk', ↓reduceIte, Map.get?_cons]
        by_cases he : k' = k
        · subst he
          have := eq_destOf_of_keyOf hkey hk
          simp [this]
        · have hne : p ≠ destOf root k := fun e => by
            rw [e, keyOf_destOf root k hk] at hkey; exact he (Option.some.inj hkey).symm
          simp only [he, ↓reduceIte, hne]; exact ih

end SyModel.Lemmas.GenLocalFs
