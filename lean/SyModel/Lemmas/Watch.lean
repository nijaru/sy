/-
  What each kind of input does to a state of the watch loop model (C20): one equation per program
  point of `step` and the case analyses built from them (`step_cases`, `failMove_cases`,
  `signal_cases`), through which every later proof looks at a move.  Also here, because they need
  nothing else: once `done`, nothing but the environment's fields moves (`run_done`), and a SIGINT ends
  the process within two moves of the loop thread from every state in which the handler is installed
  only inside the loop (`HandlerOK`, `signal_exits`) — in BOTH orders of arming and under every
  schedule, which is why `HandlerOK` is not a clause of `Inv`.
-/
import SyModel.Watch.Loop
namespace SyModel.Watch

/-! ### schedules -/

@[simp] theorem run_nil (c : Cfg) (s : State) : run c s [] = s := rfl
@[simp] theorem run_cons (c : Cfg) (s : State) (i : Input) (t : List Input) :
    run c s (i :: t) = run c (apply c s i) t := rfl
theorem run_append (c : Cfg) (s : State) (a b : List Input) :
    run c s (a ++ b) = run c (run c s a) b :=
  List.foldl_append

theorem run_inv (c : Cfg) {P : State → Prop} (is : List Input)
    (h : ∀ s, P s → ∀ i ∈ is, P (apply c s i)) : ∀ s, P s → P (run c s is) := by
  induction is with
  | nil => exact fun s hs => hs
  | cons i t ih =>
    exact fun s hs => ih (fun s' hs' j hj => h s' hs' j (List.mem_cons_of_mem _ hj)) _
      (h s hs i List.mem_cons_self)

@[simp] theorem nSteps_nil : nSteps [] = 0 := rfl
@[simp] theorem nSteps_step (t : List Input) : nSteps (.step :: t) = nSteps t + 1 := rfl
@[simp] theorem nSteps_tick (δ : Nat) (t : List Input) : nSteps (.tick δ :: t) = nSteps t := rfl
@[simp] theorem nSteps_event (k e) (t : List Input) : nSteps (.event k e :: t) = nSteps t := rfl
@[simp] theorem nSteps_sigint (t : List Input) : nSteps (.sigint :: t) = nSteps t := rfl
@[simp] theorem nSteps_fail (t : List Input) : nSteps (.fail :: t) = nSteps t := rfl

theorem nSteps_append (a b : List Input) : nSteps (a ++ b) = nSteps a + nSteps b := by
  induction a with
  | nil => exact (Nat.zero_add _).symm
  | cons i t ih => cases i <;> simp only [List.cons_append, nSteps, ih, Nat.add_right_comm]

theorem quiet_cases {i : Input} (h : i.quiet = true) : i = .step ∨ ∃ δ, i = .tick δ := by
  cases i <;> simp [Input.quiet] at h ⊢

theorem nSteps_replicate (n : Nat) : nSteps (List.replicate n Input.step) = n := by
  induction n with
  | zero => rfl
  | succ m ih => rw [List.replicate_succ, nSteps_step, ih]

theorem quiescent_replicate (n : Nat) : Quiescent (List.replicate n Input.step) := by
  intro i hi; rw [List.eq_of_mem_replicate hi]; rfl

instance (is : List Input) : Decidable (Quiescent is) := by unfold Quiescent; exact inferInstance

theorem admissible_of_faithful (c : Cfg) (is : List Input) :
    ∀ s, (∀ i ∈ is, i.faithful = true) → (∀ i ∈ is, i ≠ .fail) → admissible c s is = true := by
  induction is with
  | nil => intro s _ _; rfl
  | cons i t ih =>
    intro s hf hn
    simp only [admissible, Bool.and_eq_true]
    refine ⟨?_, ih _ (fun j hj => hf j (List.mem_cons_of_mem _ hj)) (fun j hj => hn j (List.mem_cons_of_mem _ hj))⟩
    have h1 := hf i List.mem_cons_self
    have h2 := hn i List.mem_cons_self
    cases i <;> first | exact h1 | exact absurd rfl h2

theorem quiet_faithful {i : Input} (h : i.quiet = true) : i.faithful = true := by
  cases i <;> simp [Input.quiet] at h <;> rfl

/-! ### the comparison rule -/

theorem syncTo_of_vis {c : Cfg} {a d : Ver} (h : Vis c a d) : syncTo c a d = a := by
  unfold syncTo
  rcases h with h | h
  · subst h; split <;> rfl
  · rw [if_pos h]

theorem syncTo_settled (c : Cfg) (a d : Ver) :
    syncTo c a d = a ∨ needsUpdate c a (syncTo c a d) = false := by
  unfold syncTo
  cases h : needsUpdate c a d
  · exact Or.inr (by rw [if_neg (by simp)]; exact h)
  · exact Or.inl (if_pos rfl)

@[simp] theorem syncTo_self (c : Cfg) (a : Ver) : syncTo c a a = a := by
  unfold syncTo; split <;> rfl

theorem syncTo_fix {c : Cfg} {a d : Ver} (h : d = a ∨ needsUpdate c a d = false) : syncTo c a d = d := by
  rcases h with h | h
  · rw [h, syncTo_self]
  · exact if_neg (by rw [h]; decide)

theorem syncTo_idem (c : Cfg) (a d : Ver) : syncTo c a (syncTo c a d) = syncTo c a d :=
  syncTo_fix (syncTo_settled c a d)

/-! ### one move of the loop thread, by program point -/

section Step
variable (c : Cfg) (s : State)

theorem step_boot_arm (hp : s.phase = .boot) (hc : c.armFirst = true) (ha : s.armed = false) :
    (step c s).1 = { s with armed := true } := by
  simp [step, hp, hc, ha]

theorem step_boot_start (hp : s.phase = .boot) (ha : c.armFirst = true → s.armed = true) :
    (step c s).1 = { s with phase := .initSync, snap := s.src, syncs := s.syncs + 1, ok := true } := by
  cases hc : c.armFirst
  · simp [step, hp, hc]
  · simp [step, hp, hc, ha hc]

theorem step_init_end (hp : s.phase = .initSync) :
    (step c s).1 = { s with phase := .postInit, dst := syncTo c s.snap s.dst } := by
  simp [step, hp]

theorem step_post_arm (hp : s.phase = .postInit) (ha : s.armed = false) :
    (step c s).1 = { s with armed := true } := by
  simp [step, hp, ha]

theorem step_post_loop (hp : s.phase = .postInit) (ha : s.armed = true) :
    (step c s).1 = { s with phase := .loop, pending := [], lastSync := s.now, handler := true } := by
  simp [step, hp, ha]

theorem step_exit (hp : s.phase = .loop) (hs : s.sig = true) :
    (step c s).1 = { s with phase := .done, armed := false, exit := some .sigint } := by
  simp [step, hp, hs]

/-- ONE equation for kept and dropped kinds (`[k].filter Kind.kept`), so that `reach_sync` and `receive_prefix` need
    no case split -/
theorem step_recv {k : Kind} {q : List Kind} (hp : s.phase = .loop) (hs : s.sig = false)
    (hq : s.queue = k :: q) :
    (step c s).1 =
      { s with now := s.now + c.selectSleep, queue := q, pending := s.pending ++ [k].filter Kind.kept } := by
  cases hk : k.kept <;> simp [step, hp, hs, hq, hk]

/-- joins what `step_recv` appends to what is still to be received -/
theorem filter_singleton_append {α : Type} (p : α → Bool) (a : α) (l : List α) :
    [a].filter p ++ l.filter p = (a :: l).filter p :=
  (List.filter_append [a] l).symm

theorem step_timeout_sync (hp : s.phase = .loop) (hs : s.sig = false) (hq : s.queue = [])
    (hpe : s.pending ≠ []) (hd : c.debounce ≤ s.now + c.selectSleep + c.recvTimeout - s.lastSync) :
    (step c s).1 = { s with now := s.now + c.selectSleep + c.recvTimeout, phase := .sync,
                            snap := s.src, syncs := s.syncs + 1, ok := true } := by
  simp [step, hp, hs, hq, hpe, hd]

theorem step_timeout_idle (hp : s.phase = .loop) (hs : s.sig = false) (hq : s.queue = [])
    (hd : s.pending = [] ∨ ¬ c.debounce ≤ s.now + c.selectSleep + c.recvTimeout - s.lastSync) :
    (step c s).1 = { s with now := s.now + c.selectSleep + c.recvTimeout } := by
  rcases hd with hd | hd <;> simp [step, hp, hs, hq, hd]

theorem step_sync_end (hp : s.phase = .sync) :
    (step c s).1 = { s with phase := .loop, dst := syncTo c s.snap s.dst, pending := [],
                            lastSync := s.now } := by
  simp [step, hp]

theorem step_done (h : s.phase = .done) : (step c s).1 = s := by
  simp [step, h]

theorem step_loop_cases {P : State → Prop} (hp : s.phase = .loop) (hs : s.sig = false)
    (recv : ∀ k q, s.queue = k :: q →
      P { s with now := s.now + c.selectSleep, queue := q, pending := s.pending ++ [k].filter Kind.kept })
    (sync : s.queue = [] → s.pending ≠ [] →
      c.debounce ≤ s.now + c.selectSleep + c.recvTimeout - s.lastSync →
      P { s with now := s.now + c.selectSleep + c.recvTimeout, phase := .sync, snap := s.src,
                 syncs := s.syncs + 1, ok := true })
    (idle : s.queue = [] →
      (s.pending = [] ∨ ¬ c.debounce ≤ s.now + c.selectSleep + c.recvTimeout - s.lastSync) →
      P { s with now := s.now + c.selectSleep + c.recvTimeout }) :
    P (step c s).1 := by
  cases hq : s.queue with
  | cons k q => rw [step_recv c s hp hs hq]; exact recv k q hq
  | nil =>
    by_cases hd : s.pending = [] ∨ ¬ c.debounce ≤ s.now + c.selectSleep + c.recvTimeout - s.lastSync
    · rw [step_timeout_idle c s hp hs hq hd]; exact idle hq hd
    · have hd' := not_or.mp hd
      have hd2 := Decidable.not_not.mp hd'.2
      rw [step_timeout_sync c s hp hs hq hd'.1 hd2]; exact sync hq hd'.1 hd2

theorem step_cases {P : State → Prop}
    (arm : s.phase = .boot ∨ s.phase = .postInit → s.armed = false → P { s with armed := true })
    (initStart : s.phase = .boot → (c.armFirst = true → s.armed = true) →
      P { s with phase := .initSync, snap := s.src, syncs := s.syncs + 1, ok := true })
    (initEnd : s.phase = .initSync → P { s with phase := .postInit, dst := syncTo c s.snap s.dst })
    (enter : s.phase = .postInit → s.armed = true →
      P { s with phase := .loop, pending := [], lastSync := s.now, handler := true })
    (exit : s.phase = .loop → s.sig = true →
      P { s with phase := .done, armed := false, exit := some .sigint })
    (recv : ∀ k q, s.phase = .loop → s.sig = false → s.queue = k :: q →
      P { s with now := s.now + c.selectSleep, queue := q, pending := s.pending ++ [k].filter Kind.kept })
    (sync : s.phase = .loop → s.sig = false → s.queue = [] → s.pending ≠ [] →
      P { s with now := s.now + c.selectSleep + c.recvTimeout, phase := .sync, snap := s.src,
                 syncs := s.syncs + 1, ok := true })
    (idle : s.phase = .loop → s.sig = false → s.queue = [] →
      P { s with now := s.now + c.selectSleep + c.recvTimeout })
    (syncEnd : s.phase = .sync →
      P { s with phase := .loop, dst := syncTo c s.snap s.dst, pending := [], lastSync := s.now })
    (halted : s.phase = .done → P s) :
    P (step c s).1 := by
  cases hp : s.phase with
  | boot =>
    by_cases h : c.armFirst = true ∧ s.armed = false
    · rw [step_boot_arm c s hp h.1 h.2]; exact arm (Or.inl hp) h.2
    · have ha : c.armFirst = true → s.armed = true := fun hc =>
        Bool.not_eq_false _ |>.mp fun ha => h ⟨hc, ha⟩
      rw [step_boot_start c s hp ha]; exact initStart hp ha
  | initSync => rw [step_init_end c s hp]; exact initEnd hp
  | postInit =>
    cases ha : s.armed
    · rw [step_post_arm c s hp ha]; exact arm (Or.inr hp) ha
    · rw [step_post_loop c s hp ha]; exact enter hp ha
  | loop =>
    cases hs : s.sig
    · exact step_loop_cases c s hp hs (fun k q hq => recv k q hp hs hq)
        (fun hq hpe _ => sync hp hs hq hpe) (fun hq _ => idle hp hs hq)
    · rw [step_exit c s hp hs]; exact exit hp hs
  | sync => rw [step_sync_end c s hp]; exact syncEnd hp
  | done => rw [step_done c s hp]; exact halted hp

theorem step_src_sig : (step c s).1.src = s.src ∧ (step c s).1.sig = s.sig := by
  refine step_cases c s (P := fun s' => s'.src = s.src ∧ s'.sig = s.sig)
    ?_ ?_ ?_ ?_ ?_ ?_ ?_ ?_ ?_ ?_ <;> intros <;> exact ⟨rfl, rfl⟩

end Step

/-! ### the other inputs -/

theorem failMove_cases (c : Cfg) (s : State) {P : State → Prop}
    (sync : s.phase = .sync → P { s with phase := .loop, pending := [], lastSync := s.now, ok := false })
    (init : s.phase = .initSync →
      P { s with phase := .done, armed := false, exit := some .error, ok := false })
    (other : s.phase ≠ .sync → s.phase ≠ .initSync → P (step c s).1) :
    P (failMove c s).1 := by
  unfold failMove
  split
  · rename_i h; exact init h
  · rename_i h; exact sync h
  · rename_i h1 h2; exact other h2 h1

theorem apply_event (c : Cfg) (s : State) (k : Kind) (e : Option Ver) :
    apply c s (.event k e) =
      { s with src := e.getD s.src, queue := if s.armed then s.queue ++ [k] else s.queue } := by
  cases e <;> simp only [apply, deliver, Option.getD] <;> split <;> rfl

theorem advance_advance (s : State) (a b : Nat) : advance (advance s a) b = advance s (a + b) := by
  simp [advance, Nat.add_assoc]

theorem advance_zero (s : State) : advance s 0 = s := rfl

@[simp] theorem advance_phase (s : State) (δ : Nat) : (advance s δ).phase = s.phase := rfl
@[simp] theorem advance_pending (s : State) (δ : Nat) : (advance s δ).pending = s.pending := rfl
@[simp] theorem advance_queue (s : State) (δ : Nat) : (advance s δ).queue = s.queue := rfl
@[simp] theorem advance_src (s : State) (δ : Nat) : (advance s δ).src = s.src := rfl
@[simp] theorem advance_dst (s : State) (δ : Nat) : (advance s δ).dst = s.dst := rfl
@[simp] theorem advance_snap (s : State) (δ : Nat) : (advance s δ).snap = s.snap := rfl
@[simp] theorem advance_sig (s : State) (δ : Nat) : (advance s δ).sig = s.sig := rfl
@[simp] theorem advance_syncs (s : State) (δ : Nat) : (advance s δ).syncs = s.syncs := rfl
@[simp] theorem advance_lastSync (s : State) (δ : Nat) : (advance s δ).lastSync = s.lastSync := rfl
@[simp] theorem advance_armed (s : State) (δ : Nat) : (advance s δ).armed = s.armed := rfl
@[simp] theorem advance_now (s : State) (δ : Nat) : (advance s δ).now = s.now + δ := rfl

theorem signal_cases (s : State) {P : State → Prop} (gone : s.phase = .done → P s)
    (caught : s.phase ≠ .done → s.handler = true → P { s with sig := true })
    (killed : s.phase ≠ .done → s.handler = false →
      P { s with phase := .done, armed := false, exit := some .killed }) :
    P (signal s) := by
  unfold signal
  split
  · rename_i h; exact gone h
  · rename_i h
    split
    · rename_i hh; exact caught h hh
    · rename_i hh; exact killed h (Bool.not_eq_true _ |>.mp hh)

/-! ### `done` is final -/

/-- once the process is gone only the environment's part of the state still moves -/
theorem apply_done (c : Cfg) (s : State) (i : Input) (h : s.phase = .done) :
    ∃ v q n, apply c s i = { s with src := v, queue := q, now := n } := by
  cases i with
  | event k e => exact ⟨_, _, s.now, apply_event c s k e⟩
  | step => exact ⟨s.src, s.queue, s.now, step_done c s h⟩
  | tick δ => exact ⟨s.src, s.queue, _, rfl⟩
  | sigint => exact ⟨s.src, s.queue, s.now, if_pos h⟩
  | fail =>
    refine ⟨s.src, s.queue, s.now, ?_⟩
    refine failMove_cases c s (P := fun s' => s' = s) ?_ ?_ (fun _ _ => step_done c s h)
    · exact fun hp => absurd (hp.symm.trans h) (by decide)
    · exact fun hp => absurd (hp.symm.trans h) (by decide)

theorem run_done (c : Cfg) (is : List Input) (s : State) (h : s.phase = .done) :
    (run c s is).phase = .done ∧ (run c s is).dst = s.dst ∧ (run c s is).exit = s.exit := by
  refine run_inv c (P := fun s' => s'.phase = .done ∧ s'.dst = s.dst ∧ s'.exit = s.exit) is ?_ s
    ⟨h, rfl, rfl⟩
  intro s' hs' i _
  obtain ⟨v, q, n, e⟩ := apply_done c s' i hs'.1
  rw [e]
  exact hs'

/-! ### SIGINT -/

/-- tokio's handler is only ever installed when the loop is entered.  Kept apart from `Inv` (WatchInv): it holds for
    every `Cfg` (the pinned order too) and every schedule, admissible or not — what `C20.sigint_exits` quantifies over. -/
def HandlerOK (s : State) : Prop :=
  s.handler = true → s.phase = .loop ∨ s.phase = .sync ∨ s.phase = .done

theorem handlerOK_step (c : Cfg) (s : State) (h : HandlerOK s) : HandlerOK (step c s).1 := by
  have early : s.phase = .boot ∨ s.phase = .initSync ∨ s.phase = .postInit → s.handler = true → False := by
    intro hp hh
    rcases h hh with h' | h' | h' <;> rw [h'] at hp <;> simp at hp
  refine step_cases c s (P := HandlerOK)
    ?arm ?initStart ?initEnd ?enter ?exit ?recv ?sync ?idle ?syncEnd ?halted
  case arm => exact fun hp _ hh => (early (hp.elim Or.inl (Or.inr ∘ Or.inr)) hh).elim
  case initStart => exact fun hp _ hh => (early (Or.inl hp) hh).elim
  case initEnd => exact fun hp hh => (early (Or.inr (Or.inl hp)) hh).elim
  case enter => exact fun _ _ _ => Or.inl rfl
  case exit => exact fun _ _ _ => Or.inr (Or.inr rfl)
  case recv => exact fun _ _ hp _ _ _ => Or.inl hp
  case sync => exact fun _ _ _ _ _ => Or.inr (Or.inl rfl)
  case idle => exact fun hp _ _ _ => Or.inl hp
  case syncEnd => exact fun _ _ => Or.inl rfl
  case halted => exact fun _ => h

theorem handlerOK_run (c : Cfg) (is : List Input) : ∀ s, HandlerOK s → HandlerOK (run c s is) := by
  refine run_inv c is fun s h i _ => ?_
  cases i with
  | event k e => rw [apply_event]; exact h
  | tick δ => exact h
  | sigint =>
    exact signal_cases s (P := HandlerOK) (fun _ => h) (fun _ _ => h) (fun _ _ _ => Or.inr (Or.inr rfl))
  | fail =>
    exact failMove_cases c s (P := HandlerOK) (fun _ _ => Or.inl rfl) (fun _ _ => Or.inr (Or.inr rfl))
      (fun _ _ => handlerOK_step c s h)
  | step => exact handlerOK_step c s h

theorem env_keeps_sig (c : Cfg) (s : State) (i : Input) (hs : s.sig = true) (h1 : i ≠ .step)
    (h2 : i ≠ .fail) :
    (apply c s i).phase = .done ∨ ((apply c s i).phase = s.phase ∧ (apply c s i).sig = true) := by
  cases i with
  | event k e => rw [apply_event]; exact Or.inr ⟨rfl, hs⟩
  | tick δ => exact Or.inr ⟨rfl, hs⟩
  | sigint =>
    exact signal_cases s (P := fun s' => s'.phase = .done ∨ (s'.phase = s.phase ∧ s'.sig = true))
      Or.inl (fun _ _ => Or.inr ⟨rfl, rfl⟩) (fun _ _ => Or.inl rfl)
  | step => exact absurd rfl h1
  | fail => exact absurd rfl h2

theorem sig_progress (c : Cfg) (is : List Input) :
    ∀ s : State, s.sig = true →
      (s.phase = .done ∨ (s.phase = .loop ∧ 1 ≤ nSteps is) ∨ (s.phase = .sync ∧ 2 ≤ nSteps is)) →
      (run c s is).phase = .done := by
  induction is with
  | nil =>
    intro s _ h
    rcases h with h | h | h
    · exact h
    · exact absurd h.2 (by decide)
    · exact absurd h.2 (by decide)
  | cons i t ih =>
    intro s hs h
    rcases h with h | h
    · exact (run_done c _ s h).1
    -- an input of the environment: same program point, same number of moves still to come
    have env : i ≠ .step → i ≠ .fail → nSteps (i :: t) = nSteps t → (run c s (i :: t)).phase = .done := by
      intro h1 h2 hn
      rcases env_keeps_sig c s i hs h1 h2 with e | ⟨e1, e2⟩
      · exact (run_done c t _ e).1
      · exact ih _ e2 (Or.inr (by rw [e1, ← hn]; exact h))
    -- at the top of the loop the `ctrl_c` arm of the select ends the process
    have hexit : s.phase = .loop → (run c (step c s).1 t).phase = .done := fun hp => by
      rw [step_exit c s hp hs]
      exact (run_done c t _ rfl).1
    cases i with
    | event k e => exact env nofun nofun rfl
    | tick δ => exact env nofun nofun rfl
    | sigint => exact env nofun nofun rfl
    | step =>
      rcases h with ⟨hp, _⟩ | ⟨hp, hn⟩
      · exact hexit hp
      · show (run c (step c s).1 t).phase = .done
        rw [step_sync_end c s hp]
        exact ih _ hs (Or.inr (Or.inl ⟨rfl, Nat.le_of_succ_le_succ hn⟩))
    | fail =>
      refine failMove_cases c s (P := fun s' => (run c s' t).phase = .done) ?_ ?_ ?_
      · intro hp
        have hn := (h.resolve_left fun h' => absurd (h'.1.symm.trans hp) (by decide)).2
        exact ih _ hs (Or.inr (Or.inl ⟨rfl, Nat.le_of_succ_le hn⟩))
      · exact fun hp => h.elim (fun h' => absurd (h'.1.symm.trans hp) (by decide))
          (fun h' => absurd (h'.1.symm.trans hp) (by decide))
      · exact fun hns _ => hexit (h.resolve_right fun h' => hns h'.1).1

theorem signal_exits (c : Cfg) (s : State) (hh : HandlerOK s) (is : List Input) (hn : 2 ≤ nSteps is) :
    (run c (signal s) is).phase = .done := by
  refine signal_cases s (P := fun s' => (run c s' is).phase = .done) ?_ ?_ ?_
  · exact fun hd => (run_done c is s hd).1
  · -- caught: the handler is only installed inside the loop
    intro hnd hhd
    refine sig_progress c is _ rfl (Or.inr ?_)
    rcases hh hhd with h | h | h
    · exact Or.inl ⟨h, Nat.le_of_succ_le hn⟩
    · exact Or.inr ⟨h, hn⟩
    · exact absurd h hnd
  · exact fun _ _ => (run_done c is _ rfl).1

end SyModel.Watch
