/-
  Lemmas.GenEngineRunClean — `FailClean` (Lemmas/GenEngineRun.lean, the restriction of the capstone's execution fold)
  DERIVED from structural hypotheses about the input instead of assumed: `UniqueRels (scanFilter cfg scan)` and
  `DstParentClosed dst` (`failClean_of_closed_dst`; `-H` included, `ParentsFirst` not needed).

  Why it holds.  A failing Create/Update fails because of a node that is ALREADY THERE (`FailCause`, the complete list
  of six): on the way (an ancestor that is a file or a link — then `create_dir_all(parent)` fails too and creates
  nothing) or at the task's own path (then, the destination being parent-closed, the whole parent chain exists and
  `create_dir_all(parent)` has nothing to create).
  Parent-closedness is an invariant of fault-free execution (`perform_closed`, Lemmas/EngineClosed).  The second clause
  of `NoResidue` (no symlink at the path of a failing task) needs that the node at a task's own path is what planning
  saw — the frame lemma `foldl_frame` over the earlier tasks, which all have other paths (`UniqueRels`): the planner
  answers `create` only where the destination holds no link, and nobody else puts one there.
-/
import SyModel.Lemmas.GenEngineRun
import SyModel.Lemmas.EngineClosed
import SyModel.Lemmas.EnginePost
import SyModel.Lemmas.EngineRun
namespace SyModel.Lemmas.GenEngineRunClean
open SyModel SyModel.Engine SyModel.Lemmas.GenEngineRun

/-- **the failure causes of one task** in the model without a fault plan — every one of them is a node that is
    already in the destination map (or, with `-H`, missing from it at the registered first member of the group) -/
inductive FailCause (cfg : Cfg) (w : World) (t : Task) : Prop where
  /-- a strict ancestor of the path is a file or a symlink: `create_dir_all(parent)` fails (ENOTDIR / EEXIST) -/
  | ancestor (x : Path) (hx : x ≠ []) (hp : isPrefix x t.rel = true) (hne : x ≠ t.rel)
      (h0 : w.dst.get? x ≠ none) (h1 : w.dst.get? x ≠ some .dir)
  /-- a directory stands where a file, a symlink or a hard link is to be written -/
  | dirInTheWay (hpl : t.payload ≠ .dir) (h : w.dst.get? t.rel = some .dir)
  /-- a regular file stands where a directory is to be made -/
  | fileInTheWay (hpl : t.payload = .dir) (m : FileMeta) (h : w.dst.get? t.rel = some (.file m))
  /-- a symlink stands where a directory is to be CREATED (an `update` removes it first, fix 862af11) -/
  | linkInTheWay (hpl : t.payload = .dir) (ha : t.act = .create) (s : String)
      (h : w.dst.get? t.rel = some (.symlink s))
  /-- `-H`, creation of a later member of a link group: `link()` onto a name that exists -/
  | linkExists (m : FileMeta) (n : Nat) (hpl : t.payload = .file m n) (hh : cfg.hardlinks = true)
      (ha : t.act = .create) (h : w.dst.get? t.rel ≠ none)
  /-- `-H`: the registered first member of the group is not a regular file (any more) -/
  | firstGone (m : FileMeta) (n : Nat) (hpl : t.payload = .file m n) (hh : cfg.hardlinks = true)
      (x : Nat × Path × Nat) (hx : x ∈ w.linkMap) (h : ∀ fm, w.dst.get? x.2.1 ≠ some (.file fm))

/-- **`perform` fails only for one of the six causes** (and only for a Create / Update outside a dry run): with none of
    them the task fits (`performCU_of_fits`) -/
theorem perform_none_cause {cfg : Cfg} {w : World} {t : Task} (h : perform cfg w t = none) :
    cfg.dryRun = false ∧ (t.act = .create ∨ t.act = .update) ∧ FailCause cfg w t := by
  have hdry : cfg.dryRun = false := by
    cases hd : cfg.dryRun with
    | false => rfl
    | true => rw [SyModel.Engine.perform_dry cfg hd] at h; cases h
  have hs : t.act ≠ .skip := fun hs => by rw [perform_skip hs] at h; cases h
  have hd : t.act ≠ .delete := fun hd => perform_delete_ne_none cfg w t hd h
  refine ⟨hdry, Act.create_or_update hs hd, Classical.byContradiction fun hno => ?_⟩
  rw [perform_cu hs hd hdry] at h
  -- no cause: the task fits, so it completes
  obtain ⟨w', hw⟩ := performCU_of_fits (cfg := cfg) (w := w) (t := t)
    (fun x hx hp hne => Classical.byContradiction fun hc =>
      hno (.ancestor x hx hp hne (fun h0 => hc (.inl h0)) fun h1 => hc (.inr h1)))
    (by
      unfold OwnOK
      cases hpl : t.payload with
      | nothing => trivial
      | dir =>
        rcases hg : w.dst.get? t.rel with _ | m | _ | s
        · exact .inl rfl
        · exact absurd (.fileInTheWay hpl m hg) hno
        · exact .inr (.inl rfl)
        · rcases Act.create_or_update hs hd with ha | ha
          · exact absurd (.linkInTheWay hpl ha s hg) hno
          · exact .inr (.inr ⟨ha, s, rfl⟩)
      | symlink _ | file _ _ => exact fun hg => hno (.dirInTheWay (by rw [hpl]; simp) hg))
    (fun m n hpl hh => ⟨fun ha => Classical.byContradiction fun hg => hno (.linkExists m n hpl hh ha hg),
      fun x hx => Classical.byContradiction fun hg =>
        hno (.firstGone m n hpl hh x hx fun fm hf => hg ⟨fm, hf⟩)⟩)
  rw [hw] at h; cases h

/-- **ONE TASK.**  In a parent-closed destination in which every registered first member of a link group is a regular
    file, a task that fails — planned as a `create` only where no symlink stands — leaves no residue: the parent chain
    of its path exists already (or cannot be made at all), and its path does not hold a symlink. -/
theorem noResidue_of_perform_none {cfg : Cfg} {w : World} {t : Task} (hc : GClosed w.dst)
    (hlm : ∀ x ∈ w.linkMap, ∃ fm, w.dst.get? x.2.1 = some (.file fm))
    (hcre : t.act = .create → ∀ s, w.dst.get? t.rel ≠ some (.symlink s))
    (hf : perform cfg w t = none) : NoResidue w.dst t.rel := by
  obtain ⟨_, _, hcause⟩ := perform_none_cause hf
  -- a node at the task's own path: the whole parent chain is there
  have hpres : w.dst.get? t.rel ≠ none → ∀ d, mkdirAll w.dst (parentOf t.rel) = some d → d = w.dst := by
    intro hp d hd
    have : mkdirAll w.dst (parentOf t.rel) = some w.dst := by
      apply mkdirAll_of_dirs
      intro x hx hpx
      refine hc t.rel hp x hx (isPrefix_trans hpx (parentOf_isPrefix _)) ?_
      intro he
      rw [he] at hpx hx
      exact parentOf_ne hx (isPrefix_antisymm (parentOf_isPrefix _) hpx)
    rw [this] at hd
    cases hd
    rfl
  refine ⟨fun d hd => ?_, fun s hs => ?_⟩
  · cases hcause with
    | ancestor x hx hp hne h0 h1 =>
      rcases mkdirAll_pre hd x hx (isPrefix_parentOf hp hne) with h2 | h2
      · exact absurd h2 h0
      · exact absurd h2 h1
    | dirInTheWay _ h => exact hpres (by rw [h]; simp) d hd
    | fileInTheWay _ m h => exact hpres (by rw [h]; simp) d hd
    | linkInTheWay _ _ s h => exact hpres (by rw [h]; simp) d hd
    | linkExists _ _ _ _ _ h => exact hpres h d hd
    | firstGone _ _ _ _ x hx h =>
      obtain ⟨fm, hfm⟩ := hlm x hx
      exact absurd hfm (h fm)
  · cases hcause with
    | ancestor x hx hp hne h0 h1 => exact h1 (hc t.rel (by rw [hs]; simp) x hx hp hne)
    | dirInTheWay _ h => rw [hs] at h; cases h
    | fileInTheWay _ m h => rw [hs] at h; cases h
    | linkInTheWay _ ha s' h => exact hcre ha s' h
    | linkExists _ _ _ _ ha _ => exact hcre ha s hs
    | firstGone _ _ _ _ x hx h =>
      obtain ⟨fm, hfm⟩ := hlm x hx
      exact absurd hfm (h fm)

/-- `FailClean` says: at every split of the list, the task that fails from the state the tasks before it produced
    leaves no residue -/
theorem failClean_of_splits (cfg : Cfg) : ∀ (ts : List Task) (st : Exec),
    (∀ pre t post, ts = pre ++ t :: post →
      perform cfg (pre.foldl (execTask cfg noFaults) st).w t = none →
      NoResidue (pre.foldl (execTask cfg noFaults) st).w.dst t.rel) →
    FailClean cfg st ts
  | [], _, _ => trivial
  | t :: ts, st, h =>
    ⟨h [] t ts rfl, failClean_of_splits cfg ts _ (fun pre t' post hts =>
      h (t :: pre) t' post (by rw [hts]; rfl))⟩

theorem failClean_splits (cfg : Cfg) : ∀ (ts : List Task) (st : Exec), FailClean cfg st ts →
    ∀ pre t post, ts = pre ++ t :: post →
      perform cfg (pre.foldl (execTask cfg noFaults) st).w t = none →
      NoResidue (pre.foldl (execTask cfg noFaults) st).w.dst t.rel
  | [], _, _, pre, t, post, hts, _ => by cases pre <;> cases hts
  | a :: ts, st, h, [], t, post, hts, hf => by
    cases hts
    exact h.1 hf
  | a :: ts, st, h, b :: pre, t, post, hts, hf => by
    cases hts
    exact failClean_splits cfg _ _ h.2 pre t post rfl hf

theorem failClean_append (cfg : Cfg) : ∀ (ts1 ts2 : List Task) (st : Exec), FailClean cfg st ts1 →
    FailClean cfg (ts1.foldl (execTask cfg noFaults) st) ts2 → FailClean cfg st (ts1 ++ ts2)
  | [], _, _, _, h2 => h2
  | _ :: ts1, ts2, _, h1, h2 => ⟨h1.1, failClean_append cfg ts1 ts2 _ h1.2 h2⟩

theorem failClean_of_deletes (cfg : Cfg) : ∀ (ts : List Task) (st : Exec), (∀ t ∈ ts, t.act = .delete) →
    FailClean cfg st ts
  | [], _, _ => trivial
  | t :: ts, _, h =>
    ⟨fun hf => absurd hf (perform_delete_ne_none cfg _ t (h t (List.mem_cons_self ..))),
      failClean_of_deletes cfg ts _ fun t' ht' => h t' (List.mem_cons_of_mem _ ht')⟩

/-- **`FailClean` for independent tasks.**  Any task list that is pairwise `Later` (no path twice among the
    creates / updates / skips, deletions last and not above them — Lemmas/EngineRun), run from a parent-closed
    destination with an empty link map, in which a `create` is planned only where the START holds no symlink. -/
theorem failClean_of_later {cfg : Cfg} (ts : List Task) (st0 : Exec)
    (hl0 : st0.w.linkMap = []) (hc : GClosed st0.w.dst) (hpw : ts.Pairwise Later)
    (hcre : ∀ t ∈ ts, t.act = .create → ∀ s, st0.w.dst.get? t.rel ≠ some (.symlink s)) :
    FailClean cfg st0 ts := by
  apply failClean_of_splits
  intro pre t post hts hf
  have hmem : t ∈ ts := by rw [hts]; simp
  have hndt : t.act ≠ .delete := fun h => perform_delete_ne_none cfg _ t h hf
  have hpw' := hpw
  rw [hts, List.pairwise_append] at hpw'
  obtain ⟨_, _, hcross⟩ := hpw'
  have hpre : ∀ a ∈ pre, a.rel ≠ t.rel ∧ (a.act = .delete → isPrefix a.rel t.rel = false) := by
    intro a ha
    have hl := hcross a ha t (List.mem_cons_self ..)
    have had : a.act ≠ .delete := fun h => hndt (hl.2 h)
    exact ⟨fun h => (hl.1 had).1 h.symm, fun h => absurd h had⟩
  have hl1 : LinkOK cfg ts (pre.foldl (execTask cfg noFaults) st0).w (t :: post) := by
    apply foldl_linkOK noFaults pre (t :: post) st0
    · intro a ha; rw [hts]; exact List.mem_append_left _ ha
    · rw [← hts]; exact hpw
    · intro x hx; rw [hl0] at hx; cases hx
  have f1 := foldl_frame cfg noFaults pre st0 t.rel hpre
  refine noResidue_of_perform_none (foldl_noFaults_closed cfg pre st0 hc) ?_ ?_ hf
  · intro x hx
    obtain ⟨⟨m, n, d, _, _, hn, _⟩, _⟩ := hl1 x hx
    exact ⟨d, hn⟩
  · intro ha s hs
    rcases f1 with h1 | ⟨_, b1, _⟩
    · rw [h1] at hs; exact hcre t hmem ha s hs
    · rw [b1] at hs; cases hs

/-- **THE STRUCTURAL THEOREM.**  No path twice in the filtered scan + a parent-closed destination (every strict
    ancestor of a listed path is a listed DIRECTORY — true of the listing of any real tree) ⇒ every failed task of the
    model's sequential fault-free run of the plan leaves no residue.  With or without `-H`, `--delete`, `--dry-run`;
    `ParentsFirst` is not needed. -/
theorem failClean_of_closed_dst (cfg : Cfg) (scan : List SEntry) (dst : Map DNode) (n : Nat)
    (hu : UniqueRels (scanFilter cfg scan)) (hc : DstParentClosed dst) :
    FailClean cfg (initExec dst n) (plan cfg scan dst) := by
  rw [plan_eq]
  apply failClean_append
  · refine failClean_of_later _ _ rfl ((gclosed_iff dst).2 hc) (planned_pairwise cfg _ dst hu) ?_
    intro t ht ha s
    obtain ⟨e, _, rfl⟩ := List.mem_map.1 ht
    rw [planEntry_rel]
    exact planEntry_create_not_link cfg dst e ha s
  · apply failClean_of_deletes
    intro t ht
    split at ht
    · exact planDeletions_act ht
    · cases ht

end SyModel.Lemmas.GenEngineRunClean
