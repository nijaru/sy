/-
  Helper lemmas for `SyModel.Delta.Wire`: the JSON printer / parser round trip of `Delta`, that the parser
  accepts 7-bit text only (`decodeJson_ascii`), and that the JSON text is never taken for a zstd frame.
-/
import SyModel.Delta.Wire
import SyModel.Lemmas.Json
namespace SyModel.Delta
open SyModel.Json SyModel.Compress

theorem startsDigit_cons_false (b : UInt8) (t : Bytes) (h : isDigit b = false) : startsDigit (b :: t) = false := h

theorem parseByte_print (b : UInt8) (c : UInt8) (rest : Bytes) (hc : c = 44 ∨ c = 93) :
    parseByte (printNat b.toNat ++ c :: rest) = some (b, c :: rest) := by
  have hp := parseNat_print b.toNat (c :: rest) (by rcases hc with rfl | rfl <;> rfl)
  rw [parseByte, hp]
  simp only [if_pos (UInt8.toNat_lt b), Nat.toUInt8_eq, UInt8.ofNat_toNat]

theorem parseByteArr_encode (d : Bytes) (rest : Bytes) :
    parseByteArr (encodeByteList d ++ 93 :: rest) = some (d, rest) := by
  cases d with
  | nil => simp [encodeByteList, parseByteArr]
  | cons b t =>
    have h := parseByteElems_isElems.encode (encL := encodeByteList) parseByte_print (fun _ => rfl) (fun _ _ _ => rfl)
      b t rest
    obtain ⟨c, r, hc, hd⟩ := printNat_head_digit b.toNat
    obtain ⟨r', hr'⟩ := encL_head (encL := encodeByteList) (fun _ => rfl) (fun _ _ _ => rfl) hc t
    rw [hr'] at h ⊢
    have hne : c ≠ 93 := by intro e; subst e; simp [isDigit] at hd
    simp only [List.cons_append] at h ⊢
    unfold parseByteArr
    split
    · rename_i heq; injection heq with h1 _; exact absurd h1 hne
    · exact h

theorem parseOp_encode (op : Op) (rest : Bytes) : parseOp (encodeOp op ++ rest) = some (op, rest) := by
  rw [parseOp.eq_def]
  cases op with
  | copy o s =>
    have hs := parseNat_print s (lit "}}" ++ rest) (by rw [lit_ofList]; rfl)
    have ho := parseNat_print o (lit ",\"size\":" ++ (printNat s ++ (lit "}}" ++ rest))) (by rw [lit_ofList]; rfl)
    simp only [encodeOp, List.append_assoc, expect_append, ho, hs]
  | data d =>
    have hno : ∀ x, expect (lit "{\"Copy\":{\"offset\":") (lit "{\"Data\":[" ++ x) = none := by
      intro x
      rw [lit_ofList, lit_ofList]
      rfl
    have hcl : 93 :: 125 :: rest = lit "]}" ++ rest := by
      rw [lit_ofList]
      rfl
    simp only [encodeOp, List.append_assoc, hno, expect_append]
    rw [← hcl, parseByteArr_encode]
    simp only [hcl, expect_append]

theorem encodeOp_head (op : Op) : ∃ r, encodeOp op = 123 :: r := by
  cases op with
  | copy o s => exact ⟨_, by rw [encodeOp, lit_ofList]; rfl⟩
  | data d => exact ⟨_, by rw [encodeOp, lit_ofList]; rfl⟩

theorem parseOpElems_isElems : IsElems parseOp parseOpElems := by
  intro l
  rw [parseOpElems]
  split
  · rename_i op r' hp
    simp only [hp]
    cases parseOpElems r' <;> rfl
  · rename_i op r' hp
    simp only [hp]
  · rename_i h1 h2
    split
    · rename_i op r' hp
      exact absurd hp (h1 op r')
    · rename_i op r' hp
      exact absurd hp (h2 op r')
    · rfl

theorem parseOpArr_eats {l r : Bytes} {ops : List Op} (h : parseOpArr l = some (ops, r)) : Eats l r := by
  unfold parseOpArr at h
  split at h
  · cases h
    exact Eats.one (by decide) _
  · exact parseOpElems_isElems.eats parseOp_eats h

theorem parseOpArr_encode (ops : List Op) (rest : Bytes) :
    parseOpArr (encodeOps ops ++ 93 :: rest) = some (ops, rest) := by
  cases ops with
  | nil => simp [encodeOps, parseOpArr]
  | cons op t =>
    have h := parseOpElems_isElems.encode (encL := encodeOps) (fun x c rest _ => parseOp_encode x (c :: rest))
      (fun _ => rfl) (fun _ _ _ => rfl) op t rest
    obtain ⟨r, hr⟩ := encodeOp_head op
    obtain ⟨r', hr'⟩ := encL_head (encL := encodeOps) (fun _ => rfl) (fun _ _ _ => rfl) hr t
    rw [hr'] at h ⊢
    simp only [List.cons_append] at h ⊢
    unfold parseOpArr
    split
    · rename_i heq; injection heq with h1 _; exact absurd h1 (by decide)
    · exact h

theorem decodeJson_encodeJson (d : Delta) : decodeJson (encodeJson d) = some d := by
  have hend : lit "}" = [125] := by
    rw [lit_ofList]
    rfl
  have hb := parseNat_print d.blockSize [125] rfl
  have hs := parseNat_print d.sourceSize (lit ",\"block_size\":" ++ (printNat d.blockSize ++ [125]))
    (by rw [lit_ofList]; rfl)
  have hsrc : ∀ x : Bytes, lit "],\"source_size\":" ++ x = 93 :: (lit ",\"source_size\":" ++ x) := by
    intro x
    rw [lit_ofList, lit_ofList]
    rfl
  rw [decodeJson.eq_def]
  simp only [encodeJson, hend, List.append_assoc, expect_append]
  rw [hsrc, parseOpArr_encode]
  simp only [← hsrc, expect_append, hs, hb]

theorem decodeJson_ascii {l : Bytes} {d : Delta} (h : decodeJson l = some d) : ∀ x ∈ l, x.toNat < 128 := by
  rw [decodeJson.eq_def] at h
  cases h1 : expect (lit "{\"ops\":[") l with
  | none => simp only [h1] at h; cases h
  | some r1 =>
    cases h2 : parseOpArr r1 with
    | none => simp only [h1, h2] at h; cases h
    | some p2 =>
      cases h3 : expect (lit "],\"source_size\":") (93 :: p2.2) with
      | none => simp only [h1, h2, h3] at h; cases h
      | some r3 =>
        cases h4 : parseNat r3 with
        | none => simp only [h1, h2, h3, h4] at h; cases h
        | some p4 =>
          cases h5 : expect (lit ",\"block_size\":") p4.2 with
          | none => simp only [h1, h2, h3, h4, h5] at h; cases h
          | some r5 =>
            cases h6 : parseNat r5 with
            | none => simp only [h1, h2, h3, h4, h5, h6] at h; cases h
            | some p6 =>
              simp only [h1, h2, h3, h4, h5, h6] at h
              split at h
              · rename_i h7
                -- the `]` put back for `expect` is the first byte it strips
                have a3 := expect_eq h3
                rw [lit_ofList] at a3
                have e3 : Eats p2.2 r3 := ⟨_, by decide, List.tail_eq_of_cons_eq a3, by decide⟩
                exact ((expect_eats (by rw [lit_ofList]; decide) h1).trans ((parseOpArr_eats h2).trans (e3.trans
                  ((parseNat_eats h4).trans ((expect_eats (by rw [lit_ofList]; decide) h5).trans
                    (h7 ▸ parseNat_eats h6)))))).ascii (by decide)
              · cases h

/-- the JSON text starts with `{`, never with the zstd magic. -/
theorem encodeJson_no_magic (d : Delta) : hasZstdMagic (encodeJson d) = false := by
  rw [encodeJson, lit_ofList]
  rfl

end SyModel.Delta
