/-
  Lemmas for C13 `terminates`: the variant `measure` of `SyModel.Hardlink.Protocol` decreases on
  every micro-step — for every state (no invariant needed), both protocol variants, every number
  of workers.
-/
import SyModel.Lemmas.HardlinkStep
namespace SyModel.Hardlink

theorem sumTo_le_add (f g : Nat → Nat) (B : Nat) :
    ∀ n, (∀ v, v < n → g v ≤ f v + B) → sumTo g n ≤ sumTo f n + n * B
  | 0, _ => by simp [sumTo]
  | n + 1, h => by
    have ih := sumTo_le_add f g B n (fun v hv => h v (Nat.lt_succ_of_lt hv))
    have hn := h n (Nat.lt_succ_self n)
    simp only [sumTo, Nat.succ_mul]
    omega

theorem sumTo_event (f g : Nat → Nat) (w B D : Nat) :
    ∀ n, w < n → (∀ v, v < n → v ≠ w → g v ≤ f v + B) → g w + D ≤ f w →
      sumTo g n + D ≤ sumTo f n + n * B
  | 0, hw, _, _ => absurd hw (Nat.not_lt_zero _)
  | n + 1, hw, h, hd => by
    simp only [sumTo, Nat.succ_mul]
    by_cases hwn : w = n
    · subst hwn
      have := sumTo_le_add f g B w (fun v hv => h v (Nat.lt_succ_of_lt hv) (Nat.ne_of_lt hv))
      omega
    · have hw' : w < n := by omega
      have ih := sumTo_event f g w B D n hw' (fun v hv => h v (Nat.lt_succ_of_lt hv)) hd
      have hn := h n (Nat.lt_succ_self n) (fun e => hwn e.symm)
      omega

theorem sumTo_lt (f g : Nat → Nat) (w n : Nat) (hw : w < n) (h : ∀ v, v < n → v ≠ w → g v = f v)
    (hlt : g w < f w) : sumTo g n < sumTo f n := by
  have := sumTo_event f g w 0 1 n hw (fun v hv hne => by rw [h v hv hne]; exact Nat.le_refl _) hlt
  omega

/-- `rank` as a function of the pieces of the state it depends on. -/
def rankOf (cfg : Cfg) (c : WorkerCfg) (pc : Pc) (entry : Option Entry) (calls : Nat → Nat) : Nat :=
  cfg.weight * pc.events + pc.local c + (if loopsBack pc entry calls then bonus else 0)

theorem rank_eq (cfg : Cfg) (s : State) (w : Nat) :
    rank cfg s w = rankOf cfg (cfg.worker w) (s.pc w) (s.map (cfg.worker w).inode) s.calls := rfl

theorem rankOf_le (cfg : Cfg) (c : WorkerCfg) (pc : Pc) (e e' : Option Entry) (k k' : Nat → Nat) :
    rankOf cfg c pc e' k' ≤ rankOf cfg c pc e k + bonus := by
  unfold rankOf
  split <;> split <;> omega

/-- an *event* changes shared state (the map or a notify counter). -/
def Effect.isEvent (e : Effect) : Bool := e.map.isSome || e.notify

section
-- as local simp lemmas, not as arguments of each `simp` below: the simp set is built once
attribute [local simp] rankOf Effect.isEvent Effect.entryAfter Effect.callsAfter loopsBack Pc.events Pc.local
  WorkerCfg.loopBase bonus

theorem next_rank (cfg : Cfg) (w : Nat) (c : WorkerCfg) (pc : Pc) (entry : Option Entry)
    (calls : Nat → Nat) (dst : Nat → Option File) (l : Label) (e : Effect)
    (h : next cfg w c pc entry calls dst = some (l, e)) :
    (e.isEvent = false →
      rankOf cfg c e.pc (e.entryAfter entry) (e.callsAfter w calls) < rankOf cfg c pc entry calls) ∧
    (e.isEvent = true →
      rankOf cfg c e.pc (e.entryAfter entry) (e.callsAfter w calls) + cfg.weight
        ≤ rankOf cfg c pc entry calls) := by
  -- per branch: `local` drops by at least one; a step that may lose the loop bonus or send others back is
  -- an event, and an event lowers `events` by one, i.e. pays one `weight` (kept abstract as `W` so that
  -- `omega` sees it as an atom).  Every branch of `next` goes the same way: compute both ranks, then arithmetic.
  -- `bonus = 4` is the least that works: `wake` takes `local` from `loopBase` (`waiting`) to `loopBase + 3`
  -- (`start`), and the rank must still drop
  generalize hW : cfg.weight = W
  cases pc with
  | linkOp _ k | removeOp _ k | mkdirOp k | copyOp k | syncOp k =>
    cases k <;> simp only [next, failPc] at h <;>
      (repeat' split at h) <;> cases h <;> constructor <;> simp [*] <;> (try split) <;> omega
  | _ =>
    simp only [next, failPc] at h
    (repeat' split at h) <;> cases h <;> constructor <;> simp [*] <;> (try split) <;> omega

end

theorem apply_silent (s : State) (w i : Nat) (e : Effect) (h : e.isEvent = false) :
    (s.apply w i e).map = s.map ∧ (s.apply w i e).calls = s.calls := by
  unfold Effect.isEvent at h
  unfold State.apply
  cases hm : e.map <;> cases hn : e.notify <;> simp_all

theorem step_measure_lt {cfg : Cfg} {s s' : State} {w : Nat} {l : Label}
    (h : step cfg s w = some (l, s')) : measure cfg s' < measure cfg s := by
  obtain ⟨hw, e, hnext, rfl⟩ := step_eq_some h
  have hr := next_rank cfg w (cfg.worker w) (s.pc w) (s.map (cfg.worker w).inode) s.calls s.dst l e hnext
  have hself : rank cfg (s.apply w (cfg.worker w).inode e) w
      = rankOf cfg (cfg.worker w) e.pc (e.entryAfter (s.map (cfg.worker w).inode))
          (e.callsAfter w s.calls) := by
    rw [rank_eq, apply_pc_self, apply_map_self, apply_calls]
  unfold measure
  cases hev : e.isEvent
  · -- silent step: nobody else's rank changes
    obtain ⟨hm, hc⟩ := apply_silent s w (cfg.worker w).inode e hev
    apply sumTo_lt _ _ w cfg.n hw
    · intro v _ hvw
      rw [rank_eq, rank_eq, apply_pc_other hvw, hm, hc]
    · rw [hself, rank_eq]; exact hr.1 hev
  · -- event: the others gain at most one bonus each, the actor pays one weight
    have hothers : ∀ v, v < cfg.n → v ≠ w →
        rank cfg (s.apply w (cfg.worker w).inode e) v ≤ rank cfg s v + bonus := by
      intro v _ hvw
      rw [rank_eq, rank_eq, apply_pc_other hvw]
      exact rankOf_le _ _ _ _ _ _ _
    have hpay : rank cfg (s.apply w (cfg.worker w).inode e) w + cfg.weight ≤ rank cfg s w := by
      rw [hself, rank_eq]; exact hr.2 hev
    have := sumTo_event (rank cfg s) (rank cfg (s.apply w (cfg.worker w).inode e)) w bonus cfg.weight
      cfg.n hw hothers hpay
    unfold Cfg.weight at this
    omega

theorem exec_measure {cfg : Cfg} {s s' : State} {sched : List Nat} (h : Exec cfg s sched s') :
    sched.length + measure cfg s' ≤ measure cfg s := by
  induction h with
  | nil s => simp
  | cons hstep _ ih =>
    have := step_measure_lt hstep
    simp only [List.length_cons]
    omega

end SyModel.Hardlink
