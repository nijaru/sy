/-
  The inductive invariant of the watch loop in the repaired order (watcher armed before the
  initial sync): whenever the source differs from the snapshot of the most recently started
  sync, there is outstanding work (a kept event in the channel, or a non-empty `pending` list
  that no running sync is about to clear).  `settled` is only claimed while `ok` holds and no sync
  is running: a failed or running sync has not installed its snapshot; `converge_loop` needs it only
  when nothing is outstanding, where `Covered` gives `ok`.
-/
import SyModel.Lemmas.Watch
namespace SyModel.Watch

/-- Every change of the source is covered: the initial sync is still ahead, or the most
    recently started sync worked from the current source and has not failed, or a relevant event is
    still queued,
    or `pending` is non-empty at the top of the loop (so it will not be cleared before a new
    sync has *started*). -/
def Covered (s : State) : Prop :=
  s.phase = .boot ∨ (s.snap = s.src ∧ s.ok = true) ∨ (∃ k ∈ s.queue, k.kept = true) ∨
    (s.pending ≠ [] ∧ s.phase = .loop)

/-- the last completed sync either made the destination equal to its snapshot, or the
    comparison rule saw nothing to do -/
def Settled (c : Cfg) (s : State) : Prop :=
  s.dst = s.snap ∨ needsUpdate c s.snap s.dst = false

structure Inv (c : Cfg) (s : State) : Prop where
  covered : Covered s
  armed : s.phase ≠ .boot → s.armed = true
  settled : (s.phase = .postInit ∨ s.phase = .loop) → s.ok = true → Settled c s
  time : s.lastSync ≤ s.now
  early : (s.phase = .boot ∨ s.phase = .initSync ∨ s.phase = .postInit) → s.pending = []

def InvD (c : Cfg) (s : State) : Prop := s.phase = .done ∨ Inv c s

theorem inv_init (c : Cfg) (v0 d0 : Ver) : Inv c (init v0 d0) :=
  ⟨Or.inl rfl, fun h => absurd rfl h, nofun, Nat.le_refl _, fun _ => rfl⟩

/-- Away from `boot` and from the top of the loop a change can only be covered by the running or
    last sync's snapshot or by a queued event: a move that leaves those alone keeps it covered,
    wherever it leads. -/
theorem Covered.keep {s s' : State} (h : Covered s) (hb : s.phase ≠ .boot) (hl : s.phase ≠ .loop)
    (h1 : s'.snap = s.snap) (h2 : s'.src = s.src) (h3 : s'.ok = s.ok) (h4 : s'.queue = s.queue) :
    Covered s' := by
  rcases h with h | h | h | h
  · exact absurd h hb
  · exact Or.inr (Or.inl (by rw [h1, h2, h3]; exact h))
  · exact Or.inr (Or.inr (Or.inl (by rw [h4]; exact h)))
  · exact absurd h.2 hl

theorem inv_deliver (c : Cfg) (s : State) (k : Kind) (e : Option Ver)
    (hf : (Input.event k e).faithful = true) (h : Inv c s) : Inv c (apply c s (.event k e)) := by
  rw [apply_event]
  refine ⟨?_, h.armed, h.settled, h.time, h.early⟩
  by_cases hb : s.phase = .boot
  · exact Or.inl hb
  · rw [if_pos (h.armed hb)]
    cases e with
    | none =>
      rcases h.covered with h | h | ⟨k', hk, hk'⟩ | h
      · exact Or.inl h
      · exact Or.inr (Or.inl h)
      · exact Or.inr (Or.inr (Or.inl ⟨k', List.mem_append_left _ hk, hk'⟩))
      · exact Or.inr (Or.inr (Or.inr h))
    | some v =>
      -- the edit's own event, of a kept kind, is now queued
      exact Or.inr (Or.inr (Or.inl ⟨k, List.mem_append_right _ (List.mem_singleton_self k), hf⟩))

theorem inv_step (c : Cfg) (hfix : c.armFirst = true) (s : State) (h : Inv c s) :
    InvD c (step c s).1 := by
  obtain ⟨hc, ha, hs, ht, he⟩ := h
  refine step_cases c s (P := InvD c)
    ?arm ?initStart ?initEnd ?enter ?exit ?recv ?sync ?idle ?syncEnd ?halted
  case arm =>
    intro hp hu
    rcases hp with hp | hp
    · exact Or.inr ⟨Or.inl hp, fun _ => rfl, fun h => by rw [hp] at h; simp at h, ht, fun _ => he (Or.inl hp)⟩
    · exact absurd (ha (by rw [hp]; decide)) (by rw [hu]; decide)
  case initStart =>
    intro hp harm
    exact Or.inr ⟨Or.inr (Or.inl ⟨rfl, rfl⟩), fun _ => harm hfix, fun h => by simp at h, ht,
      fun _ => he (Or.inl hp)⟩
  case initEnd =>
    intro hp
    have hb : s.phase ≠ .boot := by rw [hp]; decide
    exact Or.inr ⟨hc.keep hb (by rw [hp]; decide) rfl rfl rfl rfl, fun _ => ha hb,
      fun _ _ => syncTo_settled c s.snap s.dst, ht, fun _ => he (Or.inr (Or.inl hp))⟩
  case enter =>
    intro hp harm
    exact Or.inr ⟨hc.keep (by rw [hp]; decide) (by rw [hp]; decide) rfl rfl rfl rfl, fun _ => harm,
      fun _ => hs (Or.inl hp), Nat.le_refl _, fun h => by simp at h⟩
  case exit => exact fun _ _ => Or.inl rfl
  case recv =>
    intro k q hp _ hq
    have hnow : s.lastSync ≤ s.now + c.selectSleep := Nat.le_add_right_of_le ht
    refine Or.inr ⟨?_, fun _ => ha (by rw [hp]; decide), fun _ => hs (Or.inr hp), hnow, fun h => by simp [hp] at h⟩
    cases hk : k.kept
    · -- a dropped kind: whatever covered the source still does
      rcases hc with h | h | ⟨k', hk1, hk2⟩ | h
      · exact Or.inl h
      · exact Or.inr (Or.inl h)
      · rw [hq] at hk1
        rcases List.mem_cons.mp hk1 with e | e
        · rw [e, hk] at hk2; cases hk2
        · exact Or.inr (Or.inr (Or.inl ⟨k', e, hk2⟩))
      · exact Or.inr (Or.inr (Or.inr ⟨by simpa [hk] using h.1, hp⟩))
    · exact Or.inr (Or.inr (Or.inr ⟨by simp [hk], hp⟩))
  case sync =>
    intro hp _ _ _
    exact Or.inr ⟨Or.inr (Or.inl ⟨rfl, rfl⟩), fun _ => ha (by rw [hp]; decide), fun h => by simp at h,
      Nat.le_add_right_of_le (Nat.le_add_right_of_le ht), fun h => by simp at h⟩
  case idle =>
    intro hp _ _
    exact Or.inr ⟨hc, fun _ => ha (by rw [hp]; decide), fun _ => hs (Or.inr hp),
      Nat.le_add_right_of_le (Nat.le_add_right_of_le ht), fun h => by simp [hp] at h⟩
  case syncEnd =>
    intro hp
    have hb : s.phase ≠ .boot := by rw [hp]; decide
    exact Or.inr ⟨hc.keep hb (by rw [hp]; decide) rfl rfl rfl rfl, fun _ => ha hb,
      fun _ _ => syncTo_settled c s.snap s.dst, Nat.le_refl _, fun h => by simp at h⟩
  case halted => exact Or.inl

theorem inv_advance (c : Cfg) (s : State) (δ : Nat) (h : Inv c s) : Inv c (advance s δ) :=
  ⟨h.covered, h.armed, h.settled, Nat.le_add_right_of_le h.time, h.early⟩

/-- a sync that fails because the source changed under it: the change's event is still queued -/
theorem inv_fail (c : Cfg) (hfix : c.armFirst = true) (s : State) (hadm : admissible1 s .fail = true)
    (h : Inv c s) : InvD c (failMove c s).1 := by
  refine failMove_cases c s (P := InvD c) ?_ (fun _ => Or.inl rfl) (fun _ _ => inv_step c hfix s h)
  intro hs
  have hne : s.snap ≠ s.src := by simpa [admissible1, hs] using hadm
  refine Or.inr ⟨?_, fun _ => h.armed (by rw [hs]; decide), fun _ h => by simp at h, Nat.le_refl _,
    fun h => by simp at h⟩
  rcases h.covered with h | h | h | h
  · rw [hs] at h; cases h
  · exact absurd h.1 hne
  · exact Or.inr (Or.inr (Or.inl h))
  · rw [hs] at h; cases h.2

theorem invD_apply (c : Cfg) (hfix : c.armFirst = true) (s : State) (i : Input)
    (hf : admissible1 s i = true) (h : InvD c s) : InvD c (apply c s i) := by
  rcases h with h | h
  · obtain ⟨v, q, n, e⟩ := apply_done c s i h
    rw [e]
    exact Or.inl h
  · cases i with
    | event k e => exact Or.inr (inv_deliver c s k e hf h)
    | step => exact inv_step c hfix s h
    | tick δ => exact Or.inr (inv_advance c s δ h)
    | sigint =>
      exact signal_cases s (P := InvD c) Or.inl
        (fun _ _ => Or.inr ⟨h.covered, h.armed, h.settled, h.time, h.early⟩) (fun _ _ => Or.inl rfl)
    | fail => exact inv_fail c hfix s hf h

theorem invD_run (c : Cfg) (hfix : c.armFirst = true) (is : List Input) :
    ∀ s, admissible c s is = true → InvD c s → InvD c (run c s is) := by
  induction is with
  | nil => exact fun s _ h => h
  | cons i t ih =>
    intro s hf h
    simp only [admissible, Bool.and_eq_true] at hf
    exact ih _ hf.2 (invD_apply c hfix s i hf.1 h)

end SyModel.Watch
