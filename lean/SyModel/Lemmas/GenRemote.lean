/-
  Lemmas.GenRemote — the world in which the translated remote helper (`SyModel/Generated/Code/Remote.lean`:
  `main` of src/bin/sy-remote.rs and `apply_delta` of src/delta/applier.rs) is run, the instance of its `Ext`
  record giving every operation its POSIX meaning, and the lemmas that execute the translated code in it.

  PART 1 (`World` … `posix`) IS TRUSTED: the bridge theorems of `Props/GenRemote.lean` are statements about
  `main (posix P)`, so a wrong operation here misrepresents the operating system.  Everything after PART 1 is
  proved.
-/
import SyModel.Generated.Code.Remote
import SyModel.Delta.Wire
import SyModel.Lemmas.Delta
import SyModel.Lemmas.RsMonad
import SyModel.Compress.Sparse
import SyModel.Lemmas.ByteData
import SyModel.Lemmas.PathText
set_option autoImplicit false
namespace SyModel.Remote
open SyModel.Generated SyModel.Generated.Remote

/-! ## PART 1 — the world of one helper invocation (trusted) -/

/-- point update of a function -/
def upd {κ ν : Type} [DecidableEq κ] (f : κ → ν) (k : κ) (v : ν) : κ → ν := fun x => if x = k then v else f x

/-- an open file description: which file it refers to and its file position -/
structure OpenFile where
  path : Rs.Path
  pos  : Nat
  deriving DecidableEq, Repr

/-- What one run of `sy-remote` can see and change.  Bytes are natural numbers, as in the translated code
    (`Vec<u8>` is `List Nat` there). -/
structure World where
  /-- the parsed command line (`Cli::parse()`) -/
  cli      : Cli
  /-- everything the peer sends on standard input, and how much of it has been consumed -/
  stdin    : List Nat
  stdinPos : Nat
  /-- regular files: path text ↦ content.  Path texts are meant clean (no trailing `/`, no `//`, not `/` itself): only
      there is `Rs.parent`, which `createOp` consults, the `Path::parent` of the code -/
  files    : Rs.Path → Option (List Nat)
  /-- existing directories (the empty text — the current directory, see `Rs.parent` — always exists) -/
  dirs     : Rs.Path → Bool
  /-- `some t`: the modification time was set explicitly to `t` (nanoseconds since the epoch, `Rs.SystemTime`);
      `none`: it is the clock time of the last write (not modelled) -/
  mtime    : Rs.Path → Option Nat
  /-- the file system refuses `utimensat` (EPERM, a file system without settable times, …) -/
  denyUtime : Bool
  /-- open files: handle `h ≥ 1` ↦ description; handles `1 … opened` have been handed out; handle `0` is stdin -/
  opened   : Nat
  handle   : Nat → Option OpenFile

/-- the handle of standard input -/
def stdinHandle : Nat := 0

def zeros (n : Nat) : List Nat := List.replicate n 0

/-- `pwrite(data, pos)` with `data` non-empty: overwrite, extend the file when the range passes its end; a
    position beyond the end leaves a gap of zeros -/
def pwrite (file : List Nat) (pos : Nat) (data : List Nat) : List Nat :=
  (file ++ zeros (pos - file.length)).take pos ++ data ++ file.drop (pos + data.length)

/-- `ftruncate(n)`: cut, or extend with zeros -/
def truncate (file : List Nat) (n : Nat) : List Nat := file.take n ++ zeros (n - file.length)

/-- the path itself and the directories above it, as texts: the non-empty prefixes of `q` that end where a `/`
    follows (`a/b/c ↦ a, a/b, a/b/c`; `/a/b ↦ /a, /a/b`) -/
def selfAndAncestors (q : Rs.Path) : List Rs.Path :=
  ((List.range (q.length + 1)).map q.take).filter fun a => !a.isEmpty && (a == q || (a ++ ['/']).isPrefixOf q)

/-- `d` can hold directory entries -/
def World.isDir (w : World) (d : Rs.Path) : Bool := d.isEmpty || w.dirs d

/-- an operation: a result and a new world, or an error that leaves the world as it was (the helper exits
    on the first error of these operations, except for `set_file_mtime`, whose failure changes nothing) -/
abbrev Op (α : Type) := World → Except Rs.Err (α × World)

def Op.run {α : Type} (f : Op α) : Rs.M World α := fun w =>
  match f w with
  | .ok (a, w') => (.ok a, w')
  | .error e => (.error e, w)

/-- the byte source behind a handle and the position in it: stdin, or an open file that still exists -/
def World.source (w : World) (h : Nat) : Option (List Nat × Nat) :=
  if h = stdinHandle then some (w.stdin, w.stdinPos)
  else match w.handle h with
    | some f => (w.files f.path).map fun c => (c, f.pos)
    | none => none

/-- move the position behind a handle -/
def World.setPos (w : World) (h : Nat) (p : Nat) : World :=
  if h = stdinHandle then { w with stdinPos := p }
  else { w with handle := upd w.handle h ((w.handle h).map ({ · with pos := p })) }

/-- an open regular file behind a handle, with its content -/
def World.target (w : World) (h : Nat) : Option (OpenFile × List Nat) :=
  if h = stdinHandle then none
  else match w.handle h with
    | some f => (w.files f.path).map fun c => (f, c)
    | none => none

/-- `File::open(p)` (read only): ENOENT on a missing file; position 0 -/
def openOp (p : Rs.Path) : Op Nat := fun w =>
  match w.files p with
  | none => .error .io
  | some _ => .ok (w.opened + 1, { w with opened := w.opened + 1, handle := upd w.handle (w.opened + 1) (some ⟨p, 0⟩) })

/-- `File::create(p)` (`O_WRONLY | O_CREAT | O_TRUNC`): fails on a directory, on the empty path and when the
    parent is not an existing directory; otherwise the file exists afterwards and is EMPTY, position 0 -/
def createOp (p : Rs.Path) : Op Nat := fun w =>
  if w.dirs p then .error .io
  else match Rs.parent p with
    | none => .error .io
    | some d =>
      if w.isDir d then
        .ok (w.opened + 1,
          { w with files := upd w.files p (some []), mtime := upd w.mtime p none,
                   opened := w.opened + 1, handle := upd w.handle (w.opened + 1) (some ⟨p, 0⟩) })
      else .error .io

/-- `std::fs::create_dir_all(q)`: `Ok` at once for the empty path; fails when `q` or a directory above it is a
    regular file; otherwise `q` and everything above it are directories afterwards -/
def createDirAllOp (q : Rs.Path) : Op Unit := fun w =>
  if (selfAndAncestors q).any (fun a => (w.files a).isSome) then .error .io
  else .ok ((), { w with dirs := fun a => w.dirs a || (selfAndAncestors q).contains a })

/-- `filetime::set_file_mtime(p, t)`: the path must exist -/
def setMtimeOp (p : Rs.Path) (t : Rs.SystemTime) : Op Unit := fun w =>
  if w.denyUtime then .error .io
  else if (w.files p).isSome || w.dirs p then .ok ((), { w with mtime := upd w.mtime p (some t) })
  else .error .io

/-- `read_to_end(&mut buf)`: appends everything from the position to the end; the position moves to the end -/
def readToEndOp (h : Nat) (buf : List Nat) : Op (List Nat) := fun w =>
  match w.source h with
  | none => .error .io
  | some (c, pos) => .ok (buf ++ c.drop pos, w.setPos h (max pos c.length))

/-- `read_exact(&mut buf)`: fills the whole buffer from the position and advances, or fails (`UnexpectedEof`) when
    fewer bytes are left; an empty buffer is filled without reading -/
def readExactOp (h : Nat) (buf : List Nat) : Op (List Nat) := fun w =>
  match w.source h with
  | none => .error .io
  | some (c, pos) =>
    if buf.length = 0 ∨ pos + buf.length ≤ c.length then
      .ok ((c.drop pos).take buf.length, w.setPos h (pos + buf.length))
    else .error .io

/-- `write_all(data)`: nothing at all for empty data (no `write` is issued); otherwise `pwrite` at the position
    of the handle, which advances -/
def writeAllOp (h : Nat) (data : List Nat) : Op Unit := fun w =>
  if data.isEmpty then .ok ((), w)
  else match w.target h with
    | none => .error .io
    | some (f, c) =>
      .ok ((), { (w.setPos h (f.pos + data.length)) with
                   files := upd w.files f.path (some (pwrite c f.pos data)), mtime := upd w.mtime f.path none })

/-- `File::set_len(n)`: the position does not move -/
def setLenOp (h : Nat) (n : Nat) : Op Unit := fun w =>
  match w.target h with
  | none => .error .io
  | some (f, c) => .ok ((), { w with files := upd w.files f.path (some (truncate c n)), mtime := upd w.mtime f.path none })

/-- `seek`: on an open regular file only (stdin is a pipe: ESPIPE); a negative result is EINVAL -/
def seekOp (h : Nat) (s : Rs.SeekFrom) : Op Nat := fun w =>
  match w.target h with
  | none => .error .io
  | some (f, c) =>
    let p : Int := match s with
      | .Start n => n
      | .End k => c.length + k
      | .Current k => f.pos + k
    if p < 0 then .error .io else .ok (p.toNat, w.setPos h p.toNat)

/-- the third-party and parsing functions the helper calls, as parameters -/
structure Parsers where
  /-- lz4 and zstd -/
  L : Compress.Codec
  Z : Compress.Codec
  /-- `String::from_utf8` (`none`: invalid UTF-8) and the UTF-8 encoding of a text (`str::as_bytes`) -/
  utf8Decode : Bytes → Option Rs.Str
  utf8Encode : Rs.Str → Bytes

/-- 7-bit bytes: what `Utf8Sound` asks `String::from_utf8` to accept, and all `Delta.decodeJson` accepts
    (`Delta.decodeJson_ascii`) -/
def Ascii (l : Bytes) : Prop := ∀ x ∈ l, x.toNat < 128

theorem Ascii.append {a b : Bytes} (ha : Ascii a) (hb : Ascii b) : Ascii (a ++ b) := by
  intro x hx; rcases List.mem_append.mp hx with h | h
  · exact ha x h
  · exact hb x h

def toU8 (l : List Nat) : Bytes := l.map Nat.toUInt8
def ofU8 (l : Bytes) : List Nat := l.map UInt8.toNat

def ofOption {α : Type} : Option α → Except Rs.Err α
  | some a => .ok a
  | none => .error .other

def absCompression : Generated.Remote.Compression → Compress.Compression
  | .None => .none
  | .Lz4 => .lz4
  | .Zstd => .zstd

/-- model op ↦ code op, model delta ↦ code delta, model region ↦ code region (what the JSON parsers return) -/
def concOp : Delta.Op → DeltaOp
  | .copy o s => .Copy o s
  | .data d => .Data (ofU8 d)
def concDelta (d : Delta.Delta) : Generated.Remote.Delta :=
  { ops := d.ops.map concOp, source_size := d.sourceSize, block_size := d.blockSize }
def concRegion (r : Compress.Region) : DataRegion := { offset := r.offset, length := r.length }

/-- THE INSTANCE: every operation of the translated helper in the world above. -/
def posix (P : Parsers) : Ext World where
  unmodelled _ := throw .other                       -- the `Scan` and `Checksums` arms are outside the model
  Cli_parse _ := fun w => (.ok w.cli, w)
  std_io_stdin _ := stdinHandle
  decompress d c := ofOption ((Compress.decompress P.L P.Z (absCompression c) (toU8 d)).map ofU8)
  String_from_utf8 b := ofOption (P.utf8Decode (toU8 b))
  serde_json_from_str_Delta s := ofOption ((Delta.decodeJson (P.utf8Encode s)).map concDelta)
  serde_json_from_str_Vec s := ofOption ((Compress.decodeRegions (P.utf8Encode s)).map (·.map concRegion))
  open_ p := (openOp p).run
  create p := (createOp p).run
  std_fs_create_dir_all q := (createDirAllOp q).run
  filetime_set_file_mtime p t := (setMtimeOp p t).run
  h_read_to_end h buf := (readToEndOp h buf).run
  h_read_exact h buf := (readExactOp h buf).run
  h_write_all h data := (writeAllOp h data).run
  h_flush _ := pure ()                               -- no user-space buffer on `File`
  h_sync_all _ := pure ()                            -- durability is not modelled
  h_set_len h n := (setLenOp h n).run
  h_seek h s := (seekOp h s).run

/-! ## PART 2 — executing the translated code in that world (all proved) -/

/-! ### point updates; running the monad -/

@[simp] theorem upd_eq : @upd = @Data.upd := rfl
attribute [reducible] ofU8 toU8
open SyModel.Data

-- the next five are `Rs.run_pure` … `Rs.run_capture` (Lemmas/RsMonad) under this unit's name, with the same statements;
-- `Rs.run_bind` and its corollaries are used under their own names
theorem run_pure {W α : Type} (a : α) (w : W) : (pure a : Rs.M W α) w = (.ok a, w) := Rs.run_pure a w
theorem run_throw {W α : Type} (e : Rs.Err) (w : W) : (throw e : Rs.M W α) w = (.error e, w) := Rs.run_throw e w
theorem run_liftE_ok {W α : Type} (a : α) (w : W) : (Rs.liftE (.ok a) : Rs.M W α) w = (.ok a, w) := Rs.run_liftE_ok a w
theorem run_liftE_error {W α : Type} (e : Rs.Err) (w : W) : (Rs.liftE (.error e) : Rs.M W α) w = (.error e, w) := Rs.run_liftE_error e w
theorem run_capture {W α : Type} (x : Rs.M W α) (w : W) : Rs.capture x w = (.ok (x w).1, (x w).2) := Rs.run_capture x w
theorem run_op {α : Type} (f : Op α) (w : World) :
    f.run w = match f w with
      | .ok (a, w') => (.ok a, w')
      | .error e => (.error e, w) := rfl

/-! ### the instance, field by field -/
section
variable (P : Parsers)
theorem posix_Cli_parse (w : World) : (posix P).Cli_parse () w = (.ok w.cli, w) := rfl
theorem posix_stdin : (posix P).std_io_stdin () = stdinHandle := rfl
theorem posix_unmodelled (s : Rs.Str) : (posix P).unmodelled s = throw .other := rfl
theorem posix_decompress (d : List Nat) (c : Compression) : (posix P).decompress d c =
  ofOption ((Compress.decompress P.L P.Z (absCompression c) (toU8 d)).map ofU8) := rfl
theorem posix_utf8 (b : List Nat) : (posix P).String_from_utf8 b = ofOption (P.utf8Decode (toU8 b)) := rfl
-- `rfl` proves these two and `posix_mkdir` as well, but the first and the last at ten times the work (it unfolds
-- `decodeJson` / `selfAndAncestors`)
theorem posix_json_delta (s : Rs.Str) : (posix P).serde_json_from_str_Delta s =
  ofOption ((Delta.decodeJson (P.utf8Encode s)).map concDelta) := by
  rw [posix]
theorem posix_json_vec (s : Rs.Str) : (posix P).serde_json_from_str_Vec s =
  ofOption ((Compress.decodeRegions (P.utf8Encode s)).map (·.map concRegion)) := by
  rw [posix]
theorem posix_open (p : Rs.Path) : (posix P).open_ p = (openOp p).run := rfl
theorem posix_create (p : Rs.Path) : (posix P).create p = (createOp p).run := rfl
theorem posix_mkdir (p : Rs.Path) : (posix P).std_fs_create_dir_all p = (createDirAllOp p).run := by
  rw [posix]
theorem posix_mtime (p : Rs.Path) (t : Nat) : (posix P).filetime_set_file_mtime p t = (setMtimeOp p t).run := rfl
theorem posix_read_to_end (h : Nat) (b : List Nat) : (posix P).h_read_to_end h b = (readToEndOp h b).run := rfl
theorem posix_read_exact (h : Nat) (b : List Nat) : (posix P).h_read_exact h b = (readExactOp h b).run := rfl
theorem posix_write_all (h : Nat) (b : List Nat) : (posix P).h_write_all h b = (writeAllOp h b).run := rfl
theorem posix_flush (h : Nat) : (posix P).h_flush h = pure () := rfl
theorem posix_sync_all (h : Nat) : (posix P).h_sync_all h = pure () := rfl
theorem posix_set_len (h n : Nat) : (posix P).h_set_len h n = (setLenOp h n).run := rfl
theorem posix_seek (h : Nat) (s : Rs.SeekFrom) : (posix P).h_seek h s = (seekOp h s).run := rfl
end

/-! ### `apply_delta` -/

/-- the world while (and after) `apply_delta` runs from `w`: `oldp` open for reading under the next handle at
    position `posOld`, `newp` created, holding `out`, open under the handle after that at its end; nothing else
    differs from `w` -/
def deltaWorld (w : World) (oldp newp : Rs.Path) (posOld : Nat) (out : List Nat) : World :=
  { w with files := upd w.files newp (some out), mtime := upd w.mtime newp none, opened := w.opened + 2,
           handle := upd (upd w.handle (w.opened + 1) (some ⟨oldp, posOld⟩)) (w.opened + 2) (some ⟨newp, out.length⟩) }

section deltaOps
variable (w : World) (oldp newp : Rs.Path) (oc : List Nat) (hold : w.files oldp = some oc) (hne : oldp ≠ newp)
include hold hne

/-- the entry and the handle of `newp` do not disturb those of `oldp`: the paths differ, and so do the handles -/
theorem delta_source_old (pos : Nat) (out : List Nat) :
    (deltaWorld w oldp newp pos out).source (w.opened + 1) = some (oc, pos) := by
  simp [World.source, stdinHandle, deltaWorld, upd_ne, hne, hold]

theorem delta_target_old (pos : Nat) (out : List Nat) :
    (deltaWorld w oldp newp pos out).target (w.opened + 1) = some (⟨oldp, pos⟩, oc) := by
  simp [World.target, stdinHandle, deltaWorld, upd_ne, hne, hold]

omit hold hne in
theorem delta_setPos_old (pos p : Nat) (out : List Nat) :
    (deltaWorld w oldp newp pos out).setPos (w.opened + 1) p = deltaWorld w oldp newp p out := by
  simp [World.setPos, stdinHandle, deltaWorld, upd_ne, upd_shadow]

theorem delta_seek (pos off : Nat) (out : List Nat) :
    seekOp (w.opened + 1) (.Start off) (deltaWorld w oldp newp pos out) = .ok (off, deltaWorld w oldp newp off out) := by
  have h1 : ¬ ((off : Int) < 0) := by omega
  rw [seekOp, delta_target_old w oldp newp oc hold hne]
  simp only [h1, if_false, Int.toNat_natCast, delta_setPos_old]

theorem delta_readExact (pos : Nat) (out buf : List Nat) :
    readExactOp (w.opened + 1) buf (deltaWorld w oldp newp pos out) =
      if buf.length = 0 ∨ pos + buf.length ≤ oc.length then
        .ok ((oc.drop pos).take buf.length, deltaWorld w oldp newp (pos + buf.length) out)
      else .error .io := by
  rw [readExactOp, delta_source_old w oldp newp oc hold hne]
  simp only [delta_setPos_old]

end deltaOps

theorem pwrite_end (out data : List Nat) : pwrite out out.length data = out ++ data := by
  simp [pwrite, zeros, List.drop_eq_nil_of_le]

/-- the output handle stands at the end of what was written: a write appends -/
theorem delta_writeAll (w : World) (oldp newp : Rs.Path) (pos : Nat) (out data : List Nat) :
    writeAllOp (w.opened + 2) data (deltaWorld w oldp newp pos out) = .ok ((), deltaWorld w oldp newp pos (out ++ data)) := by
  unfold writeAllOp
  split
  · rename_i h; simp at h; simp [h]
  · simp [World.target, stdinHandle, deltaWorld, World.setPos, pwrite_end]

/-- code op ↦ model op -/
def absOp : DeltaOp → Delta.Op
  | .Copy o s => .copy o s
  | .Data d => .data (toU8 d)

/-- the `Data` bytes are bytes -/
def OpU8 : DeltaOp → Prop
  | .Copy _ _ => True
  | .Data d => ∀ b ∈ d, b < 256

/-- what the ops write before the first `Copy` that leaves `old` (all of the output when none does) -/
def applyPartial (old : Bytes) : List Delta.Op → Bytes
  | [] => []
  | .copy off sz :: ops =>
    match Delta.readExact old off sz with
    | some b => b ++ applyPartial old ops
    | none => []
  | .data b :: ops => b ++ applyPartial old ops

theorem applyOps_eq_partial (old : Bytes) (ops : List Delta.Op) (r : Bytes) (h : Delta.applyOps old ops = some r) :
    applyPartial old ops = r := by
  induction ops generalizing r with
  | nil =>
    cases h
    rfl
  | cons op t ih =>
    obtain ⟨b, r', ht, rfl, hb⟩ := Delta.applyOps_cons_some h
    cases op with
    | copy off sz => simp only [applyPartial, hb, ih r' ht]
    | data d =>
      cases hb
      simp only [applyPartial, ih r' ht]

/-- `stats.literal_bytes` / `stats.bytes_written` as the loop accumulates them -/
def literalBytes : List DeltaOp → Nat
  | [] => 0
  | .Copy _ _ :: t => literalBytes t
  | .Data d :: t => d.length + literalBytes t

def bytesWritten : List DeltaOp → Nat
  | [] => 0
  | .Copy _ s :: t => s + bytesWritten t
  | .Data d :: t => d.length + bytesWritten t

/-- where the read handle of `old` stands after the loop -/
def oldPos (old : Bytes) : Nat → List Delta.Op → Nat
  | pos, [] => pos
  | _, .copy off sz :: t =>
    match Delta.readExact old off sz with
    | some _ => oldPos old (off + sz) t
    | none => off
  | pos, .data _ :: t => oldPos old pos t

/-- what one iteration of the loop of `apply_delta` does in a `deltaWorld` (a specification; that the translated loop
    body meets it is proved where the loop lemma is used) -/
def deltaStep (w : World) (oldp newp : Rs.Path) (oc : List Nat) (op : DeltaOp) (acc : Nat × Nat) (pos : Nat) (out : List Nat) :
    Except Rs.Err (ForInStep (Nat × Nat)) × World :=
  match op with
  | .Copy off sz =>
    if sz = 0 ∨ off + sz ≤ oc.length then
      (.ok (.yield (acc.1, acc.2 + sz)), deltaWorld w oldp newp (off + sz) (out ++ (oc.drop off).take sz))
    else (.error .io, deltaWorld w oldp newp off out)
  | .Data d => (.ok (.yield (acc.1 + d.length, acc.2 + d.length)), deltaWorld w oldp newp pos (out ++ d))

/-- the loop of `apply_delta`, for any body `f` that meets `deltaStep`.  Invariant: the world is a `deltaWorld` whose
    output file holds `outB` followed by what the ops run so far wrote (`applyPartial`), with the read handle where the
    last `Copy` left it (`oldPos`) and the counters raised by `literalBytes` / `bytesWritten`; the loop stops with an
    error exactly where the model's `applyOps` has none (a `Copy` that leaves `old`), and the partial output stays -/
theorem apply_delta_loop (w : World) (oldp newp : Rs.Path) (old : Bytes)
    (f : DeltaOp → Nat × Nat → Rs.M World (ForInStep (Nat × Nat)))
    (hf : ∀ op acc pos out, f op acc (deltaWorld w oldp newp pos out) = deltaStep w oldp newp (ofU8 old) op acc pos out)
    (ops : List DeltaOp) (hu : ∀ op ∈ ops, OpU8 op) (acc : Nat × Nat) (pos : Nat) (outB : Bytes) :
    forIn ops acc f (deltaWorld w oldp newp pos (ofU8 outB)) =
      (if (Delta.applyOps old (ops.map absOp)).isSome then .ok (acc.1 + literalBytes ops, acc.2 + bytesWritten ops)
        else .error .io,
       deltaWorld w oldp newp (oldPos old pos (ops.map absOp)) (ofU8 (outB ++ applyPartial old (ops.map absOp)))) := by
  induction ops generalizing acc pos outB with
  | nil => simp [run_pure, Delta.applyOps, literalBytes, bytesWritten, applyPartial, oldPos]
  | cons op t ih =>
    have hu' : ∀ op ∈ t, OpU8 op := fun o ho => hu o (List.mem_cons_of_mem _ ho)
    simp only [List.forIn_cons, Rs.run_bind, hf]
    cases op with
    | Copy off sz =>
      simp only [deltaStep, List.length_map, List.map_cons, absOp, Delta.applyOps, applyPartial, oldPos, Delta.readExact]
      by_cases hc : sz = 0 ∨ off + sz ≤ old.length
      · simp only [hc, if_true]
        have : List.take sz (List.drop off (ofU8 old)) = ofU8 (List.take sz (List.drop off old)) := by
          simp [ofU8, List.map_take, List.map_drop]
        rw [this, ← List.map_append, ih hu']
        cases h : Delta.applyOps old (t.map absOp) <;>
          simp [literalBytes, bytesWritten, List.append_assoc, Nat.add_assoc]
      · simp [hc]
    | Data d =>
      have hd : d = ofU8 (toU8 d) := (ofU8_toU8 d (hu _ List.mem_cons_self)).symm
      simp only [deltaStep, List.map_cons, absOp, Delta.applyOps, applyPartial, oldPos]
      conv => lhs; rw [hd, ← List.map_append]
      rw [ih hu']
      cases h : Delta.applyOps old (t.map absOp) <;>
        simp [literalBytes, bytesWritten, List.append_assoc, Nat.add_assoc, toU8, ofU8]

/-- `File::create p` succeeds in `w` -/
def CanCreate (w : World) (p : Rs.Path) : Prop :=
  w.dirs p = false ∧ ∃ d, Rs.parent p = some d ∧ w.isDir d = true

theorem open_ok (w : World) (p : Rs.Path) (c : List Nat) (h : w.files p = some c) :
    openOp p w = .ok (w.opened + 1, { w with opened := w.opened + 1, handle := upd w.handle (w.opened + 1) (some ⟨p, 0⟩) }) := by
  simp [openOp, h]

theorem create_ok (w : World) (p : Rs.Path) (h : CanCreate w p) :
    createOp p w = .ok (w.opened + 1,
          { w with files := upd w.files p (some []), mtime := upd w.mtime p none,
                   opened := w.opened + 1, handle := upd w.handle (w.opened + 1) (some ⟨p, 0⟩) }) := by
  obtain ⟨h1, d, h2, h3⟩ := h
  simp only [World.isDir] at h3
  simp [createOp, h1, h2, World.isDir, h3]

theorem apply_delta_run (P : Parsers) (w : World) (oldp newp : Rs.Path) (delta : Delta) (old : Bytes)
    (hold : w.files oldp = some (ofU8 old)) (hne : oldp ≠ newp) (hcr : CanCreate w newp)
    (hu : ∀ op ∈ delta.ops, OpU8 op) :
    apply_delta (posix P) oldp delta newp w =
      (if (Delta.applyOps old (delta.ops.map absOp)).isSome then
         .ok { operations_count := delta.ops.length, literal_bytes := literalBytes delta.ops,
               bytes_written := bytesWritten delta.ops }
       else .error .io,
       deltaWorld w oldp newp (oldPos old 0 (delta.ops.map absOp)) (ofU8 (applyPartial old (delta.ops.map absOp)))) := by
  have hcr' : CanCreate { w with opened := w.opened + 1, handle := upd w.handle (w.opened + 1) (some ⟨oldp, 0⟩) } newp := hcr
  have hw : ({ w with files := upd w.files newp (some []), mtime := upd w.mtime newp none,
                           opened := w.opened + 1 + 1, handle := upd (upd w.handle (w.opened + 1) (some ⟨oldp, 0⟩)) (w.opened + 1 + 1) (some ⟨newp, 0⟩) } : World)
      = deltaWorld w oldp newp 0 (ofU8 []) := rfl
  unfold apply_delta
  simp only [posix_open, posix_create, posix_flush, Rs.run_bind, run_op, open_ok w oldp _ hold, create_ok _ newp hcr', hw]
  rw [apply_delta_loop w oldp newp old _ _ _ hu]
  · cases h : Delta.applyOps old (delta.ops.map absOp) <;> simp [run_pure, Rs.len]
  · intro op acc pos out
    have e2 : w.opened + 1 + 1 = w.opened + 2 := rfl
    cases op with
    | Copy off sz =>
      simp only [Rs.run_bind, run_op, run_pure, posix_seek, posix_read_exact, posix_write_all,
        delta_seek w oldp newp _ hold hne, delta_readExact w oldp newp _ hold hne,
        List.length_replicate, deltaStep, Rs.cast, e2, id]
      by_cases hc : sz = 0 ∨ off + sz ≤ (ofU8 old).length
      · simp only [hc, if_true, delta_writeAll]
      · simp only [hc, if_false]
    | Data d =>
      simp only [Rs.run_bind, run_op, run_pure, posix_write_all, delta_writeAll, deltaStep, Rs.cast, Rs.len, e2, id]

/-! ### the magic test -/

theorem toNat_beq (a k : UInt8) : (a.toNat == k.toNat) = (a == k) := by
  rw [Bool.eq_iff_iff, beq_iff_eq, beq_iff_eq, UInt8.toNat_inj]

/-- the helper's test of the first four bytes of stdin is the model's -/
theorem magic_test (b : Bytes) :
    (decide (Rs.len (ofU8 b) ≥ 4) && Rs.index (ofU8 b) 0 == 40 && Rs.index (ofU8 b) 1 == 181 &&
      Rs.index (ofU8 b) 2 == 47 && Rs.index (ofU8 b) 3 == 253) = Compress.hasZstdMagic b := by
  match b with
  | [] => rfl
  | [_] => rfl
  | [_, _] => rfl
  | [_, _, _] => rfl
  | a :: b :: c :: d :: t =>
    show (decide (t.length + 4 ≥ 4) && a.toNat == (40 : UInt8).toNat && b.toNat == (181 : UInt8).toNat &&
      c.toNat == (47 : UInt8).toNat && d.toNat == (253 : UInt8).toNat) = (a == 40 && b == 181 && c == 47 && d == 253)
    rw [toNat_beq, toNat_beq, toNat_beq, toNat_beq, decide_eq_true (Nat.le_add_left 4 _), Bool.true_and]

/-! ### directories; the world while an output file is written -/

theorem mem_selfAndAncestors_length {q a : Rs.Path} (h : a ∈ selfAndAncestors q) : a.length ≤ q.length := by
  simp only [selfAndAncestors, List.mem_filter, List.mem_map, List.mem_range] at h
  obtain ⟨⟨n, _, rfl⟩, _⟩ := h
  simp [List.length_take]; omega

theorem self_mem_selfAndAncestors {q : Rs.Path} (h : q ≠ []) : q ∈ selfAndAncestors q := by
  simp only [selfAndAncestors, List.mem_filter, List.mem_map, List.mem_range]
  refine ⟨⟨q.length, by omega, by simp⟩, ?_⟩
  cases q with
  | nil => exact absurd rfl h
  | cons x t => simp

/-- `create_dir_all (parent p)` and then `File::create p` succeed in `w` -/
def CanReceive (w : World) (p : Rs.Path) : Prop :=
  w.dirs p = false ∧ ∃ d, Rs.parent p = some d ∧ ∀ a ∈ selfAndAncestors d, w.files a = none

/-- the world while an output file is being written: directories `ds` made, stdin read up to `sp`, the file `p`
    open under the next handle at position `pos` with content `c` and modification time `mt` -/
def outWorld (w : World) (p : Rs.Path) (ds : List Rs.Path) (sp pos : Nat) (c : List Nat) (mt : Option Nat) : World :=
  { w with stdinPos := sp, dirs := fun a => w.dirs a || ds.contains a, files := upd w.files p (some c),
           mtime := upd w.mtime p mt, opened := w.opened + 1, handle := upd w.handle (w.opened + 1) (some ⟨p, pos⟩) }

/-- the world after `create_dir_all` made the directories `ds` -/
def withDirs (w : World) (ds : List Rs.Path) : World := { w with dirs := fun a => w.dirs a || ds.contains a }

theorem outWorld_parent_isDir (w : World) (p d : Rs.Path) (sp pos : Nat) (c : List Nat) (m : Option Nat) :
    (outWorld w p (selfAndAncestors d) sp pos c m).isDir d = true := by
  cases d with
  | nil => rfl
  | cons x t =>
    have := self_mem_selfAndAncestors (q := x :: t) (by simp)
    simp [World.isDir, outWorld, this]

theorem createDirAll_ok (w : World) (d : Rs.Path) (h : ∀ a ∈ selfAndAncestors d, w.files a = none) :
    createDirAllOp d w = .ok ((), withDirs w (selfAndAncestors d)) := by
  unfold createDirAllOp
  rw [if_neg]
  · rfl
  simp only [List.any_eq_true, not_exists, not_and]
  intro a ha; simp [h a ha]

theorem create_after_mkdir (w : World) (p d : Rs.Path) (hnd : w.dirs p = false) (hp : Rs.parent p = some d) :
    createOp p (withDirs w (selfAndAncestors d)) =
      .ok (w.opened + 1, outWorld w p (selfAndAncestors d) w.stdinPos 0 [] none) := by
  have h1 : (selfAndAncestors d).contains p = false := by
    rw [List.contains_eq_mem, decide_eq_false_iff_not]
    intro hm
    have := mem_selfAndAncestors_length hm
    have := Lemmas.PathText.parent_length hp
    omega
  have h2 : (d.isEmpty || (w.dirs d || (selfAndAncestors d).contains d)) = true := by
    cases d with
    | nil => rfl
    | cons x t =>
      have := self_mem_selfAndAncestors (q := x :: t) (by simp)
      simp [this]
  simp only [createOp, World.isDir, withDirs, hnd, h1, hp, h2]
  rfl

theorem out_writeAll (w : World) (p : Rs.Path) (ds : List Rs.Path) (sp pos : Nat) (c data : List Nat) :
    writeAllOp (w.opened + 1) data (outWorld w p ds sp pos c none) =
      .ok ((), outWorld w p ds sp (pos + data.length) (if data.isEmpty then c else pwrite c pos data) none) := by
  unfold writeAllOp
  split
  · rename_i h; simp at h; simp [h]
  · simp [World.target, stdinHandle, outWorld, World.setPos]

theorem out_setLen (w : World) (p : Rs.Path) (ds : List Rs.Path) (sp pos n : Nat) (c : List Nat) :
    setLenOp (w.opened + 1) n (outWorld w p ds sp pos c none) = .ok ((), outWorld w p ds sp pos (truncate c n) none) := by
  simp [setLenOp, World.target, stdinHandle, outWorld]

theorem out_seek (w : World) (p : Rs.Path) (ds : List Rs.Path) (sp pos off : Nat) (c : List Nat) (mt : Option Nat) :
    seekOp (w.opened + 1) (.Start off) (outWorld w p ds sp pos c mt) = .ok (off, outWorld w p ds sp off c mt) := by
  have h1 : ¬ ((off : Int) < 0) := by omega
  simp [seekOp, World.target, stdinHandle, outWorld, World.setPos, h1]

theorem out_readStdin (w : World) (p : Rs.Path) (ds : List Rs.Path) (sp pos : Nat) (c buf : List Nat) (mt : Option Nat) :
    readExactOp stdinHandle buf (outWorld w p ds sp pos c mt) =
      if buf.length = 0 ∨ sp + buf.length ≤ w.stdin.length then
        .ok ((w.stdin.drop sp).take buf.length, outWorld w p ds (sp + buf.length) pos c mt)
      else .error .io := by
  simp [readExactOp, World.source, stdinHandle, outWorld, World.setPos]

theorem out_setMtime (w : World) (p : Rs.Path) (ds : List Rs.Path) (sp pos t : Nat) (c : List Nat) (mt : Option Nat) :
    setMtimeOp p t (outWorld w p ds sp pos c mt) =
      if w.denyUtime then .error .io else .ok ((), outWorld w p ds sp pos c (some t)) := by
  simp [setMtimeOp, outWorld]

/-- the world after `read_to_end` on a fresh stdin -/
def afterRead (w : World) : World := { w with stdinPos := w.stdin.length }

theorem readToEnd_stdin (w : World) (h : w.stdinPos = 0) :
    readToEndOp stdinHandle [] w = .ok (w.stdin, afterRead w) := by
  simp [readToEndOp, World.source, World.setPos, h, afterRead]

theorem outWorld_afterRead (w : World) (p : Rs.Path) (ds : List Rs.Path) (sp pos : Nat) (c : List Nat) (m : Option Nat) :
    outWorld (afterRead w) p ds sp pos c m = outWorld w p ds sp pos c m := rfl

theorem pwrite_nil (data : List Nat) : pwrite [] 0 data = data := pwrite_end [] data

theorem ite_isEmpty_self (data : List Nat) : (if data.isEmpty = true then [] else data) = data := by
  cases data <;> rfl

/-! ### the `receive-file` arm -/

theorem read_stdin (P : Parsers) (w : World) (stdin : Bytes) (hstdin : w.stdin = ofU8 stdin) (hpos : w.stdinPos = 0) :
    (posix P).h_read_to_end ((posix P).std_io_stdin ()) [] w = (.ok (ofU8 stdin), afterRead w) := by
  rw [posix_read_to_end, posix_stdin, run_op, readToEnd_stdin w hpos, hstdin]

/-- the payload sniffing of both arms that read stdin: zstd magic ⇒ `decompress(.., Zstd)?`, else the bytes as they
    are; `K` is the rest of the arm -/
theorem sniff_bind (P : Parsers) (stdin : Bytes) {α : Type} (K : List Nat → Rs.M World α) (w : World) :
    (if (decide (Rs.len (ofU8 stdin) ≥ 4) && Rs.index (ofU8 stdin) 0 == 40 && Rs.index (ofU8 stdin) 1 == 181 &&
          Rs.index (ofU8 stdin) 2 == 47 && Rs.index (ofU8 stdin) 3 == 253) = true then
        Rs.liftE ((posix P).decompress (ofU8 stdin) Compression.Zstd) >>= K
      else K (ofU8 stdin)) w =
      match Compress.sniff P.Z stdin with
      | none => (.error .other, w)
      | some data => K (ofU8 data) w := by
  have hd : Compress.decompress P.L P.Z (absCompression .Zstd) (toU8 (ofU8 stdin)) = P.Z.decompress stdin :=
    congrArg P.Z.decompress (toU8_ofU8 stdin)
  rw [magic_test, Compress.sniff, posix_decompress, hd]
  by_cases hm : Compress.hasZstdMagic stdin = true
  · rw [if_pos hm, if_pos hm, Rs.run_bind]
    cases P.Z.decompress stdin <;> rfl
  · rw [if_neg hm, if_neg hm]

/-- the end of both receiving arms: `--mtime s` sets the time, and a refusal of the file system is swallowed
    (`let _ = set_file_mtime(..)`) -/
theorem set_mtime_tail (P : Parsers) (w : World) (p : Rs.Path) (ds : List Rs.Path) (sp pos : Nat) (c : List Nat)
    (mt : Option Nat) :
    (match mt with
      | some s => Rs.capture ((posix P).filetime_set_file_mtime p (id (Rs.UNIX_EPOCH + Rs.duration_from_secs s))) >>=
          fun _ => pure ()
      | _ => (pure () : Rs.M World Unit)) (outWorld w p ds sp pos c none) =
      (.ok (), outWorld w p ds sp pos c (if w.denyUtime then none else mt.map Rs.duration_from_secs)) := by
  cases mt with
  | none =>
    rw [Option.map_none, ite_self]
    rfl
  | some s =>
    cases hut : w.denyUtime <;>
    simp only [Rs.run_bind, run_capture, posix_mtime, run_op, out_setMtime, hut, run_pure, id_eq, Rs.UNIX_EPOCH, Nat.zero_add,
      Bool.false_eq_true, if_false, if_true, Option.map_some]

/-- the `ReceiveFile` arm run in the world: read stdin, sniff, `create_dir_all`, create, write, `--mtime` -/
theorem main_receive_file_run (P : Parsers) (w : World) (out d : Rs.Path) (mt : Option Nat) (stdin : Bytes)
    (hcli : w.cli.command = .ReceiveFile out mt) (hstdin : w.stdin = ofU8 stdin) (hpos : w.stdinPos = 0)
    (hnd : w.dirs out = false) (hp : Rs.parent out = some d) (hclear : ∀ a ∈ selfAndAncestors d, w.files a = none) :
    main (posix P) w =
      match Compress.sniff P.Z stdin with
      | none => (.error .other, afterRead w)
      | some data => (.ok (), outWorld w out (selfAndAncestors d) stdin.length data.length (ofU8 data)
                                (if w.denyUtime then none else mt.map Rs.duration_from_secs)) := by
  unfold main
  rw [Rs.run_bind, posix_Cli_parse]
  simp only [hcli]
  simp only [Rs.run_bind, read_stdin P w stdin hstdin hpos, pure_bind, hp]
  rw [sniff_bind]
  cases Compress.sniff P.Z stdin with
  | none => rfl
  | some data =>
    have hmk := createDirAll_ok (afterRead w) d hclear
    have hcr := create_after_mkdir (afterRead w) out d hnd hp
    have hsp : (afterRead w).stdinPos = stdin.length := by
      rw [afterRead, hstdin, List.length_map]
    have hop : (afterRead w).opened = w.opened := rfl
    simp only [Rs.run_bind, posix_mkdir, posix_create, posix_write_all, posix_flush, run_op, run_pure, hmk, hcr, hsp, hop,
      out_writeAll, outWorld_afterRead, pwrite_nil, ite_isEmpty_self, Nat.zero_add, List.length_map]
    exact set_mtime_tail P w out _ _ _ _ mt

/-! ### the `receive-sparse-file` arm -/

/-- the loop of `receive-sparse-file` on lists of numbers, from content `c`, stdin position `sp`, file position `pos`:
    (all regions served, content, stdin position, file position) -/
def sparseLoop (stdin : List Nat) : List Nat → Nat → Nat → List DataRegion → Bool × List Nat × Nat × Nat
  | c, sp, pos, [] => (true, c, sp, pos)
  | c, sp, _, r :: rs =>
    if r.length = 0 ∨ sp + r.length ≤ stdin.length then
      sparseLoop stdin (if ((stdin.drop sp).take r.length).isEmpty then c else pwrite c r.offset ((stdin.drop sp).take r.length))
        (sp + r.length) (r.offset + ((stdin.drop sp).take r.length).length) rs
    else (false, c, sp, r.offset)

/-- what one iteration of that loop does in an `outWorld` (a specification, as `deltaStep`) -/
def sparseStep (w : World) (p : Rs.Path) (ds : List Rs.Path) (r : DataRegion) (acc sp : Nat) (c : List Nat) :
    Except Rs.Err (ForInStep Nat) × World :=
  if r.length = 0 ∨ sp + r.length ≤ w.stdin.length then
    (.ok (.yield (acc + r.length)),
      outWorld w p ds (sp + r.length) (r.offset + ((w.stdin.drop sp).take r.length).length)
        (if ((w.stdin.drop sp).take r.length).isEmpty then c else pwrite c r.offset ((w.stdin.drop sp).take r.length)) none)
  else (.error .io, outWorld w p ds sp r.offset c none)

def regionBytes : List DataRegion → Nat
  | [] => 0
  | r :: rs => r.length + regionBytes rs

theorem sparse_loop (w : World) (p : Rs.Path) (ds : List Rs.Path)
    (f : DataRegion → Nat → Rs.M World (ForInStep Nat))
    (hf : ∀ r acc sp pos c, f r acc (outWorld w p ds sp pos c none) = sparseStep w p ds r acc sp c)
    (rs : List DataRegion) (acc sp pos : Nat) (c : List Nat) :
    forIn rs acc f (outWorld w p ds sp pos c none) =
      (if (sparseLoop w.stdin c sp pos rs).1 then .ok (acc + regionBytes rs) else .error .io,
       outWorld w p ds (sparseLoop w.stdin c sp pos rs).2.2.1 (sparseLoop w.stdin c sp pos rs).2.2.2
         (sparseLoop w.stdin c sp pos rs).2.1 none) := by
  induction rs generalizing acc sp pos c with
  | nil => simp [run_pure, sparseLoop, regionBytes]
  | cons r t ih =>
    simp only [List.forIn_cons, Rs.run_bind, hf, sparseStep, sparseLoop]
    by_cases hc : r.length = 0 ∨ sp + r.length ≤ w.stdin.length
    · simp only [hc, if_true, ih, regionBytes, Nat.add_assoc]
    · simp only [hc, if_false, Bool.false_eq_true]

theorem ofU8_writeAt (file : Bytes) (off : Nat) (d : Bytes) :
    ofU8 (Compress.writeAt file off d) = if (ofU8 d).isEmpty then ofU8 file else pwrite (ofU8 file) off (ofU8 d) := by
  unfold Compress.writeAt pwrite
  cases d with
  | nil => rfl
  | cons x t =>
    simp [ofU8, Compress.zeros, zeros, List.map_take, List.map_drop, List.map_replicate]

theorem ofU8_setLen (file : Bytes) (n : Nat) : ofU8 (Compress.setLen file n) = truncate (ofU8 file) n := by
  simp [Compress.setLen, truncate, ofU8, Compress.zeros, zeros, List.map_take]

theorem sparseLoop_eq_model (stdin file : Bytes) (rs : List Compress.Region) (sp pos : Nat) :
    (sparseLoop (ofU8 stdin) (ofU8 file) sp pos (rs.map concRegion)).1 =
        (Compress.receiveSparseGo file rs (stdin.drop sp)).isSome ∧
    ∀ r, Compress.receiveSparseGo file rs (stdin.drop sp) = some r →
      (sparseLoop (ofU8 stdin) (ofU8 file) sp pos (rs.map concRegion)).2.1 = ofU8 r := by
  induction rs generalizing file sp pos with
  | nil => simp [sparseLoop, Compress.receiveSparseGo]
  | cons x t ih =>
    simp only [List.map_cons, sparseLoop, concRegion, Compress.receiveSparseGo, List.length_map, List.length_drop]
    by_cases hc : x.length = 0 ∨ sp + x.length ≤ stdin.length
    · have hlt : ¬ (stdin.length - sp < x.length) := by omega
      have hd : List.take x.length (List.drop sp (ofU8 stdin)) = ofU8 (List.take x.length (List.drop sp stdin)) := by
        simp [ofU8, List.map_take, List.map_drop]
      simp only [hc, if_true, hlt, if_false, hd, ← ofU8_writeAt, List.drop_drop]
      exact ih _ _ _
    · have hlt : stdin.length - sp < x.length := by omega
      simp [hc, hlt]

/-- the `ReceiveSparseFile` arm run in the world: parse the regions (an error before anything is created), then
    `create_dir_all`, create, `set_len`, the loop `sparseLoop`, `--mtime` only after a complete loop -/
theorem main_receive_sparse_run (P : Parsers) (w : World) (out d : Rs.Path) (total : Nat) (regions : Rs.Str)
    (mt : Option Nat)
    (hcli : w.cli.command = .ReceiveSparseFile out total regions mt)
    (hnd : w.dirs out = false) (hp : Rs.parent out = some d) (hclear : ∀ a ∈ selfAndAncestors d, w.files a = none) :
    main (posix P) w =
      match Compress.decodeRegions (P.utf8Encode regions) with
      | none => (.error .other, w)
      | some rs =>
        let r := sparseLoop w.stdin (truncate [] total) w.stdinPos 0 (rs.map concRegion)
        if r.1 then (.ok (), outWorld w out (selfAndAncestors d) r.2.2.1 r.2.2.2 r.2.1
                          (if w.denyUtime then none else mt.map Rs.duration_from_secs))
        else (.error .io, outWorld w out (selfAndAncestors d) r.2.2.1 r.2.2.2 r.2.1 none) := by
  have hmk := createDirAll_ok w d hclear
  have hcr := create_after_mkdir w out d hnd hp
  unfold main
  rw [Rs.run_bind, posix_Cli_parse]
  simp only [hcli]
  simp only [Rs.run_bind, posix_json_vec]
  cases Compress.decodeRegions (P.utf8Encode regions) with
  | none => rfl
  | some rs =>
    simp only [Option.map, ofOption, run_liftE_ok, hp, Rs.run_bind, posix_mkdir, posix_create, posix_set_len, posix_stdin,
      posix_flush, posix_sync_all, run_op, run_pure, hmk, hcr, out_setLen]
    rw [sparse_loop w out (selfAndAncestors d)]
    · cases (sparseLoop w.stdin (truncate [] total) w.stdinPos 0 (List.map concRegion rs)).1 with
      | false => rfl
      | true => exact set_mtime_tail P w out _ _ _ _ mt
    · intro r acc sp pos c
      simp only [Rs.run_bind, run_op, run_pure, posix_seek, posix_read_exact, posix_write_all, out_seek, out_readStdin,
        List.length_replicate, sparseStep, Rs.cast, id_eq]
      by_cases hc : r.length = 0 ∨ sp + r.length ≤ w.stdin.length
      · simp only [hc, if_true, out_writeAll]
      · simp only [hc, if_false]

/-! ### the `apply-delta` arm -/

theorem absOp_concOp (op : Delta.Op) : absOp (concOp op) = op := by
  cases op <;> simp only [absOp, concOp, toU8_ofU8]

theorem absOps_concOps (ops : List Delta.Op) : (ops.map concOp).map absOp = ops := by
  induction ops with
  | nil => rfl
  | cons x t ih => simp only [List.map_cons, absOp_concOp, ih]

theorem opU8_concOp (op : Delta.Op) : OpU8 (concOp op) := by
  cases op with
  | copy o s => trivial
  | data d => exact ofU8_lt d

theorem opsU8_concDelta (d : Delta.Delta) : ∀ op ∈ (concDelta d).ops, OpU8 op := by
  intro op hop
  simp only [concDelta, List.mem_map] at hop
  obtain ⟨o, _, rfl⟩ := hop
  exact opU8_concOp o

/-- the `ApplyDelta` arm run in the world: read stdin, sniff, `from_utf8`, parse, `apply_delta`; the three ways to
    fail before anything is created leave only stdin consumed -/
theorem main_apply_delta_run (P : Parsers) (w : World) (base out : Rs.Path) (stdin old : Bytes)
    (hcli : w.cli.command = .ApplyDelta base out) (hstdin : w.stdin = ofU8 stdin) (hpos : w.stdinPos = 0)
    (hold : w.files base = some (ofU8 old)) (hne : base ≠ out) (hcr : CanCreate w out) :
    main (posix P) w =
      match (Compress.sniff P.Z stdin).bind P.utf8Decode with
      | none => (.error .other, afterRead w)
      | some text =>
        match Delta.decodeJson (P.utf8Encode text) with
        | none => (.error .other, afterRead w)
        | some d =>
          (if (Delta.applyOps old d.ops).isSome then .ok () else .error .io,
           deltaWorld (afterRead w) base out (oldPos old 0 d.ops) (ofU8 (applyPartial old d.ops))) := by
  unfold main
  rw [Rs.run_bind, posix_Cli_parse]
  simp only [hcli]
  simp only [Rs.run_bind, read_stdin P w stdin hstdin hpos, pure_bind]
  rw [sniff_bind]
  cases Compress.sniff P.Z stdin with
  | none => rfl
  | some data =>
    simp only [Rs.run_bind, posix_utf8, toU8_ofU8, Option.bind_some]
    cases P.utf8Decode data with
    | none => rfl
    | some text =>
      simp only [ofOption, run_liftE_ok, posix_json_delta]
      cases Delta.decodeJson (P.utf8Encode text) with
      | none => rfl
      | some d =>
        simp only [Option.map, run_liftE_ok,
          apply_delta_run P (afterRead w) base out (concDelta d) old hold hne hcr (opsU8_concDelta d)]
        simp only [concDelta, absOps_concOps]
        cases Delta.applyOps old d.ops <;> rfl

end SyModel.Remote
