/-
  Lemmas.GenEngineRun — what the EXECUTION stage of the capstone `Props/GenEngineRun.lean` is stated with: the trusted
  glue `execLoop` (the translated per-task body `EngineTask.run_task`, src/sync/mod.rs `let result = match task.action
  { … }`, folded over a task list) and the hypotheses `TaskOK`, `NoResidue`, `FailClean`, `AllErrAbs` of its theorems,
  which are in Lemmas/GenEngineRunExec.lean (`run_task_step`, `execLoop_eq_foldl`: the fold against the model's `execTask`,
  `Engine/Model.lean`).

  The `Left` problem.  After a FAILED Create/Update the model keeps its world while the instance's world may differ from
  it in the way `Lemmas.GenTransfer.Left` lists: the parent directories of the task's path created (`copy_file` calls
  `create_dir_all(parent)` before the transport's copy), or — `update` of a directory entry — the symlink at the path
  removed.  `Left` is an over-approximation made by the Transfer bridge (any of three shapes).  The fold needs the world
  after task k to BE the world before task k+1, on both sides; so the fold theorem is stated for runs in which a failed
  task leaves nothing behind: `FailClean`, a predicate on the MODEL's run (decidable on concrete inputs), saying that
  whenever the model's `perform` fails for a task at `k`, `create_dir_all(parent k)` has nothing to create and `k` does
  not hold a symlink (`NoResidue`).  `Props/GenEngineRun.lean` proves it for error-free runs and dry runs, and shows on
  a witness that it is a real restriction (`left_residue_witness`); `Lemmas/GenEngineRunClean.lean` derives it from a
  parent-closed destination and a scan without repeated paths.

  `SameEnv` (same root text, source side and value ids), with `.refl`, `.trans`, `.of_left`, is declared in
  Lemmas/GenEngineTask.lean under this file's namespace: the per-task bridges are the first to state it.
-/
import SyModel.Lemmas.GenEngineTask
namespace SyModel.Lemmas.GenEngineRun
open SyModel SyModel.Engine SyModel.Generated SyModel.Generated.EngineTask SyModel.GenEngineTask
open SyModel.Lemmas.GenTransfer

section glue
variable {W : Type}

/-- **GLUE (TRUSTED).**  `for task in tasks { … let result = match task.action { … }; … }` of `SyncEngine::sync`
    (src/sync/mod.rs:771-1234; the spawned body is 830-1231) read with ONE worker (`-j 1`, `Semaphore::new(1)`): the
    task bodies run one after the other in list order, each from the world the previous one left, the statistics record
    threaded (`Arc<Mutex<SyncStats>>`, locked by every body for its whole bookkeeping), each body's `Result` collected
    (`results.extend(join_all(handles))`).  A body that answers `Err` does NOT end the loop (its error was pushed on
    `stats.errors`; `max_errors` aborts are not modelled here).  Stands for: the `for` header, `tokio::spawn`, the
    semaphore, `join_all`.  The body itself is the TRANSLATED `run_task`.
    OMITTED: the guard between the header and the spawned body (mod.rs:774-808, fixes 0e87354 / ef79114) that fails a
    task — error record, `results.push`, `continue` — whose path lies strictly below a replaced link that is still a
    symlink.  It fires only after the replacement task of that link failed; the fold theorem's runs with such a failure
    are therefore runs of the code WITHOUT that guard.  The guard itself is translated and proved on its own
    (`Props/GenEngineLinkGuard.lean`); it is not composed here. -/
def execLoop (ext : Ext W) (transferrer verifier : Rs.Opaque) (dry json : Bool) (mode : ChecksumType)
    (limiter pm : Option Rs.Opaque) :
    List SyncTask → SyncStats → List (Except Rs.Err Unit) → Rs.M W (SyncStats × List (Except Rs.Err Unit))
  | [], st, rs => pure (st, rs)
  | t :: ts, st, rs => do
    let r ← run_task ext t transferrer verifier st dry json mode limiter pm
    execLoop ext transferrer verifier dry json mode limiter pm ts r.2 (rs ++ [r.1])

end glue

/-- the hypotheses of `GenEngineTask.run_task_eq_execTask` (Lemmas/GenEngineTask) for one task and its key -/
structure TaskOK (cfg : Cfg) (xw : XWorld) (task : SyncTask) (k : Engine.Path) : Prop where
  clean : CleanPath k
  dest : task.dest_path = destOf xw.root k
  src : ∀ e, task.source = some e → Readable cfg (toE e) ∧ SrcFile xw (toE e) ∧ HasInode cfg (toE e)
  work : (task.action = .Create ∨ task.action = .Update) → task.source.isSome = true

theorem TaskOK.congr {cfg : Cfg} {xw xw' : XWorld} {task : SyncTask} {k : Engine.Path} (h : TaskOK cfg xw task k)
    (he : SameEnv xw xw') : TaskOK cfg xw' task k :=
  ⟨h.clean, by rw [he.1]; exact h.dest,
   fun e hs => ⟨(h.src e hs).1, by unfold SrcFile; rw [he.2.1]; exact (h.src e hs).2.1, (h.src e hs).2.2⟩, h.work⟩

theorem absTaskE_congr (cfg : Cfg) {xw xw' : XWorld} (task : SyncTask) (k : Engine.Path) (he : SameEnv xw xw') :
    absTaskE cfg xw' task k = absTaskE cfg xw task k := by
  unfold absTaskE absPayload metaOf
  rw [he.2.1, he.2.2]

/-- a failed executor call at `k` leaves NOTHING behind: `create_dir_all(parent k)` has nothing to create, and `k` does
    not hold a symlink (the two non-trivial shapes of `Left`) -/
def NoResidue (dst : Map DNode) (k : Engine.Path) : Prop :=
  (∀ d, mkdirAll dst (parentOf k) = some d → d = dst) ∧ ∀ s, dst.get? k ≠ some (.symlink s)

instance (dst : Map DNode) (k : Engine.Path) : Decidable (NoResidue dst k) := by
  unfold NoResidue
  have h1 : Decidable (∀ d, mkdirAll dst (parentOf k) = some d → d = dst) := by
    cases h : mkdirAll dst (parentOf k) with
    | none => exact isTrue (fun d hd => by cases hd)
    | some d0 =>
      by_cases he : d0 = dst
      · exact isTrue (fun d hd => by cases hd; exact he)
      · exact isFalse (fun hall => he (hall d0 rfl))
  have h2 : Decidable (∀ s, dst.get? k ≠ some (.symlink s)) := by
    cases h : dst.get? k with
    | none => exact isTrue (fun s hs => by cases hs)
    | some n =>
      cases n with
      | symlink t => exact isFalse (fun hall => hall t rfl)
      | dir => exact isTrue (fun s hs => by cases hs)
      | file m => exact isTrue (fun s hs => by cases hs)
  exact instDecidableAnd

theorem left_eq_of_noResidue {xw xw' : XWorld} {k : Engine.Path} (hl : Left xw xw' k) (hn : NoResidue xw.w.dst k) :
    xw' = xw := by
  rcases hl with rfl | ⟨d, hd, rfl⟩ | ⟨s, hs, rfl⟩
  · rfl
  · rw [hn.1 d hd]
  · exact absurd hs (hn.2 s)

/-- **the restriction of the fold theorem** (a predicate on the MODEL's sequential run from `st` over `ts`): every task
    whose `perform` fails, fails leaving nothing behind -/
def FailClean (cfg : Cfg) : Exec → List Task → Prop
  | _, [] => True
  | st, t :: ts => (perform cfg st.w t = none → NoResidue st.w.dst t.rel) ∧ FailClean cfg (execTask cfg noFaults st t) ts

instance (cfg : Cfg) : ∀ (st : Exec) (ts : List Task), Decidable (FailClean cfg st ts)
  | _, [] => isTrue trivial
  | st, t :: ts =>
    have : Decidable (FailClean cfg (execTask cfg noFaults st t) ts) := instDecidableFailClean cfg _ ts
    have : Decidable (perform cfg st.w t = none → NoResidue st.w.dst t.rel) := by
      cases h : perform cfg st.w t with
      | none =>
        by_cases hn : NoResidue st.w.dst t.rel
        · exact isTrue (fun _ => hn)
        · exact isFalse (fun hall => hn (hall rfl))
      | some w => exact isTrue (fun hc => by cases hc)
    by unfold FailClean; exact instDecidableAnd

/-- every error record of the statistics is one the abstraction reads (an action name of the report, a path below the
    root): then the model's error list is as long as `stats.errors` -/
def AllErrAbs (root : Rs.Path) (st : SyncStats) : Prop := ∀ r ∈ st.errors, (errAbs root r).isSome = true

theorem absBook_errors_length (root : Rs.Path) (st : SyncStats) (log : List SyncEvent) (h : AllErrAbs root st) :
    (absBook root st log).errors.length = st.errors.length := by
  show (st.errors.filterMap (errAbs root)).reverse.length = _
  rw [List.length_reverse]
  unfold AllErrAbs at h
  generalize st.errors = l at h
  induction l with
  | nil => rfl
  | cons a t ih =>
    obtain ⟨b, hb⟩ := Option.isSome_iff_exists.1 (h a (by simp))
    simp [hb, ih fun x hx => h x (by simp [hx])]

/-- the model tasks a list of keyed tasks stands for -/
def absTasksE (cfg : Cfg) (xw : XWorld) (tks : List (SyncTask × Engine.Path)) : List Task :=
  tks.map fun tk => absTaskE cfg xw tk.1 tk.2

theorem absTasksE_congr (cfg : Cfg) {xw xw' : XWorld} (tks : List (SyncTask × Engine.Path)) (he : SameEnv xw xw') :
    absTasksE cfg xw' tks = absTasksE cfg xw tks := by
  unfold absTasksE
  exact List.map_congr_left fun tk _ => absTaskE_congr cfg tk.1 tk.2 he

end SyModel.Lemmas.GenEngineRun
