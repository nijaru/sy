/-
  `unlinkLink` and `dirBase` (Engine/Model.lean): what `Transferrer::update` of a directory entry does to a symlink
  standing at the path before its `create_dir_all` (sy commit 862af11).  Imported by Lemmas/EngineExec alone; through it
  the lemmas reach their other users: EngineClosed, the step level's StepsRefine, and the bridge of the translated executors
  (GenTransfer).
-/
import SyModel.Lemmas.EnginePath
namespace SyModel.Engine

theorem unlinkLink_get?_ne (dst : Map DNode) (p x : Path) (h : x ≠ p) :
    (unlinkLink dst p).get? x = dst.get? x := by
  unfold unlinkLink
  split
  · exact Map.get?_erase_ne _ _ _ (Ne.symm h)
  · rfl

theorem unlinkLink_get?_self (dst : Map DNode) (p : Path) :
    (unlinkLink dst p).get? p = match dst.get? p with | some (.symlink _) => none | o => o := by
  unfold unlinkLink
  split
  · rename_i s hs; simp [hs, Map.get?_erase_same]
  · rename_i hns
    split
    · rename_i s hs; exact absurd hs (hns s)
    · rfl

theorem unlinkLink_of_not_link (dst : Map DNode) (p : Path) (h : ∀ s, dst.get? p ≠ some (.symlink s)) :
    unlinkLink dst p = dst := by
  unfold unlinkLink
  split
  · rename_i s hs; exact absurd hs (h s)
  · rfl

theorem unlinkLink_of_link (dst : Map DNode) (p : Path) (s : String) (h : dst.get? p = some (.symlink s)) :
    unlinkLink dst p = dst.erase p := by
  unfold unlinkLink; simp [h]

theorem dirBase_get?_ne (act : Act) (dst : Map DNode) (p x : Path) (h : x ≠ p) :
    (dirBase act dst p).get? x = dst.get? x := by
  unfold dirBase; split
  · exact unlinkLink_get?_ne dst p x h
  · rfl

theorem dirBase_of_ne_update (act : Act) (dst : Map DNode) (p : Path) (h : act ≠ .update) :
    dirBase act dst p = dst := by
  unfold dirBase; simp [h]

theorem dirBase_of_not_link (act : Act) (dst : Map DNode) (p : Path) (h : ∀ s, dst.get? p ≠ some (.symlink s)) :
    dirBase act dst p = dst := by
  unfold dirBase; split
  · exact unlinkLink_of_not_link dst p h
  · rfl

theorem dirBase_get?_self (act : Act) (dst : Map DNode) (p : Path) :
    (dirBase act dst p).get? p = dst.get? p ∨
      (act = .update ∧ (∃ s, dst.get? p = some (.symlink s)) ∧ (dirBase act dst p).get? p = none) := by
  unfold dirBase; split
  · rename_i hu
    rw [unlinkLink_get?_self]
    split
    · rename_i s hs; exact Or.inr ⟨hu, ⟨s, hs⟩, rfl⟩
    · exact Or.inl rfl
  · exact Or.inl rfl

theorem dirBase_eq_of_exists {act : Act} {dst : Map DNode} {p : Path} (h : (dirBase act dst p).get? p ≠ none) :
    dirBase act dst p = dst := by
  by_cases hu : act = .update
  · by_cases hl : ∃ s, dst.get? p = some (.symlink s)
    · obtain ⟨s, hs⟩ := hl
      rw [dirBase, if_pos hu, unlinkLink_of_link _ _ _ hs, Map.get?_erase_same] at h
      exact absurd rfl h
    · exact dirBase_of_not_link _ _ _ fun s hs => hl ⟨s, hs⟩
  · exact dirBase_of_ne_update _ _ _ hu

end SyModel.Engine
