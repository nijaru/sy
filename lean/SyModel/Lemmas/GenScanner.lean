/-
  Lemmas.GenScanner — the TRANSLATED `StreamingScanner::next` (`SyModel/Generated/Code/Scanner.lean`,
  src/sync/scanner.rs:254-343) for EVERY instance `ext : Ext W`.  `round` is one round of the Rust `loop` as a function of
  what `walker_next` answered (`none` = the round `continue`s: the root itself; `some a` = the scanner answers `a`); `iter`
  is the rounds iterated up to a fuel.  `scanner_next_nf` ties the generated loop to `iter`; everything else about `next`
  is proved about `iter` (the two pure helpers are read off their generated definitions by `rfl`).
-/
import SyModel.Generated.Code.Scanner
import SyModel.Lemmas.RsLogic
import SyModel.Lemmas.PathText
import SyModel.Lemmas.RsLoops
namespace SyModel.Lemmas.GenScanner
open SyModel.Generated SyModel.Generated.Scanner

def runM {W α : Type} (x : Rs.M W α) (w : W) : Except Rs.Err α × W := x.run.run w

/-- what `StreamingScanner::next` answers: `None`, `Some(Err(..))`, `Some(Ok(entry))` -/
abbrev Answer := Option (Except Rs.Err FileEntry)

theorem run_bind {W α β : Type} (x : Rs.M W α) (f : α → Rs.M W β) (w : W) :
    runM (x >>= f) w = match runM x w with
      | (.ok a, w') => runM (f a) w'
      | (.error e, w') => (.error e, w') :=
  Rs.run_bind x f w

theorem run_pure {W α : Type} (a : α) (w : W) : runM (pure a : Rs.M W α) w = (.ok a, w) := rfl
theorem run_throw {W α : Type} (e : Rs.Err) (w : W) : runM (throw e : Rs.M W α) w = (.error e, w) := rfl
theorem run_capture {W α : Type} (x : Rs.M W α) (w : W) : runM (Rs.capture x) w = (.ok (runM x w).1, (runM x w).2) := rfl

/-- `detect_sparse_file`: sparse iff the size exceeds 4096 and the allocated bytes (512-byte blocks) are below `size - 4096` -/
theorem detect_sparse_file_eq (p : Rs.Path) (md : SMeta) :
    detect_sparse_file p md = (decide (md.size > 4096) && decide (md.blocks * 512 < md.size - 4096), md.blocks * 512) := rfl

theorem detect_hardlink_info_eq (md : SMeta) : detect_hardlink_info md = (some md.ino, md.nlink) := rfl

/-- `(is_sparse, allocated_size)` as line 297 computes it: only regular files are asked -/
def sparsePair (path : Rs.Path) (md : SMeta) : Bool × Nat :=
  if (!md.is_dir && !md.is_symlink) = true then detect_sparse_file path md else (false, 0)

/-- the `FileEntry { .. }` of line 325, from the values the round has collected -/
def mkEntry (path rel : Rs.Path) (md : SMeta) (tgt : Option Rs.Path) (xa : Option (Rs.HashMap Rs.Str (List Nat)))
    (acl : Option (List Nat)) (bsd : Option Nat) (t : Rs.SystemTime) : FileEntry :=
  { path := path, relative_path := rel, size := md.size, modified := t, is_dir := md.is_dir, is_symlink := md.is_symlink,
    symlink_target := tgt, is_sparse := (sparsePair path md).1, allocated_size := (sparsePair path md).2, xattrs := xa,
    inode := some md.ino, nlink := md.nlink, acls := acl, bsd_flags := bsd }

/-- lines 290-294: `read_link(..).ok()` for a symlink, `None` otherwise (`read_link` is only CALLED for a symlink) -/
def linkTarget {W : Type} (ext : Ext W) (path : Rs.Path) (md : SMeta) : Rs.M W (Option Rs.Path) :=
  if md.is_symlink = true then Rs.capture (ext.std_fs_read_link path) >>= fun r => pure (Rs.ok r) else pure none

/-- lines 306-340, once the link target is there: xattrs, ACLs (operations, in program order), then the modification time -/
def entryRest {W : Type} (ext : Ext W) (path rel : Rs.Path) (md : SMeta) (tgt : Option Rs.Path) :
    Rs.M W (Except Rs.Err FileEntry) :=
  ext.read_xattrs path >>= fun xa =>
    ext.read_acls path >>= fun acl =>
      match md.mtime with
      | .ok t => pure (.ok (mkEntry path rel md tgt xa acl (ext.read_bsd_flags md) t))
      | .error _ => pure (.error Rs.Err.io)

/-- lines 288-340, after the metadata and the relative path are there -/
def entryTail {W : Type} (ext : Ext W) (path rel : Rs.Path) (md : SMeta) : Rs.M W (Except Rs.Err FileEntry) :=
  linkTarget ext path md >>= entryRest ext path rel md

/-- ONE ROUND of the `loop`, given what `walker_next` answered.  `none`: the round `continue`s; `some a`: `next` returns `a`. -/
def round {W : Type} (ext : Ext W) (self : StreamingScanner) : Option (Except Rs.Err DirEntry) → Rs.M W (Option Answer)
  | none => pure (some none)
  | some (.error _) => pure (some (some (.error Rs.Err.io)))
  | some (.ok de) =>
    if (de.path == self.root) = true then pure none
    else match de.md with
      | .error _ => pure (some (some (.error Rs.Err.io)))
      | .ok md =>
        match Rs.strip_prefix de.path self.root with
        | .error _ => pure (some (some (.error Rs.Err.other)))
        | .ok rel => entryTail ext de.path rel md >>= fun r => pure (some (some r))

/-- a whole round: ask the walker, then `round` -/
def step {W : Type} (ext : Ext W) (self : StreamingScanner) : Rs.M W (Option Answer) :=
  ext.walker_next () >>= round ext self

/-- the rounds iterated: out of fuel is `Rs.Err.other` (the Rust `loop` has no such exit) -/
def iter {W : Type} (ext : Ext W) (self : StreamingScanner) : Nat → Rs.M W Answer
  | 0 => throw Rs.Err.other
  | n + 1 => step ext self >>= fun r => match r with
    | some a => pure a
    | none => iter ext self n

/-! ### `scanner_next` IS `iter` -/

/-- loop state of the generated `for`: `(the value of an early return, ())` -/
abbrev LoopSt := Option Answer × Unit

def wrap : Option Answer → ForInStep LoopSt
  | none => ForInStep.yield (none, ())
  | some a => ForInStep.done (some a, ())

def post {W : Type} (s : LoopSt) : Rs.M W Answer :=
  match s.fst with
  | some r => pure r
  | none => throw Rs.Err.other

/-- `GenDeltaStream.iterM` / `forIn_range_M` are the shared fuelled-loop rules of Lemmas/RsLoops; they keep the namespace of
    their first user -/
theorem iterM_post {W : Type} (ext : Ext W) (self : StreamingScanner) (n : Nat) :
    (GenDeltaStream.iterM (fun _ : LoopSt => step ext self >>= fun r => pure (wrap r)) n (none, ()) >>= post : Rs.M W Answer) =
      iter ext self n := by
  induction n with
  | zero => rfl
  | succ n ih =>
    simp only [GenDeltaStream.iterM, iter, bind_assoc, pure_bind]
    refine bind_congr fun r => ?_
    cases r with
    | none => exact ih
    | some a => rfl

/-- **NORMAL FORM** — where the shape of the generated loop is looked at: the translated `next` is the rounds
    iterated up to `ext.fuel`, for every instance -/
theorem scanner_next_nf {W : Type} (ext : Ext W) (self : StreamingScanner) :
    scanner_next ext self = iter ext self ext.fuel := by
  rw [← iterM_post]
  unfold scanner_next
  congr 1
  · refine GenDeltaStream.forIn_range_M _ _ _ _ fun _ _ => ?_
    unfold step
    rw [bind_assoc]
    refine bind_congr fun ans => ?_
    rcases ans with _ | ⟨e | ⟨path, md⟩⟩
    · rfl
    · rfl
    · rw [round, Rs.ite_bind]
      rcases md with e | md
      · rfl
      · -- the generated side: only `pure v >>= f`, `have`s and matches on constructors stand between it and `round`
        dsimp only [Rs.pure_bind_rfl]
        refine ite_congr rfl (fun _ => rfl) fun _ => ?_
        rcases Rs.strip_prefix path self.root with e | rel
        · rfl
        · simp only [entryTail, entryRest, linkTarget, Rs.ite_bind, bind_assoc, pure_bind]
          refine ite_congr rfl (fun _ => ?_) fun _ => ?_
          · refine bind_congr fun r => bind_congr fun xa => bind_congr fun acl => ?_
            cases md.mtime <;> rfl
          · refine bind_congr fun xa => bind_congr fun acl => ?_
            cases md.mtime <;> rfl
  · funext s
    rcases s with ⟨a, u⟩
    cases a <;> rfl

theorem run_iter_succ {W : Type} (ext : Ext W) (self : StreamingScanner) (n : Nat) (w : W) :
    runM (iter ext self (n + 1)) w = match runM (step ext self) w with
      | (.ok (some a), w') => (.ok a, w')
      | (.ok none, w') => runM (iter ext self n) w'
      | (.error e, w') => (.error e, w') := by
  rw [iter, run_bind]
  rcases runM (step ext self) w with ⟨e | r, w'⟩
  · rfl
  · cases r <;> rfl

theorem run_step {W : Type} (ext : Ext W) (self : StreamingScanner) (w : W) :
    runM (step ext self) w = match runM (ext.walker_next ()) w with
      | (.ok ans, w') => runM (round ext self ans) w'
      | (.error e, w') => (.error e, w') := by
  rw [step, run_bind]
  rcases runM (ext.walker_next ()) w with ⟨e | r, w'⟩ <;> rfl

/-- the value `linkTarget` answers -/
def linkValue {W : Type} (ext : Ext W) (path : Rs.Path) (md : SMeta) (w : W) : Option Rs.Path :=
  if md.is_symlink = true then Rs.ok (runM (ext.std_fs_read_link path) w).1 else none

/-- `linkTarget` never fails and is `read_link(..).ok()` at the world it is called in (`read_link` is only called for a symlink) -/
theorem run_linkTarget {W : Type} (ext : Ext W) (path : Rs.Path) (md : SMeta) (w : W) :
    runM (linkTarget ext path md) w =
      (.ok (linkValue ext path md w), if md.is_symlink = true then (runM (ext.std_fs_read_link path) w).2 else w) := by
  unfold linkTarget linkValue
  by_cases h : md.is_symlink = true
  · simp only [h, if_true]; rw [run_bind, run_capture]; rfl
  · simp only [h]; rfl

theorem entryRest_ok {W : Type} (ext : Ext W) (path rel : Rs.Path) (md : SMeta) (tgt : Option Rs.Path) (w w' : W)
    (fe : FileEntry) (h : runM (entryRest ext path rel md tgt) w = (.ok (.ok fe), w')) :
    ∃ xa acl t, md.mtime = .ok t ∧ fe = mkEntry path rel md tgt xa acl (ext.read_bsd_flags md) t := by
  obtain ⟨xa, w2, -, h⟩ := Rs.run_bind_eq_ok h
  obtain ⟨acl, w3, -, h⟩ := Rs.run_bind_eq_ok h
  cases ht : md.mtime with
  | error e =>
    rw [ht] at h
    cases h
  | ok t =>
    rw [ht] at h
    cases h
    exact ⟨xa, acl, t, rfl, rfl⟩

theorem entryTail_ok {W : Type} (ext : Ext W) (path rel : Rs.Path) (md : SMeta) (w w' : W) (fe : FileEntry)
    (h : runM (entryTail ext path rel md) w = (.ok (.ok fe), w')) :
    ∃ xa acl t, md.mtime = .ok t ∧ fe = mkEntry path rel md (linkValue ext path md w) xa acl (ext.read_bsd_flags md) t := by
  unfold entryTail at h
  rw [run_bind, run_linkTarget] at h
  exact entryRest_ok ext path rel md _ _ _ fe h

/-- **a round that lists an entry**: the walker answered an entry other than the root, its metadata and relative path were
    there, and the entry is `mkEntry` of them (link target: `read_link` at the world right after the walker's answer) -/
theorem round_listed {W : Type} (ext : Ext W) (self : StreamingScanner) (ans : Option (Except Rs.Err DirEntry)) (w w' : W)
    (fe : FileEntry) (h : runM (round ext self ans) w = (.ok (some (some (.ok fe))), w')) :
    ∃ de md rel xa acl t, ans = some (.ok de) ∧ de.path ≠ self.root ∧ de.md = .ok md ∧
      Rs.strip_prefix de.path self.root = .ok rel ∧ md.mtime = .ok t ∧
      fe = mkEntry de.path rel md (linkValue ext de.path md w) xa acl (ext.read_bsd_flags md) t := by
  rcases ans with _ | ⟨e | de⟩
  · cases h
  · cases h
  · rw [round] at h
    split at h
    · cases h
    · rename_i hroot
      split at h
      · cases h
      · rename_i md hmd
        split at h
        · cases h
        · rename_i rel hsp
          obtain ⟨r, w2, ht, h⟩ := Rs.run_bind_eq_ok h
          cases h
          obtain ⟨xa, acl, t, hmt, hfe⟩ := entryTail_ok ext de.path rel md w w' fe ht
          exact ⟨de, md, rel, xa, acl, t, rfl, fun hp => hroot (beq_iff_eq.mpr hp), hmd, hsp, hmt, hfe⟩

/-- **a round `continue`s exactly when the walker answered the root itself** (and then performs no operation) -/
theorem round_skip_iff {W : Type} (ext : Ext W) (self : StreamingScanner) (ans : Option (Except Rs.Err DirEntry)) (w w' : W) :
    runM (round ext self ans) w = (.ok none, w') ↔ (∃ de, ans = some (.ok de) ∧ de.path = self.root) ∧ w' = w := by
  constructor
  · intro h
    rcases ans with _ | ⟨e | de⟩
    · cases h
    · cases h
    · rw [round] at h
      split at h
      · rename_i hroot
        cases h
        exact ⟨⟨de, rfl, beq_iff_eq.mp hroot⟩, rfl⟩
      · split at h
        · cases h
        · split at h
          · cases h
          · obtain ⟨r, w2, -, h⟩ := Rs.run_bind_eq_ok h
            cases h
  · rintro ⟨⟨de, rfl, hp⟩, rfl⟩
    rw [round, if_pos (beq_iff_eq.mpr hp)]
    rfl

/-- **every listed entry comes from a round**: an answer `some (.ok fe)` of `iter` (any fuel) exhibits the walker answer, the
    metadata, the relative path and the world `w1` right after the walker's answer (where `read_link` is asked) -/
theorem iter_listed {W : Type} (ext : Ext W) (self : StreamingScanner) (n : Nat) (w w' : W) (fe : FileEntry)
    (h : runM (iter ext self n) w = (.ok (some (.ok fe)), w')) :
    ∃ w0 w1 de md rel xa acl t, runM (ext.walker_next ()) w0 = (.ok (some (.ok de)), w1) ∧ de.path ≠ self.root ∧
      de.md = .ok md ∧ Rs.strip_prefix de.path self.root = .ok rel ∧ md.mtime = .ok t ∧
      fe = mkEntry de.path rel md (linkValue ext de.path md w1) xa acl (ext.read_bsd_flags md) t := by
  induction n generalizing w with
  | zero => cases h
  | succ n ih =>
    obtain ⟨r, w2, hs, h⟩ := Rs.run_bind_eq_ok h
    cases r with
    | none => exact ih w2 h
    | some a =>
      cases h
      obtain ⟨ans, w1, hwk, hr⟩ := Rs.run_bind_eq_ok hs
      obtain ⟨de, md, rel, xa, acl, t, rfl, h1, h2, h3, h4, h5⟩ := round_listed ext self ans w1 _ fe hr
      exact ⟨w, w1, de, md, rel, xa, acl, t, hwk, h1, h2, h3, h4, h5⟩

/-- does one of the first `n` rounds from `w` decide (answer, or fail) rather than `continue` -/
def decidedWithin {W : Type} (ext : Ext W) (self : StreamingScanner) : Nat → W → Bool
  | 0, _ => false
  | n + 1, w => match runM (step ext self) w with
    | (.ok none, w') => decidedWithin ext self n w'
    | _ => true

/-- **fuel sufficiency**: once some round among the first `n` decides, any larger fuel gives the same result and world -/
theorem iter_fuel_irrelevant {W : Type} (ext : Ext W) (self : StreamingScanner) (n m : Nat) (w : W)
    (h : decidedWithin ext self n w = true) (hnm : n ≤ m) : runM (iter ext self m) w = runM (iter ext self n) w := by
  induction n generalizing m w with
  | zero => simp [decidedWithin] at h
  | succ n ih =>
    obtain ⟨m, rfl⟩ : ∃ k, m = k + 1 := ⟨m - 1, by omega⟩
    rw [run_iter_succ, run_iter_succ]
    unfold decidedWithin at h
    rcases hs : runM (step ext self) w with ⟨e | r, w2⟩
    · rfl
    · cases r with
      | some a => rfl
      | none =>
        rw [hs] at h
        exact ih m w2 h (by omega)

/-- **fuel exhaustion**: when all `n` rounds `continue`, the translated loop throws `Rs.Err.other` (the Rust `loop` would go on) -/
theorem iter_exhausted {W : Type} (ext : Ext W) (self : StreamingScanner) (n : Nat) (w : W)
    (h : decidedWithin ext self n w = false) : (runM (iter ext self n) w).1 = .error Rs.Err.other := by
  induction n generalizing w with
  | zero => rfl
  | succ n ih =>
    rw [run_iter_succ]
    unfold decidedWithin at h
    rcases hs : runM (step ext self) w with ⟨e | r, w2⟩
    · rw [hs] at h; simp at h
    · cases r with
      | some a => rw [hs] at h; simp at h
      | none => rw [hs] at h; exact ih w2 h

/-- `k` rounds in a row in which the walker answers the root itself, from world `w` to world `w'` -/
inductive Skips {W : Type} (ext : Ext W) (self : StreamingScanner) : Nat → W → W → Prop
  | zero (w : W) : Skips ext self 0 w w
  | succ {k : Nat} {w w1 w2 : W} (de : DirEntry) (hw : runM (ext.walker_next ()) w = (.ok (some (.ok de)), w1))
      (hroot : de.path = self.root) (rest : Skips ext self k w1 w2) : Skips ext self (k + 1) w w2

theorem step_skip_iff {W : Type} (ext : Ext W) (self : StreamingScanner) (w w' : W) :
    runM (step ext self) w = (.ok none, w') ↔
      ∃ de, runM (ext.walker_next ()) w = (.ok (some (.ok de)), w') ∧ de.path = self.root := by
  rw [run_step]
  rcases hwk : runM (ext.walker_next ()) w with ⟨e | ans, w1⟩
  · simp
  · simp only [round_skip_iff]
    constructor
    · rintro ⟨⟨de, rfl, hp⟩, rfl⟩; exact ⟨de, rfl, hp⟩
    · rintro ⟨de, h, hp⟩
      injection h with h1 h2; injection h1 with h1
      exact ⟨⟨de, h1, hp⟩, h2.symm⟩

theorem iter_of_skips {W : Type} (ext : Ext W) (self : StreamingScanner) (k m : Nat) (w w1 : W)
    (hs : Skips ext self k w w1) : runM (iter ext self (k + m)) w = runM (iter ext self m) w1 := by
  induction hs with
  | zero w => simp
  | succ de hw hroot rest ih =>
    rename_i k w w1 w2
    have : runM (step ext self) w = (.ok none, w1) := (step_skip_iff ext self w w1).mpr ⟨de, hw, hroot⟩
    rw [show k + 1 + m = (k + m) + 1 by omega, run_iter_succ, this]
    exact ih

/-- **the result does not depend on the fuel** (explicit form): after `k < fuel` root answers, a round that decides —
    answers `a` (`r = .ok a`) or fails in an operation (`r = .error e`) — makes `r` the result, whatever the fuel -/
theorem iter_decided_after_skips {W : Type} (ext : Ext W) (self : StreamingScanner) (k fuel : Nat) (w w1 w2 : W)
    (r : Except Rs.Err Answer) (hs : Skips ext self k w w1) (hk : k < fuel)
    (hstep : runM (step ext self) w1 = (r.map some, w2)) : runM (iter ext self fuel) w = (r, w2) := by
  obtain ⟨m, rfl⟩ : ∃ m, fuel = k + (m + 1) := ⟨fuel - k - 1, by omega⟩
  rw [iter_of_skips ext self k (m + 1) w w1 hs, run_iter_succ, hstep]
  cases r <;> rfl

theorem skips_exhausted {W : Type} (ext : Ext W) (self : StreamingScanner) (k : Nat) (w w1 : W)
    (hs : Skips ext self k w w1) : runM (iter ext self k) w = (.error Rs.Err.other, w1) := by
  have := iter_of_skips ext self k 0 w w1 hs
  rw [Nat.add_zero] at this
  rw [this]; rfl

/-! ### `Rs.strip_prefix` never answers "." for a clean path other than the base -/

/-- cleanliness of a path text, as far as `relative_path ≠ "."` needs it: the text is not `"."` and does not end in `"/."`
    (decidable; the walker never yields such paths: `ignore` joins directory-entry names, and `.`/`..` are not entries) -/
def noDotTail (p : Rs.Path) : Bool := p != ['.'] && !(['/', '.'].isSuffixOf p)

theorem strip_prefix_ne_dot (p base : Rs.Path) (hne : p ≠ base) (hc : noDotTail p = true) :
    Rs.strip_prefix p base ≠ .ok ['.'] := by
  rw [noDotTail, Bool.and_eq_true, bne_iff_ne, Bool.not_eq_true'] at hc
  intro h
  -- the answer is `p` itself, or `p = base ++ "/" ++ "."`, which ends in "/."
  rcases Lemmas.PathText.strip_prefix_ok_iff.1 h with ⟨h0, _⟩ | ⟨_, _, h0⟩ | ⟨_, rfl⟩
  · exact hne h0
  · exact hc.1 h0.symm
  · exact Bool.false_ne_true (hc.2.symm.trans (List.isSuffixOf_iff_suffix.mpr ⟨base, rfl⟩))

/-- the hypothesis is needed: the two shapes it excludes DO strip to "." -/
example : Rs.strip_prefix ['a', '/', '.'] ['a'] = .ok ['.'] := rfl
example : Rs.strip_prefix ['.'] [] = .ok ['.'] := rfl
example : noDotTail ['a', '/', '.'] = false ∧ noDotTail ['.'] = false ∧ noDotTail ['a', '/', '.', 'x'] = true ∧
    noDotTail ['a', '/', 'b'] = true := by decide
end SyModel.Lemmas.GenScanner
