/-
  Path and association-list lemmas for the engine model (`SyModel.Engine.Tree`): `isPrefix` as the core `<+:` relation;
  membership in `ancestors`, `parentOf`, and the chain `ancestors p ++ [p]` that `mkdirAll` walks; for the maps, `get?` after
  `set` / `erase` / `eraseSubtree` (all three from `get?_filter_key`), keys, and how `set` and `erase` commute.
-/
import SyModel.Engine.Model
namespace SyModel.Engine

theorem isPrefix_iff (p q : Path) : isPrefix p q = true ↔ p <+: q := by
  induction p generalizing q with
  | nil => simp [isPrefix]
  | cons a p ih =>
    cases q with
    | nil => simp [isPrefix]
    | cons b q => simp [isPrefix, ih, List.cons_prefix_cons]

theorem isPrefix_refl (p : Path) : isPrefix p p = true := (isPrefix_iff p p).2 (List.prefix_refl p)

@[simp] theorem isPrefix_nil (p : Path) : isPrefix [] p = true := by simp [isPrefix]

theorem isPrefix_trans {a b c : Path} (h1 : isPrefix a b = true) (h2 : isPrefix b c = true) :
    isPrefix a c = true :=
  (isPrefix_iff a c).2 (((isPrefix_iff a b).1 h1).trans ((isPrefix_iff b c).1 h2))

theorem isPrefix_length {p q : Path} (h : isPrefix p q = true) : p.length ≤ q.length :=
  ((isPrefix_iff p q).1 h).length_le

theorem isPrefix_eq_of_length {p q : Path} (h : isPrefix p q = true) (hl : q.length ≤ p.length) : p = q :=
  ((isPrefix_iff p q).1 h).eq_of_length_le hl

theorem isPrefix_length_lt {p q : Path} (h : isPrefix p q = true) (hne : p ≠ q) : p.length < q.length :=
  Nat.lt_of_not_le fun hl => hne (isPrefix_eq_of_length h hl)

theorem isPrefix_antisymm {p q : Path} (h1 : isPrefix p q = true) (h2 : isPrefix q p = true) : p = q :=
  isPrefix_eq_of_length h1 (isPrefix_length h2)

theorem isPrefix_nil_right {p : Path} (h : isPrefix p [] = true) : p = [] := by
  cases p with
  | nil => rfl
  | cons a p => simp [isPrefix] at h

theorem isPrefix_total {a b c : Path} (h1 : isPrefix a c = true) (h2 : isPrefix b c = true) :
    isPrefix a b = true ∨ isPrefix b a = true := by
  rw [isPrefix_iff] at h1 h2
  rcases Nat.le_total a.length b.length with h | h
  · exact Or.inl ((isPrefix_iff _ _).2 (List.prefix_of_prefix_length_le h1 h2 h))
  · exact Or.inr ((isPrefix_iff _ _).2 (List.prefix_of_prefix_length_le h2 h1 h))

theorem mem_ancestors {p q : Path} : q ∈ ancestors p ↔ q ≠ [] ∧ isPrefix q p = true ∧ q ≠ p := by
  unfold ancestors
  simp only [List.mem_filterMap, List.mem_range]
  constructor
  · rintro ⟨i, hi, h⟩
    split at h
    · cases h
    · rename_i h0
      simp only [Option.some.injEq] at h
      subst h
      refine ⟨?_, ?_, ?_⟩
      · intro hn
        have : (List.take i p).length = 0 := by rw [hn]; rfl
        rw [List.length_take] at this; omega
      · exact (isPrefix_iff _ _).2 (List.take_prefix i p)
      · intro he
        have : (List.take i p).length = p.length := by rw [he]
        rw [List.length_take] at this; omega
  · rintro ⟨hne, hp, hq⟩
    have hp' := (isPrefix_iff _ _).1 hp
    refine ⟨q.length, isPrefix_length_lt hp hq, ?_⟩
    have h0 : q.length ≠ 0 := by
      intro h; exact hne (List.eq_nil_of_length_eq_zero h)
    simp only [h0, ↓reduceIte, Option.some.injEq]
    exact (List.prefix_iff_eq_take.1 hp').symm

theorem ancestors_prefix {p q : Path} (h : q ∈ ancestors p) : isPrefix q p = true := (mem_ancestors.1 h).2.1

theorem ancestors_ne {p q : Path} (h : q ∈ ancestors p) : q ≠ p := (mem_ancestors.1 h).2.2

theorem ancestors_ne_nil {p q : Path} (h : q ∈ ancestors p) : q ≠ [] := (mem_ancestors.1 h).1

theorem ancestors_nil : ancestors [] = [] := rfl

theorem filterMap_congr' {α β : Type} {f g : α → Option β} {l : List α} (h : ∀ x ∈ l, f x = g x) :
    l.filterMap f = l.filterMap g := by
  induction l with
  | nil => rfl
  | cons a t ih =>
    simp only [List.filterMap_cons, h a (List.mem_cons_self ..)]
    rw [ih (fun x hx => h x (List.mem_cons_of_mem _ hx))]

theorem ancestors_snoc (ks : Path) (c : String) (h : ks ≠ []) :
    ancestors (ks ++ [c]) = ancestors ks ++ [ks] := by
  unfold ancestors
  simp only [List.length_append, List.length_cons, List.length_nil, Nat.zero_add, List.range_succ,
    List.filterMap_append, List.filterMap_cons, List.filterMap_nil]
  have hl : ks.length ≠ 0 := fun e => h (List.length_eq_zero_iff.1 e)
  simp only [hl, ↓reduceIte, List.take_left']
  congr 1
  apply filterMap_congr'
  intro i hi
  have : i < ks.length := List.mem_range.1 hi
  by_cases h0 : i = 0
  · simp [h0]
  · simp only [h0, ↓reduceIte, Option.some.injEq]
    exact List.take_append_of_le_length (by omega)

theorem path_cases (p : Path) : p = [] ∨ ∃ r a, p = r ++ [a] := by
  rcases List.eq_nil_or_concat p with h | ⟨r, a, h⟩
  · exact .inl h
  · exact .inr ⟨r, a, by rw [h, List.concat_eq_append]⟩

theorem parentOf_isPrefix (p : Path) : isPrefix (parentOf p) p = true :=
  (isPrefix_iff _ _).2 (List.dropLast_prefix p)

theorem length_parentOf_lt {k : Path} (hk : k ≠ []) : (parentOf k).length < k.length := by
  have : 0 < k.length := List.length_pos_iff.mpr hk
  unfold parentOf
  rw [List.length_dropLast]
  omega

theorem parentOf_ne {p : Path} (h : p ≠ []) : parentOf p ≠ p := fun he => by
  have := length_parentOf_lt h
  rw [he] at this
  omega

theorem isPrefix_parentOf {q p : Path} (h : isPrefix q p = true) (hne : q ≠ p) :
    isPrefix q (parentOf p) = true := by
  have hlen := isPrefix_length_lt h hne
  rw [isPrefix_iff, parentOf, List.dropLast_eq_take, List.prefix_take_iff]
  exact ⟨(isPrefix_iff _ _).1 h, by omega⟩

theorem isPrefix_parentOf_strict {q p : Path} (hq : q ≠ []) (h : isPrefix q (parentOf p) = true) :
    isPrefix q p = true ∧ q ≠ p := by
  refine ⟨isPrefix_trans h (parentOf_isPrefix p), fun he => ?_⟩
  subst he
  exact parentOf_ne hq (isPrefix_antisymm (parentOf_isPrefix q) h)

theorem mem_ancestors_parentOf {p x : Path} : x ∈ ancestors p ↔ x ≠ [] ∧ isPrefix x (parentOf p) = true := by
  rw [mem_ancestors]
  exact ⟨fun ⟨h0, hp, hne⟩ => ⟨h0, isPrefix_parentOf hp hne⟩,
    fun ⟨h0, hp⟩ => ⟨h0, (isPrefix_parentOf_strict h0 hp).1, (isPrefix_parentOf_strict h0 hp).2⟩⟩

theorem mem_chain_self {q p : Path} : q ∈ ancestors p ++ [p] ↔ (q ≠ [] ∧ isPrefix q p = true) ∨ q = p := by
  simp only [List.mem_append, mem_ancestors, List.mem_singleton]
  constructor
  · rintro (⟨a, b, _⟩ | h)
    · exact Or.inl ⟨a, b⟩
    · exact Or.inr h
  · rintro (⟨a, b⟩ | h)
    · by_cases he : q = p
      · exact Or.inr he
      · exact Or.inl ⟨a, b, he⟩
    · exact Or.inr h

/-- what `mkdirAll dst (parentOf p)` walks over: the non-root strict prefixes of `p` -/
theorem mem_chain_parentOf {q p : Path} (h : q ∈ ancestors (parentOf p) ++ [parentOf p]) (hq : q ≠ []) :
    isPrefix q p = true ∧ q ≠ p := by
  apply isPrefix_parentOf_strict hq
  rcases mem_chain_self.1 h with ⟨_, h⟩ | h
  · exact h
  · rw [h]; exact isPrefix_refl _

theorem chain_parentOf_mem {q p : Path} (h : isPrefix q p = true) (hne : q ≠ p) (hq : q ≠ []) :
    q ∈ ancestors (parentOf p) ++ [parentOf p] := by
  have h' := isPrefix_parentOf h hne
  by_cases he : q = parentOf p
  · simp [he]
  · exact List.mem_append_left _ (mem_ancestors.2 ⟨hq, h', he⟩)

namespace Map
variable {α : Type}

@[simp] theorem get?_nil (p : Path) : get? ([] : Map α) p = none := rfl

theorem get?_cons (q : Path) (v : α) (t : Map α) (p : Path) :
    get? ((q, v) :: t) p = if q = p then some v else get? t p := rfl

theorem get?_filter_key (m : Map α) (f : Path → Bool) (q : Path) :
    get? (List.filter (fun kv => f kv.1) m) q = if f q then get? m q else none := by
  induction m with
  | nil => simp
  | cons kv t ih =>
    obtain ⟨k, v⟩ := kv
    simp only [List.filter_cons]
    by_cases hk : k = q
    · subst hk
      cases hf : f k
      · simp only [Bool.false_eq_true, if_false, ih, hf]
      · simp only [if_true, get?_cons]
    · cases hf : f k
      · simp only [Bool.false_eq_true, if_false, ih, get?_cons, hk]
      · simp only [if_true, get?_cons, hk, if_false, ih]

theorem get?_erase (m : Map α) (p q : Path) :
    get? (erase m p) q = if p = q then none else get? m q := by
  refine (get?_filter_key m (fun k => decide (k ≠ p)) q).trans ?_
  by_cases h : p = q
  · simp [h]
  · simp [h, Ne.symm h]

theorem get?_erase_same (m : Map α) (p : Path) : get? (erase m p) p = none := by
  rw [get?_erase, if_pos rfl]

theorem get?_erase_ne (m : Map α) (p q : Path) (h : p ≠ q) : get? (erase m p) q = get? m q := by
  rw [get?_erase, if_neg h]

@[simp] theorem get?_set_same (m : Map α) (p : Path) (v : α) : get? (set m p v) p = some v := by
  simp [set, get?_cons]

theorem get?_set_ne (m : Map α) (p q : Path) (v : α) (h : p ≠ q) :
    get? (set m p v) q = get? m q := by
  simp [set, get?_cons, h, get?_erase_ne]

theorem get?_set (m : Map α) (p q : Path) (v : α) :
    get? (set m p v) q = if p = q then some v else get? m q := by
  by_cases h : p = q
  · subst h; simp
  · simp [h, get?_set_ne]

theorem get?_eraseSubtree (m : Map α) (p q : Path) :
    get? (eraseSubtree m p) q = if isPrefix p q then none else get? m q := by
  refine (get?_filter_key m (fun k => !isPrefix p k) q).trans ?_
  cases isPrefix p q <;> rfl

theorem mem_keys_iff (m : Map α) (p : Path) : p ∈ keys m ↔ get? m p ≠ none := by
  induction m with
  | nil => simp [keys]
  | cons kv t ih =>
    obtain ⟨q, v⟩ := kv
    simp only [keys, List.map_cons, List.mem_cons, get?_cons] at ih ⊢
    by_cases h : q = p
    · simp [h]
    · simp only [h, ↓reduceIte]
      rw [← ih]
      constructor
      · rintro (h' | h')
        · exact absurd h'.symm h
        · exact h'
      · exact Or.inr

theorem mem_keys_of_mem {m : Map α} {k : Path} {v : α} (h : (k, v) ∈ m) : k ∈ keys m :=
  List.mem_map.2 ⟨(k, v), h, rfl⟩

theorem erase_erase (m : Map α) (p : Path) : erase (erase m p) p = erase m p := by
  simp [erase, List.filter_filter]

theorem set_set (m : Map α) (p : Path) (a b : α) : set (set m p a) p b = set m p b := by
  simp [set, erase, List.filter_filter]

theorem set_erase_eq (m : Map α) (p : Path) (v : α) : set (erase m p) p v = set m p v := by
  simp [set, erase_erase]

theorem set_erase_comm (m : Map α) (q k : Path) (v : α) (h : q ≠ k) :
    set (erase m k) q v = erase (set m q v) k := by
  simp only [set, erase, List.filter_cons, h, ne_eq, not_false_eq_true, decide_true, ↓reduceIte,
    List.filter_filter, List.cons.injEq, true_and]
  congr 1; funext a; exact Bool.and_comm _ _

end Map
end SyModel.Engine
