/-
  Lemmas.GenLocalCopyOps — what each operation of `posix cfg` does in a world written out field by field, in the
  situations the routes of the translated unit `LocalCopy` meet (a regular file under a name, a free name, a descriptor
  that was just opened).  A route is then run operation by operation (`wp_bind_run`): the next world is again written out,
  so every side condition is a statement about one `upd`.

  The fault field is a variable `F` that is not due (`F ≠ some 0`): the operation leaves `dec F`.  `wp_bind_prim` is the
  rule for a fallible call under ANY countdown: due, the call fails into the error postcondition; not due, its lemma runs it.

  Two pieces of `sync_file_with_delta` are run here once for all routes, over the code that follows them as a variable:
  its head (`sync_head_wp`) and a block loop against its model (`wp_block_loop`).
-/
import SyModel.Lemmas.GenLocalCopyWp
import SyModel.Lemmas.GenLocalCopyStrip
set_option autoImplicit false
namespace SyModel.LocalCopy
open SyModel.Generated.Rs (run_bind run_map run_capture wp_bind wp_capture wp_bind_run wp_bind_fail wp_bind_of wp_of_run wp_ite_self wp_ite_pos wp_ite_neg)
open SyModel SyModel.Generated SyModel.Generated.LocalCopy SyModel.Transfer
open SyModel.Compress (writeAt)
open SyModel.Data

variable (cfg : Cfg) {nm : Rs.Path → Option Node} {ino : Nat → Option Inode} {ni : Nat} {hs : Nat → Option Handle} {nh : Nat}
  {g : List Rs.Path} {lg : List Op} {now : Nat} {F : Option Nat}

/-- a fallible call that is not hit runs in the world whose countdown has advanced -/
theorem prim_tick {α : Type} (f : Act α) (w : LWorld) (h : w.fault ≠ some 0) :
    prim f w = match f (tick w) with
      | .ok (a, w') => (.ok a, w')
      | .error e => (.error e, tick w) := by
  rcases w with ⟨nm, ino, ni, hs, nh, g, lg, now, _ | _ | k⟩
  · rfl
  · exact absurd rfl h
  · rfl

/-- **A fallible call under any countdown**: where the fault is due the call fails and the error postcondition takes the
    world with the fault used up; where it is not, the call runs (`hrun`) and the program goes on. -/
theorem wp_bind_prim {α β : Type} {f : Act α} {k : α → Rs.M LWorld β} {Q : β → LWorld → Prop} {E : Rs.Err → LWorld → Prop}
    {w w' : LWorld} {a : α} (hrun : w.fault ≠ some 0 → prim f w = (.ok a, w')) (hE : w.fault = some 0 → E .io (spent w))
    (hk : Rs.wp (k a) Q E w') : Rs.wp (prim f >>= k) Q E w := by
  by_cases h : w.fault = some 0
  · refine wp_bind_fail ?_ (hE h)
    rcases w with ⟨nm, ino, ni, hs, nh, g, lg, now, F⟩
    cases h
    rfl
  · exact wp_bind_run (hrun h) hk

/-- `remove_if_symlink` on a regular file: one `lstat` -/
theorem remove_if_symlink_file (p : Rs.Path) (i : Nat) (n : Inode) (hF : F ≠ some 0) (h : nm p = some (.file i)) (hi : ino i = some n) :
    remove_if_symlink (posix cfg) p ⟨nm, ino, ni, hs, nh, g, lg, now, F⟩ = (.ok (), ⟨nm, ino, ni, hs, nh, g, lg, now, dec F⟩) := by
  simp [remove_if_symlink, run_bind, run_capture, run_pure, prim_tick, hF, tick, lstatAct, h, hi, Rs.l_is_symlink,
    Rs.l_file_type]

theorem exists_file (self : LocalTransport) (p : Rs.Path) (i : Nat) (hF : F ≠ some 0) (h : nm p = some (.file i)) :
    LocalTransport.exists (posix cfg) self p ⟨nm, ino, ni, hs, nh, g, lg, now, F⟩ = (.ok true, ⟨nm, ino, ni, hs, nh, g, lg, now, dec F⟩) := by
  simp [LocalTransport.exists, run_bind, run_capture, run_pure, prim_tick, hF, tick, existsAct, LWorld.stat,
    follow_file _ p i h, h, Rs.unwrap_or]

theorem fs_metadata_file (p : Rs.Path) (i : Nat) (n : Inode) (hF : F ≠ some 0) (h : nm p = some (.file i)) (hi : ino i = some n) :
    (posix cfg).fs_metadata p ⟨nm, ino, ni, hs, nh, g, lg, now, F⟩ =
      (.ok ⟨false, n.mtime, n.bytes.length⟩, ⟨nm, ino, ni, hs, nh, g, lg, now, dec F⟩) := by
  simp [prim_tick, hF, tick, metadataAct, LWorld.stat, follow_file _ p i h, h, hi]

/-- the answer of `estimate_change_ratio`, kept as a value -/
def ratioAnswer : Except Rs.Err ChangeRatio :=
  match cfg.ratio with
  | some b => .ok ⟨b, 0, 0, 0⟩
  | none => .error .io

theorem estimate_run (a b : Rs.Path) (c : Nat) (d : Option Nat) (e : Option Rat) (hF : F ≠ some 0) :
    Rs.capture ((posix cfg).estimate_change_ratio a b c d e) ⟨nm, ino, ni, hs, nh, g, lg, now, F⟩ =
      (.ok (ratioAnswer cfg), ⟨nm, ino, ni, hs, nh, g, lg, now, dec F⟩) := by
  simp only [run_capture, posix_estimate_change_ratio, prim_tick _ ⟨nm, ino, ni, hs, nh, g, lg, now, F⟩ hF, tick, ratioAnswer]
  cases cfg.ratio <;> rfl

theorem ratioAnswer_pass (h : cfg.ratio ≠ some false) (c : ChangeRatio) (hc : ratioAnswer cfg = .ok c) : c.use_delta = true := by
  unfold ratioAnswer at hc
  cases hr : cfg.ratio with
  | none => rw [hr] at hc; cases hc
  | some b =>
    rw [hr] at hc h
    cases hc
    cases b
    · exact absurd rfl h
    · rfl

/-- the change-ratio gate lets through an answer that says "delta", and a failure -/
theorem wp_ratio_gate {β : Type} (r : Except Rs.Err ChangeRatio) (hpass : ∀ c, r = .ok c → c.use_delta = true)
    (A : ChangeRatio → Rs.M LWorld β) (k : Rs.M LWorld β) (Q : β → LWorld → Prop) (E : Rs.Err → LWorld → Prop) (w : LWorld)
    (h : Rs.wp k Q E w) :
    Rs.wp (match r with
        | .ok ratio => if (!ratio.use_delta) = true then A ratio else k
        | .error _ => k) Q E w := by
  cases r with
  | error e => exact h
  | ok c => simp only [hpass c rfl]; exact h

/-- `let _ = fs::remove_file(&temp_dest)`: a symlink at the working-file path is unlinked, on a free name the call fails
    (ENOENT) and the error is dropped (`unlinkSym` does not look at the countdown) -/
theorem capture_remove_temp (p : Rs.Path) (h : nm p = none ∨ ∃ t, nm p = some (.symlink t)) (F0 : Option Nat)
    (hF : F ≠ some 0 := by intro h; cases h) :
    ∃ r, Rs.capture ((posix cfg).remove_file p) ⟨nm, ino, ni, hs, nh, g, lg, now, F⟩ =
      (.ok r, ⟨(unlinkSym ⟨nm, ino, ni, hs, nh, g, lg, now, F0⟩ p).names, ino, ni, hs, nh, g,
        (unlinkSym ⟨nm, ino, ni, hs, nh, g, lg, now, F0⟩ p).log, now, dec F⟩) := by
  rcases h with h | ⟨t, h⟩
  · exact ⟨.error .io, by simp [run_capture, prim_tick, hF, tick, removeFileAct, unlinkSym, h]⟩
  · exact ⟨.ok (), by simp [run_capture, prim_tick, hF, tick, removeFileAct, unlinkSym, h, LWorld.logOp]⟩

/-- **The head of `sync_file_with_delta` on an existing regular file of at least 10 MiB**, the source not sparse, under a
    countdown that is not due at any of its fallible calls: the four probes (`lstat`, `exists`, two `metadata`), the size
    gates, and inside the closure `fs::metadata`, the sparse test and the change-ratio estimate.  When the estimate says
    "no delta" the fallback `A` runs; otherwise the strategy is chosen (`K` is told the three answers), the working-file
    path is cleared and the guard armed, and `K` runs.  `T` is what follows the closure (`scope_exit` and its result).
    `hF`: seven fallible calls precede `File::create(working file)` — lstat, exists, metadata ×2, fs::metadata,
    estimate_change_ratio, remove_file(working file) —, so a countdown `k + 7` is due at none of them.  `if … then J2 else J2`
    is the code's `if use_cow_strategy {} else { let reason = … }`: both branches continue alike, they differ in a log text
    only. -/
theorem sync_head_wp (self : LocalTransport) (src dst : Rs.Path) {is id : Nat} {ns nd : Inode} {bs : Nat} {o1 : Option Nat}
    {o2 : Option Rat} {C : Rs.M LWorld TransferResult} {X : Rs.Metadata → Rs.M LWorld TransferResult}
    {A : Rs.Metadata → ChangeRatio → Rs.M LWorld TransferResult}
    {K : Rs.Metadata → Rs.Opaque → Rs.Metadata → Bool → Bool → Bool → Rs.Opaque → Rs.M LWorld TransferResult}
    {T : Except Rs.Err TransferResult → Rs.M LWorld TransferResult}
    {Q : TransferResult → LWorld → Prop} {E : Rs.Err → LWorld → Prop}
    (hsrc : nm src = some (.file is)) (hisrc : ino is = some ns) (hdst : nm dst = some (.file id)) (hidst : ino id = some nd)
    (hbig : 10485760 ≤ nd.bytes.length) (hsp : cfg.sparse = false) (hF : F = none ∨ ∃ k, F = some (k + 7))
    (hA : cfg.ratio = some false → Rs.wp (A ⟨false, ns.mtime, ns.bytes.length⟩ ⟨false, 0, 0, 0⟩)
      (fun v w' => Rs.wp (T (.ok v)) Q E w') (fun e w' => Rs.wp (T (.error e)) Q E w')
      ⟨nm, ino, ni, hs, nh, g, lg, now, dec (dec (dec (dec (dec (dec F)))))⟩)
    (hK : cfg.ratio ≠ some false → (nm (dst ++ TEMP_SUFFIX) = none ∨ ∃ t, nm (dst ++ TEMP_SUFFIX) = some (.symlink t)) ∧
      ∀ nm0, nm0 (dst ++ TEMP_SUFFIX) = none → (∀ p, p ≠ dst ++ TEMP_SUFFIX → nm0 p = nm p) →
        Rs.wp (K ⟨false, ns.mtime, ns.bytes.length⟩ {} ⟨false, ns.mtime, ns.bytes.length⟩ cfg.cow cfg.sameFs (decide (1 < nd.nlink)) {})
          (fun v w' => Rs.wp (T (.ok v)) Q E w') (fun e w' => Rs.wp (T (.error e)) Q E w')
          ⟨nm0, ino, ni, hs, nh, (dst ++ TEMP_SUFFIX) :: g, (unlinkSym ⟨nm, ino, ni, hs, nh, g, lg, now, F⟩ (dst ++ TEMP_SUFFIX)).log,
            now, dec (dec (dec (dec (dec (dec (dec F))))))⟩) :
    Rs.wp (remove_if_symlink (posix cfg) dst >>= fun _ =>
        LocalTransport.exists (posix cfg) self dst >>= fun b =>
        if (!b) = true then C else
        LocalTransport.metadata (posix cfg) self src >>= fun sm =>
        LocalTransport.metadata (posix cfg) self dst >>= fun dm =>
        if decide (Rs.len dm < 10 * 1024 * 1024) = true then C else
        if decide (Rs.len dm < 4096) = true then C else
        Rs.capture ((posix cfg).Instant_now () >>= fun t =>
          (posix cfg).fs_metadata src >>= fun m =>
          (posix cfg).is_file_sparse m >>= fun sp =>
          if sp = true then X m else
          Rs.capture ((posix cfg).estimate_change_ratio src dst bs o1 o2) >>= fun r =>
          have J : Rs.M LWorld TransferResult :=
            (posix cfg).supports_cow_reflinks dst >>= fun sc =>
            (posix cfg).same_filesystem src dst >>= fun sf =>
            (posix cfg).has_hard_links dst >>= fun hl =>
            have J2 : Rs.M LWorld TransferResult :=
              Rs.capture ((posix cfg).remove_file ((posix cfg).working_file_path dst)) >>= fun _ =>
              (posix cfg).TempFileGuard_new ((posix cfg).working_file_path dst) >>= fun gd =>
              K sm t m sc sf hl gd
            if (sc && sf && !hl) = true then J2 else J2
          match r with
          | .ok ratio => if (!ratio.use_delta) = true then A m ratio else J
          | .error _ => J) >>= T)
      Q E ⟨nm, ino, ni, hs, nh, g, lg, now, F⟩ := by
  obtain ⟨h0, h1, h2, h3, h4, h5, h6⟩ : F ≠ some 0 ∧ dec F ≠ some 0 ∧ dec (dec F) ≠ some 0 ∧ dec (dec (dec F)) ≠ some 0 ∧
      dec (dec (dec (dec F))) ≠ some 0 ∧ dec (dec (dec (dec (dec F)))) ≠ some 0 ∧
      dec (dec (dec (dec (dec (dec F))))) ≠ some 0 := by
    rcases hF with rfl | ⟨k, rfl⟩ <;> simp [dec]
  refine wp_bind_run (remove_if_symlink_file cfg dst id _ h0 hdst hidst) ?_
  refine wp_bind_run (exists_file cfg self dst id h1 hdst) ?_
  refine wp_ite_neg (by decide) ?_
  refine wp_bind_run (fs_metadata_file cfg src is _ h2 hsrc hisrc) ?_
  refine wp_bind_run (fs_metadata_file cfg dst id _ h3 hdst hidst) ?_
  refine wp_ite_neg (by simp [Rs.len]; omega) ?_
  refine wp_ite_neg (by simp [Rs.len]; omega) ?_
  rw [wp_bind, wp_capture]
  refine wp_bind_run (a := {}) rfl ?_
  refine wp_bind_run (fs_metadata_file cfg src is _ h4 hsrc hisrc) ?_
  refine wp_bind_run (a := cfg.sparse) rfl ?_
  refine wp_ite_neg (by simp [hsp]) ?_
  refine wp_bind_run (estimate_run cfg _ _ _ _ _ h5) ?_
  by_cases hr : cfg.ratio = some false
  · rw [show ratioAnswer cfg = .ok ⟨false, 0, 0, 0⟩ by simp [ratioAnswer, hr]]
    exact wp_ite_pos (by decide) (hA hr)
  · obtain ⟨htmp, hK⟩ := hK hr
    refine wp_ratio_gate _ (ratioAnswer_pass cfg hr) _ _ _ _ _ ?_
    refine wp_bind_run (a := cfg.cow) rfl ?_
    refine wp_bind_run (a := cfg.sameFs) rfl ?_
    refine wp_bind_run (a := hasHardLinks ⟨nm, ino, ni, hs, nh, g, lg, now, dec (dec (dec (dec (dec (dec F)))))⟩ dst) rfl ?_
    rw [hasHardLinks_file _ dst id nd hdst hidst]
    refine wp_ite_self ?_
    obtain ⟨r, hrm⟩ := capture_remove_temp cfg (dst ++ TEMP_SUFFIX) htmp F h6
    refine wp_bind_run hrm ?_
    refine wp_bind_run (a := {}) rfl ?_
    exact hK _ (unlinkSym_names_self _ _ htmp) (fun p hp => unlinkSym_names_ne _ _ _ hp)

theorem file_create_free (p : Rs.Path) (h : nm p = none) (hF : F ≠ some 0 := by intro h; cases h) :
    (posix cfg).File_create p ⟨nm, ino, ni, hs, nh, g, lg, now, F⟩ =
      (.ok nh, ⟨upd nm p (some (.file ni)), upd ino ni (some ⟨[], now, [], 1⟩), ni + 1, upd hs nh (some ⟨ni, 0, true⟩), nh + 1, g,
        lg ++ [.create p ni], now, dec F⟩) := by
  simp [prim_tick, hF, tick, fileCreateAct, createTrunc, follow_free _ p h, h, LWorld.newHandle, LWorld.logOp]

theorem set_len_run (h i pos n : Nat) (nd : Inode) (hh : hs h = some ⟨i, pos, true⟩) (hi : ino i = some nd) (hF : F ≠ some 0 := by intro h; cases h) :
    (posix cfg).h_set_len h n ⟨nm, ino, ni, hs, nh, g, lg, now, F⟩ =
      (.ok (), ⟨nm, upd ino i (some { nd with bytes := setLenN nd.bytes n, mtime := now }), ni, hs, nh, g, lg ++ [.setLen i n], now, dec F⟩) := by
  simp [prim_tick, hF, tick, setLenAct, hh, hi, LWorld.logOp]

theorem file_open_run (p : Rs.Path) (i : Nat) (h : nm p = some (.file i)) (hF : F ≠ some 0 := by intro h; cases h) :
    (posix cfg).File_open p ⟨nm, ino, ni, hs, nh, g, lg, now, F⟩ =
      (.ok nh, ⟨nm, ino, ni, upd hs nh (some ⟨i, 0, false⟩), nh + 1, g, lg, now, dec F⟩) := by
  simp [prim_tick, hF, tick, fileOpenAct, LWorld.inoOf, LWorld.stat, follow_file _ p i h, h, LWorld.newHandle]

theorem oo_open_run (o : Rs.OpenOptions) (p : Rs.Path) (i : Nat) (h : nm p = some (.file i)) (hF : F ≠ some 0 := by intro h; cases h) :
    (posix cfg).oo_open o p ⟨nm, ino, ni, hs, nh, g, lg, now, F⟩ =
      (.ok nh, ⟨nm, ino, ni, upd hs nh (some ⟨i, 0, o.write⟩), nh + 1, g, lg, now, dec F⟩) := by
  simp [prim_tick, hF, tick, ooOpenAct, LWorld.inoOf, LWorld.stat, follow_file _ p i h, h, LWorld.newHandle]

theorem set_mtime_run (p : Rs.Path) (i t : Nat) (n : Inode) (h : nm p = some (.file i)) (hi : ino i = some n) (hF : F ≠ some 0 := by intro h; cases h) :
    (posix cfg).filetime_set_file_mtime p t ⟨nm, ino, ni, hs, nh, g, lg, now, F⟩ =
      (.ok (), ⟨nm, upd ino i (some { n with mtime := t }), ni, hs, nh, g, lg ++ [.utime p i t], now, dec F⟩) := by
  simp [prim_tick, hF, tick, setMtimeAct, LWorld.inoOf, LWorld.stat, follow_file _ p i h, h, hi, LWorld.logOp]

/-- `rename(q, p)` over a regular file: the old inode of `p` loses a link -/
theorem rename_over_file (q p : Rs.Path) (nq : Node) (i : Nat) (n : Inode) (hq : nm q = some nq) (hp : nm p = some (.file i))
    (hi : ino i = some n) (hF : F ≠ some 0 := by intro h; cases h) :
    (posix cfg).fs_rename q p ⟨nm, ino, ni, hs, nh, g, lg, now, F⟩ =
      (.ok (), ⟨upd (upd nm p (some nq)) q none, upd ino i (some { n with nlink := n.nlink - 1 }), ni, hs, nh, g,
        lg ++ [.rename q p], now, dec F⟩) := by
  simp [prim_tick, hF, tick, renameAct, hq, hp, LWorld.decLink, hi, LWorld.logOp]

/-! ### without a pending fault: the operations below occur only on routes that are run for `fault = none` -/

/-- `fs::copy(s, d)` onto a free name: a new inode with the source's bytes (and, where `fs::copy` does that, its attributes) -/
theorem fs_copy_to_free (s d : Rs.Path) (i : Nat) (n : Inode) (hsn : nm s = some (.file i)) (hi : ino i = some n) (hd : nm d = none)
    (hni : i ≠ ni) :
    (posix cfg).fs_copy s d ⟨nm, ino, ni, hs, nh, g, lg, now, none⟩ =
      (.ok n.bytes.length,
        ⟨upd nm d (some (.file ni)), upd ino ni (some ⟨n.bytes, now, if cfg.copyXattrs then n.xattrs else [], 1⟩), ni + 1, hs, nh, g,
          lg ++ [.create d ni, .write ni 0 n.bytes], now, none⟩) := by
  cases hx : cfg.copyXattrs <;>
  simp [prim_nf, fsCopyAct, LWorld.inoOf, LWorld.stat, follow_file _ s i hsn, hsn, createTrunc, follow_free _ d hd, hd, LWorld.logOp,
    upd_ne, hni, hi, hx]

theorem xattr_list_file (p : Rs.Path) (i : Nat) (n : Inode) (h : nm p = some (.file i)) (hi : ino i = some n) :
    Rs.capture ((posix cfg).xattr_list p) ⟨nm, ino, ni, hs, nh, g, lg, now, none⟩ = (.ok (.ok n.xattrs), ⟨nm, ino, ni, hs, nh, g, lg, now, none⟩) := by
  simp [run_capture, prim_nf, xattrListAct, h, hi]

/-- the strip loop over the attributes that were just listed: none is left -/
theorem strip_listed (p : Rs.Path) (i : Nat) (n : Inode) (h : nm p = some (.file i)) (hi : ino i = some n) :
    (forIn n.xattrs PUnit.unit (fun attr_name __s => do
        let _ := (← Rs.capture ((posix cfg).xattr_remove p attr_name))
        pure (ForInStep.yield PUnit.unit)) : Rs.M LWorld PUnit) ⟨nm, ino, ni, hs, nh, g, lg, now, none⟩ =
      (.ok PUnit.unit, ⟨nm, upd ino i (some { n with xattrs := [] }), ni, hs, nh, g,
        lg ++ (stripNames n.xattrs n.xattrs).map (Op.xattrRemove i), now, none⟩) := by
  rw [strip_forIn]
  show (_, stripGo p n.xattrs _) = _
  rw [stripGo_spec p i n.xattrs _ n rfl h hi, filter_not_mem_self]

/-- **The end of every full copy**: `if let Ok(list) = xattr::list(d) { remove each }`, then `set_file_mtime(d, source mtime)`,
    then `k` — on a regular file `d`: no attribute is left, the mtime is the source's. -/
theorem wp_strip_mtime {β : Type} {k : Rs.M LWorld β} {Q : β → LWorld → Prop} {E : Rs.Err → LWorld → Prop}
    (d : Rs.Path) (j : Nat) (n : Inode) (m : Rs.Metadata) (h : nm d = some (.file j)) (hj : ino j = some n)
    (hk : Rs.wp k Q E ⟨nm, upd ino j (some ⟨n.bytes, m.mtime, [], n.nlink⟩), ni, hs, nh, g,
      lg ++ (stripNames n.xattrs n.xattrs).map (Op.xattrRemove j) ++ [.utime d j m.mtime], now, none⟩) :
    Rs.wp (Rs.capture ((posix cfg).xattr_list d) >>= fun r =>
        have J : Rs.M LWorld β :=
          match Rs.modified m with
          | .ok t => (posix cfg).filetime_set_file_mtime d (id t) >>= fun _ => k
          | _ => k
        match r with
        | .ok l =>
          (forIn l PUnit.unit fun a _ => do
            let _ := (← Rs.capture ((posix cfg).xattr_remove d a))
            pure (ForInStep.yield PUnit.unit)) >>= fun _ => J
        | _ => J) Q E ⟨nm, ino, ni, hs, nh, g, lg, now, none⟩ := by
  refine wp_bind_run (xattr_list_file cfg d j n h hj) ?_
  refine wp_bind_run (strip_listed cfg d j n h hj) ?_
  refine wp_bind_run (set_mtime_run cfg d j _ _ h (upd_same _ _ _)) ?_
  rw [upd_eq, upd_upd]
  exact hk

/-- `remove_if_symlink` changes names and log only -/
theorem remove_if_symlink_run (p : Rs.Path) :
    remove_if_symlink (posix cfg) p ⟨nm, ino, ni, hs, nh, g, lg, now, none⟩ =
      (.ok (), ⟨(unlinkSym ⟨nm, ino, ni, hs, nh, g, lg, now, none⟩ p).names, ino, ni, hs, nh, g,
        (unlinkSym ⟨nm, ino, ni, hs, nh, g, lg, now, none⟩ p).log, now, none⟩) := by
  unfold remove_if_symlink unlinkSym
  simp only [run_bind, run_capture, posix_tokio_fs_symlink_metadata, posix_remove_file, prim_nf _ ⟨nm, ino, ni, hs, nh, g, lg, now, none⟩ rfl, lstatAct]
  cases hn : nm p with
  | none => simp [run_pure]
  | some nd =>
    cases nd with
    | dir => simp [run_pure, Rs.l_is_symlink, Rs.l_file_type]
    | symlink t => simp [run_pure, Rs.l_is_symlink, Rs.l_file_type, run_bind, prim_nf, removeFileAct, hn, LWorld.logOp]
    | file i =>
      cases hi : ino i <;> simp [hi, run_pure, Rs.l_is_symlink, Rs.l_file_type]

theorem exists_free (self : LocalTransport) (p : Rs.Path) (h : nm p = none) :
    LocalTransport.exists (posix cfg) self p ⟨nm, ino, ni, hs, nh, g, lg, now, none⟩ =
      (.ok false, ⟨nm, ino, ni, hs, nh, g, lg, now, none⟩) := by
  simp [LocalTransport.exists, run_bind, run_capture, run_pure, prim_nf, existsAct, LWorld.stat, follow_free _ p h, h, Rs.unwrap_or]

/-- `break_unshared_hard_link` on a file without other links, or on a free name: nothing -/
theorem break_link_none (s d : Rs.Path) (h : hasHardLinks ⟨nm, ino, ni, hs, nh, g, lg, now, none⟩ d = false) :
    break_unshared_hard_link (posix cfg) s d ⟨nm, ino, ni, hs, nh, g, lg, now, none⟩ =
      (.ok (), ⟨nm, ino, ni, hs, nh, g, lg, now, none⟩) := by
  simp [break_unshared_hard_link, run_bind, run_pure, h]

/-- on a file with other links: the name is unlinked -/
theorem break_link_shared (s d : Rs.Path) (i : Nat) (n : Inode) (h : nm d = some (.file i)) (hi : ino i = some n) (hl : 1 < n.nlink) :
    break_unshared_hard_link (posix cfg) s d ⟨nm, ino, ni, hs, nh, g, lg, now, none⟩ =
      (.ok (), ⟨upd nm d none, upd ino i (some { n with nlink := n.nlink - 1 }), ni, hs, nh, g, lg ++ [.unlink d], now, none⟩) := by
  simp [break_unshared_hard_link, run_bind, run_capture, run_map, prim_nf, hasHardLinks, LWorld.inoOf, LWorld.stat,
    follow_file _ d i h, h, hi, hl, lstatAct, Rs.l_is_file, removeFileAct, LWorld.decLink, LWorld.logOp]

/-- `fs::copy(s, d)` over an existing regular file: the SAME inode is truncated and rewritten -/
theorem fs_copy_over_file (s d : Rs.Path) (i j : Nat) (n nd : Inode) (hsn : nm s = some (.file i)) (hi : ino i = some n)
    (hd : nm d = some (.file j)) (hj : ino j = some nd) (hij : i ≠ j) :
    (posix cfg).fs_copy s d ⟨nm, ino, ni, hs, nh, g, lg, now, none⟩ =
      (.ok n.bytes.length,
        ⟨nm, upd ino j (some ⟨n.bytes, now, if cfg.copyXattrs then n.xattrs ++ nd.xattrs else nd.xattrs, nd.nlink⟩), ni, hs, nh, g,
          lg ++ [.truncate j, .write j 0 n.bytes], now, none⟩) := by
  simp [prim_nf, fsCopyAct, LWorld.inoOf, LWorld.stat, follow_file _ s i hsn, hsn, createTrunc, follow_file _ d j hd, hd, hj,
    LWorld.logOp, upd_ne, hij, hi]

/-! ### the block loop, under any countdown -/

section LoopOps
variable (cfg : Cfg) (a : LWorld) (is id it : Nat) (xt : List Rs.Str) (sp dp tp : Nat) (T : List Nat) (ws : List (Nat × List Nat))
  (hF : (loopW a is id it xt sp dp tp T ws).fault ≠ some 0)
include hF

/-- a full read of at most `bs` bytes by the source reader (full reads against the code's `BufReader`:
    `Transfer.cmpBlocks_production`) -/
theorem loopW_read_src (S : Bytes) (ms : Nat) (xs : List Rs.Str) (ls bs h : Nat) (buf : List Nat)
    (hS : a.inodes is = some ⟨ofU8 S, ms, xs, ls⟩) (hne : is ≠ it) (hb : buf.length = bs) (hh : h = a.nextHandle) :
    (posix cfg).h_read h buf (loopW a is id it xt sp dp tp T ws) =
      (.ok (((S.drop sp).take bs).length, ofU8 ((S.drop sp).take bs) ++ buf.drop ((S.drop sp).take bs).length),
        loopW (tick a) is id it xt (sp + ((S.drop sp).take bs).length) dp tp T ws) := by
  subst hh
  replace hF : a.fault ≠ some 0 := hF
  have e1 : a.nextHandle ≠ a.nextHandle + 1 := by omega
  have e2 : a.nextHandle ≠ a.nextHandle + 2 := by omega
  simp [loopW, prim_tick, hF, tick, readAct, upd_ne, hne, hS, LWorld.setPos, hb, List.length_map, read_take,
    upd_shadow2 _ _ _ _ _ e1 e2]

theorem loopW_read_dst (D : Bytes) (md : Nat) (xd : List Rs.Str) (ld bs h : Nat) (buf : List Nat)
    (hD : a.inodes id = some ⟨ofU8 D, md, xd, ld⟩) (hne : id ≠ it) (hb : buf.length = bs) (hh : h = a.nextHandle + 1) :
    (posix cfg).h_read h buf (loopW a is id it xt sp dp tp T ws) =
      (.ok (((D.drop dp).take bs).length, ofU8 ((D.drop dp).take bs) ++ buf.drop ((D.drop dp).take bs).length),
        loopW (tick a) is id it xt sp (dp + ((D.drop dp).take bs).length) tp T ws) := by
  subst hh
  replace hF : a.fault ≠ some 0 := hF
  have e3 : a.nextHandle + 1 ≠ a.nextHandle + 2 := by omega
  simp [loopW, prim_tick, hF, tick, readAct, upd_ne, hne, hD, LWorld.setPos, hb, List.length_map, read_take,
    upd_shadow _ _ _ _ e3]

theorem loopW_seek_tmp (off h : Nat) (hh : h = a.nextHandle + 2) :
    (posix cfg).h_seek h (.Start off) (loopW a is id it xt sp dp tp T ws) =
      (.ok off, loopW (tick a) is id it xt sp dp off T ws) := by
  subst hh
  replace hF : a.fault ≠ some 0 := hF
  simp [loopW, prim_tick, hF, tick, seekAct, LWorld.setPos]

omit hF in
/-- `write_all` of a non-empty block at the working file's position -/
theorem loopW_write_tmp (Tb d : Bytes) (h : Nat) (hF : (loopW a is id it xt sp dp tp (ofU8 Tb) ws).fault ≠ some 0) (hd : d ≠ [])
    (hh : h = a.nextHandle + 2) :
    (posix cfg).h_write_all h (ofU8 d) (loopW a is id it xt sp dp tp (ofU8 Tb) ws) =
      (.ok (), loopW (tick a) is id it xt sp dp (tp + d.length) (ofU8 (writeAt Tb tp d)) (ws ++ [(tp, ofU8 d)])) := by
  subst hh
  replace hF : a.fault ≠ some 0 := hF
  simp [loopW, prim_tick, hF, tick, writeAllAct, LWorld.setPos, LWorld.logOp, hd, ofU8_writeAt, List.length_map]

end LoopOps

/-- **A block loop of the translation computes its model** (`go`: `inPlaceGo` or `cowGo` at the block size, which turns by
    `step`: `hun` is `inPlaceGo_unfold` / `cowGo_unfold`), under any fault countdown: when every iteration, run in a loop
    world, fails only into `E`, stops at the end of the source and otherwise yields the state after `step` on the block the
    two readers deliver (`hf`), the loop — over any list of indices longer than what is left of the source, whatever the
    buffers hold — fails into `E` or ends in the loop world of `go`'s result.  The countdown at any later moment is known
    only to be pending iff it was (`F' = none ↔ F = none`).  The buffers and the positions of the destination reader and of
    the working file's descriptor at the end are not part of the model's state: the code after the loop runs for all of
    them.  The code's fuel loop `for _ in [0:source_size + 1]` reaches this lemma as a `forIn` over the list of its indices
    (`Std.Legacy.Range.forIn_eq_forIn_range'`). -/
theorem wp_block_loop {β : Type} (is id it : Nat) (xt : List Rs.Str) (bs : Nat) (S D : Bytes)
    (go : Bytes → Bytes → Nat → Loop → Loop) (step : Loop → Blk → Loop)
    (hun : ∀ srest drest dpos st, go srest drest dpos st =
      if srest.take bs = [] then st else
        go (srest.drop (srest.take bs).length) (drest.drop (drest.take bs).length) (dpos + (drest.take bs).length)
          (step st { off := st.offset, s := srest.take bs, d := drest.take bs }))
    (hoff : ∀ st b, (step st b).offset = b.off + b.s.length)
    (f : Nat → LoopSt → Rs.M LWorld (ForInStep LoopSt)) (k : LoopSt → Rs.M LWorld β)
    (Q : β → LWorld → Prop) (E : Rs.Err → LWorld → Prop) (l : List Nat) (sbuf dbuf : List Nat) (st : Loop) (dpos tpos : Nat)
    (W : LWorld) (hW : W = loopW ⟨nm, ino, ni, hs, nh, g, lg, now, F⟩ is id it xt st.offset dpos tpos (ofU8 st.temp) (wsOf st))
    (hsb : sbuf.length = bs) (hdb : dbuf.length = bs) (hfuel : (S.drop st.offset).length < l.length)
    (hf : ∀ x sbuf dbuf st dpos tpos F', (F' = none ↔ F = none) → sbuf.length = bs → dbuf.length = bs →
      Rs.wp (f x (sbuf, dbuf, st.offset, st.offset, st.literal, st.changed))
        (fun r W' => ∃ tpos' st' F'', st' = step st { off := st.offset, s := (S.drop st.offset).take bs, d := (D.drop dpos).take bs } ∧
          (F'' = none ↔ F = none) ∧
          (r, W') = if (S.drop st.offset).take bs = [] then
            (.done (sbuf, dbuf, st.offset, st.offset, st.literal, st.changed),
              loopW ⟨nm, ino, ni, hs, nh, g, lg, now, F''⟩ is id it xt st.offset dpos tpos (ofU8 st.temp) (wsOf st))
          else
            (.yield (ofU8 ((S.drop st.offset).take bs) ++ sbuf.drop ((S.drop st.offset).take bs).length,
                ofU8 ((D.drop dpos).take bs) ++ dbuf.drop ((D.drop dpos).take bs).length,
                st'.offset, st'.offset, st'.literal, st'.changed),
              loopW ⟨nm, ino, ni, hs, nh, g, lg, now, F''⟩ is id it xt st'.offset (dpos + ((D.drop dpos).take bs).length) tpos'
                (ofU8 st'.temp) (wsOf st')))
        E (loopW ⟨nm, ino, ni, hs, nh, g, lg, now, F'⟩ is id it xt st.offset dpos tpos (ofU8 st.temp) (wsOf st)))
    (hk : ∀ r sbuf' dbuf' dpos' tpos' F', (F' = none ↔ F = none) → r = go (S.drop st.offset) (D.drop dpos) dpos st →
      Rs.wp (k (sbuf', dbuf', r.offset, r.offset, r.literal, r.changed)) Q E
        (loopW ⟨nm, ino, ni, hs, nh, g, lg, now, F'⟩ is id it xt r.offset dpos' tpos' (ofU8 r.temp) (wsOf r))) :
    Rs.wp (forIn l (sbuf, dbuf, st.offset, st.offset, st.literal, st.changed) f >>= k) Q E W := by
  subst hW
  suffices h : ∀ r F', (F' = none ↔ F = none) → r = go (S.drop st.offset) (D.drop dpos) dpos st →
      Rs.wp (forIn l (sbuf, dbuf, st.offset, st.offset, st.literal, st.changed) f)
        (fun b W' => ∃ sbuf' dbuf' dpos' tpos' F'', (F'' = none ↔ F = none) ∧
          b = (sbuf', dbuf', r.offset, r.offset, r.literal, r.changed) ∧
          W' = loopW ⟨nm, ino, ni, hs, nh, g, lg, now, F''⟩ is id it xt r.offset dpos' tpos' (ofU8 r.temp) (wsOf r)) E
        (loopW ⟨nm, ino, ni, hs, nh, g, lg, now, F'⟩ is id it xt st.offset dpos tpos (ofU8 st.temp) (wsOf st)) by
    refine wp_bind_of (h _ F Iff.rfl rfl) ?_
    rintro b W' ⟨sbuf', dbuf', dpos', tpos', F'', hF'', rfl, rfl⟩
    exact hk _ sbuf' dbuf' dpos' tpos' F'' hF'' rfl
  clear hk
  intro r F' hF' hr
  induction l generalizing sbuf dbuf st dpos tpos F' with
  | nil => simp at hfuel
  | cons x t ih =>
    rw [List.forIn_cons]
    refine wp_bind_of (hf x sbuf dbuf st dpos tpos F' hF' hsb hdb) ?_
    rintro s W' ⟨tp1, st', F1, hst', hF1, hx⟩
    rw [hun] at hr
    by_cases hnil : (S.drop st.offset).take bs = []
    · rw [if_pos hnil] at hr hx
      cases hx
      subst hr
      exact wp_of_run rfl ⟨sbuf, dbuf, dpos, tpos, F1, hF1, rfl, rfl⟩
    · rw [if_neg hnil] at hx
      cases hx
      rw [if_neg hnil, List.drop_drop, List.drop_drop, ← hst'] at hr
      have ho : st'.offset = st.offset + ((S.drop st.offset).take bs).length := by rw [hst', hoff]
      rw [← ho] at hr
      have hpos : 0 < ((S.drop st.offset).take bs).length := List.length_pos_iff.mpr hnil
      have hle : ((S.drop st.offset).take bs).length ≤ bs := by rw [List.length_take]; omega
      have hle2 : ((D.drop dpos).take bs).length ≤ bs := by rw [List.length_take]; omega
      have hle3 : ((S.drop st.offset).take bs).length ≤ (S.drop st.offset).length := by rw [List.length_take]; omega
      exact ih _ _ st' _ tp1 (by rw [List.length_append, List.length_map, List.length_drop]; omega)
        (by rw [List.length_append, List.length_map, List.length_drop]; omega)
        (by rw [ho]; simp only [List.length_drop, List.length_cons] at *; omega) F1 hF1 hr

end SyModel.LocalCopy
