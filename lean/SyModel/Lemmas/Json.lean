/-
  Helper lemmas for `SyModel.Json`: the decimal printer / parser round trip, `expect`, the round trip of the list
  grammar `x (, x)* ]` over any element parser (`IsElems.encode`), and `Eats.ascii`.
-/
import SyModel.Json
namespace SyModel.Json

theorem digit_facts : ∀ d, d < 10 →
    isDigit (digitByte d) = true ∧ (digitByte d).toNat - 48 = d ∧ (0 < d → digitByte d ≠ 48) := by
  decide

theorem printNat_lt {n : Nat} (h : n < 10) : printNat n = [digitByte n] := by
  rw [printNat]; simp [h]

theorem printNat_ge {n : Nat} (h : ¬ n < 10) : printNat n = printNat (n / 10) ++ [digitByte (n % 10)] := by
  rw [printNat]; simp [h]

theorem parseDigits_stop (acc : Nat) (rest : Bytes) (h : startsDigit rest = false) :
    parseDigits acc rest = (acc, rest) := by
  cases rest with
  | nil => rfl
  | cons b t => simp only [startsDigit] at h; simp [parseDigits, h]

theorem parseDigits_print (n : Nat) : ∀ rest, parseDigits 0 (printNat n ++ rest) = parseDigits n rest := by
  induction n using Nat.strongRecOn with
  | _ n ih =>
    intro rest
    by_cases h : n < 10
    · obtain ⟨h1, h2, _⟩ := digit_facts n h
      rw [printNat_lt h]
      simp only [List.cons_append, List.nil_append, parseDigits, h1, ↓reduceIte, h2]
      simp
    · have hd : n % 10 < 10 := Nat.mod_lt _ (by omega)
      obtain ⟨h1, h2, _⟩ := digit_facts (n % 10) hd
      rw [printNat_ge h, List.append_assoc, ih (n / 10) (by omega)]
      simp only [List.cons_append, List.nil_append, parseDigits, h1, ↓reduceIte, h2]
      have : n / 10 * 10 + n % 10 = n := by omega
      rw [this]

theorem printNat_head (n : Nat) (hn : 0 < n) :
    ∃ b t, printNat n = b :: t ∧ isDigit b = true ∧ b ≠ 48 := by
  induction n using Nat.strongRecOn with
  | _ n ih =>
    by_cases h : n < 10
    · obtain ⟨h1, _, h3⟩ := digit_facts n h
      exact ⟨digitByte n, [], printNat_lt h, h1, h3 hn⟩
    · obtain ⟨b, t, hb, h1, h3⟩ := ih (n / 10) (by omega) (by omega)
      exact ⟨b, t ++ [digitByte (n % 10)], by rw [printNat_ge h, hb]; rfl, h1, h3⟩

theorem printNat_zero : printNat 0 = [48] := by
  rw [printNat_lt (by omega)]; rfl

theorem parseNat_print (n : Nat) (rest : Bytes) (h : startsDigit rest = false) :
    parseNat (printNat n ++ rest) = some (n, rest) := by
  by_cases hn : n = 0
  · subst hn
    rw [printNat_zero]
    simp [parseNat, h]
  · obtain ⟨b, t, hb, h1, h3⟩ := printNat_head n (by omega)
    have hp := parseDigits_print n rest
    rw [hb] at hp ⊢
    simp only [List.cons_append] at hp ⊢
    simp only [parseNat, h3, ↓reduceIte, h1, hp, parseDigits_stop n rest h]

theorem expect_append (p rest : Bytes) : expect p (p ++ rest) = some rest := by
  induction p with
  | nil => rfl
  | cons a ps ih => simp [expect, ih]

theorem printNat_head_digit (n : Nat) : ∃ b t, printNat n = b :: t ∧ isDigit b = true := by
  by_cases hn : n = 0
  · subst hn; exact ⟨48, [], printNat_zero, by decide⟩
  · obtain ⟨b, t, hb, h1, _⟩ := printNat_head n (by omega)
    exact ⟨b, t, hb, h1⟩

theorem IsElems.encode {α : Type} {p : Bytes → Option (α × Bytes)} {E : Bytes → Option (List α × Bytes)}
    (hE : IsElems p E) {enc : α → Bytes} {encL : List α → Bytes}
    (hp : ∀ x c rest, c = 44 ∨ c = 93 → p (enc x ++ c :: rest) = some (x, c :: rest))
    (h1 : ∀ x, encL [x] = enc x) (h2 : ∀ x y t, encL (x :: y :: t) = enc x ++ 44 :: encL (y :: t))
    (x : α) (t : List α) (rest : Bytes) : E (encL (x :: t) ++ 93 :: rest) = some (x :: t, rest) := by
  induction t generalizing x with
  | nil => simp only [h1, hE (enc x ++ 93 :: rest), hp x 93 rest (Or.inr rfl)]
  | cons y t ih =>
    rw [h2, List.append_assoc, List.cons_append, hE, hp x 44 _ (Or.inl rfl)]
    simp only [ih]

theorem encL_head {α : Type} {enc : α → Bytes} {encL : List α → Bytes}
    (h1 : ∀ x, encL [x] = enc x) (h2 : ∀ x y t, encL (x :: y :: t) = enc x ++ 44 :: encL (y :: t))
    {x : α} {c : UInt8} {r : Bytes} (hx : enc x = c :: r) (t : List α) : ∃ r', encL (x :: t) = c :: r' := by
  cases t with
  | nil => exact ⟨r, by rw [h1, hx]⟩
  | cons y t => exact ⟨r ++ 44 :: encL (y :: t), by rw [h2, hx, List.cons_append]⟩

theorem Eats.ascii {l : Bytes} {x : UInt8} (h : Eats l [x]) (hx : x.toNat < 128) : ∀ y ∈ l, y.toNat < 128 := by
  obtain ⟨c, _, rfl, hc⟩ := h
  intro y hy
  rcases List.mem_append.mp hy with hy | hy
  · exact hc y hy
  · exact List.mem_singleton.mp hy ▸ hx

end SyModel.Json
