/-
  Lemmas/GenVerify — vocabulary and helper lemmas for Props/GenVerify: the bridge between the TRANSLATED
  `SyncEngine::verify` / `SyncEngine::should_filter_by_size` (Generated/Code/Verify.lean, regenerated from
  src/sync/mod.rs on every run) and the handwritten model `Engine.verify` (Engine/Verify.lean, what C15 is about).

  The translated code is RUN (`exec`; `ReadOnly.same` is `Rs.Pres` of Lemmas/RsLogic, whose rules are used) in a `World`
  of scans, content ids and a clock through the instance `inst`; `pathOf`, `relOf`, `absEntry`, `absScan`, `cfgOf`, `absResult` carry the generated types to the model's;
  `resultG` is what the run returns.  Nothing here mentions the body of the generated functions.
-/
import SyModel.Generated.Code.Verify
import SyModel.Lemmas.Verify
import SyModel.Lemmas.RsLogic
import SyModel.Lemmas.RsMap
import SyModel.Lemmas.PathText
namespace SyModel.GenVerify
open SyModel SyModel.Engine SyModel.Generated SyModel.Generated.Verify

section Monad
variable {W α β γ : Type}

/-- run a translated computation in world `w`: its `Result` and the world afterwards (an `Err` keeps the world
    reached so far: the state is inside the exception layer) -/
def exec (x : Rs.M W α) (w : W) : Except Rs.Err α × W := x.run.run w

/-- an operation that only LOOKS at the world -/
def reads (f : W → Except Rs.Err α) : Rs.M W α := ExceptT.mk (fun w => (f w, w))

theorem exec_pure (a : α) (w : W) : exec (pure a : Rs.M W α) w = (.ok a, w) := rfl
theorem exec_reads (f : W → Except Rs.Err α) (w : W) : exec (reads f) w = (f w, w) := rfl
theorem exec_capture (x : Rs.M W α) (w : W) :
    exec (Rs.capture x) w = (.ok (exec x w).1, (exec x w).2) := rfl

/-- `if let Some(monitor) = &self.perf_monitor { .. }` with the monitor calls left out translates to a `match` whose
    two arms are the same continuation -/
theorem jp_eq (o : Option Rs.Opaque) (x : α) : (match o with | some _ => x | _ => x) = x := by
  cases o <;> rfl

theorem pres_jp {o : Option Rs.Opaque} {x : Rs.M W α} (h : Rs.Pres x) : Rs.Pres (match o with | some _ => x | _ => x) :=
  (jp_eq o x).symm ▸ h

/-- the computation never changes the world, whatever it returns (also when it fails) -/
structure ReadOnly (x : Rs.M W α) : Prop where
  same : ∀ w, (exec x w).2 = w

end Monad

/-- What `sy --verify-only` can observe.
    * `scan root` — the answer of `transport.scan(root)`: the entries below `root` with ABSOLUTE `path`s, or the error
      that aborts the run (a root that cannot be listed);
    * `content p` — the content id of the file at absolute path `p`, `none` when it cannot be read.  Content ids stand
      for checksums: collision-freeness of xxh3/BLAKE3 is the standing assumption of C15, and the instance below makes
      the answer independent of WHICH real checksum is used;
    * `elapsed` — what `Instant::elapsed` will answer (time is not part of either tree; it only lands in `duration`). -/
structure World where
  scan : Rs.Path → Except Rs.Err (List FileEntry)
  content : Rs.Path → Option Nat
  elapsed : Rs.Duration

/-- comparing two files with a real (collision-free) checksum: both are read -/
def cmpReal (w : World) (a b : Rs.Path) : Except Rs.Err Bool :=
  match w.content a, w.content b with
  | some x, some y => .ok (x == y)
  | _, _ => .error .io

/-- `SyncEngine::compare_checksums` (src/sync/mod.rs) over `IntegrityVerifier::compute_file_checksum`
    (src/integrity/mod.rs): with `ChecksumType::None` both "checksums" are `Checksum::None` — equal, and no file is
    even opened; with a real checksum both files are read (`?` on either failure) and the checksums compared. -/
def cmpContents (w : World) (a b : Rs.Path) (v : IntegrityVerifier) : Except Rs.Err Bool :=
  if v.checksum_type = .None then .ok true else cmpReal w a b

theorem cmpContents_real (w : World) (a b : Rs.Path) (v : IntegrityVerifier) (hv : v.checksum_type ≠ .None) :
    cmpContents w a b v = cmpReal w a b := by
  unfold cmpContents; rw [if_neg hv]

/-- the instance: every operation only looks at the world -/
def inst : Ext World where
  std_time_Instant_now _ := pure {}
  transport_scan _ root := reads (fun w => w.scan root)
  compare_checksums _ a b v := reads (fun w => cmpContents w a b v)
  instant_elapsed _ := reads (fun w => .ok w.elapsed)

/-- every operation of an `Ext` leaves the world alone -/
structure ExtReadOnly {W : Type} (ext : Ext W) : Prop where
  now : ∀ u, ReadOnly (ext.std_time_Instant_now u)
  scan : ∀ t p, ReadOnly (ext.transport_scan t p)
  cmp : ∀ e a b v, ReadOnly (ext.compare_checksums e a b v)
  elapsed : ∀ i, ReadOnly (ext.instant_elapsed i)

theorem inst_readOnly : ExtReadOnly inst :=
  ⟨fun _ => ⟨fun _ => rfl⟩, fun _ _ => ⟨fun _ => rfl⟩, fun _ _ _ _ => ⟨fun _ => rfl⟩, fun _ => ⟨fun _ => rfl⟩⟩

/-- a path text as the model's component list (the model only ever compares relative paths for equality) -/
def pathOf (t : Rs.Path) : Engine.Path := (Rs.split t '/').map String.ofList

/-- the relative path the code computes for a scanned entry: `path.strip_prefix(root).unwrap_or(&path)` -/
def relOf (root : Rs.Path) (f : FileEntry) : Rs.Path := Rs.unwrap_or (Rs.strip_prefix f.path root) f.path

/-- a scanned entry as the model sees it; `relative_path`, times, links, xattrs, … are not read by `verify` -/
def absEntry (w : World) (root : Rs.Path) (f : FileEntry) : VEntry :=
  { rel := pathOf (relOf root f), isDir := f.is_dir, content := w.content f.path, size := f.size }

def absScan (w : World) (root : Rs.Path) (l : List FileEntry) : List VEntry := l.map (absEntry w root)

/-- `transport`, `perf_monitor`, `checksum`, `verification_mode`, `quiet` have no counterpart in the model:
    that they do not influence the result is part of the bridge theorem -/
def cfgOf (e : SyncEngine) : VCfg := ⟨e.min_size, e.max_size⟩

/-- `duration`, and the `error`/`action` texts of the error records, have no counterpart -/
def absResult (r : VerificationResult) : VResult :=
  { matched := r.files_matched,
    mismatched := r.files_mismatched.map pathOf,
    onlySrc := r.files_only_in_source.map pathOf,
    onlyDst := r.files_only_in_dest.map pathOf,
    errors := r.errors.map (fun x => pathOf x.path) }

/-- different path texts are different model paths: no hypothesis on the texts is needed (`pathOf` is
    `PathText.compsOf`) -/
theorem pathOf_injective {a b : Rs.Path} (h : pathOf a = pathOf b) : a = b :=
  Lemmas.PathText.compsOf_injective h

theorem pathOf_inj_iff {a b : Rs.Path} : pathOf a = pathOf b ↔ a = b := ⟨pathOf_injective, congrArg pathOf⟩

theorem exists_mem_map {α β : Type} {f : α → β} {l : List α} {P : β → Prop} :
    (∃ b, b ∈ l.map f ∧ P b) ↔ ∃ a, a ∈ l ∧ P (f a) :=
  ⟨fun ⟨_, hb, hp⟩ => let ⟨a, ha, e⟩ := List.mem_map.mp hb; ⟨a, ha, e ▸ hp⟩,
    fun ⟨a, ha, hp⟩ => ⟨f a, List.mem_map_of_mem ha, hp⟩⟩

theorem pathOf_beq (a b : Rs.Path) : (pathOf a == pathOf b) = (a == b) := by
  by_cases h : a = b
  · subst h; simp
  · have : pathOf a ≠ pathOf b := fun hp => h (pathOf_injective hp)
    rw [beq_eq_false_iff_ne.mpr this, beq_eq_false_iff_ne.mpr h]

theorem contains_map_pathOf (l : List Rs.Path) (t : Rs.Path) : (l.map pathOf).contains (pathOf t) = l.contains t := by
  induction l with
  | nil => rfl
  | cons a r ih => rw [List.map_cons, List.contains_cons, List.contains_cons, ih, pathOf_beq]

/-! ## `dest_map`: an `insert` loop followed by `get` finds the LAST file entry with that relative path -/

/-- the step of the first loop: directories are skipped -/
def mapStep (root : Rs.Path) (f : FileEntry) (m : Rs.HashMap Rs.Path FileEntry) : Rs.HashMap Rs.Path FileEntry :=
  if f.is_dir then m else Rs.insert_mut m (relOf root f) f

/-- the generated-side twin of the model's `destFile` -/
def destFileG (root : Rs.Path) (l : List FileEntry) (t : Rs.Path) : Option FileEntry :=
  (l.filter fun f => !f.is_dir && relOf root f == t).getLast?

theorem get_foldl_mapStep (root : Rs.Path) (l : List FileEntry) (m : Rs.HashMap Rs.Path FileEntry) (t : Rs.Path) :
    Rs.get (l.foldl (fun r x => mapStep root x r) m) t = (destFileG root l t).or (Rs.get m t) := by
  induction l generalizing m with
  | nil => rfl
  | cons x l ih =>
    rw [List.foldl_cons, ih]
    unfold destFileG mapStep
    simp only [List.filter_cons]
    cases hx : x.is_dir with
    | true => simp
    | false =>
      simp only [Bool.false_eq_true, ↓reduceIte, Rs.get_insert_mut, Bool.not_false, Bool.true_and]
      by_cases hr : (relOf root x == t) = true
      · simp only [hr, ↓reduceIte, List.getLast?_cons]
        cases (List.filter (fun f => !f.is_dir && relOf root f == t) l).getLast? <;> rfl
      · simp only [hr, Bool.false_eq_true, ↓reduceIte]

theorem get_dest_map (root : Rs.Path) (l : List FileEntry) (t : Rs.Path) :
    Rs.get (l.foldl (fun r x => mapStep root x r) []) t = destFileG root l t := by
  rw [get_foldl_mapStep]; cases destFileG root l t <;> rfl

theorem destFile_absScan (w : World) (root : Rs.Path) (l : List FileEntry) (t : Rs.Path) :
    destFile (absScan w root l) (pathOf t) = (destFileG root l t).map (absEntry w root) := by
  unfold destFile destFileG absScan
  rw [List.filter_map, List.getLast?_map]
  congr 2
  apply List.filter_congr
  intro f _
  simp only [Function.comp_apply, absEntry, pathOf_beq]

/-- the error record pushed for a pair that could not be compared (`e.to_string()` is not modelled) -/
def verifyError (rel : Rs.Path) : SyncError := { path := rel, error := [], action := ['v', 'e', 'r', 'i', 'f', 'y'] }

/-- what the second loop does to its four accumulators, given the entry's relative path and its model verdict -/
def accStep (rel : Rs.Path) (v : Verdict) (a : Nat × List Rs.Path × List Rs.Path × List SyncError) :
    Nat × List Rs.Path × List Rs.Path × List SyncError :=
  match v with
  | .matched => (a.1 + 1, a.2.1, a.2.2.1, a.2.2.2)
  | .mismatched => (a.1, a.2.1 ++ [rel], a.2.2.1, a.2.2.2)
  | .onlySrc => (a.1, a.2.1, a.2.2.1 ++ [rel], a.2.2.2)
  | .error => (a.1, a.2.1, a.2.2.1, a.2.2.2 ++ [verifyError rel])
  | .ignored => a

theorem foldl_accStep {γ : Type} (rel : γ → Rs.Path) (vd : γ → Verdict) (l : List γ)
    (a : Nat × List Rs.Path × List Rs.Path × List SyncError) :
    l.foldl (fun r x => accStep (rel x) (vd x) r) a =
      (a.1 + (l.filter (vd · == .matched)).length,
       a.2.1 ++ (l.filter (vd · == .mismatched)).map rel,
       a.2.2.1 ++ (l.filter (vd · == .onlySrc)).map rel,
       a.2.2.2 ++ (l.filter (vd · == .error)).map (fun x => verifyError (rel x))) := by
  induction l generalizing a with
  | nil =>
    exact Prod.ext rfl (Prod.ext (List.append_nil _).symm (Prod.ext (List.append_nil _).symm (List.append_nil _).symm))
  | cons x l ih =>
    rw [List.foldl_cons, ih]
    simp only [List.filter_cons]
    -- the entry goes to the one accumulator its verdict names; the other components agree as they stand
    cases vd x with
    | matched => exact Prod.ext (Nat.add_right_comm _ 1 _) rfl
    | mismatched => exact Prod.ext rfl (Prod.ext (List.append_assoc _ _ _) rfl)
    | onlySrc => exact Prod.ext rfl (Prod.ext rfl (Prod.ext (List.append_assoc _ _ _) rfl))
    | error => exact Prod.ext rfl (Prod.ext rfl (Prod.ext rfl (List.append_assoc _ _ _)))
    | ignored => rfl

/-! ## scans: every path under its root, once ⇒ relative paths unique -/

/-- `p` is `root` itself or `root/rest` with a non-empty rest (path texts carry no trailing separator): what a scan of
    `root` returns -/
def UnderRoot (root p : Rs.Path) : Prop := p = root ∨ ∃ r, r ≠ [] ∧ p = root ++ '/' :: r

/-- under its root a path strips, and only the root itself strips to the empty text -/
theorem strip_of_underRoot {root p : Rs.Path} (h : UnderRoot root p) :
    ∃ r, Rs.strip_prefix p root = .ok r ∧ (r = [] → p = root) := by
  open Lemmas.PathText in
  rcases h with rfl | ⟨r, hr, rfl⟩
  · exact ⟨[], strip_prefix_ok_iff.2 (.inl ⟨rfl, rfl⟩), fun _ => rfl⟩
  · by_cases hb : root = []
    · subst hb
      exact ⟨_, strip_prefix_ok_iff.2 (.inr (.inl ⟨nofun, rfl, rfl⟩)), nofun⟩
    · exact ⟨r, strip_prefix_ok_iff.2 (.inr (.inr ⟨hb, rfl⟩)), fun e => absurd e hr⟩

theorem relOf_inj_of_underRoot (root : Rs.Path) (f g : FileEntry) (hf : UnderRoot root f.path)
    (hg : UnderRoot root g.path) (h : relOf root f = relOf root g) : f.path = g.path := by
  obtain ⟨r, hsf, h0f⟩ := strip_of_underRoot hf
  obtain ⟨r', hsg, h0g⟩ := strip_of_underRoot hg
  rw [relOf, relOf, hsf, hsg] at h
  cases (h : r = r')
  by_cases hr : r = []
  · rw [h0f hr, h0g hr]
  · rw [Lemmas.PathText.join_of_strip_prefix hsf hr, Lemmas.PathText.join_of_strip_prefix hsg hr]

theorem nodup_relOf_of_underRoot (root : Rs.Path) (l : List FileEntry) (hu : ∀ f ∈ l, UnderRoot root f.path)
    (hn : (l.map (·.path)).Nodup) : (l.map (relOf root)).Nodup := by
  unfold List.Nodup at *
  rw [List.pairwise_map] at *
  exact hn.imp_of_mem fun ha hb hne hrel => hne (relOf_inj_of_underRoot root _ _ (hu _ ha) (hu _ hb) hrel)

/-- the model's verdict on a scanned source entry -/
def verdictOf (e : SyncEngine) (w : World) (s d : Rs.Path) (D : List FileEntry) (f : FileEntry) : Verdict :=
  classify (cfgOf e) (absScan w d D) (absEntry w s f)

/-- the `VerificationResult` (path TEXTS, in scan order) for source scan `S` and destination scan `D` -/
def resultG (e : SyncEngine) (w : World) (s d : Rs.Path) (S D : List FileEntry) : VerificationResult :=
  { files_matched := (S.filter (verdictOf e w s d D · == .matched)).length,
    files_mismatched := (S.filter (verdictOf e w s d D · == .mismatched)).map (relOf s),
    files_only_in_source := (S.filter (verdictOf e w s d D · == .onlySrc)).map (relOf s),
    files_only_in_dest :=
      (D.filter fun g => !g.is_dir && !((S.filter (!·.is_dir)).map (relOf s)).contains (relOf d g)).map (relOf d),
    errors := (S.filter (verdictOf e w s d D · == .error)).map (fun f => verifyError (relOf s f)),
    duration := w.elapsed }

end SyModel.GenVerify
