/-
  Lemmas/GenEngineTask — the bridge for the TRANSLATED per-task body of `SyncEngine::sync` (`run_task`,
  Generated/Code/EngineTask.lean, regenerated on every run from the `let result = match task.action` of `sync`,
  src/sync/mod.rs): executor call, counters of `SyncStats`, verification accounting, JSON event, error record, rate
  limiter, the "already gone" rule of deletions.

  `taskSpec` is the same body as a structured program: per action `xferArm call onOk` (executor call → on Ok `bookOk`:
  throttle → verifyPhase → emitIf → `Ok(())` | on Err: `pushErr` → `Err e`), `skipArm`, `deleteArm` (`deletePre` →
  executor → `goneRule` → count+event | error record), over pure bookkeeping functions that are record updates
  (`createCount_eq`, `updateCount_eq`, `verifyStats_eq`).  `run_task_eq_taskSpec` says the generated do-block IS that
  program, for ANY `Ext W`: each arm's join points are pulled out with `extract_lets` and shown equal to the named
  pieces one by one.  `Ran` lists the ways the program answers (`run_task_ran`).  The instance `engineExt cfg : Ext EWorld`
  (TRUSTED) composes this unit with the translated executors of unit Transfer on `extOf cfg`; with the abstraction maps
  (`absBook`, `absExec`, `absTaskE`, `evAbs`, `errAbs`) it is bridged to the model's `execTask`.
-/
import SyModel.Generated.Code.EngineTask
import SyModel.Lemmas.GenTransfer
import SyModel.Lemmas.EngineFrame
namespace SyModel.GenEngineTask
open SyModel.Generated SyModel.Generated.EngineTask
open SyModel.Lemmas.GenTransfer (runM runM_bind runM_bind_ok runM_capture_eq runM_bind_eq_ok)

section
variable {W : Type}

/-- `bytes_written` of the executor's answer (`None`: nothing was copied) -/
def bytesOf (r : Option TransferResult) : Nat := match r with | some r => r.bytes_written | none => 0

def compressionPart (r : Option TransferResult) (st : SyncStats) : SyncStats :=
  match r with
  | some r =>
    if r.compression_used then
      match r.transferred_bytes with
      | some t => { st with files_compressed := st.files_compressed + 1,
                            compression_bytes_saved := st.compression_bytes_saved + (r.bytes_written - t) }
      | none => { st with files_compressed := st.files_compressed + 1 }
    else st
  | none => st

def deltaPart (r : TransferResult) (st : SyncStats) : SyncStats :=
  if r.delta_operations.isSome then
    match r.literal_bytes with
    | some l => { st with files_delta_synced := st.files_delta_synced + 1,
                          delta_bytes_saved := st.delta_bytes_saved + (r.bytes_written - l) }
    | none => { st with files_delta_synced := st.files_delta_synced + 1 }
  else st

/-- the counters after a successful `create` -/
def createCount (dry : Bool) (source : FileEntry) (r : Option TransferResult) (st : SyncStats) : SyncStats :=
  compressionPart r
    (let st := { st with bytes_transferred := st.bytes_transferred + bytesOf r, files_created := st.files_created + 1 }
     if dry && !source.is_dir then { st with bytes_would_add := st.bytes_would_add + source.size } else st)

/-- the counters after a successful `update` -/
def updateCount (dry : Bool) (source : FileEntry) (r : Option TransferResult) (st : SyncStats) : SyncStats :=
  let st := match r with
    | some res => compressionPart r (deltaPart res { st with bytes_transferred := st.bytes_transferred + res.bytes_written })
    | none => st
  let st := { st with files_updated := st.files_updated + 1 }
  if dry && !source.is_dir then { st with bytes_would_change := st.bytes_would_change + source.size } else st

def verifyStats (st : SyncStats) (v : Except Rs.Err Bool) : SyncStats :=
  match v with
  | .ok true => { st with files_verified := st.files_verified + 1 }
  | _ => { st with verification_failures := st.verification_failures + 1 }

/-- the verifier answered `Ok(true)` — the ONLY answer that counts as verified -/
def verdictOk (v : Except Rs.Err Bool) : Bool := match v with | .ok true => true | _ => false

def wantsVerify (mode : ChecksumType) (dry : Bool) (source : FileEntry) (r : Option TransferResult) : Bool :=
  mode != ChecksumType.None && !dry && !source.is_dir && r.isSome

/-- the rate limiter: `consume(bytes)` and the sleep it asks for -/
def throttle (ext : Ext W) (limiter : Option Rs.Opaque) (bytes : Nat) : Rs.M W Unit :=
  match limiter with
  | some l =>
    if bytes > 0 then do
      let d ← ext.limiter_consume l bytes
      if d > Rs.DURATION_ZERO then ext.tokio_time_sleep d else pure ()
    else pure ()
  | none => pure ()

def verifyPhase (ext : Ext W) (verifier : Rs.Opaque) (mode : ChecksumType) (dry : Bool) (source : FileEntry)
    (dest : Rs.Path) (r : Option TransferResult) (st : SyncStats) : Rs.M W SyncStats :=
  if wantsVerify mode dry source r then do
    let v ← Rs.capture (ext.verify_transfer verifier source.path dest)
    pure (verifyStats st v)
  else pure st

def emitIf (ext : Ext W) (json : Bool) (ev : SyncEvent) : Rs.M W Unit := if json then ext.emit ev else pure ()

/-- what follows a successful executor call: rate limiting, verification accounting, event, `Ok(())` -/
def bookOk (ext : Ext W) (limiter : Option Rs.Opaque) (verifier : Rs.Opaque) (mode : ChecksumType) (dry json : Bool)
    (source : FileEntry) (dest : Rs.Path) (r : Option TransferResult) (st : SyncStats) (ev : SyncEvent) :
    Rs.M W (Except Rs.Err Unit × SyncStats) := do
  throttle ext limiter (bytesOf r)
  let st ← verifyPhase ext verifier mode dry source dest r st
  emitIf ext json ev
  pure (.ok (), st)

def pushErr (st : SyncStats) (dest : Rs.Path) (e : Rs.Err) (action : Rs.Str) : SyncStats :=
  { st with errors := st.errors ++ [{ path := dest, error := Rs.to_string e, action := action }] }

def createEvent (task : SyncTask) (source : FileEntry) (r : Option TransferResult) : SyncEvent :=
  SyncEvent.Create task.dest_path source.size (bytesOf r)

def updateEvent (task : SyncTask) (source : FileEntry) (r : Option TransferResult) : SyncEvent :=
  SyncEvent.Update task.dest_path source.size (bytesOf r) ((r.map TransferResult.used_delta).getD false)

def createOk (ext : Ext W) (task : SyncTask) (source : FileEntry) (verifier : Rs.Opaque) (stats : SyncStats)
    (dry json : Bool) (mode : ChecksumType) (limiter : Option Rs.Opaque) (r : Option TransferResult) :
    Rs.M W (Except Rs.Err Unit × SyncStats) :=
  bookOk ext limiter verifier mode dry json source task.dest_path r (createCount dry source r stats)
    (createEvent task source r)

def updateOk (ext : Ext W) (task : SyncTask) (source : FileEntry) (verifier : Rs.Opaque) (stats : SyncStats)
    (dry json : Bool) (mode : ChecksumType) (limiter : Option Rs.Opaque) (r : Option TransferResult) :
    Rs.M W (Except Rs.Err Unit × SyncStats) :=
  bookOk ext limiter verifier mode dry json source task.dest_path r (updateCount dry source r stats)
    (updateEvent task source r)

/-- executor call → on `Ok`: the bookkeeping of a success | on `Err e`: the error record, `Err e` -/
def xferArm (call : Rs.M W (Option TransferResult))
    (onOk : Option TransferResult → Rs.M W (Except Rs.Err Unit × SyncStats)) (stats : SyncStats) (dest : Rs.Path)
    (action : Rs.Str) : Rs.M W (Except Rs.Err Unit × SyncStats) := do
  match (← Rs.capture call) with
  | .ok r => onOk r
  | .error e => pure (.error e, pushErr stats dest e action)

def skipArm (ext : Ext W) (task : SyncTask) (stats : SyncStats) (json : Bool) :
    Rs.M W (Except Rs.Err Unit × SyncStats) := do
  emitIf ext json (SyncEvent.Skip task.dest_path "up_to_date".toList)
  pure (.ok (), { stats with files_skipped := stats.files_skipped + 1 })

/-- what precedes the deletion: `is_dir = dest_path.is_dir()`, and in a dry run the size that would be freed -/
def deletePre (ext : Ext W) (task : SyncTask) (dry : Bool) (stats : SyncStats) : Rs.M W (Bool × SyncStats) := do
  let is_dir ← ext.path_is_dir task.dest_path
  if dry && !is_dir then do
    match (← Rs.capture (ext.std_fs_metadata task.dest_path)) with
    | .ok md => pure (is_dir, { stats with bytes_would_delete := stats.bytes_would_delete + md.size })
    | .error _ => pure (is_dir, stats)
  else pure (is_dir, stats)

/-- the error kinds that mean "the entry is not there (any more)": `NotFound`, and `NotADirectory` (the parent was removed and its name reused by a
    file, e.g. the working file of a concurrent update: nothing can exist below it) -/
def goneKind (ext : Ext W) (e : Rs.Err) : Bool :=
  ext.io_error_kind e == ErrorKind.NotFound || ext.io_error_kind e == ErrorKind.NotADirectory

/-- the "already gone" rule: an `Io` error of kind `NotFound` / `NotADirectory` is a success; every other answer stays what it is -/
def goneRule (ext : Ext W) (r : Except Rs.Err Unit) : Except Rs.Err Unit :=
  match r with
  | .error e => if ext.err_is_io e && goneKind ext e then .ok () else .error e
  | .ok u => .ok u

def deleteArm (ext : Ext W) (task : SyncTask) (transferrer : Rs.Opaque) (stats : SyncStats) (dry json : Bool) :
    Rs.M W (Except Rs.Err Unit × SyncStats) := do
  let pre ← deletePre ext task dry stats
  let r ← Rs.capture (ext.transferrer_delete transferrer task.dest_path pre.1)
  match goneRule ext r with
  | .ok _ => do
    emitIf ext json (SyncEvent.Delete task.dest_path)
    pure (.ok (), { pre.2 with files_deleted := pre.2.files_deleted + 1 })
  | .error e => pure (.error e, pushErr pre.2 task.dest_path e "delete".toList)

def taskSpec (ext : Ext W) (task : SyncTask) (transferrer verifier : Rs.Opaque) (stats : SyncStats)
    (dry json : Bool) (mode : ChecksumType) (limiter : Option Rs.Opaque) : Rs.M W (Except Rs.Err Unit × SyncStats) :=
  match task.action with
  | .Create =>
    match task.source with
    | some source =>
      xferArm (ext.transferrer_create transferrer source task.dest_path)
        (createOk ext task source verifier stats dry json mode limiter) stats task.dest_path "create".toList
    | none => pure (.ok (), stats)
  | .Update =>
    match task.source with
    | some source =>
      xferArm (ext.transferrer_update transferrer source task.dest_path)
        (updateOk ext task source verifier stats dry json mode limiter) stats task.dest_path "update".toList
    | none => pure (.ok (), stats)
  | .Skip => skipArm ext task stats json
  | .Delete => deleteArm ext task transferrer stats dry json

/-- `if json { emit(ev) }` followed by the statement `k` (a join point of the do-block) is `emitIf … >>= k` -/
theorem emit_jp (ext : Ext W) (json : Bool) (ev : SyncEvent) {β : Type} (k : Rs.M W β) :
    (if json = true then (ext.emit ev >>= fun _ => k) else k) = (emitIf ext json ev >>= fun _ => k) := by
  cases json <;> simp [emitIf]

/-- `if n > 0 { consume; if d > 0 { sleep } }` (`if let Some(limiter)` already decided) followed by the statement `k` is
    `throttle … >>= k` -/
theorem throttle_some_jp (ext : Ext W) (l : Rs.Opaque) (n : Nat) {β : Type} (k : Rs.M W β) :
    (if decide (n > 0) = true then
        ext.limiter_consume l n >>= fun d =>
          if decide (d > Rs.DURATION_ZERO) = true then ext.tokio_time_sleep d >>= fun _ => k else k
      else k) = (throttle ext (some l) n >>= fun _ => k) := by
  unfold throttle
  simp only [decide_eq_true_eq]
  split
  · rw [bind_assoc]
    refine bind_congr fun d => ?_
    split
    · rfl
    · rw [pure_bind]
  · rw [pure_bind]

/-- the verification block of the create and the update arm, whatever follows it (`k`).  The `match` of this statement has to
    elaborate to the matcher of the generated file itself (same discriminant type, same patterns, stated below its import):
    two matchers are never unified on a variable, so a statement with any other `match` would not apply to the generated term -/
theorem verify_k (ext : Ext W) {β : Type} (verifier : Rs.Opaque) (mode : ChecksumType) (dry : Bool) (source : FileEntry) (dest : Rs.Path)
    (r : Option TransferResult) (st : SyncStats) (k : SyncStats → Rs.M W β) :
    (if (mode != ChecksumType.None && !dry && !source.is_dir && Rs.is_some r) = true then
      Rs.capture (ext.verify_transfer verifier source.path dest) >>= fun v =>
        match v with
        | .ok b => if b = true then k { st with files_verified := st.files_verified + 1 }
            else k { st with verification_failures := st.verification_failures + 1 }
        | .error _ => k { st with verification_failures := st.verification_failures + 1 }
    else k st) = verifyPhase ext verifier mode dry source dest r st >>= k := by
  unfold verifyPhase wantsVerify Rs.is_some
  split
  · rw [bind_assoc]
    refine bind_congr fun v => ?_
    rcases v with e | (_ | _) <;> exact (pure_bind _ _).symm
  · exact (pure_bind _ _).symm

section arms
variable (ext : Ext W) (task : SyncTask) (transferrer verifier : Rs.Opaque) (stats : SyncStats) (dry json : Bool)
  (mode : ChecksumType) (limiter pm : Option Rs.Opaque)

theorem run_task_eq_taskSpec :
    run_task ext task transferrer verifier stats dry json mode limiter pm =
      taskSpec ext task transferrer verifier stats dry json mode limiter := by
  unfold run_task taskSpec
  -- the generated body is opened once; each `cases` picks an arm on both sides.  `-zeta` everywhere: a join point
  -- (`__do_jp`, the code after a branching statement) stays a local function, pulled out by `extract_lets` and shown ONCE
  -- to be the matching piece of `taskSpec`; inlined, the code after every assigning `if` would be there once per branch
  cases task.action <;> dsimp -zeta only
  case Skip => exact emit_jp ext json _ _
  case Create =>
    cases task.source <;> dsimp -zeta only
    · rfl
    rename_i source
    refine bind_congr fun r => ?_
    cases r with
    | error e => rfl
    | ok r =>
      dsimp -zeta only
      -- in order of appearance: bw = `bytes_written`; st1, st2 = the two counter updates; jp1 = from `if json` on;
      -- sp, dp = `source_path`, `dest_path`; jp2 = from `match rate_limiter` on (the verification `if` is a join point
      -- inside it); jp3 = from the compression `match transfer_result` on; stD, jp4 = the `bytes_would_add` update and
      -- what follows `if dry_run && !is_dir`
      extract_lets bw st1 st2 jp1 sp dp jp2 jp3 stD jp4
      have hbw : bw = bytesOf r := by cases r <;> rfl
      have h1 : ∀ st, jp1 () st = (emitIf ext json (createEvent task source r) >>= fun _ => pure (.ok (), st)) := by
        intro st
        unfold jp1 createEvent
        rw [← hbw]
        exact emit_jp ext json _ _
      have h2 : ∀ st, jp2 () st =
          bookOk ext limiter verifier mode dry json source task.dest_path r st (createEvent task source r) := by
        intro st
        unfold jp2 bookOk
        rw [← hbw]
        refine Eq.trans ?_ (bind_congr fun _ => (verify_k ext verifier mode dry source task.dest_path r st _).trans
          (bind_congr h1))
        cases limiter with
        | none => rfl
        | some l => exact throttle_some_jp ext l bw _
      have h3 : ∀ st, jp3 () st = bookOk ext limiter verifier mode dry json source task.dest_path r
          (compressionPart r st) (createEvent task source r) := by
        intro st
        simp only [jp3, h2, compressionPart]
        rcases r with _ | ⟨bwr, dops, lit, tb, cu⟩
        · rfl
        · cases cu <;> cases tb <;> rfl
      have h4 : jp4 () = createOk ext task source verifier stats dry json mode limiter r := by
        simp only [jp4, h3, createOk, createCount, stD, st2, st1, hbw]
        split <;> rfl
      cases pm with
      | none => exact h4
      | some m => simp only []; split <;> exact h4
  case Update =>
    cases task.source <;> dsimp -zeta only
    · rfl
    rename_i source
    refine bind_congr fun r => ?_
    cases r with
    | error e => rfl
    | ok r =>
      dsimp -zeta only
      -- as in the Create arm, with du = `delta_used` and jp3 = from `files_updated += 1` on
      extract_lets bw du jp1 sp dp jp2 jp3
      have hbw : bw = bytesOf r := by cases r <;> rfl
      have hdu : du = (r.map TransferResult.used_delta).getD false := by cases r <;> rfl
      have h1 : ∀ st, jp1 () st = (emitIf ext json (updateEvent task source r) >>= fun _ => pure (.ok (), st)) := by
        intro st
        unfold jp1 updateEvent
        rw [← hbw, ← hdu]
        exact emit_jp ext json _ _
      have h2 : ∀ st, jp2 () st =
          bookOk ext limiter verifier mode dry json source task.dest_path r st (updateEvent task source r) := by
        intro st
        unfold jp2 bookOk
        rw [← hbw]
        refine Eq.trans ?_ (bind_congr fun _ => (verify_k ext verifier mode dry source task.dest_path r st _).trans
          (bind_congr h1))
        cases limiter with
        | none => rfl
        | some l => exact throttle_some_jp ext l bw _
      have h3 : ∀ st, jp3 () st = bookOk ext limiter verifier mode dry json source task.dest_path r
          (let st := { st with files_updated := st.files_updated + 1 }
           if dry && !source.is_dir then { st with bytes_would_change := st.bytes_would_change + source.size } else st)
          (updateEvent task source r) := by
        intro st
        simp -zeta only [jp3]
        extract_lets stU stC K
        have hK : K () = bookOk ext limiter verifier mode dry json source task.dest_path r
            (if dry && !source.is_dir then { stU with bytes_would_change := stU.bytes_would_change + source.size } else stU)
            (updateEvent task source r) := by
          simp only [K, h2, stC]
          split <;> rfl
        cases pm with
        | none => exact hK
        | some m => simp only []; split <;> exact hK
      clear_value jp3
      rcases r with _ | ⟨bw, dops, lit, tb, cu⟩
      · exact h3 _
      · simp -zeta only []
        extract_lets -underBinder st1 afterDelta stD afterRatio
        have hc : ∀ st, afterDelta () st = jp3 () (compressionPart (some ⟨bw, dops, lit, tb, cu⟩) st) := by
          intro st
          unfold afterDelta
          cases cu <;> cases tb <;> rfl
        -- `compression_ratio()` is computed for a log line only: both branches continue alike
        have hr : ∀ st, afterRatio () st = afterDelta () st := by
          intro st
          unfold afterRatio
          split <;> rfl
        clear_value afterRatio afterDelta
        cases dops
        · exact (hc _).trans (h3 _)
        · simp -zeta only [TransferResult.used_delta, Rs.is_some, Option.isSome, if_true]
          cases lit <;> exact (hr _).trans ((hc _).trans (h3 _))
  case Delete =>
    unfold deleteArm deletePre
    rw [bind_assoc]
    refine bind_congr fun isDir => ?_
    extract_lets isd jpD
    have hD : ∀ st, jpD () st = (do
        let r ← Rs.capture (ext.transferrer_delete transferrer task.dest_path isDir)
        match goneRule ext r with
        | .ok _ => do
          emitIf ext json (SyncEvent.Delete task.dest_path)
          pure (.ok (), { st with files_deleted := st.files_deleted + 1 })
        | .error e => pure (.error e, pushErr st task.dest_path e "delete".toList)) := by
      intro st
      simp -zeta only [jpD, isd]
      refine bind_congr fun r => ?_
      extract_lets scr stD jpa jpb jpR oth
      have hR : ∀ x, jpR x = (match x with
          | .ok _ => do
            emitIf ext json (SyncEvent.Delete task.dest_path)
            pure (.ok (), { st with files_deleted := st.files_deleted + 1 })
          | .error e => pure (.error e, pushErr st task.dest_path e "delete".toList)) := by
        intro x
        cases x with
        | error e => rfl
        | ok u =>
          unfold jpR jpb jpa stD
          cases pm <;> exact emit_jp ext json _ _
      rcases r with e | u
      · simp only [scr, oth, goneRule, goneKind, hR, pure_bind]
        -- the generated test IS the condition of `goneRule`: split on it, both sides take the same branch
        split <;> rename_i hh <;> simp only [hh, ↓reduceIte]
        rfl
      · simp only [scr, goneRule, hR, pure_bind]
    by_cases hc : (dry && !isDir) = true
    case neg =>
      simp only [isd, hc, Bool.false_eq_true, if_false, pure_bind, hD] <;> rfl
    case pos =>
      simp only [isd, hc, if_true, bind_assoc]
      refine bind_congr fun md => ?_
      rcases md with e | md
      · simp only [hD, pure_bind] <;> rfl
      · simp only [hD, pure_bind] <;> rfl

end arms

/-- the verification phase never fails: the `Result` of `verify_transfer` is kept as a value -/
theorem verifyPhase_run (ext : Ext W) (verifier : Rs.Opaque) (mode : ChecksumType) (dry : Bool) (source : FileEntry)
    (dest : Rs.Path) (r : Option TransferResult) (st : SyncStats) (w : W) :
    runM (verifyPhase ext verifier mode dry source dest r st) w =
      if wantsVerify mode dry source r = true then
        (.ok (verifyStats st (runM (ext.verify_transfer verifier source.path dest) w).1),
          (runM (ext.verify_transfer verifier source.path dest) w).2)
      else (.ok st, w) := by
  unfold verifyPhase
  split
  · rw [runM_bind, runM_capture_eq]; rfl
  · rfl

theorem emitIf_run (ext : Ext W) (json : Bool) (ev : SyncEvent) (w : W) :
    runM (emitIf ext json ev) w = if json = true then runM (ext.emit ev) w else (.ok (), w) := by
  unfold emitIf; split <;> rfl

theorem xferArm_run (call : Rs.M W (Option TransferResult))
    (onOk : Option TransferResult → Rs.M W (Except Rs.Err Unit × SyncStats)) (stats : SyncStats) (dest : Rs.Path)
    (action : Rs.Str) (w : W) :
    runM (xferArm call onOk stats dest action) w =
      match runM call w with
      | (.ok r, w1) => runM (onOk r) w1
      | (.error e, w1) => (.ok (.error e, pushErr stats dest e action), w1) := by
  unfold xferArm
  rw [runM_bind, runM_capture_eq]
  rcases runM call w with ⟨e | r, w1⟩ <;> rfl

def actionName : SyncAction → Rs.Str
  | .Create => "create".toList
  | .Update => "update".toList
  | .Skip => "skip".toList
  | .Delete => "delete".toList

/-- the executor a Create/Update task calls -/
def xferCall (ext : Ext W) (task : SyncTask) (transferrer : Rs.Opaque) (source : FileEntry) :
    Rs.M W (Option TransferResult) :=
  match task.action with
  | .Update => ext.transferrer_update transferrer source task.dest_path
  | _ => ext.transferrer_create transferrer source task.dest_path

/-- the counters after a successful Create/Update, before the verification accounting -/
def countOf (a : SyncAction) (dry : Bool) (source : FileEntry) (r : Option TransferResult) (st : SyncStats) :
    SyncStats :=
  match a with
  | .Update => updateCount dry source r st
  | _ => createCount dry source r st

/-- the event of a successful Create/Update -/
def ownEvent (task : SyncTask) (source : FileEntry) (r : Option TransferResult) : SyncEvent :=
  match task.action with
  | .Update => updateEvent task source r
  | _ => createEvent task source r

def skipEvent (task : SyncTask) : SyncEvent := SyncEvent.Skip task.dest_path "up_to_date".toList
def deleteEvent (task : SyncTask) : SyncEvent := SyncEvent.Delete task.dest_path

/-- BIG-STEP DESCRIPTION of one task: every way `run_task` can answer `(result, stats')` from the world `w`, in terms
    of what the operations of `ext` answered -/
inductive Ran (ext : Ext W) (task : SyncTask) (transferrer verifier : Rs.Opaque) (stats : SyncStats)
    (dry json : Bool) (mode : ChecksumType) (limiter : Option Rs.Opaque) (w : W) :
    Except Rs.Err Unit → SyncStats → W → Prop
  /-- a Create/Update task without source entry: nothing is called, nothing is counted -/
  | noSource (ha : task.action = .Create ∨ task.action = .Update) (hs : task.source = none) :
      Ran ext task transferrer verifier stats dry json mode limiter w (.ok ()) stats w
  /-- the executor failed: ONE error record, no counter, no event, nothing else is called -/
  | xferErr (ha : task.action = .Create ∨ task.action = .Update) (source : FileEntry) (hs : task.source = some source)
      (e : Rs.Err) (w1 : W) (hx : runM (xferCall ext task transferrer source) w = (.error e, w1)) :
      Ran ext task transferrer verifier stats dry json mode limiter w (.error e)
        (pushErr stats task.dest_path e (actionName task.action)) w1
  /-- the executor succeeded: counters, rate limiter, verification accounting, event -/
  | xferOk (ha : task.action = .Create ∨ task.action = .Update) (source : FileEntry) (hs : task.source = some source)
      (r : Option TransferResult) (w1 w2 w' : W)
      (hx : runM (xferCall ext task transferrer source) w = (.ok r, w1))
      (ht : runM (throttle ext limiter (bytesOf r)) w1 = (.ok (), w2))
      (he : runM (emitIf ext json (ownEvent task source r))
        (runM (verifyPhase ext verifier mode dry source task.dest_path r (countOf task.action dry source r stats)) w2).2
          = (.ok (), w')) :
      Ran ext task transferrer verifier stats dry json mode limiter w (.ok ())
        (if wantsVerify mode dry source r = true then
           verifyStats (countOf task.action dry source r stats)
             (runM (ext.verify_transfer verifier source.path task.dest_path) w2).1
         else countOf task.action dry source r stats) w'
  | skip (ha : task.action = .Skip) (w' : W) (he : runM (emitIf ext json (skipEvent task)) w = (.ok (), w')) :
      Ran ext task transferrer verifier stats dry json mode limiter w (.ok ())
        { stats with files_skipped := stats.files_skipped + 1 } w'
  /-- the deletion succeeded, or failed with an `Io` error of kind `NotFound` / `NotADirectory` (`goneRule`) -/
  | delOk (ha : task.action = .Delete) (isDir : Bool) (st1 : SyncStats) (w1 w2 w' : W) (dres : Except Rs.Err Unit)
      (hp : runM (deletePre ext task dry stats) w = (.ok (isDir, st1), w1))
      (hd : runM (ext.transferrer_delete transferrer task.dest_path isDir) w1 = (dres, w2))
      (hg : goneRule ext dres = .ok ())
      (he : runM (emitIf ext json (deleteEvent task)) w2 = (.ok (), w')) :
      Ran ext task transferrer verifier stats dry json mode limiter w (.ok ())
        { st1 with files_deleted := st1.files_deleted + 1 } w'
  | delErr (ha : task.action = .Delete) (isDir : Bool) (st1 : SyncStats) (w1 w2 : W) (dres : Except Rs.Err Unit)
      (e : Rs.Err)
      (hp : runM (deletePre ext task dry stats) w = (.ok (isDir, st1), w1))
      (hd : runM (ext.transferrer_delete transferrer task.dest_path isDir) w1 = (dres, w2))
      (hg : goneRule ext dres = .error e) :
      Ran ext task transferrer verifier stats dry json mode limiter w (.error e)
        (pushErr st1 task.dest_path e (actionName task.action)) w2

/-- the bookkeeping of a success answers `Ok` exactly when the rate limiter and the event did; nothing else can fail it -/
theorem bookOk_ok_iff (ext : Ext W) (limiter : Option Rs.Opaque) (verifier : Rs.Opaque) (mode : ChecksumType)
    (dry json : Bool) (source : FileEntry) (dest : Rs.Path) (r : Option TransferResult) (st : SyncStats) (ev : SyncEvent)
    {w w' : W} {res : Except Rs.Err Unit} {st' : SyncStats} :
    runM (bookOk ext limiter verifier mode dry json source dest r st ev) w = (.ok (res, st'), w') ↔
      ∃ w2, runM (throttle ext limiter (bytesOf r)) w = (.ok (), w2) ∧
        runM (emitIf ext json ev) (runM (verifyPhase ext verifier mode dry source dest r st) w2).2 = (.ok (), w') ∧
        res = .ok () ∧
        st' = if wantsVerify mode dry source r = true then
                verifyStats st (runM (ext.verify_transfer verifier source.path dest) w2).1 else st := by
  have hv : ∀ w2, runM (verifyPhase ext verifier mode dry source dest r st) w2 =
      (.ok (if wantsVerify mode dry source r = true then
              verifyStats st (runM (ext.verify_transfer verifier source.path dest) w2).1 else st),
        (runM (verifyPhase ext verifier mode dry source dest r st) w2).2) := fun w2 => by
    rw [verifyPhase_run]; split <;> rfl
  unfold bookOk
  constructor
  · intro h
    obtain ⟨_, w2, ht, h⟩ := runM_bind_eq_ok h
    rw [runM_bind_ok (hv w2)] at h
    obtain ⟨_, w4, he, h⟩ := runM_bind_eq_ok h
    cases h
    exact ⟨w2, ht, he, rfl, rfl⟩
  · rintro ⟨w2, ht, he, rfl, rfl⟩
    rw [runM_bind_ok ht, runM_bind_ok (hv w2), runM_bind_ok he]
    rfl

section ran
variable (ext : Ext W) (task : SyncTask) (transferrer verifier : Rs.Opaque) (stats : SyncStats) (dry json : Bool)
  (mode : ChecksumType) (limiter : Option Rs.Opaque)

/-- the Create and the Update arm of `taskSpec` are one program over `xferCall`, `countOf`, `ownEvent` -/
theorem taskSpec_xfer {source : FileEntry}
    (ha : task.action = .Create ∨ task.action = .Update) (hs : task.source = some source) :
    taskSpec ext task transferrer verifier stats dry json mode limiter =
      xferArm (xferCall ext task transferrer source)
        (fun r => bookOk ext limiter verifier mode dry json source task.dest_path r
          (countOf task.action dry source r stats) (ownEvent task source r))
        stats task.dest_path (actionName task.action) := by
  rcases ha with ha | ha <;> simp only [taskSpec, ha, hs, xferCall, countOf, ownEvent] <;> rfl

theorem run_task_ran (pm : Option Rs.Opaque) (w w' : W) (res : Except Rs.Err Unit) (st' : SyncStats) :
    runM (run_task ext task transferrer verifier stats dry json mode limiter pm) w = (.ok (res, st'), w') ↔
      Ran ext task transferrer verifier stats dry json mode limiter w res st' w' := by
  rw [run_task_eq_taskSpec]
  constructor
  · intro h
    cases ha : task.action with
    | Create | Update =>
      have hx : task.action = .Create ∨ task.action = .Update := by simp [ha]
      cases hs : task.source with
      | none =>
        simp only [taskSpec, ha, hs] at h
        cases h
        exact .noSource hx hs
      | some source =>
        rw [taskSpec_xfer ext task transferrer verifier stats dry json mode limiter hx hs, xferArm_run] at h
        rcases hc : runM (xferCall ext task transferrer source) w with ⟨e | r, w1⟩ <;> rw [hc] at h
        · cases h
          exact .xferErr hx source hs e _ hc
        · obtain ⟨w2, ht, he, rfl, rfl⟩ := (bookOk_ok_iff _ _ _ _ _ _ _ _ _ _ _).1 h
          exact .xferOk hx source hs r w1 w2 w' hc ht he
    | Skip =>
      simp only [taskSpec, ha, skipArm] at h
      obtain ⟨_, w1, he, h⟩ := runM_bind_eq_ok h
      cases h
      exact .skip ha _ he
    | Delete =>
      simp only [taskSpec, ha, deleteArm] at h
      obtain ⟨⟨isDir, st1⟩, w1, hp, h⟩ := runM_bind_eq_ok h
      rw [runM_bind, runM_capture_eq] at h
      simp only [] at h
      cases hg : goneRule ext (runM (ext.transferrer_delete transferrer task.dest_path isDir) w1).1 with
      | ok u =>
        rw [hg] at h
        obtain ⟨_, w3, he, h⟩ := runM_bind_eq_ok h
        cases h
        exact .delOk ha isDir st1 w1 _ _ _ hp rfl hg he
      | error e =>
        rw [hg] at h
        cases h
        have := Ran.delErr (verifier := verifier) (stats := stats) (json := json) (mode := mode) (limiter := limiter)
          ha isDir st1 w1 _ _ e hp rfl hg
        rw [ha] at this
        exact this
  · intro h
    cases h with
    | noSource ha hs => rcases ha with ha | ha <;> simp only [taskSpec, ha, hs] <;> rfl
    | xferErr ha source hs e w1 hx =>
      rw [taskSpec_xfer ext task transferrer verifier stats dry json mode limiter ha hs, xferArm_run, hx]
    | xferOk ha source hs r w1 w2 w' hx ht he =>
      rw [taskSpec_xfer ext task transferrer verifier stats dry json mode limiter ha hs, xferArm_run, hx]
      exact (bookOk_ok_iff _ _ _ _ _ _ _ _ _ _ _).2 ⟨w2, ht, he, rfl, rfl⟩
    | skip ha w' he =>
      simp only [taskSpec, ha, skipArm]
      exact runM_bind_ok he
    | delOk ha isDir st1 w1 w2 w' dres hp hd hg he =>
      simp only [taskSpec, ha, deleteArm]
      rw [runM_bind_ok hp, runM_bind, runM_capture_eq, hd]
      simp only [hg]
      exact runM_bind_ok he
    | delErr ha isDir st1 w1 w2 dres e hp hd hg =>
      simp only [taskSpec, ha, deleteArm]
      rw [runM_bind_ok hp, runM_bind, runM_capture_eq, hd]
      simp only [hg, actionName]
      rfl

end ran

/-- `is_dir` is what `Path::is_dir(dest_path)` answered in the world the task started in; the stats are untouched
    except — dry run, not a directory, `metadata` succeeded — `bytes_would_delete` -/
theorem deletePre_inv (ext : Ext W) (task : SyncTask) (dry : Bool) (stats : SyncStats) {w w1 : W} {isDir : Bool}
    {st1 : SyncStats} (h : runM (deletePre ext task dry stats) w = (.ok (isDir, st1), w1)) :
    ∃ w0, runM (ext.path_is_dir task.dest_path) w = (.ok isDir, w0) ∧
      (((dry && !isDir) = false ∧ w1 = w0 ∧ st1 = stats) ∨
       ((dry && !isDir) = true ∧ w1 = (runM (ext.std_fs_metadata task.dest_path) w0).2 ∧
          st1 = match (runM (ext.std_fs_metadata task.dest_path) w0).1 with
            | .ok md => { stats with bytes_would_delete := stats.bytes_would_delete + md.size }
            | .error _ => stats)) := by
  unfold deletePre at h
  obtain ⟨b, w0, hb, h⟩ := runM_bind_eq_ok h
  cases hc : (dry && !b)
  · simp only [hc, Bool.false_eq_true, if_false] at h
    cases h
    exact ⟨_, hb, .inl ⟨hc, rfl, rfl⟩⟩
  · simp only [hc, if_true] at h
    rw [runM_bind, runM_capture_eq] at h
    simp only [] at h
    rcases hm : (runM (ext.std_fs_metadata task.dest_path) w0).1 with e | md <;> rw [hm] at h <;> cases h
    · exact ⟨w0, hb, .inr ⟨hc, rfl, by rw [hm]⟩⟩
    · exact ⟨w0, hb, .inr ⟨hc, rfl, by rw [hm]⟩⟩

theorem deletePre_stats (ext : Ext W) (task : SyncTask) (dry : Bool) (stats : SyncStats) {w w1 : W} {isDir : Bool}
    {st1 : SyncStats} (h : runM (deletePre ext task dry stats) w = (.ok (isDir, st1), w1)) :
    ∃ n, st1 = { stats with bytes_would_delete := n } := by
  obtain ⟨w0, _, h | h⟩ := deletePre_inv ext task dry stats h
  · exact ⟨stats.bytes_would_delete, h.2.2⟩
  · rcases hm : (runM (ext.std_fs_metadata task.dest_path) w0).1 with e | md
    · exact ⟨stats.bytes_would_delete, by rw [h.2.2, hm]⟩
    · exact ⟨_, by rw [h.2.2, hm]⟩

theorem goneRule_ok_iff (ext : Ext W) (dres : Except Rs.Err Unit) :
    goneRule ext dres = .ok () ↔
      dres = .ok () ∨ ∃ e, dres = .error e ∧ ext.err_is_io e = true ∧ goneKind ext e = true := by
  rcases dres with e | u
  · simp only [goneRule]
    by_cases hc : (ext.err_is_io e && goneKind ext e) = true
    · simp only [hc, if_true, true_iff]
      simp only [Bool.and_eq_true] at hc
      exact .inr ⟨e, rfl, hc.1, hc.2⟩
    · simp only [hc]
      constructor
      · intro h; cases h
      · rintro (h | ⟨e', h, h1, h2⟩)
        · cases h
        · cases h
          exact absurd (by simp [h1, h2]) hc
  · simp [goneRule]

theorem goneRule_error (ext : Ext W) (dres : Except Rs.Err Unit) (e : Rs.Err) (h : goneRule ext dres = .error e) :
    dres = .error e ∧ ¬ (ext.err_is_io e = true ∧ goneKind ext e = true) := by
  rcases dres with e' | u
  · simp only [goneRule] at h
    split at h
    · cases h
    · rename_i hc
      cases h
      refine ⟨rfl, fun hh => hc ?_⟩
      simp [hh.1, hh.2]
  · cases h

/-! each pure bookkeeping function as a record update that names the fields it can change (simp set) -/
section fields
variable (dry : Bool) (source : FileEntry) (r : Option TransferResult) (st : SyncStats)

@[simp] theorem createCount_eq : createCount dry source r st =
    { st with files_created := st.files_created + 1, bytes_transferred := st.bytes_transferred + bytesOf r,
              bytes_would_add := if dry && !source.is_dir then st.bytes_would_add + source.size else st.bytes_would_add,
              files_compressed := (compressionPart r st).files_compressed,
              compression_bytes_saved := (compressionPart r st).compression_bytes_saved } := by
  unfold createCount
  cases st
  rcases r with _ | ⟨bw, dops, lit, tb, cu⟩
  · cases dry && !source.is_dir <;> rfl
  · cases dry && !source.is_dir <;> cases cu <;> cases tb <;> rfl

@[simp] theorem updateCount_eq : updateCount dry source r st =
    { st with files_updated := st.files_updated + 1, bytes_transferred := st.bytes_transferred + bytesOf r,
              bytes_would_change :=
                if dry && !source.is_dir then st.bytes_would_change + source.size else st.bytes_would_change,
              files_delta_synced := (match r with | some res => deltaPart res st | none => st).files_delta_synced,
              delta_bytes_saved := (match r with | some res => deltaPart res st | none => st).delta_bytes_saved,
              files_compressed := (compressionPart r st).files_compressed,
              compression_bytes_saved := (compressionPart r st).compression_bytes_saved } := by
  unfold updateCount
  -- with `st` a constructor application the nested record updates on both sides project at once
  cases st
  rcases r with _ | ⟨bw, dops, lit, tb, cu⟩
  · cases dry && !source.is_dir <;> rfl
  · cases dry && !source.is_dir <;> cases dops <;> cases lit <;> cases cu <;> cases tb <;> rfl

@[simp] theorem verifyStats_eq (v : Except Rs.Err Bool) : verifyStats st v =
    { st with files_verified := st.files_verified + (if verdictOk v = true then 1 else 0),
              verification_failures := st.verification_failures + (if verdictOk v = true then 0 else 1) } := by
  rcases v with e | (_ | _) <;> rfl

attribute [simp] pushErr

@[simp] theorem createCount_bytes_transferred : (createCount dry source r st).bytes_transferred = st.bytes_transferred + bytesOf r := by
  rw [createCount_eq]
@[simp] theorem updateCount_bytes_transferred : (updateCount dry source r st).bytes_transferred = st.bytes_transferred + bytesOf r := by
  rw [updateCount_eq]
variable (v : Except Rs.Err Bool)
@[simp] theorem verifyStats_bytes_transferred : (verifyStats st v).bytes_transferred = st.bytes_transferred := by
  rw [verifyStats_eq]
@[simp] theorem verifyStats_files_compressed : (verifyStats st v).files_compressed = st.files_compressed := by
  rw [verifyStats_eq]
@[simp] theorem verifyStats_compression_bytes_saved : (verifyStats st v).compression_bytes_saved = st.compression_bytes_saved := by
  rw [verifyStats_eq]
variable (dest : Rs.Path) (e : Rs.Err) (action : Rs.Str)
@[simp] theorem pushErr_files_scanned : (pushErr st dest e action).files_scanned = st.files_scanned := rfl
@[simp] theorem pushErr_duration : (pushErr st dest e action).duration = st.duration := rfl
@[simp] theorem pushErr_errors : (pushErr st dest e action).errors = st.errors ++ [{ path := dest, error := Rs.to_string e, action := action }] := rfl
end fields

end

/-! ## the instance `engineExt` (TRUSTED) and the bridge to `Engine.execTask`; everything above holds for ANY `Ext W` -/

open SyModel SyModel.Engine
open SyModel.Lemmas.GenTransfer

/-- the world of the bridge: the world of Lemmas/GenTransfer (the model's `World` under a root text + what source paths
    resolve to) and the JSON event stream emitted so far -/
structure EWorld where
  xw : XWorld
  log : List SyncEvent

/-- an operation of unit Transfer's world, run on the `xw` component -/
def liftX {α : Type} (x : Rs.M XWorld α) : Rs.M EWorld α :=
  op fun ew => ((runM x ew.xw).1, { ew with xw := (runM x ew.xw).2 })

def toE (e : FileEntry) : Generated.Transfer.FileEntry :=
  { path := e.path, relative_path := e.relative_path, size := e.size, modified := e.modified, is_dir := e.is_dir,
    is_symlink := e.is_symlink, symlink_target := e.symlink_target, is_sparse := e.is_sparse,
    allocated_size := e.allocated_size, xattrs := e.xattrs, inode := e.inode, nlink := e.nlink, acls := e.acls,
    bsd_flags := e.bsd_flags }

def ofR (r : Generated.Transfer.TransferResult) : TransferResult :=
  { bytes_written := r.bytes_written, delta_operations := r.delta_operations, literal_bytes := r.literal_bytes,
    transferred_bytes := r.transferred_bytes, compression_used := r.compression_used }

def modeOf : LinkMode → Generated.Transfer.SymlinkMode
  | .preserve => .Preserve | .follow => .Follow | .skip => .Skip

/-- `Transferrer::new(transport, dry_run, diff_mode, symlink_mode, …, preserve_hardlinks, …)` as the engine builds it
    for every task (`Transferrer::new(..)` inside the task closure of `sync`, src/sync/mod.rs) -/
def selfOf (cfg : Cfg) : Generated.Transfer.Transferrer :=
  { transport := {}, dry_run := cfg.dryRun, diff_mode := false, symlink_mode := modeOf cfg.links,
    preserve_hardlinks := cfg.hardlinks }

theorem selfOf_agrees (cfg : Cfg) : Agrees (selfOf cfg) cfg :=
  ⟨rfl, rfl, by cases h : cfg.links <;> simp [selfOf, modeOf, absMode, h]⟩

/-- the destination node a path text names -/
def nodeAt (xw : XWorld) (p : Rs.Path) : Option DNode := (keyOf xw.root p).bind fun k => xw.w.dst.get? k

/-- `verify_transfer(source, dest)`: both are regular files with the same content -/
def verifyW (xw : XWorld) (s d : Rs.Path) : Bool :=
  match xw.src s, nodeAt xw d with
  | .file sm, some (.file m) => sm.content == m.content
  | _, _ => false

/-- The instance (TRUSTED — the modelling decisions of this bridge):
    * `transferrer_create/update/delete` ARE the translated executors of unit Transfer on `extOf cfg`, with the
      `Transferrer` value the engine builds from its configuration;
    * `path_is_dir`, `std_fs_metadata` read the destination tree; `verify_transfer` compares content ids;
    * `emit` appends to the event stream; the rate limiter never asks for a sleep;
    * errors: every error of `extOf cfg` is `Err.io`; `io_error_kind` is consulted by `run_task` ONLY on an error of
      `transferrer_delete`, and on this instance — whose `is_dir` flag is read from the same tree — that call fails
      only when the entry is absent (`delete_fails_only_absent`): kind `NotFound`.  So on this instance only the
      `NotFound` arm of `goneRule` is ever taken; the `NotADirectory` arm and "any other kind is an error" are covered
      by the any-instance theorems of Props/GenEngineTask. -/
def engineExt (cfg : Cfg) : Ext EWorld where
  err_is_io e := e == .io
  io_error_kind _ := .NotFound
  std_fs_metadata p := op fun ew =>
    (match nodeAt ew.xw p with
      | some (.file m) => .ok ⟨false, m.mtime, m.size⟩
      | some .dir => .ok ⟨true, 0, 0⟩
      | _ => .error .io, ew)
  tokio_time_sleep _ := pure ()
  transferrer_create _ e p :=
    liftX (Generated.Transfer.Transferrer.create (extOf cfg) (selfOf cfg) (toE e) p >>= fun r => pure (r.map ofR))
  transferrer_update _ e p :=
    liftX (Generated.Transfer.Transferrer.update (extOf cfg) (selfOf cfg) (toE e) p >>= fun r => pure (r.map ofR))
  transferrer_delete _ p b := liftX (Generated.Transfer.Transferrer.delete (extOf cfg) (selfOf cfg) p b)
  verify_transfer _ s d := op fun ew => (.ok (verifyW ew.xw s d), ew)
  emit ev := op fun ew => (.ok (), { ew with log := ew.log ++ [ev] })
  limiter_consume _ _ := pure 0
  path_is_dir p := op fun ew => (.ok (nodeAt ew.xw p == some .dir), ew)

def absAct : SyncAction → Act
  | .Create => .create | .Update => .update | .Skip => .skip | .Delete => .delete

def actOfName (s : Rs.Str) : Option Act :=
  if s = "create".toList then some .create else if s = "update".toList then some .update
  else if s = "skip".toList then some .skip else if s = "delete".toList then some .delete else none

theorem actOfName_actionName (a : SyncAction) : actOfName (actionName a) = some (absAct a) := by
  cases a <;> decide

/-- a JSON event as the model's (action, key) -/
def evAbs (root : Rs.Path) : SyncEvent → Option (Act × Engine.Path)
  | .Create p _ _ => (keyOf root p).map fun k => (.create, k)
  | .Update p _ _ _ => (keyOf root p).map fun k => (.update, k)
  | .Skip p _ => (keyOf root p).map fun k => (.skip, k)
  | .Delete p => (keyOf root p).map fun k => (.delete, k)
  | _ => none

/-- an error record as the model's (action, key) -/
def errAbs (root : Rs.Path) (e : SyncError) : Option (Act × Engine.Path) :=
  match actOfName e.action, keyOf root e.path with
  | some a, some k => some (a, k)
  | _, _ => none

/-- the model's `Book` (its lists are newest-first).  Byte counts are not part of `Book`: nothing here ties
    `bytes_transferred` to the model's `World.bytes` (`Agree` does not fix the executor's answer either). -/
def absBook (root : Rs.Path) (st : SyncStats) (log : List SyncEvent) : Book :=
  { created := st.files_created, updated := st.files_updated, skipped := st.files_skipped, deleted := st.files_deleted,
    events := (log.filterMap (evAbs root)).reverse, errors := (st.errors.filterMap (errAbs root)).reverse }

def absExec (ew : EWorld) (st : SyncStats) : Exec := ⟨ew.xw.w, absBook ew.xw.root st ew.log⟩

/-- the model task a `SyncTask` for the key `k` stands for -/
def absTaskE (cfg : Cfg) (xw : XWorld) (task : SyncTask) (k : Engine.Path) : Task :=
  { act := absAct task.action, rel := k,
    payload := match task.source with | some e => absPayload cfg xw (toE e) | none => .nothing }

/-- two worlds with the same root text, the same source side and the same xattr-value ids (they may differ in the
    destination tree, the link map, the counters).  Declared here because `run_task_eq_execTask` states it; it carries
    the capstone's namespace. -/
def _root_.SyModel.Lemmas.GenEngineRun.SameEnv (xw xw' : XWorld) : Prop :=
  xw'.root = xw.root ∧ xw'.src = xw.src ∧ xw'.valId = xw.valId
open SyModel.Lemmas.GenEngineRun (SameEnv)

theorem _root_.SyModel.Lemmas.GenEngineRun.SameEnv.refl (xw : XWorld) : SameEnv xw xw := ⟨rfl, rfl, rfl⟩

theorem _root_.SyModel.Lemmas.GenEngineRun.SameEnv.trans {a b c : XWorld} (h1 : SameEnv a b) (h2 : SameEnv b c) :
    SameEnv a c :=
  ⟨h2.1.trans h1.1, h2.2.1.trans h1.2.1, h2.2.2.trans h1.2.2⟩

theorem _root_.SyModel.Lemmas.GenEngineRun.SameEnv.of_left {xw xw' : XWorld} {k : Engine.Path} (h : Left xw xw' k) :
    SameEnv xw xw' := by
  rcases h with rfl | ⟨d, _, rfl⟩ | ⟨s, _, rfl⟩ <;> exact ⟨rfl, rfl, rfl⟩

section ops
variable (cfg : Cfg) (ew : EWorld)

theorem liftX_run {α : Type} (x : Rs.M XWorld α) :
    runM (liftX x) ew = ((runM x ew.xw).1, { ew with xw := (runM x ew.xw).2 }) := rfl

theorem throttle_engine (limiter : Option Rs.Opaque) (n : Nat) :
    runM (throttle (engineExt cfg) limiter n) ew = (.ok (), ew) := by
  unfold throttle
  cases limiter with
  | none => rfl
  | some l =>
    simp only []
    split
    · rfl
    · rfl

theorem verifyPhase_engine (v : Rs.Opaque) (mode : ChecksumType) (dry : Bool) (source : FileEntry) (dest : Rs.Path)
    (r : Option TransferResult) (st : SyncStats) :
    (runM (verifyPhase (engineExt cfg) v mode dry source dest r st) ew).2 = ew := by
  rw [verifyPhase_run]; split <;> rfl

theorem emit_engine (ev : SyncEvent) :
    runM (emitIf (engineExt cfg) true ev) ew = (.ok (), { ew with log := ew.log ++ [ev] }) := rfl

theorem nodeAt_destOf (xw : XWorld) (k : Engine.Path) (hk : CleanPath k) :
    nodeAt xw (destOf xw.root k) = xw.w.dst.get? k := by
  simp [nodeAt, keyOf_destOf xw.root k hk]

end ops

section bridge
variable (cfg : Cfg) (ew : EWorld) (task : SyncTask) (k : Engine.Path) (transferrer verifier : Rs.Opaque)
  (stats : SyncStats) (mode : ChecksumType) (limiter pm : Option Rs.Opaque)

theorem evAbs_own (hk : CleanPath k) (hd : task.dest_path = destOf ew.xw.root k) (source : FileEntry)
    (r : Option TransferResult) (ha : task.action = .Create ∨ task.action = .Update) :
    evAbs ew.xw.root (ownEvent task source r) = some (absAct task.action, k) := by
  rcases ha with ha | ha <;>
    simp [ownEvent, ha, createEvent, updateEvent, evAbs, hd, keyOf_destOf ew.xw.root k hk, absAct]

theorem errAbs_record (hk : CleanPath k) (hd : task.dest_path = destOf ew.xw.root k) (e : Rs.Err) :
    errAbs ew.xw.root { path := task.dest_path, error := Rs.to_string e, action := actionName task.action } =
      some (absAct task.action, k) := by
  simp [errAbs, actOfName_actionName, hd, keyOf_destOf ew.xw.root k hk]

theorem liftX_agree {x : Rs.M XWorld (Option Generated.Transfer.TransferResult)} {m : Option World}
    (h : Agree ew.xw k (runM x ew.xw) m) :
    match (generalizing := false) m with
    | some w' => ∃ r, runM (liftX (x >>= fun r => pure (r.map ofR))) ew =
        (.ok r, { ew with xw := { ew.xw with w := w' } })
    | none => ∃ xw', runM (liftX (x >>= fun r => pure (r.map ofR))) ew = (.error .io, { ew with xw := xw' }) ∧
        Left ew.xw xw' k := by
  rw [liftX_run, runM_bind]
  cases m with
  | some w' =>
    obtain ⟨r, hr⟩ := h
    rw [hr]
    exact ⟨r.map ofR, rfl⟩
  | none =>
    obtain ⟨xw', hr, hl⟩ := h
    rw [hr]
    exact ⟨xw', rfl, hl⟩

theorem xferCall_engine (hk : CleanPath k) (hd : task.dest_path = destOf ew.xw.root k) (e : FileEntry)
    (ha : task.action = .Create ∨ task.action = .Update) (hs : task.source = some e)
    (hread : Readable cfg (toE e)) (hsrc : SrcFile ew.xw (toE e)) (hino : HasInode cfg (toE e)) :
    match perform cfg ew.xw.w (absTaskE cfg ew.xw task k) with
    | some w' => ∃ r, runM (xferCall (engineExt cfg) task transferrer e) ew =
        (.ok r, { ew with xw := { ew.xw with w := w' } })
    | none => ∃ xw', runM (xferCall (engineExt cfg) task transferrer e) ew = (.error .io, { ew with xw := xw' }) ∧
        Left ew.xw xw' k := by
  have ht : absTaskE cfg ew.xw task k = absTask cfg ew.xw (absAct task.action) (toE e) k := by
    simp only [absTaskE, absTask, hs]
  rw [ht]
  rcases ha with ha | ha <;> simp only [xferCall, ha, hd, absAct]
  · exact liftX_agree ew k (create_agree cfg (selfOf cfg) (selfOf_agrees cfg) ew.xw (toE e) k hk hread hsrc hino)
  · exact liftX_agree ew k (update_agree cfg (selfOf cfg) (selfOf_agrees cfg) ew.xw (toE e) k hk hread hsrc hino)

/-- BRIDGE, Create/Update: `run_task` on the instance answers; the abstraction of (stats', event stream') is the
    `Book` of the model's `execTask` in EVERY case; on `Ok` the world is the model's world; on `Err` the model's world is
    unchanged and the instance's differs from it at most as `Left` says (parents of `k` created, or the replaced link
    removed); `Ok` exactly when `perform` succeeds. -/
theorem xfer_eq_execTask (hk : CleanPath k) (hd : task.dest_path = destOf ew.xw.root k) (e : FileEntry)
    (ha : task.action = .Create ∨ task.action = .Update) (hs : task.source = some e)
    (hread : Readable cfg (toE e)) (hsrc : SrcFile ew.xw (toE e)) (hino : HasInode cfg (toE e)) :
    ∃ res st' ew',
      runM (run_task (engineExt cfg) task transferrer verifier stats cfg.dryRun true mode limiter pm) ew =
        (.ok (res, st'), ew') ∧
      SameEnv ew.xw ew'.xw ∧
      absBook ew'.xw.root st' ew'.log = (execTask cfg noFaults (absExec ew stats) (absTaskE cfg ew.xw task k)).b ∧
      (∀ u, res = .ok u → ew'.xw.w = (execTask cfg noFaults (absExec ew stats) (absTaskE cfg ew.xw task k)).w ∧
        (perform cfg ew.xw.w (absTaskE cfg ew.xw task k)).isSome = true) ∧
      (∀ er, res = .error er → (execTask cfg noFaults (absExec ew stats) (absTaskE cfg ew.xw task k)).w = ew.xw.w ∧
        Left ew.xw ew'.xw k ∧ perform cfg ew.xw.w (absTaskE cfg ew.xw task k) = none) := by
  have hx := xferCall_engine cfg ew task k transferrer hk hd e ha hs hread hsrc hino
  have hw0 : (absExec ew stats).w = ew.xw.w := rfl
  have hact : (absTaskE cfg ew.xw task k).act = absAct task.action := rfl
  have hrel : (absTaskE cfg ew.xw task k).rel = k := rfl
  cases hp : perform cfg ew.xw.w (absTaskE cfg ew.xw task k) with
  | some w' =>
    rw [hp] at hx
    simp only [execTask_noFaults_eq, hw0, hp]
    obtain ⟨r, hr⟩ := hx
    have hran := Ran.xferOk (verifier := verifier) (stats := stats) (dry := cfg.dryRun) (json := true) (mode := mode)
      ha e hs r _ _ _ hr (throttle_engine cfg _ limiter _) (by rw [verifyPhase_engine]; exact emit_engine cfg _ _)
    refine ⟨_, _, _, (run_task_ran _ _ _ _ _ _ _ _ _ pm _ _ _ _).2 hran, .refl _, ?_, fun _ _ => ⟨rfl, rfl⟩,
      fun er h => by cases h⟩
    simp only [absExec, absBook, List.filterMap_append, List.filterMap_cons, List.filterMap_nil,
      evAbs_own ew task k hk hd e r ha, List.reverse_append, List.reverse_cons, List.reverse_nil, List.nil_append,
      List.singleton_append, Book.ok, hact, hrel]
    -- what is left: the four counters; Create or Update, verified or not, only the task's own counter moved
    rcases ha with ha | ha <;> split <;> simp [ha, countOf, absAct]
  | none =>
    rw [hp] at hx
    simp only [execTask_noFaults_eq, hw0, hp]
    obtain ⟨xw', hr, hl⟩ := hx
    have hroot : xw'.root = ew.xw.root := (SameEnv.of_left hl).1
    refine ⟨_, _, _, (run_task_ran _ _ _ _ _ _ _ _ _ pm _ _ _ _).2 (.xferErr ha e hs _ _ hr), .of_left hl, ?_,
      fun u h => (by cases h),
      -- with `perform = none` rewritten in, the model's world is `ew.xw.w` and the last clause is `none = none`
      fun _ _ => ⟨trivial, hl, trivial⟩⟩
    simp only [absExec, absBook, hroot, pushErr, List.filterMap_append, List.filterMap_cons, List.filterMap_nil,
      errAbs_record ew task k hk hd, List.reverse_append, List.reverse_cons, List.reverse_nil, List.nil_append,
      List.singleton_append, Book.fail, hact, hrel]

theorem evAbs_skip (hk : CleanPath k) (hd : task.dest_path = destOf ew.xw.root k) :
    evAbs ew.xw.root (skipEvent task) = some (.skip, k) := by
  simp [skipEvent, evAbs, hd, keyOf_destOf ew.xw.root k hk]

theorem evAbs_delete (hk : CleanPath k) (hd : task.dest_path = destOf ew.xw.root k) :
    evAbs ew.xw.root (deleteEvent task) = some (.delete, k) := by
  simp [deleteEvent, evAbs, hd, keyOf_destOf ew.xw.root k hk]

/-- BRIDGE, Skip: exactly the model's `execTask` (world untouched, `skipped` + 1, one `skip` event). -/
theorem skip_bridge (hk : CleanPath k) (hd : task.dest_path = destOf ew.xw.root k)
    (ha : task.action = .Skip) (dry : Bool) :
    ∃ st' ew',
      runM (run_task (engineExt cfg) task transferrer verifier stats dry true mode limiter pm) ew =
        (.ok (.ok (), st'), ew') ∧
      SameEnv ew.xw ew'.xw ∧
      absExec ew' st' = execTask cfg noFaults (absExec ew stats) (absTaskE cfg ew.xw task k) := by
  refine ⟨_, _, (run_task_ran _ _ _ _ _ _ _ _ _ pm _ _ _ _).2 (.skip ha _ (emit_engine cfg ew _)), .refl _, ?_⟩
  have hperf : perform cfg (absExec ew stats).w (absTaskE cfg ew.xw task k) = some ew.xw.w := by
    simp [perform, absTaskE, ha, absAct, absExec]
  simp only [execTask_noFaults_eq, hperf]
  simp [absExec, absBook, evAbs_skip ew task k hk hd, Book.ok, absTaskE, ha, absAct]

theorem deletePre_engine (dry : Bool) :
    ∃ n, runM (deletePre (engineExt cfg) task dry stats) ew =
      (.ok (nodeAt ew.xw task.dest_path == some .dir, { stats with bytes_would_delete := n }), ew) := by
  have h1 : runM ((engineExt cfg).path_is_dir task.dest_path) ew =
      (.ok (nodeAt ew.xw task.dest_path == some .dir), ew) := rfl
  have h2 : runM ((engineExt cfg).std_fs_metadata task.dest_path) ew =
      ((match nodeAt ew.xw task.dest_path with
        | some (.file m) => (.ok ⟨false, m.mtime, m.size⟩ : Except Rs.Err Rs.Metadata)
        | some .dir => .ok ⟨true, 0, 0⟩
        | _ => .error .io), ew) := rfl
  unfold deletePre
  rw [runM_bind, h1]
  simp only []
  by_cases hc : (dry && !(nodeAt ew.xw task.dest_path == some .dir)) = true
  · simp only [hc, if_true]
    rw [runM_bind, runM_capture_eq, h2]
    rcases nodeAt ew.xw task.dest_path with _ | (m | _ | t)
    · exact ⟨stats.bytes_would_delete, rfl⟩
    · exact ⟨_, rfl⟩
    · exact ⟨_, rfl⟩
    · exact ⟨stats.bytes_would_delete, rfl⟩
  · simp only [hc]
    exact ⟨stats.bytes_would_delete, rfl⟩

theorem delete_engine_run (hk : CleanPath k) (isDir : Bool) :
    runM ((engineExt cfg).transferrer_delete transferrer (destOf ew.xw.root k) isDir) ew =
      if cfg.dryRun = true then (.ok (), ew)
      else match removeW ew.xw.w k isDir with
        | some w' => (.ok (), { ew with xw := { ew.xw with w := w' } })
        | none => (.error .io, ew) := by
  show runM (liftX _) ew = _
  rw [liftX_run, delete_run cfg (selfOf cfg) ew.xw k hk isDir]
  have hdr : (selfOf cfg).dry_run = cfg.dryRun := rfl
  rw [hdr]
  cases cfg.dryRun
  · simp only [Bool.false_eq_true, if_false]
    cases removeW ew.xw.w k isDir <;> rfl
  · rfl

/-- on the instance the deletion executor fails ONLY when the entry is absent — the one error the instance calls
    `NotFound` -/
theorem delete_fails_only_absent (w : World) (k : Engine.Path) :
    removeW w k (w.dst.get? k == some .dir) = none ↔ w.dst.get? k = none := by
  unfold removeW
  rcases w.dst.get? k with _ | (m | _ | t) <;> simp

/-- the Delete task on the instance, the run written out: it always answers `Ok`, in the world of the model's `perform`
    (an entry that is ALREADY GONE: the executor's `NotFound` is turned into success by the rule, `perform` answers
    "deleted"); `files_deleted` + 1, in a dry run `bytes_would_delete`, one `delete` event -/
theorem delete_task_run (hk : CleanPath k) (hd : task.dest_path = destOf ew.xw.root k) (ha : task.action = .Delete) :
    ∃ n w', perform cfg ew.xw.w (absTaskE cfg ew.xw task k) = some w' ∧
      runM (run_task (engineExt cfg) task transferrer verifier stats cfg.dryRun true mode limiter pm) ew =
        (.ok (.ok (), { stats with bytes_would_delete := n, files_deleted := stats.files_deleted + 1 }),
          { xw := { ew.xw with w := w' }, log := ew.log ++ [deleteEvent task] }) := by
  obtain ⟨n, hp⟩ := deletePre_engine cfg ew task stats cfg.dryRun
  rw [hd, nodeAt_destOf _ _ hk] at hp
  -- the executor call with the flag read from the same tree, against `perform`; then the rule
  obtain ⟨dres, w', hperf, hcall, hg⟩ : ∃ dres w', perform cfg ew.xw.w (absTaskE cfg ew.xw task k) = some w' ∧
      runM ((engineExt cfg).transferrer_delete transferrer task.dest_path (ew.xw.w.dst.get? k == some .dir)) ew =
        (dres, { ew with xw := { ew.xw with w := w' } }) ∧ goneRule (engineExt cfg) dres = .ok () := by
    rw [hd, delete_engine_run cfg ew k transferrer hk,
      perform_delete (t := absTaskE cfg ew.xw task k) (by simp [absTaskE, ha, absAct])]
    dsimp only [absTaskE, removeW]
    cases cfg.dryRun
    · rcases ew.xw.w.dst.get? k with _ | (m | _ | t) <;> exact ⟨_, _, rfl, rfl, rfl⟩
    · exact ⟨_, _, rfl, rfl, rfl⟩
  exact ⟨n, w', hperf, (run_task_ran _ _ _ _ _ _ _ _ _ pm _ _ _ _).2
    (.delOk ha _ _ _ _ _ dres hp hcall hg (emit_engine cfg _ _))⟩

/-- BRIDGE, Delete: exactly the model's `execTask` — a directory goes with its subtree, a file or link alone, a dry run
    changes nothing; one `delete` event, `deleted` + 1, no error. -/
theorem delete_bridge (hk : CleanPath k) (hd : task.dest_path = destOf ew.xw.root k)
    (ha : task.action = .Delete) :
    ∃ st' ew',
      runM (run_task (engineExt cfg) task transferrer verifier stats cfg.dryRun true mode limiter pm) ew =
        (.ok (.ok (), st'), ew') ∧
      SameEnv ew.xw ew'.xw ∧
      absExec ew' st' = execTask cfg noFaults (absExec ew stats) (absTaskE cfg ew.xw task k) := by
  obtain ⟨n, w', hperf, hrun⟩ := delete_task_run cfg ew task k transferrer verifier stats mode limiter pm hk hd ha
  refine ⟨_, _, hrun, ⟨rfl, rfl, rfl⟩, ?_⟩
  simp only [execTask_noFaults_eq, show (absExec ew stats).w = ew.xw.w from rfl, hperf]
  simp [absExec, absBook, evAbs_delete ew task k hk hd, Book.ok, absTaskE, ha, absAct]

/-- BRIDGE, lifted to every task kind the model has: the abstraction of (stats', event stream', world') after
    `run_task` on the instance against `execTask cfg noFaults` on the abstraction of the state before.  The `Book`
    (counters, events, errors) agrees in EVERY case; the world agrees whenever the task answers `Ok`; after an `Err`
    (Create/Update only) the model keeps its world and the instance's differs from it as `Left` says.  (`json` is
    `true`, `dry_run` is `cfg.dryRun`; that `Ok` coincides with `perform` succeeding is in `xfer_eq_execTask`.) -/
theorem run_task_eq_execTask (hk : CleanPath k) (hd : task.dest_path = destOf ew.xw.root k)
    (hsrc : ∀ e, task.source = some e → Readable cfg (toE e) ∧ SrcFile ew.xw (toE e) ∧ HasInode cfg (toE e))
    (hwork : (task.action = .Create ∨ task.action = .Update) → task.source.isSome = true) :
    ∃ res st' ew',
      runM (run_task (engineExt cfg) task transferrer verifier stats cfg.dryRun true mode limiter pm) ew =
        (.ok (res, st'), ew') ∧
      SameEnv ew.xw ew'.xw ∧
      (absExec ew' st').b = (execTask cfg noFaults (absExec ew stats) (absTaskE cfg ew.xw task k)).b ∧
      (∀ u, res = .ok u →
        absExec ew' st' = execTask cfg noFaults (absExec ew stats) (absTaskE cfg ew.xw task k)) ∧
      (∀ er, res = .error er → (execTask cfg noFaults (absExec ew stats) (absTaskE cfg ew.xw task k)).w = ew.xw.w ∧
        Left ew.xw ew'.xw k ∧ perform cfg ew.xw.w (absTaskE cfg ew.xw task k) = none) := by
  cases ha : task.action with
  | Skip =>
    obtain ⟨st', ew', h1, henv, h2⟩ :=
      skip_bridge cfg ew task k transferrer verifier stats mode limiter pm hk hd ha cfg.dryRun
    exact ⟨_, _, _, h1, henv, by rw [h2], fun _ _ => h2, fun er h => by cases h⟩
  | Delete =>
    obtain ⟨st', ew', h1, henv, h2⟩ :=
      delete_bridge cfg ew task k transferrer verifier stats mode limiter pm hk hd ha
    exact ⟨_, _, _, h1, henv, by rw [h2], fun _ _ => h2, fun er h => by cases h⟩
  | Create | Update =>
    have hx : task.action = .Create ∨ task.action = .Update := by simp [ha]
    obtain ⟨e, hs⟩ := Option.isSome_iff_exists.1 (hwork hx)
    obtain ⟨hr, hsf, hi⟩ := hsrc e hs
    obtain ⟨res, st', ew', h1, henv, hb, hok, herr⟩ :=
      xfer_eq_execTask cfg ew task k transferrer verifier stats mode limiter pm hk hd e hx hs hr hsf hi
    refine ⟨res, st', ew', h1, henv, hb, fun u hu => ?_, herr⟩
    have := (hok u hu).1
    show Exec.mk _ _ = _
    rw [this, hb]

end bridge

end SyModel.GenEngineTask
