/-
  The report side of the engine model: every task adds one record (an event or an error) and both lists only grow;
  the counters count the events; the dry run (the world stays as it is, and planning does not look at the flag); and the
  run as a whole — refused before any task, or the report of the final state of the task list (`finalExec`,
  `runF_cases`).  What `execTask` does to the world under a fault plan is `execTask_cases` (EngineFrame).
-/
import SyModel.Engine.Model
namespace SyModel.Engine

theorem Book.ok_events (b : Book) (t : Task) : (b.ok t).events = (t.act, t.rel) :: b.events := by
  unfold Book.ok; cases t.act <;> rfl

theorem Book.ok_errors (b : Book) (t : Task) : (b.ok t).errors = b.errors := by
  unfold Book.ok; cases t.act <;> rfl

theorem Book.fail_errors (b : Book) (t : Task) : (b.fail t).errors = (t.act, t.rel) :: b.errors := rfl
theorem Book.fail_events (b : Book) (t : Task) : (b.fail t).events = b.events := rfl

theorem execTask_book (cfg : Cfg) (flt : Faults) (st : Exec) (t : Task) :
    (∃ w', execTask cfg flt st t = ⟨w', st.b.ok t⟩) ∨
    (∃ w', execTask cfg flt st t = ⟨w', st.b.fail t⟩) := by
  unfold execTask
  split
  · exact Or.inr ⟨_, rfl⟩
  · cases h : perform cfg st.w t with
    | none => exact Or.inr ⟨_, rfl⟩
    | some w' => exact Or.inl ⟨w', rfl⟩

theorem execTask_events (cfg : Cfg) (flt : Faults) (st : Exec) (t : Task) :
    ((execTask cfg flt st t).b.events = st.b.events ∧
        (execTask cfg flt st t).b.errors = (t.act, t.rel) :: st.b.errors) ∨
    ((execTask cfg flt st t).b.events = (t.act, t.rel) :: st.b.events ∧
        (execTask cfg flt st t).b.errors = st.b.errors) := by
  rcases execTask_book cfg flt st t with ⟨w', he⟩ | ⟨w', he⟩ <;> rw [he]
  · exact Or.inr ⟨Book.ok_events _ _, Book.ok_errors _ _⟩
  · exact Or.inl ⟨rfl, rfl⟩

theorem foldl_book_suffix (cfg : Cfg) (flt : Faults) (ts : List Task) (st : Exec) :
    st.b.events <:+ (ts.foldl (execTask cfg flt) st).b.events ∧
    st.b.errors <:+ (ts.foldl (execTask cfg flt) st).b.errors := by
  refine List.foldlRecOn (motive := fun s : Exec => st.b.events <:+ s.b.events ∧ st.b.errors <:+ s.b.errors) ts _
    ⟨List.suffix_refl _, List.suffix_refl _⟩ (fun s hs t _ => ?_)
  rcases execTask_events cfg flt s t with ⟨h1, h2⟩ | ⟨h1, h2⟩ <;> rw [h1, h2]
  · exact ⟨hs.1, hs.2.trans (List.suffix_cons _ _)⟩
  · exact ⟨hs.1.trans (List.suffix_cons _ _), hs.2⟩

theorem foldl_book_mem (cfg : Cfg) (flt : Faults) (ts : List Task) (st : Exec) (ev : Act × Path)
    (h : ev ∈ (ts.foldl (execTask cfg flt) st).b.events ∨ ev ∈ (ts.foldl (execTask cfg flt) st).b.errors) :
    (ev ∈ st.b.events ∨ ev ∈ st.b.errors) ∨ ∃ t ∈ ts, ev = (t.act, t.rel) := by
  refine List.foldlRecOn (motive := fun s : Exec => ev ∈ s.b.events ∨ ev ∈ s.b.errors →
    (ev ∈ st.b.events ∨ ev ∈ st.b.errors) ∨ ∃ t ∈ ts, ev = (t.act, t.rel)) ts _ Or.inl (fun s hs t ht h => ?_) h
  rcases execTask_events cfg flt s t with ⟨h1, h2⟩ | ⟨h1, h2⟩ <;> rw [h1, h2] at h
  · rcases h with h | h
    · exact hs (Or.inl h)
    · rcases List.mem_cons.1 h with h | h
      · exact Or.inr ⟨t, ht, h⟩
      · exact hs (Or.inr h)
  · rcases h with h | h
    · rcases List.mem_cons.1 h with h | h
      · exact Or.inr ⟨t, ht, h⟩
      · exact hs (Or.inl h)
    · exact hs (Or.inr h)

theorem foldl_errors_len (cfg : Cfg) (flt : Faults) (ts : List Task) (st : Exec) :
    st.b.errors.length ≤ (ts.foldl (execTask cfg flt) st).b.errors.length :=
  (foldl_book_suffix cfg flt ts st).2.length_le

/-- errors never go away -/
theorem step_ok_of_fold {cfg : Cfg} {flt : Faults} {st : Exec} {t : Task} {ts : List Task}
    (h : (ts.foldl (execTask cfg flt) (execTask cfg flt st t)).b.errors.length ≤ st.b.errors.length) :
    (execTask cfg flt st t).b.errors = st.b.errors := by
  have h2 := foldl_errors_len cfg flt ts (execTask cfg flt st t)
  rcases execTask_events cfg flt st t with ⟨_, he⟩ | ⟨_, he⟩
  · rw [he, List.length_cons] at h2; omega
  · exact he

theorem foldl_execTask_accounted (cfg : Cfg) (flt : Faults) (tasks : List Task) (st : Exec) :
    ((tasks.foldl (execTask cfg flt) st).b.events.length + (tasks.foldl (execTask cfg flt) st).b.errors.length
      = st.b.events.length + st.b.errors.length + tasks.length) := by
  induction tasks generalizing st with
  | nil => rfl
  | cons t ts ih =>
    rw [List.foldl_cons, ih, List.length_cons]
    rcases execTask_events cfg flt st t with ⟨h1, h2⟩ | ⟨h1, h2⟩ <;> rw [h1, h2, List.length_cons] <;> omega

theorem foldl_execTask_events_of_no_errors (cfg : Cfg) (flt : Faults) (tasks : List Task) (st : Exec)
    (h : (tasks.foldl (execTask cfg flt) st).b.errors = st.b.errors) :
    (tasks.foldl (execTask cfg flt) st).b.events = (tasks.map fun t => (t.act, t.rel)).reverse ++ st.b.events := by
  induction tasks generalizing st with
  | nil => rfl
  | cons t ts ih =>
    rw [List.foldl_cons] at h ⊢
    -- a failure of `t` would stay in the error list
    have h2 := step_ok_of_fold (Nat.le_of_eq (congrArg List.length h))
    rcases execTask_events cfg flt st t with ⟨_, he⟩ | ⟨h1, _⟩
    · exact absurd (congrArg List.length (he.symm.trans h2)) (by simp)
    · rw [ih _ (h.trans h2.symm), h1, List.map_cons, List.reverse_cons, List.append_assoc]
      rfl

def countAct (a : Act) (ev : List (Act × Path)) : Nat := (ev.filter (·.1 == a)).length

structure BookInv (b : Book) : Prop where
  c : b.created = countAct .create b.events
  u : b.updated = countAct .update b.events
  s : b.skipped = countAct .skip b.events
  d : b.deleted = countAct .delete b.events

theorem countAct_cons (a : Act) (x : Act × Path) (ev : List (Act × Path)) :
    countAct a (x :: ev) = if x.1 = a then countAct a ev + 1 else countAct a ev := by
  unfold countAct
  rw [List.filter_cons]
  by_cases h : x.1 = a
  · simp [h]
  · simp [h]

theorem Book.ok_inv (b : Book) (t : Task) (h : BookInv b) : BookInv (b.ok t) := by
  obtain ⟨hc, hu, hs, hd⟩ := h
  unfold Book.ok
  cases hact : t.act <;> constructor <;> simp only [countAct_cons, hc, hu, hs, hd, reduceCtorEq, ↓reduceIte]

theorem foldl_execTask_bookInv (cfg : Cfg) (flt : Faults) (tasks : List Task) (st : Exec) (h : BookInv st.b) :
    BookInv (tasks.foldl (execTask cfg flt) st).b := by
  refine List.foldlRecOn (motive := fun s : Exec => BookInv s.b) tasks _ h (fun s hs t _ => ?_)
  rcases execTask_book cfg flt s t with ⟨w', he⟩ | ⟨w', he⟩ <;> rw [he]
  · exact Book.ok_inv _ _ hs
  · exact ⟨hs.c, hs.u, hs.s, hs.d⟩

theorem initExec_bookInv (dst : Map DNode) (n : Nat) : BookInv (initExec dst n).b :=
  ⟨rfl, rfl, rfl, rfl⟩

theorem perform_dry (cfg : Cfg) (h : cfg.dryRun = true) (w : World) (t : Task) :
    perform cfg w t = some w := by
  unfold perform
  cases hact : t.act <;> simp [h]

theorem execTask_dry (cfg : Cfg) (flt : Faults) (h : cfg.dryRun = true) (st : Exec) (t : Task) :
    execTask cfg flt st t = ⟨st.w, st.b.ok t⟩ := by
  unfold execTask; simp only [h, Bool.true_or, ↓reduceIte]; rw [perform_dry cfg h]

theorem foldl_execTask_dry_w (cfg : Cfg) (flt : Faults) (h : cfg.dryRun = true) (tasks : List Task) (st : Exec) :
    (tasks.foldl (execTask cfg flt) st).w = st.w :=
  List.foldlRecOn (motive := fun s : Exec => s.w = st.w) tasks _ rfl (fun s hs t _ => by rw [execTask_dry cfg flt h]; exact hs)

theorem foldl_execTask_dry_errors (cfg : Cfg) (flt : Faults) (h : cfg.dryRun = true) (tasks : List Task) (st : Exec) :
    (tasks.foldl (execTask cfg flt) st).b.errors = st.b.errors :=
  List.foldlRecOn (motive := fun s : Exec => s.b.errors = st.b.errors) tasks _ rfl
    (fun s hs t _ => by rw [execTask_dry cfg flt h, Book.ok_errors]; exact hs)

theorem foldl_execTask_dry_events (cfg : Cfg) (flt : Faults) (h : cfg.dryRun = true) (tasks : List Task) (st : Exec) :
    (tasks.foldl (execTask cfg flt) st).b.events = (tasks.map fun t => (t.act, t.rel)).reverse ++ st.b.events :=
  foldl_execTask_events_of_no_errors cfg flt tasks st (foldl_execTask_dry_errors cfg flt h tasks st)

/-- the state after the whole plan; what `runF` reports when the guard lets it run (`runF_of_not_refused`) -/
def finalExec (cfg : Cfg) (flt : Faults) (scan : List SEntry) (dst : Map DNode) (n : Nat) : Exec :=
  (plan cfg scan dst).foldl (execTask cfg flt) (initExec dst n)

theorem runF_cases (cfg : Cfg) (flt : Faults) (scan : List SEntry) (dst : Map DNode) (n : Nat) :
    (guardRefuses cfg ((plan cfg scan dst).filter (·.act == .delete)).length (destCount dst) = true ∧
      runF cfg flt scan dst n =
        { refused := true, aborted := false, dst := dst, tasks := plan cfg scan dst, created := 0, updated := 0,
          skipped := 0, deleted := 0, bytes := 0, events := [], errors := [], exit := 1 }) ∨
    (guardRefuses cfg ((plan cfg scan dst).filter (·.act == .delete)).length (destCount dst) = false ∧
      runF cfg flt scan dst n =
        { refused := false,
          aborted := decide (0 < cfg.maxErrors) && decide (cfg.maxErrors ≤ (finalExec cfg flt scan dst n).b.errors.length),
          dst := (finalExec cfg flt scan dst n).w.dst, tasks := plan cfg scan dst,
          created := (finalExec cfg flt scan dst n).b.created, updated := (finalExec cfg flt scan dst n).b.updated,
          skipped := (finalExec cfg flt scan dst n).b.skipped, deleted := (finalExec cfg flt scan dst n).b.deleted,
          bytes := (finalExec cfg flt scan dst n).w.bytes, events := (finalExec cfg flt scan dst n).b.events.reverse,
          errors := (finalExec cfg flt scan dst n).b.errors.reverse,
          exit := if (finalExec cfg flt scan dst n).b.errors.isEmpty then 0 else 1 }) := by
  unfold runF finalExec
  cases hg : guardRefuses cfg ((plan cfg scan dst).filter (·.act == .delete)).length (destCount dst) with
  | true => exact Or.inl ⟨rfl, if_pos hg⟩
  | false => exact Or.inr ⟨rfl, if_neg (by rw [hg]; simp)⟩

theorem runF_of_refused {cfg : Cfg} {flt : Faults} {scan : List SEntry} {dst : Map DNode} {n : Nat}
    (h : (runF cfg flt scan dst n).refused = true) :
    runF cfg flt scan dst n =
      { refused := true, aborted := false, dst := dst, tasks := plan cfg scan dst, created := 0, updated := 0,
        skipped := 0, deleted := 0, bytes := 0, events := [], errors := [], exit := 1 } := by
  rcases runF_cases cfg flt scan dst n with ⟨_, he⟩ | ⟨_, he⟩
  · exact he
  · rw [he] at h; cases h

theorem runF_refused_eq {cfg : Cfg} {flt : Faults} {scan : List SEntry} {dst : Map DNode} {n : Nat} :
    (runF cfg flt scan dst n).refused =
      guardRefuses cfg ((plan cfg scan dst).filter (·.act == .delete)).length (destCount dst) := by
  rcases runF_cases cfg flt scan dst n with ⟨hg, he⟩ | ⟨hg, he⟩ <;> rw [he, hg]

/-- the report `r` reads off the final state `st` of the task list -/
structure ReportOf (r : Result) (st : Exec) : Prop where
  dst : r.dst = st.w.dst
  events : r.events = st.b.events.reverse
  errors : r.errors = st.b.errors.reverse
  created : r.created = st.b.created
  updated : r.updated = st.b.updated
  deleted : r.deleted = st.b.deleted
  skipped : r.skipped = st.b.skipped
  bytes : r.bytes = st.w.bytes
  exit : r.exit = if st.b.errors.isEmpty then 0 else 1

theorem runF_of_not_refused {cfg : Cfg} {flt : Faults} {scan : List SEntry} {dst : Map DNode} {n : Nat}
    (h : (runF cfg flt scan dst n).refused = false) :
    ReportOf (runF cfg flt scan dst n) (finalExec cfg flt scan dst n) := by
  rcases runF_cases cfg flt scan dst n with ⟨_, he⟩ | ⟨_, he⟩ <;> rw [he] at h ⊢
  · cases h
  · exact ⟨rfl, rfl, rfl, rfl, rfl, rfl, rfl, rfl, rfl⟩

theorem runF_exit_zero {cfg : Cfg} {flt : Faults} {scan : List SEntry} {dst : Map DNode} {n : Nat}
    (h : (runF cfg flt scan dst n).exit = 0) :
    (runF cfg flt scan dst n).refused = false ∧ (finalExec cfg flt scan dst n).b.errors = [] := by
  rcases runF_cases cfg flt scan dst n with ⟨_, he⟩ | ⟨_, he⟩ <;> rw [he] at h ⊢
  · cases h
  · refine ⟨rfl, ?_⟩
    by_cases hemp : (finalExec cfg flt scan dst n).b.errors.isEmpty = true
    · simpa using hemp
    · rw [if_neg hemp] at h; cases h

theorem not_refused_of_no_deletes {cfg : Cfg} {flt : Faults} {scan : List SEntry} {dst : Map DNode} {n : Nat}
    (h : ∀ t ∈ plan cfg scan dst, t.act ≠ .delete) : (runF cfg flt scan dst n).refused = false := by
  rw [runF_refused_eq, List.filter_eq_nil_iff.2 (fun t ht => by simpa using h t ht)]
  simp [guardRefuses]

theorem scanFilterGo_dry (cfg : Cfg) (b : Bool) (scan : List SEntry) (ex : List Path) :
    scanFilterGo { cfg with dryRun := b } scan ex = scanFilterGo cfg scan ex := by
  induction scan generalizing ex with
  | nil => rfl
  | cons e rest ih =>
    simp only [scanFilterGo, ih]
    rfl

theorem plan_dry (cfg : Cfg) (b : Bool) (scan : List SEntry) (dst : Map DNode) :
    plan { cfg with dryRun := b } scan dst = plan cfg scan dst := by
  unfold plan scanFilter
  simp only [scanFilterGo_dry]
  rfl

theorem guardRefuses_dry (cfg : Cfg) (b : Bool) (d c : Nat) :
    guardRefuses { cfg with dryRun := b } d c = guardRefuses cfg d c := rfl

end SyModel.Engine
