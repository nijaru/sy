/-
  One sync, seen path by path (repaired state update): `exec_spec` for any order in which the paths are
  visited, `sync_spec` for the model's own; what the executor, the state update, the counts and the deletion limit do
  not depend on (errors collected so far, the order of the changes: used by the bridge `Props/GenBisyncEngine`
  only); `syncIn` (the sync with both orders as parameters) and `syncIn_eq_sync`: with fresh conflict names every pair of
  orders that are permutations of `allPaths` leaves the same world (`changesIn` / `syncIn` and their lemmas are declared in
  the namespace `SyModel.Props.GenBisyncEngine`, see the last section).
-/
import SyModel.Lemmas.BisyncExec
namespace SyModel.Bisync

def rowsOf (l r : Option File) (sd : Side) : Option Row :=
  match l, r with
  | some l, some r => some (match sd with | .source => l.meta | .dest => r.meta)
  | _, _ => none

theorem updRepaired_get (L R : Root) : ∀ (ps : List Path) (db : Db) (q : Path) (sd : Side),
    aget (q, sd) (updateStateRepaired L R [] db ps) =
      if q ∈ ps then rowsOf (aget q L) (aget q R) sd else aget (q, sd) db := by
  intro ps
  induction ps with
  | nil => intro db q sd; simp [updateStateRepaired]
  | cons p t ih =>
    intro db q sd
    simp only [updateStateRepaired, List.not_mem_nil, if_false]
    rw [ih]
    by_cases hq : q ∈ t
    · simp [hq]
    · by_cases hqp : q = p
      · subst hqp
        simp only [hq, if_false, List.mem_cons, true_or, if_true]
        cases hl : aget q L <;> cases hr : aget q R <;> simp [rowsOf, aget_delete, aget_aset] <;>
          cases sd <;> simp
      · simp only [hq, if_false, List.mem_cons, hqp, false_or]
        cases hl : aget p L <;> cases hr : aget p R <;> simp [aget_delete, aget_aset, hqp]

theorem nodupB_iff (l : List Path) : nodupB l = true ↔ l.Nodup := by
  induction l with
  | nil => simp [nodupB]
  | cons a t ih => simp [nodupB, ih, List.nodup_cons]

theorem conflictName_side_ne (p : Path) (stamp : Nat) :
    conflictName p stamp .source ≠ conflictName p stamp .dest := by
  unfold conflictName
  intro h
  have h2 := List.append_cancel_left h
  simp [Side.str] at h2

theorem mem_conflictNames {w : World} {stamp : Nat} {q : Path} (h : q ∈ conflictNames w stamp) :
    ∃ p ∈ w.allPaths, q = conflictName p stamp .source ∨ q = conflictName p stamp .dest := by
  unfold conflictNames at h
  rw [List.mem_flatMap] at h
  obtain ⟨p, hp, hq⟩ := h
  simp only [List.mem_cons, List.not_mem_nil, or_false] at hq
  exact ⟨p, hp, hq⟩

theorem Fresh.iff {w : World} {stamp : Nat} : Fresh w stamp ↔
    (w.allPaths.flatMap (names stamp)).Nodup ∧ ∀ p ∈ w.allPaths, ∀ q ∈ names stamp p, q ∉ w.allPaths := by
  unfold Fresh freshB conflictNames
  rw [Bool.and_eq_true, nodupB_iff, List.all_eq_true]
  simp only [List.mem_flatMap, Bool.not_eq_true', List.contains_eq_mem, decide_eq_false_iff_not, forall_exists_index,
    and_imp]
  exact and_congr_right fun _ => ⟨fun h p hp q hq => h q p hp hq, fun h q p hp hq => h p hp q hq⟩

theorem Fresh.footprints {w : World} {stamp : Nat} (h : Fresh w stamp) : (w.allPaths.flatMap (fp stamp)).Nodup := by
  obtain ⟨hn, hd⟩ := Fresh.iff.mp h
  obtain ⟨hn1, hn2⟩ := List.pairwise_flatMap.mp hn
  refine List.pairwise_flatMap.mpr ⟨fun a ha => ?_, ((nodup_allPaths w).and hn2).imp_of_mem ?_⟩
  · exact List.nodup_cons.mpr ⟨fun hm => hd a ha a hm ha, hn1 a ha⟩
  · rintro a b ha hb ⟨hab, hnn⟩ x hx y hy rfl
    rcases List.mem_cons.mp hx with rfl | hx <;> rcases List.mem_cons.mp hy with e | hy
    · exact hab e
    · exact hd b hb x hy ha
    · exact hd a ha x hx (e ▸ hb)
    · exact hnn x hx x hy rfl

theorem RcSpec.enabled {p : Path} {stamp : Nat} {l r : Option File} {a : Action}
    (h : RcSpec p (l.map File.entry) (r.map File.entry) stamp a) (hn : (l.isSome || r.isSome) = true) :
    enabled a l r = true := by
  have some_of : ∀ {o : Option File} {e : Entry}, o.map File.entry = some e → o.isSome = true := by
    intro o e ho
    rw [← Option.isSome_map (f := File.entry), ho]
    rfl
  cases a with
  | copyToSource q e => exact some_of h.2
  | copyToDest q e => exact some_of h.2
  | deleteFromSource q =>
    rw [Option.map_eq_none_iff.mp h.2, Option.isSome_none, Bool.or_false] at hn
    exact hn
  | deleteFromDest q =>
    rw [Option.map_eq_none_iff.mp h.2, Option.isSome_none, Bool.false_or] at hn
    exact hn
  | renameConflict q a b st =>
    show (l.isSome && r.isSome) = true
    rw [some_of h.2.1, some_of h.2.2.1]
    rfl

theorem needs_present {ct : ChangeType} {s d : Bool} (h : needs ct s d = true) : (s || d) = true := by
  cases ct <;> cases s <;> cases d <;> first | rfl | exact h

theorem action_enabled {cfg strat stamp p} {v : View} {a : Action}
    (h : v.action cfg strat stamp p = some a) : enabled a v.l v.r = true := by
  have hr := action_rcSpec h
  unfold View.action at h
  obtain ⟨ct, hct, -⟩ := Option.bind_eq_some_iff.mp h
  have hn := needs_present (classifySingle_needs hct)
  rw [Option.isSome_map, Option.isSome_map] at hn
  exact hr.enabled hn

def View.empty : View := ⟨none, none, none, none⟩

def World.act (cfg : Cfg) (strat : Strategy) (stamp : Nat) (w : World) (p : Path) : Option Action :=
  (w.view p).action cfg strat stamp p

def stepView (cfg : Cfg) (strat : Strategy) (stamp now : Nat) (p : Path) (v : View) : View :=
  let o := own now (v.action cfg strat stamp p) v.l v.r
  ⟨o.1, o.2, rowsOf o.1 o.2 .source, rowsOf o.1 o.2 .dest⟩

theorem view_of_not_mem (w : World) (q : Path) (h : q ∉ w.allPaths) : w.view q = View.empty := by
  rw [mem_allPaths] at h
  simp only [not_or, ne_eq, Decidable.not_not] at h
  simp [World.view, View.empty, h.1, h.2.1, h.2.2.1, h.2.2.2]

/-- what the world looks like, path by path, once the chosen actions have been executed and the state updated -/
structure SyncSpec (cfg : Cfg) (strat : Strategy) (stamp : Nat) (w w' : World) : Prop where
  own : ∀ p ∈ w.allPaths, w'.view p = stepView cfg strat stamp w.clock p (w.view p)
  nameS : ∀ p ∈ w.allPaths, w'.view (conflictName p stamp .source) =
    ⟨if isRen (w.act cfg strat stamp p) = true then (w.view p).l else none, none, none, none⟩
  nameD : ∀ p ∈ w.allPaths, w'.view (conflictName p stamp .dest) =
    ⟨none, if isRen (w.act cfg strat stamp p) = true then (w.view p).r else none, none, none⟩
  other : ∀ q, q ∉ w.allPaths → q ∉ conflictNames w stamp → w'.view q = View.empty

theorem SyncSpec.unique {cfg strat stamp} {w w1 w2 : World} (h1 : SyncSpec cfg strat stamp w w1)
    (h2 : SyncSpec cfg strat stamp w w2) (q : Path) : w1.view q = w2.view q := by
  by_cases hq : q ∈ w.allPaths
  · rw [h1.own q hq, h2.own q hq]
  · by_cases hqn : q ∈ conflictNames w stamp
    · obtain ⟨p, hp, rfl | rfl⟩ := mem_conflictNames hqn
      · rw [h1.nameS p hp, h2.nameS p hp]
      · rw [h1.nameD p hp, h2.nameD p hp]
    · rw [h1.other q hq hqn, h2.other q hq hqn]

theorem isRen_some_files {cfg strat stamp p} {v : View} (h : isRen (v.action cfg strat stamp p) = true) :
    (∃ f, v.l = some f) ∧ (∃ g, v.r = some g) := by
  unfold isRen at h
  cases ha : v.action cfg strat stamp p with
  | none => rw [ha] at h; cases h
  | some a =>
    have hen := action_enabled ha
    rw [ha] at h
    cases a <;> first | cases h | skip
    simp only [enabled, Bool.and_eq_true, Option.isSome_iff_exists] at hen
    exact hen

/-- **the execution of the chosen actions and the repaired state update, path by path**: with fresh conflict
    names, for ANY order in which the paths are visited (`order` by the executor, `paths` by the state update): no
    action fails, every known path ends as `stepView` says, the two conflict names of a path hold the renamed files
    (or nothing), every other path holds nothing. The clock `c` of the world left is arbitrary: `SyncSpec` does not
    speak of it. -/
theorem exec_spec (cfg : Cfg) (strat : Strategy) (stamp : Nat) (w : World) (hf : Fresh w stamp)
    {order paths : List Path} (ho : order.Perm w.allPaths) (hp : paths.Perm w.allPaths) (c : Nat) :
    let st := execActions w.clock (order.filterMap (w.act cfg strat stamp)) ⟨w.left, w.right, []⟩
    st.errors = [] ∧
      SyncSpec cfg strat stamp w
        ⟨st.left, st.right, updateStateRepaired st.left st.right st.errors w.db paths, c⟩ := by
  intro st
  have hnd : (order.flatMap (fp stamp)).Nodup := (ho.flatMap_right _).nodup_iff.mpr hf.footprints
  have hg : ∀ p a, w.act cfg strat stamp p = some a → a.For stamp p := fun _ _ h => (action_rcSpec h).for
  have hst : st = execPaths w.clock (w.act cfg strat stamp) order ⟨w.left, w.right, []⟩ := execActions_filterMap ..
  obtain ⟨hA, hB⟩ := execPaths_spec w.clock stamp _ hg order ⟨w.left, w.right, []⟩ hnd
  have herr : st.errors = [] :=
    hst ▸ execPaths_errors w.clock stamp _ hg order _ hnd fun p _ a ha => action_enabled ha
  rw [← hst] at hA hB
  have hview : ∀ q, World.view
        ⟨st.left, st.right, updateStateRepaired st.left st.right st.errors w.db paths, c⟩ q =
      if q ∈ w.allPaths then
        ⟨aget q st.left, aget q st.right, rowsOf (aget q st.left) (aget q st.right) .source,
          rowsOf (aget q st.left) (aget q st.right) .dest⟩
      else ⟨aget q st.left, aget q st.right, none, none⟩ := by
    intro q
    unfold World.view
    dsimp only
    rw [herr, updRepaired_get, updRepaired_get]
    simp only [hp.mem_iff]
    split
    · rfl
    · rename_i hq
      have hv := view_of_not_mem w q hq
      rw [show aget (q, Side.source) w.db = none from congrArg View.rl hv,
        show aget (q, Side.dest) w.db = none from congrArg View.rr hv]
  -- what a path of the footprint of a known path holds: its own step, in closed form, on the world as it was
  have hfoot := fun p (hp' : p ∈ w.allPaths) q (hq : q ∈ fp stamp p) =>
    have hpo := ho.mem_iff.mpr hp'
    have e := execO_apply w.clock stamp ⟨w.left, w.right, []⟩ _ p (hg p) ((List.pairwise_flatMap.mp hnd).1 p hpo) q
    And.intro ((hB p hpo q hq).1.trans e.1) ((hB p hpo q hq).2.trans e.2)
  have hname : ∀ p ∈ w.allPaths, ∀ q ∈ names stamp p, q ≠ p ∧ q ∉ w.allPaths ∧ w.view q = View.empty :=
    fun p hp' q hq =>
      have hn := (Fresh.iff.mp hf).2 p hp' q hq
      ⟨fun e => hn (e ▸ hp'), hn, view_of_not_mem w q hn⟩
  refine ⟨herr, ?_, ?_, ?_, ?_⟩
  · intro p hp'
    obtain ⟨h1, h2⟩ := hfoot p hp' p List.mem_cons_self
    rw [hview, if_pos hp', h1, h2, if_pos rfl, if_pos rfl]
    rfl
  · intro p hp'
    have hq : conflictName p stamp .source ∈ names stamp p := List.mem_cons_self
    obtain ⟨hne, hn, hv⟩ := hname p hp' _ hq
    obtain ⟨h1, h2⟩ := hfoot p hp' _ (List.mem_cons_of_mem _ hq)
    rw [hview, if_neg hn, h1, h2]
    simp only [hne, conflictName_side_ne p stamp, false_and, true_and, if_false]
    show View.mk (if _ then _ else (w.view _).l) (w.view _).r none none = _
    rw [hv]
    by_cases hr : isRen (w.act cfg strat stamp p) = true
    · obtain ⟨⟨f, hl⟩, -⟩ := isRen_some_files hr
      have hl' : aget p w.left = some f := hl
      simp only [hr, hl', hl, Option.isSome_some, and_self, if_true, View.empty]
    · simp only [hr, Bool.false_eq_true, false_and, if_false, View.empty]
  · intro p hp'
    have hq : conflictName p stamp .dest ∈ names stamp p := List.mem_cons_of_mem _ List.mem_cons_self
    obtain ⟨hne, hn, hv⟩ := hname p hp' _ hq
    obtain ⟨h1, h2⟩ := hfoot p hp' _ (List.mem_cons_of_mem _ hq)
    rw [hview, if_neg hn, h1, h2]
    simp only [hne, (conflictName_side_ne p stamp).symm, false_and, true_and, if_false]
    show View.mk (w.view _).l (if _ then _ else (w.view _).r) none none = _
    rw [hv]
    by_cases hr : isRen (w.act cfg strat stamp p) = true
    · obtain ⟨⟨f, hl⟩, ⟨g, hg⟩⟩ := isRen_some_files hr
      have hl' : aget p w.left = some f := hl
      have hg' : aget p w.right = some g := hg
      simp only [hr, hl', hg', hg, Option.isSome_some, and_self, if_true, View.empty]
    · simp only [hr, Bool.false_eq_true, false_and, if_false, View.empty]
  · intro q hq hqn
    obtain ⟨a1, a2⟩ := hA q fun hm => by
      obtain ⟨p, hp', hm⟩ := List.mem_flatMap.mp hm
      rcases List.mem_cons.mp hm with rfl | hm
      · exact hq (ho.mem_iff.mp hp')
      · exact hqn (List.mem_flatMap.mpr ⟨p, ho.mem_iff.mp hp', hm⟩)
    rw [hview, if_neg hq, a1, a2]
    show View.mk (w.view q).l (w.view q).r none none = _
    rw [view_of_not_mem w q hq]
    rfl

theorem sync_refused_eq (cfg : Cfg) (strat : Strategy) (md stamp : Nat) (w : World) :
    (sync cfg strat md stamp w).refused = deletionLimitExceeded (w.changes cfg) md := by
  unfold sync
  dsimp only
  split <;> rename_i h
  · exact h.symm
  · exact (Bool.eq_false_iff.mpr h).symm

theorem sync_of_refused {cfg : Cfg} {strat : Strategy} {md stamp : Nat} {w : World}
    (h : (sync cfg strat md stamp w).refused = true) :
    sync cfg strat md stamp w = ⟨{ w with clock := w.clock + 1 }, w.changes cfg, [], [], true⟩ := by
  rw [sync_refused_eq] at h
  unfold sync
  simp only [h, if_true]

theorem sync_of_accepted {cfg : Cfg} {strat : Strategy} {md stamp : Nat} {w : World}
    (h : (sync cfg strat md stamp w).refused = false) :
    sync cfg strat md stamp w =
      (let actions := resolveChanges strat stamp (w.changes cfg)
       let st := execActions w.clock actions ⟨w.left, w.right, []⟩
       ⟨⟨st.left, st.right,
          if cfg.fixState then updateStateRepaired st.left st.right st.errors w.db w.allPaths
          else updateStatePinned w.db actions, w.clock + 1⟩,
        w.changes cfg, actions, st.errors, false⟩) := by
  rw [sync_refused_eq] at h
  unfold sync
  simp only [h, Bool.false_eq_true, if_false]

theorem sync_clock (cfg : Cfg) (strat : Strategy) (md stamp : Nat) (w : World) :
    (sync cfg strat md stamp w).world.clock = w.clock + 1 := by
  unfold sync
  dsimp only
  split <;> rfl

theorem sync_spec (cfg : Cfg) (hfix : cfg.fixState = true) (strat : Strategy) (md stamp : Nat)
    (w : World) (hf : Fresh w stamp) (hnr : (sync cfg strat md stamp w).refused = false) :
    SyncSpec cfg strat stamp w (sync cfg strat md stamp w).world ∧
    (sync cfg strat md stamp w).errors = [] ∧
    (sync cfg strat md stamp w).actions = w.allPaths.filterMap (w.act cfg strat stamp) := by
  obtain ⟨herr, hs⟩ := exec_spec cfg strat stamp w hf (List.Perm.refl _) (List.Perm.refl _) (w.clock + 1)
  rw [sync_of_accepted hnr]
  simp only [hfix, if_true, actions_eq cfg strat stamp w]
  exact ⟨hs, herr, rfl⟩

theorem execOne_errors (now : Nat) (st : ExecState) (a : Action) :
    execOne now st a =
      ⟨(execOne now ⟨st.left, st.right, []⟩ a).left, (execOne now ⟨st.left, st.right, []⟩ a).right,
        st.errors ++ (execOne now ⟨st.left, st.right, []⟩ a).errors⟩ := by
  cases a <;> simp only [execOne] <;> (repeat' split) <;> simp_all

theorem execActions_errors (now : Nat) (acts : List Action) (st : ExecState) :
    execActions now acts st =
      ⟨(execActions now acts ⟨st.left, st.right, []⟩).left, (execActions now acts ⟨st.left, st.right, []⟩).right,
        st.errors ++ (execActions now acts ⟨st.left, st.right, []⟩).errors⟩ := by
  induction acts generalizing st with
  | nil => simp [execActions]
  | cons a t ih =>
    simp only [execActions, List.foldl_cons] at ih ⊢
    rw [execOne_errors, ih]
    conv => rhs; rw [ih]
    simp

theorem execOne_errors_cases (now : Nat) (l r : Root) (a : Action) :
    (execOne now ⟨l, r, []⟩ a).errors = [] ∨ (execOne now ⟨l, r, []⟩ a).errors = [a.path] := by
  cases a <;> simp only [execOne, Action.path] <;> (repeat' split) <;> simp

theorem updateStateRepaired_congr (l r : Root) (f1 f2 : List Path) (h : ∀ p, p ∈ f1 ↔ p ∈ f2) (db : Db)
    (ps : List Path) :
    updateStateRepaired l r f1 db ps = updateStateRepaired l r f2 db ps := by
  induction ps generalizing db with
  | nil => rfl
  | cons p t ih =>
    simp only [updateStateRepaired]
    by_cases hp : p ∈ f1
    · have := (h p).mp hp
      simp only [hp, this, if_true]; exact ih _
    · have : p ∉ f2 := fun h2 => hp ((h p).mpr h2)
      simp only [hp, this, if_false]; exact ih _

theorem conflictCounts_perm (st : Strategy) (stamp : Nat) {a b : List Change} (h : a.Perm b) :
    conflictCounts st stamp a = conflictCounts st stamp b := by
  unfold conflictCounts
  have hp := (h.filter (·.ctype.isConflict)).map
    (fun c => (resolveConflict st c.path c.s c.d stamp).isRename)
  simp only [(hp.filter _).length_eq]

theorem deletionLimitExceeded_perm {a b : List Change} (h : a.Perm b) (md : Nat) :
    deletionLimitExceeded a md = deletionLimitExceeded b md := by
  unfold deletionLimitExceeded
  simp only [h.length_eq, (h.filter _).length_eq]

end SyModel.Bisync

/-! ## the order in which the paths are visited

`syncIn` is the model's `sync Cfg.repaired` with the two iteration orders as parameters; it is named in the namespace of
the bridge `Props/GenBisyncEngine`, whose theorems are stated with it (the translated engine visits the paths in the
order of its hash sets). -/

namespace SyModel.Props.GenBisyncEngine
open SyModel

def changesIn (order : List Bisync.Path) (w : Bisync.World) : List Bisync.Change :=
  order.filterMap (Bisync.classifyOne .repaired (Bisync.scan w.left) (Bisync.scan w.right) w.db.loadAll)

/-- `Bisync.sync Cfg.repaired` with the two iteration orders exposed (`order`: the paths as `classify_changes`
    visits them, hence the order of the changes and of the actions; `paths`: as `update_state` visits them) and
    without the tick of the logical clock that stands for the time passing until the next event.
    `syncIn_allPaths`: with `w.allPaths` for both it IS `Bisync.sync`. -/
def syncIn (strat : Bisync.Strategy) (maxDelete stamp : Nat) (order paths : List Bisync.Path) (w : Bisync.World) :
    Bisync.SyncResult :=
  let changes := changesIn order w
  if Bisync.deletionLimitExceeded changes maxDelete then
    { world := w, changes := changes, actions := [], errors := [], refused := true }
  else
    let actions := Bisync.resolveChanges strat stamp changes
    let st := Bisync.execActions w.clock actions ⟨w.left, w.right, []⟩
    { world := { left := st.left, right := st.right,
                 db := Bisync.updateStateRepaired st.left st.right st.errors w.db paths, clock := w.clock },
      changes := changes, actions := actions, errors := st.errors, refused := false }

theorem syncIn_allPaths (strat : Bisync.Strategy) (maxDelete stamp : Nat) (w : Bisync.World) :
    let r := syncIn strat maxDelete stamp w.allPaths w.allPaths w
    let m := Bisync.sync .repaired strat maxDelete stamp w
    r.world = { m.world with clock := w.clock } ∧ r.changes = m.changes ∧ r.actions = m.actions ∧
      r.errors = m.errors ∧ r.refused = m.refused := by
  unfold syncIn changesIn Bisync.sync Bisync.World.changes Bisync.classifyChanges Bisync.World.allPaths
  dsimp only
  split <;> simp [Bisync.Cfg.repaired]

theorem syncIn_refused {strat : Bisync.Strategy} {maxDelete stamp : Nat} {order paths : List Bisync.Path} {w : Bisync.World}
    (h : Bisync.deletionLimitExceeded (changesIn order w) maxDelete = true) :
    syncIn strat maxDelete stamp order paths w =
      { world := w, changes := changesIn order w, actions := [], errors := [], refused := true } := by
  unfold syncIn; simp [h]

theorem syncIn_accepted {strat : Bisync.Strategy} {maxDelete stamp : Nat} {order paths : List Bisync.Path} {w : Bisync.World}
    (h : ¬ Bisync.deletionLimitExceeded (changesIn order w) maxDelete = true) :
    syncIn strat maxDelete stamp order paths w =
      (let actions := Bisync.resolveChanges strat stamp (changesIn order w)
       let st := Bisync.execActions w.clock actions ⟨w.left, w.right, []⟩
       { world := { left := st.left, right := st.right,
                    db := Bisync.updateStateRepaired st.left st.right st.errors w.db paths, clock := w.clock },
         changes := changesIn order w, actions := actions, errors := st.errors, refused := false }) := by
  unfold syncIn; simp [h]

section Fresh
open SyModel.Bisync

theorem changesIn_perm {order : List Path} {w : World} (h : order.Perm w.allPaths) :
    (changesIn order w).Perm (w.changes .repaired) := by
  unfold changesIn World.changes classifyChanges
  exact h.filterMap _

theorem syncIn_spec (strat : Strategy) (md stamp : Nat) (w : World) (hf : Fresh w stamp)
    {order paths : List Path} (ho : order.Perm w.allPaths) (hp : paths.Perm w.allPaths)
    (hlim : ¬ deletionLimitExceeded (changesIn order w) md = true) :
    let r := syncIn strat md stamp order paths w
    SyncSpec .repaired strat stamp w r.world ∧ r.errors = [] ∧
      r.actions = order.filterMap (w.act .repaired strat stamp) := by
  obtain ⟨herr, hs⟩ := exec_spec .repaired strat stamp w hf ho hp w.clock
  rw [syncIn_accepted hlim]
  dsimp only [changesIn]
  rw [resolve_classify_eq]
  exact ⟨hs, herr, rfl⟩

/-- **with a fresh stamp, `syncIn` in any orders is `Bisync.sync`**: the same refusal, the same changes and actions up
    to order, no failed action on either side, and the same world seen path by path (both roots and both state rows
    of every path) — only the tick of the clock is the model's own. -/
theorem syncIn_eq_sync (strat : Strategy) (md stamp : Nat) (w : World) (hf : Fresh w stamp)
    {order paths : List Path} (ho : order.Perm w.allPaths) (hp : paths.Perm w.allPaths) :
    let r := syncIn strat md stamp order paths w
    let m := sync .repaired strat md stamp w
    r.refused = m.refused ∧ (∀ q, r.world.view q = m.world.view q) ∧ r.world.clock = w.clock ∧
      m.world.clock = w.clock + 1 ∧ r.changes.Perm m.changes ∧ r.actions.Perm m.actions ∧
      r.errors = [] ∧ m.errors = [] := by
  intro r m
  have hcp := changesIn_perm ho
  have hlimeq := deletionLimitExceeded_perm hcp md
  by_cases hlim : deletionLimitExceeded (changesIn order w) md = true
  · have hr : r = _ := syncIn_refused hlim
    have hm : m = _ := sync_of_refused ((sync_refused_eq ..).trans (hlimeq ▸ hlim))
    rw [hr, hm]
    exact ⟨rfl, fun _ => rfl, rfl, rfl, hcp, List.Perm.refl _, rfl, rfl⟩
  · have hnr : m.refused = false := by
      rw [show m.refused = _ from sync_refused_eq .., ← hlimeq]
      exact Bool.eq_false_iff.mpr hlim
    obtain ⟨ms, merr, mact⟩ := sync_spec .repaired rfl strat md stamp w hf hnr
    obtain ⟨rs, rerr, ract⟩ := syncIn_spec strat md stamp w hf ho hp hlim
    have hr : r = _ := syncIn_accepted hlim
    have hrr : r.refused = false := by rw [hr]
    have hrc : r.changes = changesIn order w := by rw [hr]
    have hmc : m.changes = w.changes .repaired := congrArg SyncResult.changes (sync_of_accepted hnr)
    refine ⟨by rw [hrr, hnr], rs.unique ms, by rw [hr], sync_clock .., by rw [hrc, hmc]; exact hcp, ?_, rerr, merr⟩
    · show r.actions.Perm m.actions
      rw [ract, mact]
      exact ho.filterMap _

end Fresh

end SyModel.Props.GenBisyncEngine
