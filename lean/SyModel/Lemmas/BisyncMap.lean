/-
  Lemmas about the finite maps of the bisync model: `aget/aset/aerase`, the state table,
  `dedup`, `lookup` into scans and `load_all`, membership in `allPaths`.
-/
import SyModel.Bisync.Spec
namespace SyModel.Bisync

section amap
variable {κ β : Type} [DecidableEq κ]

theorem aget_filter (P : κ → Bool) (k : κ) (m : List (κ × β)) :
    aget k (m.filter fun kv => P kv.1) = if P k = true then aget k m else none := by
  induction m with
  | nil => simp [aget]
  | cons kv t ih =>
    obtain ⟨a, v⟩ := kv
    rw [List.filter_cons]
    by_cases ha : a = k
    · subst ha
      by_cases hp : P a = true
      · simp only [hp, if_true, aget]
      · simp only [hp, Bool.false_eq_true, if_false, ih]
    · by_cases hp : P a = true
      · simp only [hp, if_true, aget, ha, if_false, ih]
      · simp only [hp, Bool.false_eq_true, if_false, aget, ha, ih]

theorem aget_aerase (k k' : κ) (m : List (κ × β)) :
    aget k' (aerase k m) = if k' = k then none else aget k' m := by
  unfold aerase
  rw [aget_filter (fun a => decide (a ≠ k))]
  by_cases h : k' = k <;> simp [h]

theorem aget_aset (k k' : κ) (v : β) (m : List (κ × β)) :
    aget k' (aset k v m) = if k' = k then some v else aget k' m := by
  unfold aset
  by_cases h : k = k'
  · subst h; simp [aget]
  · have h' : ¬ k' = k := fun e => h e.symm
    simp [aget, h, h', aget_aerase]

theorem aget_eq_none_iff (k : κ) (m : List (κ × β)) : aget k m = none ↔ k ∉ m.map (·.1) := by
  induction m with
  | nil => simp [aget]
  | cons kv t ih =>
    obtain ⟨a, v⟩ := kv
    by_cases h : a = k
    · subst h; simp [aget]
    · have h' : ¬ k = a := fun e => h e.symm
      simp [aget, h, h', ih]

theorem aget_ne_none_iff (k : κ) (m : List (κ × β)) : aget k m ≠ none ↔ k ∈ m.map (·.1) := by
  rw [Ne, aget_eq_none_iff]; simp

theorem aget_of_mem_nodup {m : List (κ × β)} (h : (m.map (·.1)).Nodup) {k : κ} {v : β}
    (hm : (k, v) ∈ m) : aget k m = some v := by
  induction m with
  | nil => cases hm
  | cons kv t ih =>
    obtain ⟨a, b⟩ := kv
    rw [List.map_cons, List.nodup_cons] at h
    rcases List.mem_cons.mp hm with e | e
    · cases e; simp [aget]
    · have hne : a ≠ k := by
        intro e'; subst e'
        exact h.1 (List.mem_map_of_mem (f := (·.1)) e)
      simp [aget, hne, ih h.2 e]

end amap

theorem aget_delete (p q : Path) (s : Side) (db : Db) :
    aget (q, s) (Db.delete p db) = if q = p then none else aget (q, s) db := by
  unfold Db.delete
  rw [aget_filter (fun a : Path × Side => decide (a.1 ≠ p))]
  by_cases h : q = p <;> simp [h]

theorem mem_dedup (a : Path) (l : List Path) : a ∈ dedup l ↔ a ∈ l := by
  induction l with
  | nil => simp [dedup]
  | cons b t ih =>
    unfold dedup
    by_cases h : b ∈ t
    · simp only [h, if_true, ih, List.mem_cons]
      constructor
      · intro h1; exact Or.inr h1
      · rintro (rfl | h1)
        · exact h
        · exact h1
    · simp [h, ih]

theorem nodup_dedup (l : List Path) : (dedup l).Nodup := by
  induction l with
  | nil => simp [dedup]
  | cons b t ih =>
    unfold dedup
    by_cases h : b ∈ t
    · simp [h, ih]
    · rw [if_neg h, List.nodup_cons, mem_dedup]
      exact ⟨h, ih⟩

theorem lookup_map_find {α β : Type} (key : α → Path) (f : α → β) (l : List α) (k : Path) :
    lookup k (l.map fun e => (key e, f e)) = (l.find? (fun e => key e == k)).map f := by
  induction l with
  | nil => rfl
  | cons e t ih =>
    by_cases hk : key e = k
    · simp [lookup, hk]
    · have : (key e == k) = false := by simpa using hk
      simp [lookup, hk, this, ih]

theorem lookup_eq_aget {β : Type} (p : Path) (m : List (Path × β)) : lookup p m = aget p m := by
  induction m with
  | nil => rfl
  | cons kv t ih => obtain ⟨a, v⟩ := kv; simp [lookup, aget, ih]

theorem aget_map_snd {β γ : Type} (f : β → γ) (p : Path) (m : List (Path × β)) :
    aget p (m.map fun kv => (kv.1, f kv.2)) = (aget p m).map f := by
  induction m with
  | nil => rfl
  | cons kv t ih =>
    obtain ⟨a, v⟩ := kv
    by_cases h : a = p
    · simp [aget, h]
    · simp [aget, h, ih]

theorem lookup_scan (p : Path) (r : Root) : lookup p (scan r) = (aget p r).map File.entry := by
  rw [lookup_eq_aget]; unfold scan; exact aget_map_snd File.entry p r

theorem scan_keys (r : Root) : (scan r).map (·.1) = r.map (·.1) := by
  unfold scan; simp

theorem mem_db_paths (p : Path) (db : Db) :
    p ∈ db.map (·.1.1) ↔ aget (p, Side.source) db ≠ none ∨ aget (p, Side.dest) db ≠ none := by
  rw [aget_ne_none_iff, aget_ne_none_iff]
  simp only [List.mem_map]
  constructor
  · rintro ⟨⟨⟨a, s⟩, v⟩, hm, rfl⟩
    cases s
    · exact Or.inl ⟨_, hm, rfl⟩
    · exact Or.inr ⟨_, hm, rfl⟩
  · rintro (⟨⟨⟨a, s⟩, v⟩, hm, he⟩ | ⟨⟨⟨a, s⟩, v⟩, hm, he⟩) <;>
    · cases he; exact ⟨_, hm, rfl⟩

theorem loadAll_keys (db : Db) : db.loadAll.map (·.1) = dedup (db.map (·.1.1)) := by
  unfold Db.loadAll; simp [Function.comp_def]

theorem aget_map_self {γ : Type} (f : Path → γ) (p : Path) (l : List Path) :
    aget p (l.map fun q => (q, f q)) = if p ∈ l then some (f p) else none := by
  induction l with
  | nil => simp [aget]
  | cons a t ih =>
    by_cases h : a = p
    · subst h; simp [aget]
    · have h' : ¬ p = a := fun e => h e.symm
      simp [aget, h, h', ih]

theorem aget_loadAll (p : Path) (db : Db) :
    aget p db.loadAll =
      if p ∈ db.map (·.1.1) then some (aget (p, Side.source) db, aget (p, Side.dest) db) else none := by
  unfold Db.loadAll
  rw [aget_map_self (fun p => (aget (p, Side.source) db, aget (p, Side.dest) db))]
  simp only [mem_dedup]

/-- `prior.and_then(|(s, _)| s.as_ref())` is the source row, `prior.and_then(|(_, d)| d.as_ref())` the dest row:
    a path without a pair in `load_all` has neither -/
theorem prior_rows (p : Path) (db : Db) :
    (lookup p db.loadAll).bind (·.1) = aget (p, Side.source) db ∧
      (lookup p db.loadAll).bind (·.2) = aget (p, Side.dest) db := by
  rw [lookup_eq_aget, aget_loadAll]
  by_cases h : p ∈ db.map (·.1.1)
  · simp [h]
  · have hn := h
    rw [mem_db_paths, not_or, Decidable.not_not, Decidable.not_not] at hn
    simp [h, hn.1, hn.2]

theorem mem_allPaths (w : World) (p : Path) :
    p ∈ w.allPaths ↔ aget p w.left ≠ none ∨ aget p w.right ≠ none ∨
      aget (p, Side.source) w.db ≠ none ∨ aget (p, Side.dest) w.db ≠ none := by
  unfold World.allPaths allPathsOf
  rw [mem_dedup, List.mem_append, List.mem_append, scan_keys, scan_keys, loadAll_keys, mem_dedup,
    mem_db_paths]
  simp only [aget_ne_none_iff, or_assoc]

theorem nodup_allPaths (w : World) : w.allPaths.Nodup := nodup_dedup _

end SyModel.Bisync
