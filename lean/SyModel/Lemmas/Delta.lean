/-
  Helper lemmas for the delta model: `applyOps` over appended op lists, sound candidates (`CandidatesSound`, from
  `NoCollision`), and the tiling property of `checksums` (`BlockOK`).
-/
import SyModel.Delta.Core
namespace SyModel.Delta

theorem applyOps_cons_some {old : Bytes} {op : Op} {ops : List Op} {r : Bytes}
    (h : applyOps old (op :: ops) = some r) :
    ∃ b r', applyOps old ops = some r' ∧ r = b ++ r' ∧
      match op with
      | .copy off sz => readExact old off sz = some b
      | .data d => d = b := by
  cases op <;> rw [applyOps] at h <;> split at h
  · rename_i b r' hb hr'
    cases h
    exact ⟨b, r', hr', rfl, hb⟩
  · cases h
  · rename_i r' hr'
    cases h
    exact ⟨_, r', hr', rfl, rfl⟩
  · cases h

theorem applyOps_append (old : Bytes) (a b : List Op) :
    applyOps old (a ++ b) =
      match applyOps old a, applyOps old b with
      | some x, some y => some (x ++ y)
      | _, _ => none := by
  induction a with
  | nil => simp [applyOps]; cases applyOps old b <;> simp
  | cons op a ih =>
    cases op with
    | copy off sz =>
      simp only [List.cons_append, applyOps, ih]
      cases readExact old off sz <;> cases applyOps old a <;> cases applyOps old b <;> simp
    | data d =>
      simp only [List.cons_append, applyOps, ih]
      cases applyOps old a <;> cases applyOps old b <;> simp

theorem applyOps_snoc_copy (old : Bytes) (ops : List Op) (off sz : Nat) (pre w : Bytes)
    (h : applyOps old ops = some pre) (hr : readExact old off sz = some w) :
    applyOps old (ops ++ [.copy off sz]) = some (pre ++ w) := by
  simp [applyOps_append, h, applyOps, hr]

theorem applyOps_snoc_data (old : Bytes) (ops : List Op) (d pre : Bytes)
    (h : applyOps old ops = some pre) :
    applyOps old (ops ++ [.data d]) = some (pre ++ d) := by
  simp [applyOps_append, h, applyOps]

theorem applyOps_flush (old : Bytes) (litRev : Bytes) (opsRev : List Op) (pre : Bytes)
    (h : applyOps old opsRev.reverse = some pre) :
    applyOps old (flush litRev opsRev).reverse = some (pre ++ litRev.reverse) := by
  unfold flush
  cases litRev with
  | nil => simpa using h
  | cons x l =>
    simp only [List.isEmpty_cons, Bool.false_eq_true, ↓reduceIte, List.reverse_cons (a := Op.data _)]
    exact applyOps_snoc_data old _ _ _ h

theorem readExact_of_range {old : Bytes} {off sz : Nat} (h : off + sz ≤ old.length) :
    readExact old off sz = some ((old.drop off).take sz) := if_pos (Or.inr h)

theorem readExact_length {old : Bytes} {off sz : Nat} {b : Bytes} (h : readExact old off sz = some b) :
    b.length = sz := by
  unfold readExact at h
  split at h
  · rename_i hc
    simp only [Option.some.injEq] at h; subst h
    simp only [List.length_take, List.length_drop]; omega
  · simp at h

/-- Candidates are *sound for* `new`: a strong-hash hit against any contiguous piece of `new`
    means the referenced range of `old` holds exactly those bytes. -/
def CandidatesSound {H} [BEq H] (strong : Bytes → H) (old new : Bytes) (cs : List (Block H)) : Prop :=
  ∀ c ∈ cs, ∀ w : Bytes, w <:+: new → (c.strong == strong w) = true →
    readExact old c.offset c.size = some w


/-- What `checksums` guarantees about each entry (block tiling of `old`). -/
structure BlockOK {H} (strong : Bytes → H) (old : Bytes) (bs : Nat) (c : Block H) : Prop where
  pos    : 0 < c.size
  le     : c.size ≤ bs
  range  : c.offset + c.size ≤ old.length
  weak   : c.weak = hashBytes ((old.drop c.offset).take c.size)
  strong : c.strong = strong ((old.drop c.offset).take c.size)
  tiled  : c.offset % bs = 0
  last   : c.size = bs ∨ c.offset + c.size = old.length

theorem checksumsFrom_ok {H} (strong : Bytes → H) (old : Bytes) (bs : Nat) (off : Nat) (l : Bytes)
    (hl : l = old.drop off) (hoff : off % bs = 0) :
    ∀ c ∈ checksumsFrom strong bs off l, BlockOK strong old bs c := by
  fun_induction checksumsFrom strong bs off l with
  | case1 off l h => intro c hc; simp at hc
  | case2 off l h blk ih =>
    have hbs : bs ≠ 0 := fun e => h (Or.inl e)
    have hne : l ≠ [] := fun e => h (Or.inr e)
    have hlen : 0 < l.length := List.length_pos_iff.mpr hne
    have hlenl : l.length = old.length - off := by rw [hl]; simp
    intro c hc
    rcases List.mem_cons.mp hc with rfl | hc
    · have hblk : blk = (old.drop off).take (min bs l.length) := by
        simp only [blk, hl]; rw [List.take_eq_take_iff]; simp
      have hsz : blk.length = min bs l.length := by simp [blk]
      exact {
        pos := by simp only [hsz]; omega
        le := by simp only [hsz]; omega
        range := by simp only [hsz]; omega
        weak := by simp only [hsz]; rw [hblk]
        strong := by simp only [hsz]; rw [hblk]
        tiled := hoff
        last := by simp only [hsz]; omega }
    · apply ih _ _ c hc
      · rw [hl, List.drop_drop]
      · rw [Nat.add_mod, hoff]; simp

theorem checksums_ok {H} (strong : Bytes → H) (old : Bytes) (bs : Nat) :
    ∀ c ∈ checksums strong bs old, BlockOK strong old bs c :=
  checksumsFrom_ok strong old bs 0 old (by simp) (by simp)

/-- No strong-hash collision between a block of `old` and a contiguous piece of `new`
    (a statement about the two inputs, not global injectivity of the hash). -/
def NoCollision {H} [BEq H] (strong : Bytes → H) (old new : Bytes) (bs : Nat) : Prop :=
  ∀ c ∈ checksums strong bs old, ∀ w : Bytes, w <:+: new →
    (strong ((old.drop c.offset).take c.size) == strong w) = true →
      (old.drop c.offset).take c.size = w

theorem noCollision_of_injective {H} [BEq H] [LawfulBEq H] (strong : Bytes → H)
    (hinj : ∀ a b, strong a = strong b → a = b) (old new : Bytes) (bs : Nat) : NoCollision strong old new bs :=
  fun _ _ _ _ h => hinj _ _ (eq_of_beq h)

theorem candidatesSound_of_noCollision {H} [BEq H] (strong : Bytes → H) (old new : Bytes) (bs : Nat)
    (h : NoCollision strong old new bs) :
    CandidatesSound strong old new (checksums strong bs old) := by
  intro c hc w hw hst
  have ok := checksums_ok strong old bs c hc
  rw [ok.strong] at hst
  rw [readExact_of_range ok.range, h c hc w hw hst]

/-- A successful `applyOps` only ever read ranges inside `old`: split the list at the copy (`applyOps_append`); a
    `readExact` out of range would have failed the whole run -/
theorem copies_in_range_of_apply (old : Bytes) (ops : List Op) (r : Bytes)
    (h : applyOps old ops = some r) :
    ∀ off sz, Op.copy off sz ∈ ops → sz = 0 ∨ off + sz ≤ old.length := by
  intro off sz hm
  obtain ⟨a, b, rfl⟩ := List.append_of_mem hm
  rw [applyOps_append, applyOps] at h
  unfold readExact at h
  by_cases hc : sz = 0 ∨ off + sz ≤ old.length
  · exact hc
  · rw [if_neg hc] at h
    cases applyOps old a <;> simp at h

end SyModel.Delta
