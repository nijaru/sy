/-
  Helper lemmas for `SyModel.Transfer.BlockCompare`: the two block loops turn by one step function, `stepW wr` (write the
  block when `wr` says so, count it when it differs; `stepInPlace`, `stepCow` are its two instances: `inPlaceGo_unfold`,
  `cowGo_unfold`), and any loop that turns so is a fold over the single-position comparison list `cmpBlocks` (`go_eq_foldl`).
-/
import SyModel.Transfer.BlockCompare
namespace SyModel.Transfer
open SyModel SyModel.Compress

theorem chunkAt_pos (cap bs pos : Nat) (hbs : 0 < bs) : 0 < chunkAt cap bs pos := by
  unfold chunkAt
  split
  · rename_i h
    have : pos % cap < cap := Nat.mod_lt _ (by omega)
    omega
  · exact hbs

theorem chunkAt_le (cap bs pos : Nat) : chunkAt cap bs pos ≤ bs := by
  unfold chunkAt; split <;> omega

theorem chunkAt_of_dvd (cap bs i : Nat) (h : bs ∣ cap) : chunkAt cap bs (i * bs) = bs := by
  unfold chunkAt
  split
  · rename_i hlt
    obtain ⟨m, rfl⟩ := h
    have hbs : 0 < bs := by
      rcases Nat.eq_zero_or_pos bs with h0 | h0
      · subst h0; simp at hlt
      · exact h0
    have hm : 0 < m := by
      rcases Nat.eq_zero_or_pos m with h0 | h0
      · subst h0; simp at hlt
      · exact h0
    rw [Nat.mul_comm i bs, Nat.mul_mod_mul_left]
    have h1 : i % m < m := Nat.mod_lt _ hm
    have h2 : bs * m - bs * (i % m) = bs * (m - i % m) := by rw [Nat.mul_sub]
    rw [h2]
    have h3 : bs * 1 ≤ bs * (m - i % m) := Nat.mul_le_mul_left bs (by omega)
    omega
  · rfl

theorem chunkAt_of_ge (cap bs pos : Nat) (h : cap ≤ bs) : chunkAt cap bs pos = bs := by
  unfold chunkAt; rw [if_neg (by omega)]

theorem Blk.differs_iff (b : Blk) : b.differs = true ↔ b.s ≠ b.d := by
  unfold Blk.differs
  constructor
  · intro h heq
    rw [heq] at h
    simp at h
  · intro h
    simp only [Bool.not_eq_true', Bool.and_eq_false_iff]
    right
    simpa using h

theorem Blk.differs_false_iff (b : Blk) : b.differs = false ↔ b.s = b.d := by
  rw [← Bool.not_eq_true, Blk.differs_iff]; simp

theorem take_append_drop_length_take {α : Type} (l : List α) (n : Nat) : l.take n ++ l.drop (l.take n).length = l := by
  rw [List.length_take]
  by_cases h : n ≤ l.length
  · rw [Nat.min_eq_left h]; exact List.take_append_drop _ _
  · rw [Nat.min_eq_right (by omega), List.take_of_length_le (by omega), List.drop_length]; simp

/-- offsets are consecutive: each block starts where the previous one ended. -/
def Chain : Nat → List Blk → Prop
  | _, [] => True
  | off, b :: t => b.off = off ∧ Chain (off + b.s.length) t

theorem cmpBlocksGo_nil (k : Nat → Nat) (off : Nat) (drest : Bytes) : cmpBlocksGo k off [] drest = [] := by
  rw [cmpBlocksGo]; simp

theorem cmpBlocksGo_chain (k : Nat → Nat) (off : Nat) (srest drest : Bytes) :
    Chain off (cmpBlocksGo k off srest drest) := by
  fun_induction cmpBlocksGo k off srest drest with
  | case1 => trivial
  | case2 off srest drest sb hne ih => exact ⟨rfl, ih⟩

theorem cmpBlocksGo_join (k : Nat → Nat) (hk : ∀ p, 0 < k p) (off : Nat) (srest drest : Bytes) :
    (cmpBlocksGo k off srest drest).flatMap (·.s) = srest := by
  fun_induction cmpBlocksGo k off srest drest with
  | case1 off srest drest sb hnil =>
    have : srest.take (k off) = [] := hnil
    rcases List.take_eq_nil_iff.mp this with h | h
    · have := hk off; omega
    · simp [h]
  | case2 off srest drest sb hne ih =>
    simp only [List.flatMap_cons, ih]
    exact take_append_drop_length_take srest (k off)

theorem cmpBlocksGo_mem (k : Nat → Nat) (src dst : Bytes) (off : Nat) (b : Blk)
    (hb : b ∈ cmpBlocksGo k off (src.drop off) (dst.drop off)) :
    off ≤ b.off ∧ b.s = (src.drop b.off).take (k b.off) ∧ b.d = (dst.drop b.off).take (k b.off) ∧ b.s ≠ [] := by
  generalize hs : src.drop off = srest at hb
  generalize hd : dst.drop off = drest at hb
  fun_induction cmpBlocksGo k off srest drest with
  | case1 => simp at hb
  | case2 off srest drest sb hne ih =>
    rcases List.mem_cons.mp hb with rfl | hb
    · subst hs hd
      exact ⟨Nat.le_refl _, rfl, rfl, hne⟩
    · have := ih (by rw [← hs, List.drop_drop]) (by rw [← hd, List.drop_drop]) hb
      exact ⟨by omega, this.2⟩

/-- one turn of a block loop on the block `b`; `wr b`: is the block written (in place: always; COW: when it differs) -/
def stepW (wr : Blk → Bool) (st : Loop) (b : Blk) : Loop :=
  { temp := if wr b then writeAt st.temp b.off b.s else st.temp
    offset := b.off + b.s.length
    changed := if b.differs then st.changed + 1 else st.changed
    literal := if b.differs then st.literal + b.s.length else st.literal
    writes := if wr b then (b.off, b.s) :: st.writes else st.writes }

abbrev stepInPlace : Loop → Blk → Loop := stepW fun _ => true
abbrev stepCow : Loop → Blk → Loop := stepW Blk.differs

/-- the destination reader (own position `dpos`, unread part `drest`) sees what a reader at the
    source's offset would see (`drest'`): the source is exhausted, or the positions agree, or the
    destination is exhausted. -/
def Sync (off dpos : Nat) (srest drest drest' : Bytes) : Prop :=
  srest = [] ∨ (dpos = off ∧ drest = drest') ∨ (drest = [] ∧ drest' = [])

theorem Sync.step {k : Nat → Nat} {off dpos : Nat} {srest drest drest' : Bytes}
    (h : Sync off dpos srest drest drest') (hne : srest.take (k off) ≠ []) :
    drest.take (k dpos) = drest'.take (k off) ∧
    Sync (off + (srest.take (k off)).length) (dpos + (drest.take (k dpos)).length)
      (srest.drop (srest.take (k off)).length) (drest.drop (drest.take (k dpos)).length)
      (drest'.drop (srest.take (k off)).length) := by
  rcases h with h | ⟨h1, h2⟩ | ⟨h1, h2⟩
  · subst h; simp at hne
  · subst h1 h2
    refine ⟨rfl, ?_⟩
    simp only [List.length_take]
    by_cases hs : min (k dpos) srest.length = min (k dpos) drest.length
    · right; left; rw [hs]; exact ⟨rfl, rfl⟩
    · by_cases hlt : min (k dpos) srest.length < min (k dpos) drest.length
      · left; apply List.drop_of_length_le; omega
      · right; right
        exact ⟨List.drop_of_length_le (by omega), List.drop_of_length_le (by omega)⟩
  · subst h1 h2
    refine ⟨by simp, ?_⟩
    right; right; simp

theorem ite_bnot {α : Type} (m : Bool) (a b : α) : (if (!m) = true then a else b) = if m = true then b else a := by
  cases m <;> rfl

theorem stepW_offset (wr : Blk → Bool) (st : Loop) (b : Blk) : (stepW wr st b).offset = b.off + b.s.length := rfl

theorem inPlaceGo_unfold (k : Nat → Nat) (srest drest : Bytes) (dpos : Nat) (st : Loop) :
    inPlaceGo k srest drest dpos st =
      if srest.take (k st.offset) = [] then st else
        inPlaceGo k (srest.drop (srest.take (k st.offset)).length) (drest.drop (drest.take (k dpos)).length)
          (dpos + (drest.take (k dpos)).length)
          (stepInPlace st { off := st.offset, s := srest.take (k st.offset), d := drest.take (k dpos) }) := by
  rw [inPlaceGo]
  split
  · rfl
  · unfold stepInPlace stepW Blk.differs
    simp only [ite_bnot, ↓reduceIte]

theorem cowGo_unfold (k : Nat → Nat) (srest drest : Bytes) (dpos : Nat) (st : Loop) :
    cowGo k srest drest dpos st =
      if srest.take (k st.offset) = [] then st else
        cowGo k (srest.drop (srest.take (k st.offset)).length) (drest.drop (drest.take (k dpos)).length)
          (dpos + (drest.take (k dpos)).length)
          (stepCow st { off := st.offset, s := srest.take (k st.offset), d := drest.take (k dpos) }) := by
  rw [cowGo]
  split
  · rfl
  · unfold stepCow stepW Blk.differs
    simp only [ite_bnot]
    split <;> simp only [*]

/-- **A block loop is a fold over the comparison list**: any `go` that turns as the two loops do (`hun`), with a step that
    leaves the offset at the end of the block. -/
theorem go_eq_foldl (go : Bytes → Bytes → Nat → Loop → Loop) (step : Loop → Blk → Loop) (k : Nat → Nat)
    (hun : ∀ srest drest dpos st, go srest drest dpos st =
      if srest.take (k st.offset) = [] then st else
        go (srest.drop (srest.take (k st.offset)).length) (drest.drop (drest.take (k dpos)).length)
          (dpos + (drest.take (k dpos)).length)
          (step st { off := st.offset, s := srest.take (k st.offset), d := drest.take (k dpos) }))
    (hoff : ∀ st b, (step st b).offset = b.off + b.s.length)
    (srest drest : Bytes) (dpos : Nat) (st : Loop) (drest' : Bytes) (h : Sync st.offset dpos srest drest drest') :
    go srest drest dpos st = (cmpBlocksGo k st.offset srest drest').foldl step st := by
  generalize hn : srest.length = n
  induction n using Nat.strongRecOn generalizing srest drest dpos st drest' with
  | _ n ih =>
    rw [hun, cmpBlocksGo]
    by_cases hne : srest.take (k st.offset) = []
    · simp [hne]
    · obtain ⟨hdb, hsync⟩ := h.step hne
      simp only [hne, if_false, ↓reduceDIte, List.foldl_cons]
      rw [hdb]
      have hlt : (srest.drop (srest.take (k st.offset)).length).length < n := by
        have := List.length_pos_iff.mpr hne
        have : (srest.take (k st.offset)).length ≤ srest.length := by rw [List.length_take]; omega
        simp only [List.length_drop]; omega
      rw [hdb] at hsync
      have := ih _ hlt _ _ _ (step st { off := st.offset, s := srest.take (k st.offset), d := drest'.take (k st.offset) }) _
        (by rw [hoff]; exact hsync) rfl
      rw [this, hoff]

end SyModel.Transfer
