/-
  Lemmas/GenWatch — vocabulary and helper lemmas of `SyModel.Props.GenWatch`: the bridge between the TRANSLATED
  `WatchMode::watch` / `WatchMode::should_sync_event` (Generated/Code/Watch.lean, regenerated from
  src/sync/watch.rs on every run) and the handwritten model `SyModel.Watch` (Watch/Loop.lean, what C20 is about).

  The loop body of the generated `watch` is written out here (`body`, `recvPart`, `syncPart`; tied to the generated
  definition by `rfl` in `watch_eq` of Props/GenWatch) with one equation per outcome of `tokio_select` / `recv_timeout` /
  `engine_sync`, for ANY instance of the externs.  The world `WWorld` and the instance `inst` are the trusted base:
  every field and operation is documented.  `absAt` abstracts (loop locals, world) to the model's `State`, and the
  environment's moves commute with it (`absAt_wrun`).  Line numbers of watch.rs are those of the current tree of /repo.
  Everything is declared in the namespace of Props/GenWatch (`SyModel.Props.GenWatch.absAt`, `inst`, `WWorld`, …: the
  names the theorems there are stated with).
-/
import SyModel.Generated.Code.Watch
import SyModel.Lemmas.Watch
import SyModel.Lemmas.RsMonad
import SyModel.Lemmas.RsLoops
namespace SyModel.Props.GenWatch
open SyModel SyModel.Watch SyModel.Generated SyModel.Generated.Watch

/-! ## running `Rs.M W` -/
section Monad
variable {W α β σ : Type}

/-- run a translated computation from world `w`: its `Result` and the world it leaves (an `Err` keeps the world
    reached so far: the state is inside the exception layer) -/
def runM (x : Rs.M W α) (w : W) : Except Rs.Err α × W := x.run.run w

/-- a world operation given as a function (how the instance defines the externs) -/
def op (f : W → Except Rs.Err α × W) : Rs.M W α := ExceptT.mk (fun w => (f w : Id _))

@[simp] theorem runM_op (f : W → Except Rs.Err α × W) (w : W) : runM (op f) w = f w := rfl
@[simp] theorem runM_pure (a : α) (w : W) : runM (pure a : Rs.M W α) w = (.ok a, w) := rfl
@[simp] theorem runM_throw (e : Rs.Err) (w : W) : runM (throw e : Rs.M W α) w = (.error e, w) := rfl
@[simp] theorem runM_capture (x : Rs.M W α) (w : W) :
    runM (Rs.capture x) w = (.ok (runM x w).1, (runM x w).2) := rfl

theorem runM_bind (x : Rs.M W α) (f : α → Rs.M W β) (w : W) :
    runM (x >>= f) w = match runM x w with
      | (.ok a, w') => runM (f a) w'
      | (.error e, w') => (.error e, w') :=
  Rs.run_bind x f w

theorem runM_bind_ok {x : Rs.M W α} {f : α → Rs.M W β} {w w' : W} {a : α}
    (h : runM x w = (.ok a, w')) : runM (x >>= f) w = runM (f a) w' :=
  Rs.run_bind_ok h

theorem runM_bind_error {x : Rs.M W α} {f : α → Rs.M W β} {w w' : W} {e : Rs.Err}
    (h : runM x w = (.error e, w')) : runM (x >>= f) w = (.error e, w') :=
  Rs.run_bind_error h

/-- `n` iterations of a loop body that may `break` (`ForInStep.done`): the meaning of the translated endless
    `loop { … }` with fuel `n` -/
def loopN : Nat → (σ → Rs.M W (ForInStep σ)) → σ → Rs.M W σ
  | 0, _, s => pure s
  | n + 1, b, s => do
    match (← b s) with
    | .done s' => pure s'
    | .yield s' => loopN n b s'

theorem forIn_range_eq_loopN (b : σ → Rs.M W (ForInStep σ)) (n : Nat) (s : σ) :
    forIn [0:n] s (fun _ r => b r) = loopN n b s :=
  GenDeltaStream.forIn_range_of_loop b (loopN · b) (fun _ => rfl) (fun _ _ => rfl) _ (fun _ _ => rfl) n s

theorem runM_loopN_zero (b : σ → Rs.M W (ForInStep σ)) (s : σ) (w : W) :
    runM (loopN 0 b s) w = (.ok s, w) := rfl

theorem runM_loopN_done {b : σ → Rs.M W (ForInStep σ)} {s s' : σ} {w w' : W} (n : Nat)
    (h : runM (b s) w = (.ok (.done s'), w')) : runM (loopN (n + 1) b s) w = (.ok s', w') := by
  simp only [loopN]; rw [runM_bind_ok h]; rfl

theorem runM_loopN_yield {b : σ → Rs.M W (ForInStep σ)} {s s' : σ} {w w' : W} (n : Nat)
    (h : runM (b s) w = (.ok (.yield s'), w')) : runM (loopN (n + 1) b s) w = runM (loopN n b s') w' := by
  simp only [loopN]; rw [runM_bind_ok h]

theorem runM_loopN_error {b : σ → Rs.M W (ForInStep σ)} {s : σ} {w w' : W} {e : Rs.Err} (n : Nat)
    (h : runM (b s) w = (.error e, w')) : runM (loopN (n + 1) b s) w = (.error e, w') := by
  simp only [loopN]; rw [runM_bind_error h]

end Monad

/-! ## the loop body of the generated `watch`, for ANY instance -/
section Body
variable {W : Type}

/-- the loop state: `(pending_changes, last_sync)` -/
abbrev Locals := List Event × Nat

/-- watch.rs:159-179: the sync of the Timeout arm; whatever it returns, `pending_changes.clear()` and
    `last_sync = Instant::now()` -/
def syncPart (ext : Ext W) (self : WatchMode) (loc : Locals) : Rs.M W (ForInStep Locals) := do
  match (← Rs.capture (ext.engine_sync self.engine self.source self.destination)) with
  | .ok _ => pure ()
  | .error _ => pure ()
  let t ← ext.Instant_now ()
  pure (ForInStep.yield (Rs.clear loc.1, t))

/-- watch.rs:123-187: `match rx.recv_timeout(100 ms) { … }` -/
def recvPart (ext : Ext W) (self : WatchMode) (rx : Rs.Opaque) (loc : Locals) : Rs.M W (ForInStep Locals) := do
  match (← ext.recv_timeout rx (Rs.duration_from_millis 100)) with
  | .ok (.ok event) =>
    if WatchMode.should_sync_event self event then pure (ForInStep.yield (loc.1 ++ [event], loc.2))
    else pure (ForInStep.yield (loc.1, loc.2))
  | .ok (.error _) => pure (ForInStep.yield (loc.1, loc.2))
  | .error RecvTimeoutError.Timeout =>
    if (← (do if (!(Rs.is_empty loc.1)) then (do pure (decide ((← ext.instant_elapsed loc.2) >= self.debounce)))
              else pure false)) then
      syncPart ext self loc
    else pure (ForInStep.yield (loc.1, loc.2))
  | .error RecvTimeoutError.Disconnected => pure (ForInStep.done (loc.1, loc.2))

/-- watch.rs:108-188: one iteration of `loop { select!{…}; match rx.recv_timeout(..) {…} }` -/
def body (ext : Ext W) (self : WatchMode) (rx : Rs.Opaque) (loc : Locals) : Rs.M W (ForInStep Locals) := do
  match (← ext.tokio_select 2) with
  | 0 => pure (ForInStep.done (loc.1, loc.2))
  | _ => recvPart ext self rx loc

variable (ext : Ext W) (self : WatchMode) (rx : Rs.Opaque) (loc : Locals) {w w1 w2 w3 : W}

/-- the `ctrl_c` arm of the `select!` completes: `break`, nothing else is called -/
theorem body_sigint (h : runM (ext.tokio_select 2) w = (.ok 0, w1)) :
    runM (body ext self rx loc) w = (.ok (.done loc), w1) := by
  unfold body; rw [runM_bind_ok h]; rfl

/-- the `sleep` arm completes: go on to `recv_timeout` -/
theorem body_sleep {k : Nat} (h : runM (ext.tokio_select 2) w = (.ok (k + 1), w1)) :
    runM (body ext self rx loc) w = runM (recvPart ext self rx loc) w1 := by
  unfold body; rw [runM_bind_ok h]; rfl

/-- `Ok(Ok(event))`: pushed iff `should_sync_event` -/
theorem recvPart_event {ev : Event}
    (h : runM (ext.recv_timeout rx (Rs.duration_from_millis 100)) w = (.ok (.ok (.ok ev)), w1)) :
    runM (recvPart ext self rx loc) w =
      (.ok (.yield (if WatchMode.should_sync_event self ev then loc.1 ++ [ev] else loc.1, loc.2)), w1) := by
  unfold recvPart; rw [runM_bind_ok h]
  dsimp only
  split <;> rfl

/-- `Ok(Err(e))`: logged, the loop goes on, nothing changes -/
theorem recvPart_watch_error {e : Rs.Err}
    (h : runM (ext.recv_timeout rx (Rs.duration_from_millis 100)) w = (.ok (.ok (.error e)), w1)) :
    runM (recvPart ext self rx loc) w = (.ok (.yield loc), w1) := by
  unfold recvPart; rw [runM_bind_ok h]; rfl

/-- `Err(Disconnected)`: `break` -/
theorem recvPart_disconnected
    (h : runM (ext.recv_timeout rx (Rs.duration_from_millis 100)) w = (.ok (.error .Disconnected), w1)) :
    runM (recvPart ext self rx loc) w = (.ok (.done loc), w1) := by
  unfold recvPart; rw [runM_bind_ok h]; rfl

/-- `Err(Timeout)` with nothing pending: `last_sync.elapsed()` is NOT evaluated (short-circuit `&&`), no sync -/
theorem recvPart_timeout_empty (hp : loc.1 = [])
    (h : runM (ext.recv_timeout rx (Rs.duration_from_millis 100)) w = (.ok (.error .Timeout), w1)) :
    runM (recvPart ext self rx loc) w = (.ok (.yield loc), w1) := by
  unfold recvPart; rw [runM_bind_ok h]
  obtain ⟨p, t⟩ := loc
  simp only at hp
  subst hp
  rfl

/-- `Err(Timeout)` with something pending: `last_sync.elapsed()` is read and compared with the debounce; the sync
    part runs iff it has been reached -/
theorem recvPart_timeout_pending {d : Rs.Duration} (hp : loc.1 ≠ [])
    (h : runM (ext.recv_timeout rx (Rs.duration_from_millis 100)) w = (.ok (.error .Timeout), w1))
    (he : runM (ext.instant_elapsed loc.2) w1 = (.ok d, w2)) :
    runM (recvPart ext self rx loc) w =
      if self.debounce ≤ d then runM (syncPart ext self loc) w2 else (.ok (.yield loc), w2) := by
  unfold recvPart; rw [runM_bind_ok h]
  have hne : (!(Rs.is_empty loc.1)) = true := by
    cases hl : loc.1 with
    | nil => exact absurd hl hp
    | cons a t => rfl
  simp only [hne, if_true]
  rw [runM_bind, runM_bind_ok he]
  simp only [runM_pure]
  by_cases hd : self.debounce ≤ d
  · rw [if_pos hd, decide_eq_true hd]
    rfl
  · rw [if_neg hd, decide_eq_false hd]
    rfl

/-- the sync of the loop, whether it returns `Ok` or `Err`: the loop goes on with `pending_changes` EMPTY and
    `last_sync` = the clock read AFTER the sync returned -/
theorem syncPart_any {r : Except Rs.Err Rs.Opaque} {t : Nat}
    (hs : runM (ext.engine_sync self.engine self.source self.destination) w = (r, w1))
    (hn : runM (ext.Instant_now ()) w1 = (.ok t, w2)) :
    runM (syncPart ext self loc) w = (.ok (.yield ([], t)), w2) := by
  unfold syncPart
  rw [runM_bind, runM_capture, hs]
  dsimp only
  cases r <;> (dsimp only; rw [runM_bind]; simp only [runM_pure]; rw [hn]; rfl)

end Body

/-! ## abstraction of event kinds and of the environment's inputs -/

/-- `notify::EventKind` of the translation ↦ the model's `Kind` (the payloads are forgotten) -/
def absKind : EventKind → Kind
  | .Any => .any
  | .Access _ => .access
  | .Create _ => .create
  | .Modify _ => .modify
  | .Remove _ => .remove
  | .Other => .other

/-- an item of the mpsc channel (`Result<Event, notify::Error>`) ↦ the model's `Kind` (`error` for `Err`) -/
def absItem : Except Rs.Err Event → Kind
  | .ok ev => absKind ev.kind
  | .error _ => .error

/-- an item of every kind (a watcher error for `error`): `absItem` is onto, `absItem_repItem` -/
def repItem : Kind → Except Rs.Err Event
  | .any => .ok ⟨.Any⟩
  | .access => .ok ⟨.Access ⟨⟩⟩
  | .create => .ok ⟨.Create ⟨⟩⟩
  | .modify => .ok ⟨.Modify ⟨⟩⟩
  | .remove => .ok ⟨.Remove ⟨⟩⟩
  | .other => .ok ⟨.Other⟩
  | .error => .error .io

theorem absItem_repItem (k : Kind) : absItem (repItem k) = k := by cases k <;> rfl

/-- what the environment does between (and during) the operations of the loop thread: a source change and/or the
    delivery of an item by the `notify` thread, the passage of time, a SIGINT -/
inductive EnvIn
  | event (it : Except Rs.Err Event) (edit : Option Ver)
  | tick (δ : Nat)
  | sigint
  deriving Repr

def absIn : EnvIn → Input
  | .event it e => .event (absItem it) e
  | .tick δ => .tick δ
  | .sigint => .sigint

/-! ## the world and the instance (TRUSTED: this is where the meaning of the operations lives) -/

/-- one entry of the sync log -/
structure SyncRec where
  /-- the clock when `engine.sync` was called -/
  start : Nat
  /-- was the watcher armed at that moment -/
  armed : Bool
  /-- number of items waiting in the channel at that moment -/
  queued : Nat
  /-- did it return `Ok` -/
  ok : Bool
  deriving DecidableEq, Repr

/-- The world the translated `watch` runs in: the pieces of the model's `State` that are NOT local variables of
    `watch` (those — `pending_changes`, `last_sync` — live in the translated code), a log, and two scripts that say
    what the environment does. -/
structure WWorld where
  /-- contents of the mpsc channel, oldest first (`Ok(event)` / `Err(e)` items sent by the notify thread) -/
  queue : List (Except Rs.Err Event)
  /-- `watcher.watch(..)` has been called: the notify thread delivers into the channel -/
  armed : Bool
  /-- the (monotonic) clock, in the unit of `Rs.Duration` (nanoseconds) -/
  now : Nat
  /-- current version of the source -/
  src : Ver
  /-- current version of the destination -/
  dst : Ver
  /-- the source version the most recently started sync works from -/
  snap : Ver
  /-- `signal::ctrl_c()` has been created (tokio's SIGINT handler is installed with its first poll) -/
  handler : Bool
  /-- a SIGINT was caught and not yet observed by the `select!` -/
  sig : Bool
  /-- every sender of the channel is gone.  Never set by an operation: the `watcher` local owns the sender until
      `watch` returns, so `Disconnected` is unreachable in the real program; kept so that the fourth outcome of
      `recv_timeout` can be exercised -/
  disc : Bool
  /-- number of syncs started so far (ghost, the model's `syncs`) -/
  syncs : Nat
  /-- the most recently started sync has not failed (ghost, the model's `ok`) -/
  ok : Bool
  /-- the sync log, oldest first -/
  log : List SyncRec
  /-- script: what the environment does before / while each `select!` sleeps (one chunk per call of `tokio_select`;
      an exhausted script means "nothing") -/
  pre : List (List EnvIn)
  /-- script: what the environment does while each `engine.sync` runs, and whether that sync succeeds (one entry per
      call of `engine_sync`; an exhausted script means "nothing happens, `Ok`") -/
  during : List (List EnvIn × Bool)
  deriving Repr

/-- one move of the environment.  `sigint` sets the flag the `select!` looks at: meaningful once tokio's handler is
    installed (`handler = true`; before that the default disposition kills the process, which no run of a function
    can express — the theorems ask for `handler = true` or for scripts without `sigint`). -/
def wapply (w : WWorld) : EnvIn → WWorld
  | .event it e =>
    let w1 : WWorld := match e with
      | some v => { w with src := v }
      | none => w
    if w1.armed then { w1 with queue := w1.queue ++ [it] } else w1
  | .tick δ => { w with now := w.now + δ }
  | .sigint => { w with sig := true }

def wrun (w : WWorld) (es : List EnvIn) : WWorld := es.foldl wapply w

/-- `tokio::select!{ ctrl_c, sleep(10 ms) }`: the environment's next chunk happens; then arm 0 completes iff a SIGINT
    is pending, else arm 1 after the clock advanced by `selectSleep` (anything slower is a `tick` of the next chunk) -/
def selW (c : Cfg) (w : WWorld) : Except Rs.Err Nat × WWorld :=
  let w1 := wrun { w with pre := w.pre.tail } (w.pre.headD [])
  if w1.sig then (.ok 0, w1) else (.ok 1, { w1 with now := w1.now + c.selectSleep })

/-- `rx.recv_timeout(d)`: pops the oldest item if there is one (without waiting); otherwise `Disconnected` if every
    sender is gone, else `Timeout` after the clock advanced by `d` -/
def recvW (d : Rs.Duration) (w : WWorld) : Except Rs.Err (Except RecvTimeoutError (Except Rs.Err Event)) × WWorld :=
  match w.queue with
  | it :: q => (.ok (.ok it), { w with queue := q })
  | [] => if w.disc then (.ok (.error .Disconnected), w) else (.ok (.error .Timeout), { w with now := w.now + d })

/-- the world when an `engine.sync` has just started: snapshot taken, counted, logged, its script entry consumed -/
def syncStarted (w : WWorld) : WWorld :=
  { w with snap := w.src, syncs := w.syncs + 1, ok := true, during := w.during.tail,
           log := w.log ++ [⟨w.now, w.armed, w.queue.length, (w.during.headD ([], true)).2⟩] }

/-- `engine.sync(src, dst)`: takes its snapshot of the source when it starts and is logged; the next entry of the
    `during` script happens while it runs (events are QUEUED if the watcher is armed, the clock may advance, the
    source may change under it); it then either succeeds — the destination becomes `syncTo c snap dst`, the model's
    abstract sync (C01's function seen through the comparison rule) — or fails with `Err` leaving the destination -/
def syncW (c : Cfg) (w : WWorld) : Except Rs.Err Rs.Opaque × WWorld :=
  let d := w.during.headD ([], true)
  let w1 := wrun (syncStarted w) d.1
  if d.2 then (.ok ⟨⟩, { w1 with dst := syncTo c w1.snap w1.dst }) else (.error .io, { w1 with ok := false })

/-- THE INSTANCE.
    * `channel`, `notify_recommended_watcher`: return handles; the channel itself is the world's `queue` (there is
      one channel).  `recommended_watcher` never fails here (inotify initialisation errors are outside C20).
    * `watcher_watch`: arms the watcher (from now on `event` inputs are queued); never fails here.
    * `engine_sync`: `syncW`.
    * `signal_ctrl_c`: sets `handler` when the future is created; tokio installs the handler at the future's
      first poll, in the first `select!` — nothing is called in between (watch.rs:105-110), and the model sets it
      at that same point (`loopStart`).
    * `Instant_now`: reads the clock.  * `instant_elapsed t`: `now - t`.
    * `tokio_select`: `selW` (the argument, the number of arms, is not looked at).
    * `recv_timeout rx d`: `recvW d` — the duration is the one the CODE passes. -/
def inst (c : Cfg) (fuel : Nat) : Ext WWorld where
  fuel := fuel
  channel := fun _ => pure (⟨⟩, ⟨⟩)
  notify_recommended_watcher := fun _ => pure ⟨⟩
  signal_ctrl_c := fun _ => op fun w => (.ok ⟨⟩, { w with handler := true })
  Instant_now := fun _ => op fun w => (.ok w.now, w)
  tokio_select := fun _ => op (selW c)
  watcher_watch := fun _ _ _ => op fun w => (.ok (), { w with armed := true })
  engine_sync := fun _ _ _ => op (syncW c)
  recv_timeout := fun _ d => op (recvW d)
  instant_elapsed := fun t => op fun w => (.ok (w.now - t), w)

/-! ## abstraction of (locals, world) to the model's state -/

/-- the model state seen from program point `ph` with loop locals `loc` in world `w` -/
def absAt (ph : Phase) (loc : Locals) (w : WWorld) : State :=
  { phase := ph, pending := loc.1.map (fun e => absKind e.kind), lastSync := loc.2,
    queue := w.queue.map absItem, now := w.now, src := w.src, dst := w.dst, snap := w.snap,
    armed := w.armed, handler := w.handler, sig := w.sig, exit := none, syncs := w.syncs, ok := w.ok }

/-- the state after the `ctrl_c` arm: `break`, `watch` returns `Ok(())`, the watcher is dropped -/
def exited (s : State) : State := { s with phase := .done, armed := false, exit := some .sigint }

/-- the abstraction of what one iteration returns -/
def absR (r : ForInStep Locals) (w : WWorld) : State :=
  match r with
  | .yield l => absAt .loop l w
  | .done l => exited (absAt .loop l w)

theorem wapply_event (w : WWorld) (it : Except Rs.Err Event) (e : Option Ver) :
    wapply w (.event it e) =
      { w with src := e.getD w.src, queue := if w.armed then w.queue ++ [it] else w.queue } := by
  cases e <;> simp only [wapply, Option.getD] <;> split <;> rfl

theorem absAt_wapply (c : Cfg) (ph : Phase) (loc : Locals) (w : WWorld) (e : EnvIn) (hph : ph ≠ .done)
    (hh : e = .sigint → w.handler = true) :
    absAt ph loc (wapply w e) = apply c (absAt ph loc w) (absIn e) := by
  cases e with
  | event it ed =>
    rw [wapply_event, absIn, apply_event]
    unfold absAt
    cases w.armed <;> simp
  | tick δ => rfl
  | sigint =>
    exact signal_cases (absAt ph loc w) (P := fun s' => absAt ph loc (wapply w .sigint) = s')
      (fun h => absurd h hph) (fun _ _ => rfl) (fun _ h => absurd ((hh rfl).symm.trans h) (by decide))

theorem wapply_fields (w : WWorld) (e : EnvIn) : (wapply w e).handler = w.handler ∧ (wapply w e).disc = w.disc ∧
    (wapply w e).pre = w.pre ∧ (wapply w e).during = w.during ∧ (wapply w e).log = w.log ∧
    (wapply w e).armed = w.armed := by
  cases e with
  | event it ed => rw [wapply_event]; exact ⟨rfl, rfl, rfl, rfl, rfl, rfl⟩
  | tick δ => exact ⟨rfl, rfl, rfl, rfl, rfl, rfl⟩
  | sigint => exact ⟨rfl, rfl, rfl, rfl, rfl, rfl⟩

theorem wrun_fields (es : List EnvIn) : ∀ w : WWorld, (wrun w es).handler = w.handler ∧ (wrun w es).disc = w.disc ∧
    (wrun w es).pre = w.pre ∧ (wrun w es).during = w.during ∧ (wrun w es).log = w.log ∧
    (wrun w es).armed = w.armed := by
  induction es with
  | nil => intro w; exact ⟨rfl, rfl, rfl, rfl, rfl, rfl⟩
  | cons e t ih =>
    intro w
    obtain ⟨a1, a2, a3, a4, a5, a6⟩ := wapply_fields w e
    obtain ⟨b1, b2, b3, b4, b5, b6⟩ := ih (wapply w e)
    exact ⟨b1.trans a1, b2.trans a2, b3.trans a3, b4.trans a4, b5.trans a5, b6.trans a6⟩

theorem absAt_wrun (c : Cfg) (ph : Phase) (loc : Locals) (hph : ph ≠ .done) (es : List EnvIn) :
    ∀ w : WWorld, (w.handler = true ∨ ∀ e ∈ es, e ≠ .sigint) →
      absAt ph loc (wrun w es) = run c (absAt ph loc w) (es.map absIn) := by
  induction es with
  | nil => intro w _; rfl
  | cons e t ih =>
    intro w hh
    show absAt ph loc (wrun (wapply w e) t) = run c (apply c (absAt ph loc w) (absIn e)) (t.map absIn)
    rw [ih (wapply w e) (hh.imp (wapply_fields w e).1.trans fun h x hx => h x (List.mem_cons_of_mem _ hx))]
    rw [absAt_wapply c ph loc w e hph fun he => hh.elim id fun h => absurd he (h e List.mem_cons_self)]

/-! ## the model-side schedule -/

/-- the model inputs of ONE iteration of the translated loop from model state `s`, when the environment's next
    `pre` chunk is `p` and its next `during` entry is `d`: the chunk, one move of the loop thread, and — if that move
    started a sync — the `during` chunk and the thread's move that completes the sync (`step`) or fails it (`fail`) -/
def iterIn (c : Cfg) (s : State) (p : List Input) (d : List Input × Bool) : List Input :=
  if (run c s (p ++ [.step])).phase = .sync then p ++ [.step] ++ d.1 ++ [if d.2 then .step else .fail]
  else p ++ [.step]

theorem iterIn_of_not_sync (c : Cfg) (s : State) (p : List Input) (d : List Input × Bool)
    (h : (run c s (p ++ [.step])).phase ≠ .sync) : iterIn c s p d = p ++ [.step] := by
  unfold iterIn; rw [if_neg h]
theorem iterIn_of_sync (c : Cfg) (s : State) (p : List Input) (d : List Input × Bool)
    (h : (run c s (p ++ [.step])).phase = .sync) :
    iterIn c s p d = p ++ [.step] ++ d.1 ++ [if d.2 then .step else .fail] := by
  unfold iterIn; rw [if_pos h]

/-- the model inputs of `n` iterations (fewer if the loop `break`s) -/
def sched (c : Cfg) : Nat → State → List (List Input) → List (List Input × Bool) → List Input
  | 0, _, _, _ => []
  | n + 1, s, pre, dur =>
    let p := pre.headD []
    let d := dur.headD ([], true)
    let s1 := run c s (p ++ [.step])
    if s1.phase = .done then p ++ [.step]
    else if s1.phase = .sync then
      iterIn c s p d ++ sched c n (run c s (iterIn c s p d)) pre.tail dur.tail
    else iterIn c s p d ++ sched c n (run c s (iterIn c s p d)) pre.tail dur

/-- An iteration whose result abstracts to the model's state after the chunk and ONE move of the loop thread did
    not start a sync (`absR` carries the program point: `done` after a `break`, `loop` otherwise); so that move is
    the whole of `iterIn`, and it broke exactly when the model exited. -/
theorem absR_plain {c : Cfg} {s : State} {p : List Input} (d : List Input × Bool)
    {r : ForInStep Locals} {w' : WWorld} (h : absR r w' = run c s (p ++ [.step])) :
    (run c s (p ++ [.step])).phase ≠ .sync ∧ absR r w' = run c s (iterIn c s p d) ∧
      ((∃ l, r = .done l) ↔ (run c s (p ++ [.step])).phase = .done) := by
  have hns : (run c s (p ++ [.step])).phase ≠ .sync := by
    rw [← h]
    cases r <;> exact nofun
  refine ⟨hns, ?_, ?_⟩
  · rw [iterIn_of_not_sync c s p d hns]
    exact h
  · rw [← h]
    cases r with
    | done l => exact ⟨fun _ => rfl, fun _ => ⟨l, rfl⟩⟩
    | yield l => exact ⟨fun ⟨_, hl⟩ => (nomatch hl), fun h => (nomatch h)⟩

/-- the scripts of a world as model inputs -/
def absPre (w : WWorld) : List (List Input) := w.pre.map (·.map absIn)
def absDur (w : WWorld) : List (List Input × Bool) := w.during.map (fun d => (d.1.map absIn, d.2))

/-! ## one move of the model's loop thread on abstracted states -/

theorem should_sync_event_kept (self : WatchMode) (ev : Event) :
    WatchMode.should_sync_event self ev = (absKind ev.kind).kept := by
  obtain ⟨k⟩ := ev
  cases k <;> rfl

/-- what ties a model configuration to the translated code: the debounce is the field the code compares with, the
    receive timeout is the literal the code passes to `recv_timeout` -/
structure Tied (c : Cfg) (wm : WatchMode) : Prop where
  hdeb : c.debounce = wm.debounce
  hrecv : c.recvTimeout = Rs.duration_from_millis 100

/-- the model configuration of a `WatchMode` value (select sleep, tolerance and unit taken from `base`) -/
def cfgOf (base : Cfg) (self : WatchMode) : Cfg :=
  { base with debounce := self.debounce, recvTimeout := Rs.duration_from_millis 100, armFirst := true }

theorem tied_cfgOf (base : Cfg) (self : WatchMode) : Tied (cfgOf base self) self := ⟨rfl, rfl⟩

section Steps
variable (c : Cfg) (self : WatchMode) (loc : Locals) (w : WWorld)

theorem step_abs_event {ev : Event} {q} (hs : w.sig = false) (hq : w.queue = .ok ev :: q) :
    (step c (absAt .loop loc w)).1 =
      absAt .loop (if WatchMode.should_sync_event self ev then loc.1 ++ [ev] else loc.1, loc.2)
        { w with now := w.now + c.selectSleep, queue := q } := by
  have hq' : (absAt .loop loc w).queue = absKind ev.kind :: q.map absItem := by
    show w.queue.map absItem = _
    rw [hq]
    rfl
  rw [step_recv c _ rfl hs hq', should_sync_event_kept]
  cases hk : (absKind ev.kind).kept <;> simp [absAt, hk]

theorem step_abs_watch_error {e : Rs.Err} {q} (hs : w.sig = false) (hq : w.queue = .error e :: q) :
    (step c (absAt .loop loc w)).1 = absAt .loop loc { w with now := w.now + c.selectSleep, queue := q } := by
  have hq' : (absAt .loop loc w).queue = .error :: q.map absItem := by
    show w.queue.map absItem = _
    rw [hq]
    rfl
  rw [step_recv c _ rfl hs hq']
  exact congrArg (fun p => ({ absAt .loop loc w with pending := p, now := w.now + c.selectSleep, queue := q.map absItem } : State))
    (List.append_nil _)

theorem step_abs_idle (hs : w.sig = false) (hq : w.queue = [])
    (h : loc.1 = [] ∨ w.now + c.selectSleep + c.recvTimeout - loc.2 < c.debounce) :
    (step c (absAt .loop loc w)).1 =
      absAt .loop loc { w with now := w.now + c.selectSleep + c.recvTimeout } :=
  step_timeout_idle c _ rfl hs (congrArg (List.map absItem) hq)
    (h.imp (congrArg (List.map fun e : Event => absKind e.kind)) Nat.not_le.mpr)

theorem step_abs_sync (hs : w.sig = false) (hq : w.queue = []) (hp : loc.1 ≠ [])
    (h : c.debounce ≤ w.now + c.selectSleep + c.recvTimeout - loc.2) :
    (step c (absAt .loop loc w)).1 =
      absAt .sync loc { w with now := w.now + c.selectSleep + c.recvTimeout, snap := w.src,
                               syncs := w.syncs + 1, ok := true } :=
  step_timeout_sync c _ rfl hs (congrArg (List.map absItem) hq) (fun h => hp (List.map_eq_nil_iff.mp h)) h

end Steps

end SyModel.Props.GenWatch
