/-
  The per-entry post-condition of a run in terms of the *source entry* (`EntryPost`), derived
  from the per-task post-condition (`TaskPost`); before that the planner's side: what the action planned for an entry
  says about the prior destination (`planEntry_*`; the comparison rule itself is spelled out in EngineCompare); at the end
  the two entry points of the property files: `entryPost_of_exit_zero` and `entryPost_of_event` (an action event at a
  selected path is its own task's, `event_entry`; it is in the report iff that task completed, `event_iff_taskOk`).
-/
import SyModel.Lemmas.EngineRun
import SyModel.Lemmas.EngineCompare
namespace SyModel.Engine

theorem upToDate_of_matches {cfg : Cfg} {d m : FileMeta} (h : Matches cfg d m) (hc : cfg.compare ≠ .ignoreTimes) :
    UpToDate cfg.compare m d := by
  obtain ⟨a, b, c, _⟩ := h
  unfold UpToDate
  cases hcmp : cfg.compare with
  | default => simp only; rw [b, c, absDiff_self]; exact ⟨rfl, by omega⟩
  | checksum => exact a.symm
  | ignoreTimes => exact absurd hcmp hc
  | sizeOnly => exact b.symm

/-- the node at `e.rel` is what it was, except that an absent one may have become a directory
    because a selected entry lives below it -/
def Unchanged (cfg : Cfg) (scan : List SEntry) (dst : Map DNode) (e : SEntry) (res : Option DNode) : Prop :=
  res = dst.get? e.rel ∨
    (dst.get? e.rel = none ∧ res = some .dir ∧ e.rel ≠ [] ∧
      ∃ s ∈ scanFilter cfg scan, isPrefix e.rel s.rel = true ∧ s.rel ≠ e.rel)

theorem Unchanged.eq {cfg : Cfg} {scan : List SEntry} {dst : Map DNode} {e : SEntry} {res : Option DNode}
    (h : Unchanged cfg scan dst e res) (hu : UniqueRels scan) (hc : ParentClosed scan) (he : e ∈ scan)
    (hk : e.kind ≠ .dir) : res = dst.get? e.rel := by
  rcases h with h | ⟨_, _, hne, s, hs, hp, hsr⟩
  · exact h
  · exact absurd (anc_is_dir hu hc he (mem_of_mem_scanFilter hs) hne hp (Ne.symm hsr)) hk

theorem Unchanged.of_present {cfg : Cfg} {scan : List SEntry} {dst : Map DNode} {e : SEntry} {res : Option DNode}
    (h : Unchanged cfg scan dst e res) (hp : dst.get? e.rel ≠ none) : res = dst.get? e.rel := by
  rcases h with h | ⟨a, _⟩
  · exact h
  · exact absurd a hp

/-- a regular file (or followed link) with source data `m` -/
def FilePost (cfg : Cfg) (dst : Map DNode) (e : SEntry) (m : FileMeta) (res : Option DNode) : Prop :=
  ∃ d, res = some (.file d) ∧
    (planFileAct cfg m (dst.get? e.rel) = .skip → res = dst.get? e.rel) ∧
    (planFileAct cfg m (dst.get? e.rel) ≠ .skip → Matches cfg d m) ∧
    (cfg.hardlinks = false → ∀ o, dst.get? e.rel = some (.file o) → d.ino = o.ino)

structure EntryPost (cfg : Cfg) (scan : List SEntry) (dst : Map DNode) (e : SEntry) (res : Option DNode) : Prop where
  dir : e.kind = .dir → e.rel ≠ [] → res = some .dir
  dir_old : e.kind = .dir → dst.get? e.rel = some .dir → res = some .dir
  /-- a selected directory completes only over nothing, a directory, or a symlink (which is replaced, sy commit 862af11) -/
  dir_pre : e.kind = .dir → e.rel ≠ [] →
    dst.get? e.rel = none ∨ dst.get? e.rel = some .dir ∨ ∃ s, dst.get? e.rel = some (.symlink s)
  file : ∀ m n, e.kind = .file m n → FilePost cfg dst e m res
  link_preserve : ∀ text tgt, e.kind = .symlink text tgt → cfg.links = .preserve → res = some (.symlink text)
  link_follow : ∀ text m, e.kind = .symlink text (.file m) → cfg.links = .follow → FilePost cfg dst e m res
  link_follow_other : ∀ text tgt, e.kind = .symlink text tgt → cfg.links = .follow → (∀ m, tgt ≠ .file m) →
    Unchanged cfg scan dst e res
  link_skip : ∀ text tgt, e.kind = .symlink text tgt → cfg.links = .skip → Unchanged cfg scan dst e res

theorem planEntry_create_none {cfg : Cfg} {dst : Map DNode} {e : SEntry} (hk : e.kind ≠ .dir)
    (h : (planEntry cfg dst e).act = .create) : dst.get? e.rel = none := by
  unfold planEntry at h
  split at h
  · rename_i hd; exact absurd hd hk
  · exact (planFileAct_create_iff _ _ _).1 h
  · split at h
    · cases h
    · split at h
      · rename_i hg; exact hg
      · simp only at h; split at h <;> cases h
      · cases h
    · split at h
      · exact (planFileAct_create_iff _ _ _).1 h
      · cases h

/-- a directory is planned as `skip` where the destination has a directory, as `update` where it has a symlink
    (replaced by a directory, sy commit 862af11), else as `create` -/
theorem planEntry_dir_act {cfg : Cfg} {dst : Map DNode} {e : SEntry} (hk : e.kind = .dir) :
    (dst.get? e.rel = some .dir ∧ (planEntry cfg dst e).act = .skip) ∨
    ((∃ s, dst.get? e.rel = some (.symlink s)) ∧ (planEntry cfg dst e).act = .update) ∨
    (dst.get? e.rel ≠ some .dir ∧ (∀ s, dst.get? e.rel ≠ some (.symlink s)) ∧
      (planEntry cfg dst e).act = .create) := by
  rw [planEntry_dir hk]
  rcases dst.get? e.rel with _ | _ | _ | s
  · exact .inr (.inr ⟨by simp, by simp, rfl⟩)
  · exact .inr (.inr ⟨by simp, by simp, rfl⟩)
  · exact .inl ⟨rfl, rfl⟩
  · exact .inr (.inl ⟨⟨s, rfl⟩, rfl⟩)

theorem planEntry_create_not_link (cfg : Cfg) (dst : Map DNode) (e : SEntry)
    (h : (planEntry cfg dst e).act = .create) (s : String) : dst.get? e.rel ≠ some (.symlink s) := by
  by_cases hk : e.kind = .dir
  · rcases planEntry_dir_act (cfg := cfg) (dst := dst) hk with ⟨_, h'⟩ | ⟨_, h'⟩ | ⟨_, hns, _⟩
    · rw [h] at h'; cases h'
    · rw [h] at h'; cases h'
    · exact hns s
  · rw [planEntry_create_none hk h]
    exact fun h => nomatch h

theorem planEntry_update_some {cfg : Cfg} {dst : Map DNode} {e : SEntry}
    (h : (planEntry cfg dst e).act = .update) : dst.get? e.rel ≠ none := by
  -- with nothing at the path every branch of the planner answers `create` or `skip`
  intro hg
  unfold planEntry at h
  cases hk : e.kind with
  | dir => simp [hk, hg] at h
  | file m n => simp only [hk] at h; exact planFileAct_update_some h hg
  | symlink text tgt => cases hl : cfg.links <;> cases tgt <;> simp [hk, hl, hg, planFileAct] at h

theorem planEntry_payload_dir {cfg : Cfg} {dst : Map DNode} {e : SEntry} (h : e.kind = .dir) :
    (planEntry cfg dst e).payload = .dir := by rw [planEntry_dir h]

theorem planEntry_kind_of_payload_dir {cfg : Cfg} {dst : Map DNode} {e : SEntry}
    (h : (planEntry cfg dst e).payload = .dir) : e.kind = .dir := by
  unfold planEntry at h
  split at h
  · assumption
  · cases h
  · split at h
    · cases h
    · split at h <;> cases h
    · split at h <;> cases h

theorem planEntry_payload_of_cu {cfg : Cfg} {dst : Map DNode} {e : SEntry}
    (h : (planEntry cfg dst e).act ≠ .skip) : (planEntry cfg dst e).payload ≠ .nothing := by
  cases hk : e.kind with
  | dir => unfold planEntry; simp [hk]
  | file m n => rw [planEntry_file hk]; simp
  | symlink text tgt =>
    cases hl : cfg.links with
    | skip => exfalso; apply h; unfold planEntry; simp [hk, hl]
    | preserve => unfold planEntry; simp only [hk, hl]; split <;> simp
    | follow =>
      cases tgt with
      | file m => unfold planEntry; simp [hk, hl]
      | dir => exfalso; apply h; unfold planEntry; simp [hk, hl]
      | dangling => exfalso; apply h; unfold planEntry; simp [hk, hl]

theorem unchanged_of_taskPost {cfg : Cfg} {scan : List SEntry} {dst : Map DNode} {e : SEntry} {res : Option DNode}
    (tp : TaskPost cfg dst (plan cfg scan dst) (planEntry cfg dst e) res)
    (h : (planEntry cfg dst e).act = .skip ∨ (planEntry cfg dst e).payload = .nothing) :
    Unchanged cfg scan dst e res := by
  have := tp.skip h
  rw [planEntry_rel] at this
  rcases this with h1 | ⟨a, b, c, t', ht', hp, hr, hd, _⟩
  · exact Or.inl h1
  · obtain ⟨s, hs, rfl⟩ := entry_of_task ht' hd
    rw [planEntry_rel] at hp hr
    exact Or.inr ⟨a, b, c, s, hs, hp, hr⟩

theorem filePost_of_taskPost {cfg : Cfg} {scan : List SEntry} {dst : Map DNode} {e : SEntry} {res : Option DNode}
    {m : FileMeta} {n : Nat}
    (tp : TaskPost cfg dst (plan cfg scan dst) (planEntry cfg dst e) res)
    (hpe : planEntry cfg dst e = ⟨planFileAct cfg m (dst.get? e.rel), e.rel, .file m n⟩) :
    FilePost cfg dst e m res := by
  by_cases hs : planFileAct cfg m (dst.get? e.rel) = .skip
  · obtain ⟨d, hd, _⟩ := (planFileAct_skip_iff _ _ _).1 hs
    have hun := unchanged_of_taskPost tp (Or.inl (by rw [hpe]; exact hs))
    have := hun.of_present (by rw [hd]; simp)
    exact ⟨d, this.trans hd, fun _ => this, fun h => absurd hs h,
      fun _ o ho => by rw [hd] at ho; simp only [Option.some.injEq, DNode.file.injEq] at ho; rw [ho]⟩
  · have hact : (planEntry cfg dst e).act ≠ .skip := by rw [hpe]; exact hs
    obtain ⟨d, hd, hm, hi⟩ := tp.file hact m n (by rw [hpe])
    rw [planEntry_rel] at hi
    exact ⟨d, hd, fun h => absurd h hs, fun _ => hm, hi⟩

theorem entryPost_of_taskPost {cfg : Cfg} {scan : List SEntry} {dst : Map DNode} {e : SEntry} {res : Option DNode}
    (tp : TaskPost cfg dst (plan cfg scan dst) (planEntry cfg dst e) res) :
    EntryPost cfg scan dst e res := by
  have dirSkip : e.kind = .dir → dst.get? e.rel = some .dir → res = some .dir := by
    intro hk hd
    have hpe : planEntry cfg dst e = ⟨.skip, e.rel, .dir⟩ := by rw [planEntry_dir hk, hd]
    rw [(unchanged_of_taskPost tp (Or.inl (by rw [hpe]))).of_present (by rw [hd]; simp), hd]
  have dirCreate : e.kind = .dir → dst.get? e.rel ≠ some .dir →
      (planEntry cfg dst e).act ≠ .skip ∧ (planEntry cfg dst e).payload = .dir := by
    intro hk hd
    rw [planEntry_dir hk]
    refine ⟨?_, rfl⟩
    simp only
    split
    · rename_i h; exact absurd h hd
    · simp
    · simp
  refine ⟨fun hk hne => ?_, dirSkip, fun hk hne => ?_, fun m n hk => ?_, fun text tgt hk hl => ?_,
    fun text m hk hl => ?_, fun text tgt hk hl hnf => ?_, fun text tgt hk hl => ?_⟩
  · by_cases hd : dst.get? e.rel = some .dir
    · exact dirSkip hk hd
    · have hpe := dirCreate hk hd
      exact tp.dir hpe.1 hpe.2 (by rw [planEntry_rel]; exact hne)
  · by_cases hd : dst.get? e.rel = some .dir
    · exact Or.inr (Or.inl hd)
    · have hpe := dirCreate hk hd
      have := tp.dir_pre hpe.1 hpe.2 (by rw [planEntry_rel]; exact hne)
      rw [planEntry_rel] at this
      rcases this with h | h | ⟨_, h⟩
      · exact Or.inl h
      · exact Or.inr (Or.inl h)
      · exact Or.inr (Or.inr h)
  · exact filePost_of_taskPost tp (planEntry_file hk)
  · cases hg : dst.get? e.rel with
    | none =>
      have hpe : planEntry cfg dst e = ⟨.create, e.rel, .symlink text⟩ := by
        unfold planEntry; simp [hk, hl, hg]
      exact tp.symlink (by rw [hpe]; simp) text (by rw [hpe])
    | some v =>
      by_cases hsame : v = .symlink text
      · have hpe : planEntry cfg dst e = ⟨.skip, e.rel, .symlink text⟩ := by
          unfold planEntry; simp [hk, hl, hg, hsame]
        have := (unchanged_of_taskPost tp (Or.inl (by rw [hpe]))).of_present (by rw [hg]; simp)
        rw [this, hg, hsame]
      · have hpe : planEntry cfg dst e = ⟨.update, e.rel, .symlink text⟩ := by
          unfold planEntry
          cases v with
          | dir => simp [hk, hl, hg]
          | file o => simp [hk, hl, hg]
          | symlink t =>
            have : t ≠ text := fun h => hsame (by rw [h])
            simp [hk, hl, hg, this]
        exact tp.symlink (by rw [hpe]; simp) text (by rw [hpe])
  · exact filePost_of_taskPost (n := 1) tp (by unfold planEntry; simp [hk, hl])
  · exact unchanged_of_taskPost tp (Or.inl (by rw [planEntry_link_nothing hk (Or.inr ⟨hl, hnf⟩)]))
  · exact unchanged_of_taskPost tp (Or.inl (by rw [planEntry_link_nothing hk (Or.inl hl)]))

theorem run_entry_post {cfg : Cfg} (hdry : cfg.dryRun = false) (flt : Faults) (scan : List SEntry)
    (dst : Map DNode) (n : Nat) (hu : UniqueRels scan)
    (hdel : cfg.delete = true → ParentClosed scan ∧ dst.get? [] = none)
    (hino : cfg.hardlinks = true → InoConsistent scan) {e : SEntry}
    (hok : TaskOk cfg flt (plan cfg scan dst) (initExec dst n) (planEntry cfg dst e)) :
    EntryPost cfg scan dst e ((finalExec cfg flt scan dst n).w.dst.get? e.rel) :=
  entryPost_of_taskPost (run_task_post hdry flt scan dst n hu hdel hino hok)

theorem taskOk_of_exit_zero {cfg : Cfg} {flt : Faults} {scan : List SEntry} {dst : Map DNode} {n : Nat}
    (h : (runF cfg flt scan dst n).exit = 0) {t : Task} (ht : t ∈ plan cfg scan dst) :
    TaskOk cfg flt (plan cfg scan dst) (initExec dst n) t := by
  apply taskOk_of_no_errors _ ht
  have := (runF_exit_zero h).2
  unfold finalExec at this
  rw [this]; rfl

theorem event_task {cfg : Cfg} {flt : Faults} {scan : List SEntry} {dst : Map DNode} {n : Nat} {a : Act} {p : Path}
    (hev : (a, p) ∈ (runF cfg flt scan dst n).events) :
    (runF cfg flt scan dst n).refused = false ∧
      ∃ t ∈ plan cfg scan dst, TaskOk cfg flt (plan cfg scan dst) (initExec dst n) t ∧ t.act = a ∧ t.rel = p := by
  have hr : (runF cfg flt scan dst n).refused = false := by
    cases h : (runF cfg flt scan dst n).refused with
    | false => rfl
    | true => rw [runF_of_refused h] at hev; cases hev
  refine ⟨hr, ?_⟩
  rw [(runF_of_not_refused hr).events, List.mem_reverse] at hev
  rcases taskOk_of_event _ _ _ hev with h | ⟨t, hok, hte⟩
  · cases h
  · obtain ⟨pre, post, hts, _⟩ := id hok
    simp only [Prod.mk.injEq] at hte
    exact ⟨t, by rw [hts]; simp, hok, hte.1.symm, hte.2.symm⟩

/-- an action event (not a delete) at the path of a selected entry is the event of that entry's task, which ran to
    completion: no other task of the plan has that path -/
theorem event_entry {cfg : Cfg} {flt : Faults} {scan : List SEntry} {dst : Map DNode} {n : Nat}
    (hu : UniqueRels scan) {e : SEntry} (he : e ∈ scanFilter cfg scan) {a : Act} (ha : a ≠ .delete)
    (hev : (a, e.rel) ∈ (runF cfg flt scan dst n).events) :
    (runF cfg flt scan dst n).refused = false ∧ (planEntry cfg dst e).act = a ∧
      TaskOk cfg flt (plan cfg scan dst) (initExec dst n) (planEntry cfg dst e) := by
  obtain ⟨hr, t, htm, hok, hact, hrel⟩ := event_task hev
  obtain ⟨s, hs, rfl⟩ := entry_of_task htm (hact ▸ ha)
  rw [planEntry_rel] at hrel
  rw [← hu.eq_of_rel (mem_of_mem_scanFilter hs) (mem_of_mem_scanFilter he) hrel]
  exact ⟨hr, hact, hok⟩

theorem event_iff_taskOk {cfg : Cfg} {flt : Faults} {scan : List SEntry} {dst : Map DNode} {n : Nat}
    (hu : UniqueRels scan) {e : SEntry} (he : e ∈ scanFilter cfg scan)
    (hr : (runF cfg flt scan dst n).refused = false) :
    ((planEntry cfg dst e).act, e.rel) ∈ (runF cfg flt scan dst n).events ↔
      TaskOk cfg flt (plan cfg scan dst) (initExec dst n) (planEntry cfg dst e) := by
  constructor
  · exact fun h => (event_entry hu he (planEntry_act_ne_delete _ _ _) h).2.2
  · intro h
    rw [(runF_of_not_refused hr).events, List.mem_reverse]
    have := event_of_taskOk h
    rw [planEntry_rel] at this
    exact this

theorem entryPost_of_event {cfg : Cfg} (hdry : cfg.dryRun = false) (flt : Faults) (scan : List SEntry)
    (dst : Map DNode) (n : Nat) (hu : UniqueRels scan)
    (hdel : cfg.delete = true → ParentClosed scan ∧ dst.get? [] = none)
    (hino : cfg.hardlinks = true → InoConsistent scan) {e : SEntry} (he : e ∈ scanFilter cfg scan)
    (hev : ((planEntry cfg dst e).act, e.rel) ∈ (runF cfg flt scan dst n).events) :
    EntryPost cfg scan dst e ((runF cfg flt scan dst n).dst.get? e.rel) := by
  obtain ⟨hr, _, hok⟩ := event_entry hu he (planEntry_act_ne_delete _ _ _) hev
  rw [(runF_of_not_refused hr).dst]
  exact run_entry_post hdry flt scan dst n hu hdel hino hok

theorem entryPost_of_exit_zero {cfg : Cfg} (hdry : cfg.dryRun = false) (flt : Faults) (scan : List SEntry)
    (dst : Map DNode) (n : Nat) (hu : UniqueRels scan)
    (hdel : cfg.delete = true → ParentClosed scan ∧ dst.get? [] = none)
    (hino : cfg.hardlinks = true → InoConsistent scan) {e : SEntry} (he : e ∈ scanFilter cfg scan)
    (hok : (runF cfg flt scan dst n).exit = 0) :
    EntryPost cfg scan dst e ((runF cfg flt scan dst n).dst.get? e.rel) := by
  rw [(runF_of_not_refused (runF_exit_zero hok).1).dst]
  exact run_entry_post hdry flt scan dst n hu hdel hino (taskOk_of_exit_zero hok (planEntry_mem_plan he))

end SyModel.Engine
