/-
  Helper lemmas for `SyModel.Compress.Sparse`: pointwise reasoning about `writeAt` / `setLen`,
  the write fold `writeRegions_spec` (shared by the remote helper, the local seek copier and, through
  `Transfer.fold_write_spec`, the two block-compare rebuilds), the block copier invariant, and the regions JSON
  round trip.
-/
import SyModel.Compress.Sparse
import SyModel.Lemmas.Json
namespace SyModel.Compress

/-- byte at index `i`, reading zero beyond the end -/
def at0 (l : Bytes) (i : Nat) : UInt8 := l[i]?.getD 0

theorem at0_zeros (n i : Nat) : at0 (zeros n) i = 0 := by
  unfold at0 zeros
  by_cases h : i < n <;> simp [h]

theorem at0_nil (i : Nat) : at0 [] i = 0 := by simp [at0]

theorem at0_of_le (l : Bytes) (i : Nat) (h : l.length ≤ i) : at0 l i = 0 := by
  unfold at0; rw [List.getElem?_eq_none h]; rfl

theorem at0_append (a b : Bytes) (i : Nat) :
    at0 (a ++ b) i = if i < a.length then at0 a i else at0 b (i - a.length) := by
  unfold at0
  split
  · rename_i h; rw [List.getElem?_append_left h]
  · rename_i h; rw [List.getElem?_append_right (by omega)]

theorem at0_take (a : Bytes) (n i : Nat) : at0 (a.take n) i = if i < n then at0 a i else 0 := by
  unfold at0
  split
  · rename_i h; rw [List.getElem?_take_of_lt h]
  · rename_i h; rw [List.getElem?_eq_none (by simp; omega)]; rfl

theorem at0_drop (a : Bytes) (n i : Nat) : at0 (a.drop n) i = at0 a (n + i) := by
  unfold at0; rw [List.getElem?_drop]

theorem at0_writeAt (f : Bytes) (off : Nat) (data : Bytes) (i : Nat) :
    at0 (writeAt f off data) i =
      if off ≤ i ∧ i < off + data.length then at0 data (i - off) else at0 f i := by
  unfold writeAt
  cases data with
  | nil => simp; intro h; omega
  | cons d ds =>
    simp only [List.isEmpty_cons, Bool.false_eq_true, ↓reduceIte, List.append_assoc]
    rw [at0_append, at0_take, at0_append, at0_append, at0_drop, at0_zeros]
    have hl : ((f ++ zeros (off - f.length)).take off).length = off := by
      simp [zeros]; omega
    rw [hl]
    by_cases h1 : i < off
    · simp only [h1, ↓reduceIte]
      have : ¬ (off ≤ i ∧ i < off + (d :: ds).length) := by omega
      rw [if_neg this]
      split
      · rfl
      · rename_i h; exact (at0_of_le f i (by omega)).symm
    · simp only [h1, ↓reduceIte]
      by_cases h2 : i - off < (d :: ds).length
      · rw [if_pos h2, if_pos (by omega)]
      · rw [if_neg h2, if_neg (by omega)]
        congr 1; omega

theorem length_writeAt (f : Bytes) (off : Nat) (data : Bytes) :
    (writeAt f off data).length = if data = [] then f.length else max f.length (off + data.length) := by
  unfold writeAt
  cases data with
  | nil => simp
  | cons x xs =>
    simp only [List.isEmpty_cons, Bool.false_eq_true, ↓reduceIte, reduceCtorEq]
    simp only [List.length_append, List.length_take, List.length_drop, zeros, List.length_replicate,
      List.length_cons]
    omega

theorem length_slice (c : Bytes) (r : Region) (h : r.offset + r.length ≤ c.length) :
    (slice c r).length = r.length := by
  simp [slice]; omega

theorem at0_slice (c : Bytes) (r : Region) (j : Nat) :
    at0 (slice c r) j = if j < r.length then at0 c (r.offset + j) else 0 := by
  unfold slice; rw [at0_take, at0_drop]

theorem at0_setLen (f : Bytes) (n i : Nat) : at0 (setLen f n) i = if i < n then at0 f i else 0 := by
  unfold setLen
  rw [at0_append, at0_take, at0_zeros]
  simp only [List.length_take]
  by_cases h : i < n
  · simp only [h, ↓reduceIte]
    split
    · rfl
    · exact (at0_of_le f i (by omega)).symm
  · simp only [h, ↓reduceIte]; split <;> rfl

theorem length_setLen (f : Bytes) (n : Nat) : (setLen f n).length = n := by
  simp [setLen, zeros]; omega

theorem ext_at0 (f g : Bytes) (hl : f.length = g.length) (h : ∀ i, i < g.length → at0 f i = at0 g i) : f = g := by
  apply List.ext_getElem hl
  intro i h1 h2
  have := h i h2
  unfold at0 at this
  rw [List.getElem?_eq_getElem h1, List.getElem?_eq_getElem h2] at this
  simpa using this

/-- The contract of SEEK_DATA / SEEK_HOLE as far as sy relies on it: every reported region lies
    inside the file, and every byte outside all reported regions reads as zero.
    (Sortedness and disjointness are not needed by any theorem.) -/
structure Covers (content : Bytes) (rs : List Region) : Prop where
  inRange   : ∀ r ∈ rs, r.offset + r.length ≤ content.length
  holesZero : ∀ i, i < content.length → at0 content i ≠ 0 →
                ∃ r ∈ rs, r.offset ≤ i ∧ i < r.offset + r.length

/-- the fold of region writes both copiers perform. -/
def writeRegions (content : Bytes) (f0 : Bytes) (rs : List Region) : Bytes :=
  rs.foldl (fun f r => writeAt f r.offset (slice content r)) f0

/-- invariant of the fold: every position where the file still differs from the source lies in a region not yet written -/
theorem writeRegions_spec (content : Bytes) (rs : List Region) (f0 : Bytes)
    (hin : ∀ r ∈ rs, r.offset + r.length ≤ content.length)
    (hlen : f0.length ≤ content.length)
    (hinv : ∀ i, i < content.length → at0 f0 i ≠ at0 content i →
      ∃ r ∈ rs, r.offset ≤ i ∧ i < r.offset + r.length) :
    (writeRegions content f0 rs).length ≤ content.length ∧
    f0.length ≤ (writeRegions content f0 rs).length ∧
    ∀ i, i < content.length → at0 (writeRegions content f0 rs) i = at0 content i := by
  induction rs generalizing f0 with
  | nil =>
    refine ⟨hlen, Nat.le_refl _, ?_⟩
    intro i hi
    by_cases h : at0 f0 i = at0 content i
    · exact h
    · obtain ⟨r, hr, _⟩ := hinv i hi h; simp at hr
  | cons r rs ih =>
    have hr := hin r (by simp)
    have hsl := length_slice content r hr
    have h1 := ih (writeAt f0 r.offset (slice content r)) (fun x hx => hin x (by simp [hx]))
      (by rw [length_writeAt, hsl]; split <;> omega)
      (by
        intro i hi hne
        rw [at0_writeAt, hsl] at hne
        split at hne
        · rename_i hc
          rw [at0_slice, if_pos (by omega)] at hne
          exact absurd (by congr 1; omega) hne
        · rename_i hc
          obtain ⟨x, hx, hxi⟩ := hinv i hi hne
          rcases List.mem_cons.mp hx with rfl | hx
          · exact absurd hxi hc
          · exact ⟨x, hx, hxi⟩)
    refine ⟨h1.1, Nat.le_trans (by rw [length_writeAt]; split <;> omega) h1.2.1, h1.2.2⟩

theorem gather_eq (content : Bytes) (rs : List Region)
    (hin : ∀ r ∈ rs, r.offset + r.length ≤ content.length) :
    gather content rs = some (rs.flatMap (slice content)) := by
  induction rs with
  | nil => rfl
  | cons r rs ih =>
    have hr := hin r (by simp)
    simp only [gather, readRegion, ih (fun x hx => hin x (by simp [hx])), hr, or_true, ↓reduceIte,
      List.flatMap_cons]

theorem receiveSparseGo_gather (content : Bytes) (rs : List Region) (f extra : Bytes)
    (hin : ∀ r ∈ rs, r.offset + r.length ≤ content.length) :
    receiveSparseGo f rs (rs.flatMap (slice content) ++ extra) = some (writeRegions content f rs) := by
  induction rs generalizing f with
  | nil => rfl
  | cons r rs ih =>
    have hr := hin r (by simp)
    have hsl := length_slice content r hr
    simp only [List.flatMap_cons, List.append_assoc, receiveSparseGo]
    rw [if_neg (by simp only [List.length_append, hsl]; omega)]
    rw [List.take_left' hsl, List.drop_left' hsl]
    exact ih _ (fun x hx => hin x (by simp [hx]))

/-- instances: `receiveSparse_gather` (`f0` = zeros of the full length), `localSeek_eq` (`f0 = []`) -/
theorem writeRegions_covers (content : Bytes) (rs : List Region) (h : Covers content rs) (f0 : Bytes)
    (hlen : f0.length ≤ content.length) (hz : ∀ i, at0 f0 i = 0) :
    setLen (writeRegions content f0 rs) content.length = content ∧
    (f0.length = content.length → writeRegions content f0 rs = content) := by
  obtain ⟨h1, h2, h3⟩ := writeRegions_spec content rs f0 h.inRange hlen
    (fun i hi hne => h.holesZero i hi fun e => hne ((hz i).trans e.symm))
  refine ⟨ext_at0 _ _ (length_setLen _ _) fun i hi => ?_, fun he => ext_at0 _ _ (by omega) h3⟩
  rw [at0_setLen, if_pos hi]
  exact h3 i hi

theorem receiveSparse_gather (content : Bytes) (rs : List Region) (h : Covers content rs) :
    receiveSparse content.length rs (rs.flatMap (slice content)) = some content := by
  unfold receiveSparse
  rw [← List.append_nil (rs.flatMap _), receiveSparseGo_gather content rs _ [] h.inRange]
  exact congrArg some ((writeRegions_covers content rs h _ (Nat.le_of_eq (length_setLen _ _)) fun i => by
    rw [at0_setLen, at0_nil, ite_self]).2 (length_setLen _ _))

theorem localSeek_eq (content : Bytes) (rs : List Region) (h : Covers content rs) :
    localSeek content rs = content :=
  (writeRegions_covers content rs h [] (Nat.zero_le _) at0_nil).1

/-! ### the block copier -/

theorem zeros_add (a b : Nat) : zeros (a + b) = zeros a ++ zeros b := by
  rw [zeros, zeros, zeros, List.replicate_append_replicate]

theorem eq_zeros_of_all (b : Bytes) (h : b.all (· == 0) = true) : b = zeros b.length := by
  rw [zeros, List.eq_replicate_iff]
  exact ⟨rfl, fun x hx => by simpa using List.all_eq_true.mp h x hx⟩

theorem writeAt_append (pre tail b : Bytes) (hb : b ≠ []) :
    writeAt (pre ++ tail) pre.length b = pre ++ b ++ tail.drop b.length := by
  have he : b.isEmpty = false := by
    rw [List.isEmpty_eq_false_iff]
    exact hb
  rw [writeAt, he, if_neg Bool.false_ne_true, List.length_append, Nat.sub_eq_zero_of_le (Nat.le_add_right _ _), zeros,
    List.replicate_zero, List.append_nil, List.take_left, List.drop_append, Nat.add_sub_cancel_left,
    List.drop_eq_nil_of_le (Nat.le_add_right _ _), List.nil_append]

theorem blocksGo_nil (blk : Nat) (file : Bytes) (pos : Nat) : blocksGo blk file pos [] = file := by
  rw [blocksGo, dif_pos (Or.inr rfl)]

theorem blocksGo_step (blk : Nat) (file : Bytes) (pos : Nat) (rest : Bytes) (hb : blk ≠ 0) (hr : rest ≠ []) :
    blocksGo blk file pos rest =
      blocksGo blk (if (rest.take blk).all (· == 0) then file else writeAt file pos (rest.take blk))
        (pos + (rest.take blk).length) (rest.drop blk) := by
  rw [blocksGo, dif_neg (not_or.mpr ⟨hb, hr⟩)]

/-- the block copier keeps the destination equal to the copied prefix followed by zeros up to the final size -/
theorem blocksGo_spec (blk : Nat) (hb : 0 < blk) (content : Bytes) (n : Nat) :
    ∀ (pre rest : Bytes), rest.length = n → pre ++ rest = content →
      blocksGo blk (pre ++ zeros rest.length) pre.length rest = content := by
  induction n using Nat.strongRecOn with
  | _ n ih =>
    intro pre rest hn hc
    by_cases hr : rest = []
    · subst hr
      rw [blocksGo_nil, List.length_nil, zeros, List.replicate_zero, ← hc]
    · have hpos : 0 < rest.length := List.length_pos_iff.mpr hr
      have hbl : (rest.take blk).length + (rest.drop blk).length = rest.length := by
        rw [← List.length_append, List.take_append_drop]
      have hbpos : rest.take blk ≠ [] := by
        rw [← List.length_pos_iff, List.length_take]
        omega
      have hfile : (if ((rest.take blk).all fun x => x == 0) = true then pre ++ zeros rest.length
            else writeAt (pre ++ zeros rest.length) pre.length (rest.take blk)) =
          (pre ++ rest.take blk) ++ zeros (rest.drop blk).length := by
        split
        · rename_i hz
          rw [← hbl, zeros_add, ← eq_zeros_of_all _ hz, List.append_assoc]
        · rw [writeAt_append _ _ _ hbpos, zeros, List.drop_replicate, ← hbl, Nat.add_sub_cancel_left]
          rfl
      have hlen : pre.length + (rest.take blk).length = (pre ++ rest.take blk).length := by
        rw [List.length_append]
      rw [blocksGo_step _ _ _ _ (Nat.ne_of_gt hb) hr, hfile, hlen]
      exact ih (rest.drop blk).length (by rw [List.length_drop]; omega) _ _ rfl (by rw [List.append_assoc, List.take_append_drop, hc])

theorem localBlocks_eq (content : Bytes) : localBlocks content = content := by
  have h := blocksGo_spec LOCAL_BLOCK (by decide) content content.length [] content rfl rfl
  rw [List.nil_append] at h
  rw [localBlocks, setLen, List.take_nil, List.nil_append, List.length_nil, Nat.sub_zero]
  exact h

/-! ### regions JSON -/
open SyModel.Json

theorem parseRegion_encode (r : Region) (rest : Bytes) :
    parseRegion (encodeRegion r ++ rest) = some (r, rest) := by
  have hend : lit "}" ++ rest = 125 :: rest := by
    rw [lit_ofList]
    rfl
  have hl := parseNat_print r.length (125 :: rest) rfl
  have ho := parseNat_print r.offset (lit ",\"length\":" ++ (printNat r.length ++ 125 :: rest)) (by rw [lit_ofList]; rfl)
  rw [parseRegion.eq_def]
  simp only [encodeRegion, List.append_assoc, hend, expect_append, ho, hl]

theorem parseRegionElems_isElems : IsElems parseRegion parseRegionElems := by
  intro l
  rw [parseRegionElems]
  split
  · rename_i x r' hp
    simp only [hp]
    cases parseRegionElems r' <;> rfl
  · rename_i x r' hp
    simp only [hp]
  · rename_i h1 h2
    split
    · rename_i x r' hp
      exact absurd hp (h1 x r')
    · rename_i x r' hp
      exact absurd hp (h2 x r')
    · rfl

theorem decodeRegions_encode (rs : List Region) : decodeRegions (encodeRegions rs) = some rs := by
  cases rs with
  | nil => rfl
  | cons r t =>
    have h := parseRegionElems_isElems.encode (encL := encodeRegionList)
      (fun x c rest _ => parseRegion_encode x (c :: rest)) (fun _ => rfl) (fun _ _ _ => rfl) r t []
    obtain ⟨tl, htl⟩ := encL_head (encL := encodeRegionList) (fun _ => rfl) (fun _ _ _ => rfl)
      (show encodeRegion r = 123 :: _ by rw [encodeRegion, lit_ofList]; rfl) t
    unfold encodeRegions
    rw [htl] at h ⊢
    simp only [List.cons_append] at h ⊢
    unfold decodeRegions
    split
    · rename_i heq
      injection heq with _ h2
      injection h2 with h3 _
      exact absurd h3 (by decide)
    · rename_i l hne heq
      injection heq with _ h2
      subst h2
      rw [h]
    · rename_i h1 h2
      exact absurd rfl (h2 _)

end SyModel.Compress
