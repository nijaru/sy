/-
  Helper lemmas of `SyModel.Props.GenBisync` that do not mention the abstraction maps: the model's `conflictCounts` of one more change (`conflictCounts_cons`,
  `conflictCounts_conflict`), a `for`-loop rule for `Except`, the model's conflict name under a root (the model's
  `splitLast` is the Prelude's `Rs.splitLastAt`, `splitLastAt_eq_splitLast`, whose lemmas are in `Lemmas/PathText`).
  Declared in the namespace of the Props module, whose statements name them.
-/
import SyModel.Bisync.Resolver
import SyModel.Lemmas.PathText

namespace SyModel.Props.GenBisync
open SyModel

theorem conflictCounts_cons (st : Bisync.Strategy) (stamp : Nat) (c : Bisync.Change) (cs : List Bisync.Change) :
    Bisync.conflictCounts st stamp (c :: cs) =
      ((Bisync.conflictCounts st stamp [c]).1 + (Bisync.conflictCounts st stamp cs).1,
       (Bisync.conflictCounts st stamp [c]).2 + (Bisync.conflictCounts st stamp cs).2) := by
  simp only [Bisync.conflictCounts]
  by_cases h1 : c.ctype.isConflict = true <;>
    by_cases h2 : (Bisync.resolveConflict st c.path c.s c.d stamp).isRename = true <;>
    simp [h1, h2] <;> omega

theorem conflictCounts_conflict (st : Bisync.Strategy) (stamp : Nat) (c : Bisync.Change)
    (hc : c.ctype.isConflict = true) :
    Bisync.conflictCounts st stamp [c] =
      bif (Bisync.resolveConflict st c.path c.s c.d stamp).isRename then (0, 1) else (1, 0) := by
  unfold Bisync.conflictCounts
  simp only [List.filter_cons, hc, if_true, List.filter_nil, List.map_cons, List.map_nil]
  cases (Bisync.resolveConflict st c.path c.s c.d stamp).isRename <;> rfl

/-- a `for` loop over a list in `Except` whose body never breaks and performs, on a view `fin` of its state,
    a step of a relation `R` that composes: the loop performs `R` of the whole list. The body `f` and the
    view `fin` are found by unification with the generated definition. -/
theorem forIn_run {σ ρ α ε : Type} (P : α → Prop) (R : List α → ρ → ρ → Prop)
    (hnil : ∀ r, R [] r r)
    (hcons : ∀ c cs r r' r'', R [c] r r' → R cs r' r'' → R (c :: cs) r r'')
    (f : α → σ → Except ε (ForInStep σ)) (fin : σ → ρ)
    (hstep : ∀ c s, P c → ∃ s', f c s = .ok (.yield s') ∧ R [c] (fin s) (fin s'))
    (cs : List α) (s0 : σ) (r0 : ρ) (h0 : fin s0 = r0) (hP : ∀ c ∈ cs, P c) :
    ∃ r, (forIn cs s0 f >>= fun s => pure (fin s)) = Except.ok r ∧ R cs r0 r := by
  subst h0
  induction cs generalizing s0 with
  | nil => exact ⟨fin s0, rfl, hnil _⟩
  | cons c cs ih =>
    obtain ⟨s1, hs1, hr1⟩ := hstep c s0 (hP c (List.mem_cons_self))
    obtain ⟨r, hr, hrr⟩ := ih s1 (fun x hx => hP x (List.mem_cons_of_mem _ hx))
    refine ⟨r, ?_, hcons _ _ _ _ _ hr1 hrr⟩
    rw [List.forIn_cons, hs1]
    exact hr

theorem splitLastAt_eq_splitLast (c : Char) (l : List Char) :
    Generated.Rs.splitLastAt c l = Bisync.splitLast c l := rfl

theorem conflictName_under_root (root rel : List Char) (stamp : Nat) (side : Bisync.Side) :
    Bisync.conflictName (root ++ '/' :: rel) stamp side = root ++ '/' :: Bisync.conflictName rel stamp side := by
  unfold Bisync.conflictName Bisync.conflictPrefix Bisync.conflictSuffix
  simp only [← splitLastAt_eq_splitLast]
  rw [Lemmas.PathText.splitLastAt_append_sep]
  cases Generated.Rs.splitLastAt '/' rel with
  | none => simp
  | some pn => obtain ⟨p, n⟩ := pn; simp

end SyModel.Props.GenBisync
