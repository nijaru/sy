/-
  Lemmas for the fixed-point property (C03) and the deletion property (C06): what delete-only and
  skip-only task lists do, which paths exist after a clean run, and that a transferred entry is
  recognised as up to date by the next plan.
-/
import SyModel.Lemmas.EnginePost
namespace SyModel.Engine

theorem execTask_noFaults_delete {cfg : Cfg} (st : Exec) {t : Task} (ha : t.act = .delete) :
    ∃ w', perform cfg st.w t = some w' ∧ execTask cfg noFaults st t = ⟨w', st.b.ok t⟩ := by
  obtain ⟨w', hp⟩ := Option.ne_none_iff_exists'.1 (perform_delete_ne_none cfg st.w t ha)
  exact ⟨w', hp, execTask_of_perform (faultOf_noFaults _ _) hp⟩

theorem foldl_deletes_none (cfg : Cfg) (flt : Faults) (ds : List Task) (st : Exec) (x : Path)
    (hd : ∀ t ∈ ds, t.act = .delete ∧ (t.rel = x → faultOf cfg flt t = none)) (hx : st.w.dst.get? x = none) :
    (ds.foldl (execTask cfg flt) st).w.dst.get? x = none := by
  refine List.foldlRecOn (motive := fun s : Exec => s.w.dst.get? x = none) ds _ hx (fun s hs t ht => ?_)
  obtain ⟨ha, hf⟩ := hd t ht
  rcases execTask_cases cfg flt s t with ⟨g, hg, _, _, he⟩ | ⟨_, w', hp, he⟩ | ⟨_, _, he⟩ <;> rw [he]
  · have hr : x ≠ t.rel := fun h => by rw [hf h.symm] at hg; cases hg
    exact (garbageAt_get?_ne _ _ _ _ hr).trans hs
  · rcases perform_cases hp with rfl | ⟨hdry, _⟩ | ⟨_, _, hnd, _⟩
    · exact hs
    · rcases (perform_delete_spec ha hdry hp).mono x with h | h
      · exact h
      · exact h.trans hs
    · exact absurd ha hnd
  · exact hs

theorem foldl_deletes_removed {cfg : Cfg} (hdry : cfg.dryRun = false) (ds : List Task) (st : Exec)
    (hd : ∀ t ∈ ds, t.act = .delete) {t : Task} (ht : t ∈ ds) :
    (ds.foldl (execTask cfg noFaults) st).w.dst.get? t.rel = none := by
  obtain ⟨pre, post, rfl⟩ := List.append_of_mem ht
  rw [List.foldl_append, List.foldl_cons]
  apply foldl_deletes_none cfg noFaults post _ _ (fun t' ht' => ⟨hd t' (by simp [ht']), fun _ => faultOf_noFaults cfg t'⟩)
  obtain ⟨w', hp, he⟩ := execTask_noFaults_delete (pre.foldl (execTask cfg noFaults) st) (hd t (by simp))
  rw [he]
  exact (perform_delete_spec (hd t (by simp)) hdry hp).self

/-- deletes add no error (a stale entry that vanished with its parent counts as deleted) -/
theorem foldl_deletes_errors {cfg : Cfg} (ds : List Task) (st : Exec)
    (hd : ∀ t ∈ ds, t.act = .delete) :
    (ds.foldl (execTask cfg noFaults) st).b.errors = st.b.errors := by
  induction ds generalizing st with
  | nil => rfl
  | cons t ds ih =>
    rw [List.foldl_cons, ih _ (fun t' ht' => hd t' (List.mem_cons_of_mem _ ht'))]
    obtain ⟨w', _, he⟩ := execTask_noFaults_delete st (hd t (List.mem_cons_self ..))
    rw [he, Book.ok_errors]

theorem finalExec_eq (cfg : Cfg) (flt : Faults) (scan : List SEntry) (dst : Map DNode) (n : Nat) :
    finalExec cfg flt scan dst n =
      (if cfg.delete then planDeletions (scanFilter cfg scan) scan dst else []).foldl (execTask cfg flt)
        (((scanFilter cfg scan).map (planEntry cfg dst)).foldl (execTask cfg flt) (initExec dst n)) := by
  unfold finalExec; rw [plan_eq, List.foldl_append]

theorem entry_tasks_frame (cfg : Cfg) (flt : Faults) (scan : List SEntry) (dst : Map DNode) (st : Exec)
    (x : Path) (hx : ∀ e ∈ scanFilter cfg scan, e.rel ≠ x) :
    (((scanFilter cfg scan).map (planEntry cfg dst)).foldl (execTask cfg flt) st).w.dst.get? x = st.w.dst.get? x ∨
      (st.w.dst.get? x = none ∧
        (((scanFilter cfg scan).map (planEntry cfg dst)).foldl (execTask cfg flt) st).w.dst.get? x = some .dir ∧
        x ≠ [] ∧ ∃ e ∈ scanFilter cfg scan, isPrefix x e.rel = true ∧ x ≠ e.rel) := by
  have h := foldl_frame cfg flt ((scanFilter cfg scan).map (planEntry cfg dst)) st x (by
    intro t ht
    obtain ⟨e, he, rfl⟩ := List.mem_map.1 ht
    rw [planEntry_rel]
    exact ⟨hx e he, fun h => absurd h (planEntry_act_ne_delete _ _ _)⟩)
  rcases h with h | ⟨a, b, c, t, ht, hp, _⟩
  · exact Or.inl h
  · obtain ⟨e, he, rfl⟩ := List.mem_map.1 ht
    rw [planEntry_rel] at hp
    exact Or.inr ⟨a, b, c, e, he, hp, fun h => hx e he h.symm⟩

theorem result_paths_scanned {cfg : Cfg} (hdry : cfg.dryRun = false) {flt : Faults} {scan : List SEntry}
    {dst : Map DNode} {n : Nat} (hd : cfg.delete = true) (hc : ParentClosed scan)
    (hok : (runF cfg flt scan dst n).exit = 0) (p : Path)
    (hp : (runF cfg flt scan dst n).dst.get? p ≠ none) :
    (∃ e ∈ scan, e.rel = p) ∨ p ∈ ownMetadata := by
  rw [runF_eq_run_of_exit_zero hok] at hp hok
  unfold run at hp hok
  rw [(runF_of_not_refused (runF_exit_zero hok).1).dst, finalExec_eq] at hp
  simp only [hd, ↓reduceIte] at hp
  by_cases hs : ∃ e ∈ scan, e.rel = p
  · exact Or.inl hs
  · by_cases ho : p ∈ ownMetadata
    · exact Or.inr ho
    · exfalso
      apply hp
      have hns : ∀ e ∈ scan, e.rel ≠ p := fun e he h => hs ⟨e, he, h⟩
      have hA := entry_tasks_frame cfg noFaults scan dst (initExec dst n) p
        (fun e he => hns e (mem_of_mem_scanFilter he))
      have hdel : ∀ t ∈ planDeletions (scanFilter cfg scan) scan dst, t.act = .delete :=
        fun t ht => planDeletions_act ht
      rcases hA with hA | ⟨_, _, hne, e, he, hpre, hpe⟩
      · cases hg : dst.get? p with
        | none =>
          apply foldl_deletes_none cfg noFaults _ _ _ (fun t ht => ⟨hdel t ht, fun _ => faultOf_noFaults cfg t⟩)
          rw [hA]; exact hg
        | some v =>
          have hmem : (⟨.delete, p, .nothing⟩ : Task) ∈ planDeletions (scanFilter cfg scan) scan dst :=
            mem_planDeletions.2 ⟨p, rfl, (Map.mem_keys_iff dst p).2 (by rw [hg]; simp),
              fun e he => hns e (mem_of_mem_scanFilter he), hns, ho⟩
          exact foldl_deletes_removed hdry _ _ hdel hmem
      · obtain ⟨d, hd', hr, _⟩ := hc.anc (mem_of_mem_scanFilter he) hne hpre hpe
        exact absurd hr (hns d hd')

theorem result_root_none {cfg : Cfg} (hdry : cfg.dryRun = false) {flt : Faults} {scan : List SEntry}
    {dst : Map DNode} {n : Nat} (hd : cfg.delete = true) (hc : ParentClosed scan) (hnr : NoRoot scan)
    (hok : (runF cfg flt scan dst n).exit = 0) : (runF cfg flt scan dst n).dst.get? [] = none := by
  cases hg : (runF cfg flt scan dst n).dst.get? [] with
  | none => rfl
  | some v =>
    exfalso
    rcases result_paths_scanned hdry hd hc hok [] (by rw [hg]; simp) with ⟨e, he, hr⟩ | h
    · exact hnr e he hr
    · revert h; decide

theorem foldl_all_skip (cfg : Cfg) (flt : Faults) (ts : List Task) (st : Exec)
    (h : ∀ t ∈ ts, t.act = .skip) :
    ts.foldl (execTask cfg flt) st =
      { w := st.w, b := { st.b with skipped := st.b.skipped + ts.length
                                    events := (ts.map fun t => (t.act, t.rel)).reverse ++ st.b.events } } := by
  induction ts generalizing st with
  | nil => rfl
  | cons t ts ih =>
    have hs := h t (List.mem_cons_self ..)
    rw [List.foldl_cons, execTask_skip cfg flt st hs, ih _ (fun t' ht' => h t' (List.mem_cons_of_mem _ ht'))]
    unfold Book.ok
    simp only [hs, List.length_cons, List.map_cons, List.reverse_cons, List.append_assoc, List.singleton_append,
      Nat.add_assoc, Nat.add_comm 1]

theorem planEntry_replan {cfg : Cfg} {scan : List SEntry} {dst dst' : Map DNode} {e : SEntry}
    (hne : e.kind = .dir → e.rel ≠ []) (ep : EntryPost cfg scan dst e (dst'.get? e.rel)) :
    (planEntry cfg dst' e).act = .skip ∨
      ∃ m n, planEntry cfg dst' e = ⟨planFileAct cfg m (dst'.get? e.rel), e.rel, .file m n⟩ ∧
        FilePost cfg dst e m (dst'.get? e.rel) ∧ (e.kind = .file m n ∨ n = 1) := by
  unfold planEntry
  cases hk : e.kind with
  | dir => simp [ep.dir hk (hne hk)]
  | file m k => exact Or.inr ⟨m, k, rfl, ep.file m k hk, Or.inl rfl⟩
  | symlink text tgt =>
    cases hl : cfg.links with
    | skip => exact Or.inl rfl
    | preserve => simp [ep.link_preserve text tgt hk hl]
    | follow =>
      cases tgt with
      | file m => exact Or.inr ⟨m, 1, rfl, ep.link_follow text m hk hl, Or.inr rfl⟩
      | dir => exact Or.inl rfl
      | dangling => exact Or.inl rfl

theorem planEntry_skip_of_entryPost {cfg : Cfg} {scan : List SEntry} {dst dst' : Map DNode} {e : SEntry}
    (hcmp : cfg.compare ≠ .ignoreTimes) (hne : e.kind = .dir → e.rel ≠ [])
    (ep : EntryPost cfg scan dst e (dst'.get? e.rel)) : (planEntry cfg dst' e).act = .skip := by
  rcases planEntry_replan hne ep with h | ⟨m, n, hpe, ⟨d, h1, h2, h3, _⟩, _⟩
  · exact h
  · rw [hpe]
    by_cases hs : planFileAct cfg m (dst.get? e.rel) = .skip
    · exact (h2 hs ▸ hs :)
    · exact (planFileAct_skip_iff _ _ _).2 ⟨d, h1, upToDate_of_matches (h3 hs) hcmp⟩

theorem run_all_skip {cfg : Cfg} {flt : Faults} {scan : List SEntry} {dst : Map DNode} {n : Nat}
    (h : ∀ t ∈ plan cfg scan dst, t.act = .skip) :
    (runF cfg flt scan dst n).refused = false ∧ (runF cfg flt scan dst n).dst = dst ∧
    (runF cfg flt scan dst n).created = 0 ∧ (runF cfg flt scan dst n).updated = 0 ∧
    (runF cfg flt scan dst n).deleted = 0 ∧ (runF cfg flt scan dst n).bytes = 0 ∧
    (runF cfg flt scan dst n).errors = [] ∧ (runF cfg flt scan dst n).exit = 0 ∧
    (∀ ev ∈ (runF cfg flt scan dst n).events, ev.1 = .skip) := by
  have hr : (runF cfg flt scan dst n).refused = false :=
    not_refused_of_no_deletes (fun t ht => by rw [h t ht]; simp)
  have rep := runF_of_not_refused hr
  rw [show finalExec cfg flt scan dst n = _ from foldl_all_skip cfg flt (plan cfg scan dst) (initExec dst n) h] at rep
  refine ⟨hr, rep.dst, rep.created, rep.updated, rep.deleted, rep.bytes, rep.errors, rep.exit, fun ev hev => ?_⟩
  rw [rep.events] at hev
  simp only [initExec, List.append_nil, List.reverse_reverse, List.mem_map] at hev
  obtain ⟨t, ht, rfl⟩ := hev
  exact h t ht

theorem no_deletions_after_clean_run {cfg : Cfg} (hdry : cfg.dryRun = false) {flt : Faults}
    {scan : List SEntry} {dst : Map DNode} {n : Nat} (hd : cfg.delete = true) (hc : ParentClosed scan)
    (hok : (runF cfg flt scan dst n).exit = 0) :
    planDeletions (scanFilter cfg scan) scan (runF cfg flt scan dst n).dst = [] := by
  rw [List.eq_nil_iff_forall_not_mem]
  intro t ht
  obtain ⟨p, _, hk, _, hs, ho⟩ := mem_planDeletions.1 ht
  rcases result_paths_scanned hdry hd hc hok p ((Map.mem_keys_iff _ p).1 hk) with ⟨e, he, hr⟩ | h
  · exact hs e he hr
  · exact ho h

theorem replan_all_skip {cfg : Cfg} (hdry : cfg.dryRun = false) (hcmp : cfg.compare ≠ .ignoreTimes)
    {flt : Faults} {scan : List SEntry} {dst : Map DNode} {n : Nat} (hu : UniqueRels scan) (hnr : NoRoot scan)
    (hdel : cfg.delete = true → ParentClosed scan ∧ dst.get? [] = none)
    (hino : cfg.hardlinks = true → InoConsistent scan)
    (hok : (runF cfg flt scan dst n).exit = 0) :
    ∀ t ∈ plan cfg scan (runF cfg flt scan dst n).dst, t.act = .skip := by
  intro t ht
  rcases mem_plan.1 ht with ⟨e, he, rfl⟩ | ⟨hd, ht⟩
  · exact planEntry_skip_of_entryPost hcmp (fun _ => hnr e (mem_of_mem_scanFilter he))
      (entryPost_of_exit_zero hdry flt scan dst n hu hdel hino he hok)
  · rw [no_deletions_after_clean_run hdry hd (hdel hd).1 hok] at ht; cases ht

end SyModel.Engine
