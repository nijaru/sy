/-
  Lemmas about the glob model: the backtracking matcher `matchesFrom` (with its early
  `EntirePatternDoesntMatch` exit) decides the declarative relation `Matches` on well-formed token
  lists, and `Pattern::new` only produces well-formed token lists.
-/
import SyModel.Filter.Spec
namespace SyModel.Filter

/-- `Cand r y s`: the rest of the pattern may be tried on `y` after a sequence token has eaten a non-empty prefix of `s` —
    for `**` (`r = true`) a prefix that ends in `/` — or everything (`y = []`: the fall-through of the `for` loop once the
    `while` loop has exhausted the iterator).  These are the strings `seqLoop` hands to its continuation. -/
inductive Cand (r : Bool) : List Char → List Char → Prop
  | nil (s : List Char) : Cand r [] s
  | here {c : Char} {s : List Char} : (r = true → c = '/') → Cand r s (c :: s)
  | there {c : Char} {y s : List Char} : Cand r y s → Cand r y (c :: s)

/-- … or nothing eaten at all (the "empty match" tried first) -/
def Reach (r : Bool) (y s : List Char) : Prop := y = s ∨ Cand r y s

/-- the fewer separators are required, the more candidates -/
theorem Cand.mono {r r' : Bool} (hr : r' = true → r = true) {y s : List Char} (h : Cand r y s) : Cand r' y s := by
  induction h with
  | nil s => exact .nil s
  | here hc => exact .here fun h' => hc (hr h')
  | there _ ih => exact .there ih

theorem Cand.trans {r : Bool} {y x s : List Char} (hy : Cand r y x) (hx : Cand r x s) : Cand r y s := by
  induction hx with
  | nil s => cases hy; exact .nil s
  | here _ => exact .there hy
  | there _ ih => exact .there (ih hy)

theorem Reach.trans {r : Bool} {y x s : List Char} (hy : Reach r y x) (hx : Reach r x s) : Reach r y s := by
  rcases hy with rfl | hy
  · exact hx
  rcases hx with rfl | hx
  · exact .inr hy
  · exact .inr (hy.trans hx)

theorem Cand.append {r : Bool} (pre : List Char) {c : Char} (y : List Char) (hc : r = true → c = '/') :
    Cand r y (pre ++ c :: y) := by
  induction pre with
  | nil => exact .here hc
  | cons _ _ ih => exact .there ih

theorem Cand.exists {r : Bool} {y s : List Char} (h : Cand r y s) :
    y = [] ∨ ∃ pre c, s = pre ++ c :: y ∧ (r = true → c = '/') := by
  induction h with
  | nil => exact .inl rfl
  | here hc => exact .inr ⟨[], _, rfl, hc⟩
  | there _ ih => exact ih.imp_right fun ⟨pre, c, hs, hc⟩ => ⟨_ :: pre, c, congrArg _ hs, hc⟩

/-- dropping the first character of a string that can be reached from `s` by eating anything: reachable under `r` as well when
    the dropped character is the separator -/
theorem Cand.tail {r : Bool} {c' : Char} {t s : List Char} (h : Cand false (c' :: t) s) (hc : r = true → c' = '/') :
    Cand r t s := by
  generalize hy : c' :: t = y at h
  induction h with
  | nil => cases hy
  | here _ => exact hy ▸ .there (.here hc)
  | there _ ih => exact .there (ih hy)

/-- what a matcher's answer on `s` says about a set `M` of strings: `match` exactly on the members; and after
    `entirePatternDoesntMatch` no string an enclosing sequence token could still try (`Cand r`) is a member either — which is why
    that token may stop trying -/
def Decides (r : Bool) (M : List Char → Prop) (res : MatchResult) (s : List Char) : Prop :=
  (res = .match ↔ M s) ∧ (res = .entirePatternDoesntMatch → ∀ y, Cand r y s → ¬ M y)

/-- one attempt of a sequence token: the continuation `k` (which `Decides M`) on `x`, and after `subPatternDoesntMatch` whatever
    `L` answers about the strings behind `x`.  The early exit needs `r' → r`: what `k` rules out after its
    `entirePatternDoesntMatch` covers everything the token would still try. -/
theorem try_then {r r' : Bool} (hr : r' = true → r = true) {k : List Char → MatchResult} {M : List Char → Prop}
    (hk : ∀ y, Decides r' M (k y) y) (x : List Char) {L : MatchResult} (hL : L = .match ↔ ∃ y, Cand r y x ∧ M y) :
    (match k x with | .subPatternDoesntMatch => L | m => m) = .match ↔ ∃ y, Reach r y x ∧ M y := by
  cases hres : k x with
  | subPatternDoesntMatch =>
    refine hL.trans ⟨fun ⟨y, hy, hm⟩ => ⟨y, .inr hy, hm⟩, fun ⟨y, hy, hm⟩ => ⟨y, hy.resolve_left fun e => ?_, hm⟩⟩
    exact nomatch ((hk x).1.mpr (e ▸ hm)).symm.trans hres
  | «match» => exact ⟨fun _ => ⟨x, .inl rfl, (hk x).1.mp hres⟩, fun _ => rfl⟩
  | entirePatternDoesntMatch =>
    refine ⟨nofun, ?_⟩
    rintro ⟨y, rfl | hy, hm⟩
    · exact nomatch ((hk y).1.mpr hm).symm.trans hres
    · exact absurd hm ((hk x).2 hres y (hy.mono hr))

theorem seqLoop_match_iff {r r' : Bool} (hr : r' = true → r = true) {k : List Char → MatchResult} {M : List Char → Prop}
    (hk : ∀ y, Decides r' M (k y) y) (s : List Char) : seqLoop r k s = .match ↔ ∃ y, Cand r y s ∧ M y := by
  induction s with
  | nil =>
    rw [seqLoop, (hk []).1]
    exact ⟨fun h => ⟨[], .nil [], h⟩, fun ⟨y, hy, hm⟩ => by cases hy; exact hm⟩
  | cons c f ih =>
    rw [seqLoop]
    split
    · -- `**` skips a character that is not the separator
      rename_i hskip
      refine ih.trans (exists_congr fun y => and_congr_left fun _ => ⟨.there, fun h => ?_⟩)
      cases h with
      | nil => exact .nil f
      | there h => exact h
      | here hc =>
        cases r
        · cases hskip
        · exact absurd (hc rfl) (bne_iff_ne.mp (Bool.and_eq_true_iff.mp hskip).2)
    · rename_i hskip
      have hc : r = true → c = '/' := fun h => Classical.not_not.mp fun hd => hskip (by rw [h, bne_iff_ne.mpr hd]; rfl)
      refine (try_then hr hk f ih).trans (exists_congr fun y => and_congr_left fun _ => ?_)
      exact ⟨fun h => h.elim (· ▸ .here hc) .there,
        fun h => by cases h with | nil => exact .inr (.nil f) | here => exact .inl rfl | there h => exact .inr h⟩

theorem matchesChar_not_seq {tok : Token} {c : Char} (h : tok.matchesChar c = true) :
    tok.isSeq = false := by
  cases tok <;> simp [Token.matchesChar, Token.isSeq] at h ⊢

theorem matches_one_iff (tok : Token) (rest : List Token) (s : List Char) (h : tok.isSeq = false) :
    Matches (tok :: rest) s ↔ ∃ c s', s = c :: s' ∧ tok.matchesChar c = true ∧ Matches rest s' := by
  constructor
  · intro hm
    cases hm with
    | one hc hr => exact ⟨_, _, rfl, hc, hr⟩
    | seq _ _ | recEmpty _ | recDirs _ _ | recTail _ _ => cases h
  · rintro ⟨c, s', rfl, hc, hr⟩
    exact .one hc hr

theorem matches_seq_iff (tok : Token) (rest : List Token) (s : List Char) (h : tok.isSeq = true) :
    Matches (tok :: rest) s ↔ ∃ y, Reach (tok == .anyRecSeq) y s ∧ Matches rest y := by
  constructor
  · intro hm
    cases hm with
    | one hc _ => exact absurd h (ne_true_of_eq_false (matchesChar_not_seq hc))
    | recEmpty hr => exact ⟨s, .inl rfl, hr⟩
    | recDirs s₁ hr => exact ⟨_, .inr (.append s₁ _ fun _ => rfl), hr⟩
    | recTail _ hr => exact ⟨[], .inr (.nil s), hr⟩
    | seq s₁ hr =>
      rcases List.eq_nil_or_concat s₁ with rfl | ⟨pre, c, rfl⟩
      · exact ⟨_, .inl rfl, hr⟩
      · exact ⟨_, .inr (by rw [List.concat_eq_append, List.append_assoc]; exact .append pre _ nofun), hr⟩
  · rintro ⟨y, hy, hr⟩
    have hy' := hy.imp_right Cand.exists
    cases tok <;> first | cases h | skip
    · -- `*`
      rcases hy' with rfl | rfl | ⟨pre, c, rfl, _⟩
      · exact .seq [] hr
      · exact List.append_nil s ▸ .seq s hr
      · exact List.append_cons pre c y ▸ .seq (pre ++ [c]) hr
    · -- `**`
      rcases hy' with rfl | rfl | ⟨pre, c, rfl, hc⟩
      · exact .recEmpty hr
      · exact .recTail s hr
      · exact hc rfl ▸ .recDirs pre hr

def isRecHead : List Token → Bool
  | .anyRecSeq :: _ => true
  | _ => false

theorem wfGo_tail {ok : Bool} {tok : Token} {rest : List Token} (h : wfGo ok (tok :: rest) = true) :
    ∃ ok', wfGo ok' rest = true := by
  cases tok <;> simp only [wfGo, Bool.and_eq_true] at h
  · exact ⟨_, h⟩
  · exact ⟨_, h⟩
  · exact ⟨_, h⟩
  · exact ⟨_, h.2⟩
  · exact ⟨_, h⟩
  · exact ⟨_, h⟩

/-- before a `**` there is `Char('/')` or another `**` -/
theorem wfGo_before_rec {ok : Bool} {tok : Token} {rest : List Token}
    (h : wfGo ok (tok :: rest) = true) (hr : isRecHead rest = true) :
    tok = .char '/' ∨ tok = .anyRecSeq := by
  cases rest with
  | nil => simp [isRecHead] at hr
  | cons t rest =>
    cases t <;> simp only [isRecHead, Bool.false_eq_true] at hr
    cases tok <;> simp only [wfGo, Bool.and_eq_true, Bool.false_and, Bool.false_eq_true] at h
    · rename_i c
      left
      have : c = '/' := by simpa using h.1
      rw [this]
    · right; rfl

theorem matchesFrom_seq (tok : Token) (rest : List Token) (file : List Char) (h : tok.isSeq = true) :
    matchesFrom (tok :: rest) file =
      match matchesFrom rest file with
      | .subPatternDoesntMatch => seqLoop (tok == .anyRecSeq) (matchesFrom rest) file
      | m => m := by
  simp only [matchesFrom, h, if_true]
  rfl

theorem matchesFrom_one (tok : Token) (rest : List Token) (file : List Char) (h : tok.isSeq = false) :
    matchesFrom (tok :: rest) file =
      match file with
      | [] => .entirePatternDoesntMatch
      | c :: f => if tok.matchesChar c then matchesFrom rest f else .subPatternDoesntMatch := by
  cases file <;> rw [matchesFrom, if_neg (ne_true_of_eq_false h)]

/-- On well-formed token lists the backtracking matcher answers `match` exactly when `s` matches, and after
    `entirePatternDoesntMatch` no suffix of `s` that an enclosing sequence token could still try matches either (for `**` at the
    head only those after a `/`), so the enclosing `*`/`**` may stop trying. -/
theorem matchesFrom_spec (toks : List Token) :
    ∀ (ok : Bool), wfGo ok toks = true → ∀ s : List Char,
      Decides (isRecHead toks) (Matches toks) (matchesFrom toks s) s := by
  induction toks with
  | nil =>
    intro ok _ s
    cases s with
    | nil => exact ⟨⟨fun _ => .nil, fun _ => rfl⟩, nofun⟩
    | cons c s => exact ⟨⟨nofun, nofun⟩, nofun⟩
  | cons tok rest ih =>
    intro ok hwf s
    obtain ⟨ok', hwf'⟩ := wfGo_tail hwf
    cases hseq : tok.isSeq with
    | true =>
      -- a sequence token: the empty match first, then the loop; whatever is not `match` rules out everything reachable
      have hr : isRecHead (tok :: rest) = (tok == .anyRecSeq) := by
        cases tok <;> first | rfl | cases hseq
      have hmono : isRecHead rest = true → (tok == .anyRecSeq) = true := fun hrr =>
        (wfGo_before_rec hwf hrr).elim (fun h => by subst h; cases hseq) fun h => by subst h; rfl
      have hiff : matchesFrom (tok :: rest) s = .match ↔ ∃ y, Reach (tok == .anyRecSeq) y s ∧ Matches rest y :=
        matchesFrom_seq tok rest s hseq ▸ try_then hmono (ih ok' hwf') s (seqLoop_match_iff hmono (ih ok' hwf') s)
      refine ⟨hiff.trans (matches_seq_iff tok rest s hseq).symm, fun hres y hy hm => ?_⟩
      obtain ⟨z, hz, hmz⟩ := (matches_seq_iff tok rest y hseq).mp hm
      exact nomatch (hiff.mpr ⟨z, hz.trans (.inr (hr ▸ hy)), hmz⟩).symm.trans hres
    | false =>
      -- an ordinary token
      have hr : isRecHead (tok :: rest) = false := by
        cases tok <;> first | rfl | cases hseq
      rw [hr, matchesFrom_one tok rest s hseq]
      cases s with
      | nil =>
        refine ⟨⟨nofun, fun hm => ?_⟩, fun _ y hy hm => ?_⟩ <;>
          obtain ⟨c, t, e, _⟩ := (matches_one_iff tok rest _ hseq).mp hm
        · cases e
        · cases hy; cases e
      | cons c s₀ =>
        dsimp only
        have h0 := ih ok' hwf' s₀
        cases hc : tok.matchesChar c with
        | true =>
          rw [if_pos rfl]
          refine ⟨h0.1.trans ⟨.one hc, fun hm => ?_⟩, fun h y hy hm => ?_⟩
          · obtain ⟨c', t, he, _, hmt⟩ := (matches_one_iff tok rest _ hseq).mp hm
            cases he
            exact hmt
          · obtain ⟨c', t, rfl, hc', hmt⟩ := (matches_one_iff tok rest _ hseq).mp hm
            -- `c' :: t` is a suffix of `c :: s₀`, so `t` is a suffix of `s₀` — after a `/` if the rest starts with `**`
            have hsep : isRecHead rest = true → c' = '/' := fun hrr =>
              (wfGo_before_rec hwf hrr).elim (fun h' => by subst h'; exact (beq_iff_eq.mp hc'))
                fun h' => by subst h'; cases hseq
            cases hy with
            | here => exact h0.2 h t (.here hsep) hmt
            | there hy => exact h0.2 h t (hy.tail hsep) hmt
        | false =>
          rw [if_neg Bool.false_ne_true]
          refine ⟨⟨nofun, fun hm => ?_⟩, nofun⟩
          obtain ⟨c', t, he, hcc, _⟩ := (matches_one_iff tok rest _ hseq).mp hm
          cases he
          exact absurd (hc.symm.trans hcc) Bool.false_ne_true

/-! ### `Pattern::new` produces well-formed token lists -/

/-- the `ok` flag of `wfGo` after a token list -/
def endFlag : Bool → List Token → Bool
  | ok, [] => ok
  | _, .anyRecSeq :: rest => endFlag true rest
  | _, .char c :: rest => endFlag (c == '/') rest
  | _, _ :: rest => endFlag false rest

theorem wfGo_append (ok : Bool) (a b : List Token) :
    wfGo ok (a ++ b) = (wfGo ok a && wfGo (endFlag ok a) b) := by
  induction a generalizing ok with
  | nil => simp [wfGo, endFlag]
  | cons t a ih =>
    cases t <;> simp [wfGo, endFlag, ih, Bool.and_assoc]

theorem endFlag_append (ok : Bool) (a b : List Token) :
    endFlag ok (a ++ b) = endFlag (endFlag ok a) b := by
  induction a generalizing ok with
  | nil => simp [endFlag]
  | cons t a ih =>
    cases t <;> simp [endFlag, ih]

theorem endFlag_getLast_rec (ok : Bool) (a : List Token) (h : a.getLast? = some .anyRecSeq) :
    endFlag ok a = true := by
  obtain ⟨l, rfl⟩ := List.getLast?_eq_some_iff.mp h
  rw [endFlag_append]; rfl

/-- what the parser loop maintains: the tokens so far are well formed, and whenever a `**` would
    be accepted next (`i == 2` or the previous character is `/`) the token list allows one -/
def ParseInv (pos : Nat) (prev : Option Char) (acc : List Token) : Prop :=
  wfGo true acc = true ∧ ((pos = 0 ∨ prev = some '/') → endFlag true acc = true)

theorem parseInv_push_plain {pos : Nat} {prev : Option Char} {acc : List Token} (t : Token)
    (pos' : Nat) (c : Char)
    (ht : t ≠ .anyRecSeq) (hpos : pos' ≠ 0)
    (hc : c = '/' → t = .char '/')
    (h : ParseInv pos prev acc) : ParseInv pos' (some c) (acc ++ [t]) := by
  obtain ⟨h1, _⟩ := h
  refine ⟨?_, ?_⟩
  · rw [wfGo_append, h1]
    cases t <;> simp [wfGo] at ht ⊢
  · rintro (h | h)
    · exact absurd h hpos
    · have : c = '/' := by simpa using h
      rw [hc this, endFlag_append]; simp [endFlag]

theorem parseInv_pushRec {pos : Nat} {prev : Option Char} {acc : List Token}
    (pos' : Nat) (c : Option Char) (hok : pos = 0 ∨ prev = some '/')
    (h : ParseInv pos prev acc) : ParseInv pos' c (pushRec acc) := by
  obtain ⟨h1, h2⟩ := h
  have he := h2 hok
  unfold pushRec
  split
  · rename_i hcond
    exact ⟨h1, fun _ => endFlag_getLast_rec _ _ hcond.2⟩
  · refine ⟨?_, fun _ => ?_⟩
    · rw [wfGo_append, h1, he]; simp [wfGo]
    · rw [endFlag_append]; simp [endFlag]

/-- one case per branch of the loop body (`parseGo.induct`, in the order of the definition): every branch that goes round
    again pushes a token that keeps `ParseInv`.
    1 out of fuel · 2 end of input · 3 `?` · 4 three or more `*` · 5 `**` at the end · 6 `**/` · 7 `**` before another
    character · 8 `**` not after `/` · 9 `*` · 10/11 `[!…` closed/unclosed · 12/13 `[…` closed/unclosed · 14 `[` too
    short · 15 a literal character -/
theorem parseGo_wf (fuel pos : Nat) (prev : Option Char) (rest : List Char) (acc toks : List Token)
    (hinv : ParseInv pos prev acc) (h : parseGo fuel pos prev rest acc = .ok toks) : WF toks := by
  fun_induction parseGo fuel pos prev rest acc with
  | case1 | case4 | case7 | case8 | case11 | case13 | case14 => cases h
  | case2 =>
    cases h
    exact hinv.1
  | case3 _ _ _ _ _ ih =>
    exact ih (parseInv_push_plain .anyChar _ '?' nofun (Nat.succ_ne_zero _) nofun hinv) h
  | case5 _ _ _ _ _ _ _ _ _ _ hok _ _ ih => exact ih (parseInv_pushRec _ _ hok hinv) h
  | case6 _ _ _ _ _ _ _ _ _ _ hok _ _ _ ih => exact ih (parseInv_pushRec _ _ hok hinv) h
  | case9 _ _ _ _ _ _ _ _ _ ih =>
    exact ih (parseInv_push_plain .anySeq _ '*' nofun (Nat.succ_ne_zero _) nofun hinv) h
  | case10 _ _ _ _ _ _ _ _ _ _ ih =>
    exact ih (parseInv_push_plain (.anyExcept _) _ ']' nofun (Nat.succ_ne_zero _) nofun hinv) h
  | case12 _ _ _ _ _ _ _ _ _ _ _ ih =>
    exact ih (parseInv_push_plain (.anyWithin _) _ ']' nofun (Nat.succ_ne_zero _) nofun hinv) h
  | case15 _ _ _ c _ _ _ _ _ ih =>
    exact ih (parseInv_push_plain (.char c) _ c nofun (Nat.succ_ne_zero _) (fun h' => h' ▸ rfl) hinv) h

theorem parse_wf' {p : List Char} {toks : List Token} (h : parse p = .ok toks) : WF toks :=
  parseGo_wf _ 0 none p [] toks ⟨rfl, fun _ => rfl⟩ h

/-- the fuel handed to `parseGo` by `parse` always suffices: the `0` branch (which answers
    `wildcards 0`) is dead code — a reported `ERROR_WILDCARDS` position is at least `pos + 2`.
    Every branch that goes round again does so with a shorter rest and a larger position (cases numbered as at
    `parseGo_wf`). -/
theorem parseGo_fuel (fuel pos : Nat) (prev : Option Char) (rest : List Char) (acc : List Token) (q : Nat)
    (hlen : rest.length < fuel) (h : parseGo fuel pos prev rest acc = .error (.wildcards q)) : pos + 2 ≤ q := by
  fun_induction parseGo fuel pos prev rest acc with
  | case1 => exact absurd hlen (Nat.not_lt_zero _)
  | case2 | case7 | case8 | case11 | case13 | case14 => cases h
  | case4 =>
    cases h
    exact Nat.le_refl _
  | case3 _ _ _ _ _ ih | case9 _ _ _ _ _ _ _ _ _ ih | case15 _ _ _ _ _ _ _ _ _ ih =>
    exact Nat.le_of_succ_le (ih (Nat.lt_of_succ_lt_succ hlen) h)
  | case5 _ _ _ _ _ _ _ _ _ _ _ _ _ ih =>
    exact Nat.le_trans (Nat.add_le_add_right (Nat.le_add_right _ _) 2)
      (ih (Nat.zero_lt_of_lt (Nat.lt_of_succ_lt_succ hlen)) h)
  | case6 _ _ _ rest _ count _ _ _ _ _ xs _ hx ih =>
    have hd : xs.length < rest.length :=
      Nat.lt_of_lt_of_le (Nat.lt_succ_self _) (Nat.le_trans (Nat.le_of_eq (congrArg List.length hx).symm)
        (List.drop_sublist (count - 1) rest).length_le)
    exact Nat.le_trans (Nat.add_le_add_right (Nat.le_succ_of_le (Nat.le_add_right _ _)) 2)
      (ih (Nat.lt_trans hd (Nat.lt_of_succ_lt_succ hlen)) h)
  | case10 _ _ _ _ _ _ _ _ _ _ ih | case12 _ _ _ _ _ _ _ _ _ _ _ ih =>
    exact Nat.le_trans (Nat.add_le_add_right (Nat.le_add_right_of_le (Nat.le_add_right _ _)) 2)
      (ih (Nat.lt_of_le_of_lt (List.drop_sublist _ _).length_le (Nat.lt_of_succ_lt_succ hlen)) h)

/-- `parse` never reports the out-of-fuel placeholder `wildcards 0` (a real `ERROR_WILDCARDS`
    position is at least 2). -/
theorem parse_wildcards_pos {p : List Char} {q : Nat} (h : parse p = .error (.wildcards q)) : 2 ≤ q := by
  have := parseGo_fuel (p.length + 1) 0 none p [] q (by omega) h
  omega

end SyModel.Filter
