/-
  PathText — path texts of the translator's Prelude (`Rs.split`, `Rs.join`, `Rs.strip_prefix`, `Rs.splitLastAt`,
  `Rs.parent`) against component paths, stated ONCE and free of engine imports, so that every bridge module uses the same
  lemmas.  `compsOf` / `textOf` / `CleanPath` here are over `List String`; the units' own copies (`Lemmas/GenTransfer`,
  `Lemmas/GenPlannerFx`: same bodies, `Engine.Path = List String`) agree with them — `compsOf` and `CleanPath` by
  unfolding, `textOf` by `textOf_eq` there — and their lemmas are instances of the ones here.
-/
import SyModel.Generated.Prelude
namespace SyModel.Lemmas.PathText
open SyModel.Generated

/-- a path text as a component path: the pieces between `/` -/
def compsOf (t : Rs.Path) : List String := (Rs.split t '/').map String.ofList

/-- a component path as text: components joined with `/` -/
def textOf : List String → Rs.Path
  | [] => []
  | [c] => c.toList
  | c :: d :: rest => c.toList ++ '/' :: textOf (d :: rest)

/-- keys a directory walk can produce: at least one component, none empty, none containing `/` -/
def CleanPath (k : List String) : Prop := k ≠ [] ∧ ∀ c ∈ k, c.toList ≠ [] ∧ '/' ∉ c.toList

theorem splitAux_ne_nil (c : Char) (s cur : Rs.Str) : Rs.splitAux c s cur ≠ [] := by
  induction s generalizing cur with
  | nil => simp [Rs.splitAux]
  | cons x t ih =>
    unfold Rs.splitAux
    split
    · simp
    · exact ih _

theorem splitAux_no_sep (s rest cur : Rs.Str) (h : '/' ∉ s) :
    Rs.splitAux '/' (s ++ rest) cur = Rs.splitAux '/' rest (s.reverse ++ cur) := by
  induction s generalizing cur with
  | nil => rfl
  | cons x t ih =>
    have hx : (x == '/') = false := by
      have : x ≠ '/' := fun e => h (by simp [e])
      simpa using this
    have ht : '/' ∉ t := fun e => h (List.mem_cons_of_mem _ e)
    show Rs.splitAux '/' (x :: (t ++ rest)) cur = _
    rw [Rs.splitAux]
    simp only [hx, Bool.false_eq_true, ↓reduceIte]
    rw [ih _ ht]; simp

theorem splitAux_append (a r cur : Rs.Str) :
    Rs.splitAux '/' (a ++ '/' :: r) cur = Rs.splitAux '/' a cur ++ Rs.splitAux '/' r [] := by
  induction a generalizing cur with
  | nil => simp [Rs.splitAux]
  | cons x t ih =>
    simp only [List.cons_append, Rs.splitAux]
    split
    · simp [ih]
    · exact ih _

theorem compsOf_append (a r : Rs.Str) : compsOf (a ++ '/' :: r) = compsOf a ++ compsOf r := by
  simp [compsOf, Rs.split, splitAux_append]

theorem compsOf_ne_nil (t : Rs.Str) : compsOf t ≠ [] := fun h =>
  splitAux_ne_nil '/' t [] (List.map_eq_nil_iff.1 h)

theorem compsOf_of_no_sep (n : Rs.Str) (h : '/' ∉ n) : compsOf n = [String.ofList n] := by
  have := splitAux_no_sep n [] [] h
  simp only [List.append_nil] at this
  simp [compsOf, Rs.split, this, Rs.splitAux]

theorem textOf_cons (a : String) (rest : List String) (h : rest ≠ []) :
    textOf (a :: rest) = a.toList ++ '/' :: textOf rest := by
  cases rest with
  | nil => exact absurd rfl h
  | cons b r => rfl

theorem textOf_append (k s : List String) (hk : k ≠ []) (hs : s ≠ []) :
    textOf (k ++ s) = textOf k ++ '/' :: textOf s := by
  induction k with
  | nil => exact absurd rfl hk
  | cons a t ih =>
    cases t with
    | nil => exact textOf_cons a s hs
    | cons b r =>
      rw [List.cons_append, textOf_cons a _ (by simp), ih (by simp), textOf_cons a _ (by simp)]
      simp

theorem textOf_splitAux (r cur : Rs.Str) :
    textOf ((Rs.splitAux '/' r cur).map String.ofList) = cur.reverse ++ r := by
  induction r generalizing cur with
  | nil => simp [Rs.splitAux, textOf]
  | cons x t ih =>
    simp only [Rs.splitAux]
    split
    · rename_i hx
      have hx' : x = '/' := by simpa using hx
      rw [List.map_cons, textOf_cons _ _ (by simpa using splitAux_ne_nil '/' t []), ih]
      simp [hx']
    · rw [ih]; simp

theorem textOf_compsOf (r : Rs.Str) : textOf (compsOf r) = r := by
  simpa [compsOf, Rs.split] using textOf_splitAux r []

theorem compsOf_injective {a b : Rs.Path} (h : compsOf a = compsOf b) : a = b := by
  rw [← textOf_compsOf a, h, textOf_compsOf]

/-- on texts, "equal, or continues after a separator" IS "prefix" on component paths — for ALL texts -/
theorem text_prefix_iff (a b : Rs.Str) : (a = b ∨ b ++ ['/'] <+: a) ↔ compsOf b <+: compsOf a := by
  constructor
  · rintro (rfl | ⟨c, hc⟩)
    · exact List.prefix_refl _
    · rw [← hc, List.append_assoc, List.singleton_append, compsOf_append]
      exact List.prefix_append _ _
  · rintro ⟨r, hr⟩
    by_cases h : r = []
    · rw [h, List.append_nil] at hr
      exact .inl (compsOf_injective hr.symm)
    · refine .inr ⟨textOf r, ?_⟩
      rw [← textOf_compsOf a, ← hr, textOf_append _ _ (compsOf_ne_nil b) h, textOf_compsOf]
      simp

theorem split_textOf (k : List String) (h : CleanPath k) : Rs.split (textOf k) '/' = k.map String.toList := by
  obtain ⟨hne, hc⟩ := h
  unfold Rs.split
  induction k with
  | nil => exact absurd rfl hne
  | cons c rest ih =>
    have hcc := (hc c (by simp)).2
    cases rest with
    | nil =>
      have := splitAux_no_sep c.toList [] [] hcc
      simp only [List.append_nil] at this
      simp [textOf, this, Rs.splitAux]
    | cons d rest' =>
      have := splitAux_no_sep c.toList ('/' :: textOf (d :: rest')) [] hcc
      simp only [textOf, this, List.append_nil]
      rw [Rs.splitAux]
      simp only [BEq.rfl, ↓reduceIte, List.reverse_reverse, List.map_cons, List.cons.injEq, true_and]
      have := ih (by simp) (fun x hx => hc x (List.mem_cons_of_mem _ hx))
      simpa using this

theorem compsOf_textOf (k : List String) (h : CleanPath k) : compsOf (textOf k) = k := by
  unfold compsOf
  rw [split_textOf k h, List.map_map]
  have : (String.ofList ∘ String.toList) = id := by funext s; simp [String.ofList_toList]
  rw [this, List.map_id]

theorem textOf_ne_nil (k : List String) (h : CleanPath k) : textOf k ≠ [] := by
  obtain ⟨hne, hc⟩ := h
  cases k with
  | nil => exact absurd rfl hne
  | cons c rest =>
    have := (hc c (by simp)).1
    cases rest with
    | nil => simpa [textOf] using this
    | cons d r => simp [textOf]

theorem join_of_ne {root : Rs.Path} (h : root ≠ []) (rel : Rs.Path) : Rs.join root rel = root ++ '/' :: rel := by
  cases root with
  | nil => exact absurd rfl h
  | cons _ _ => rfl

theorem join_injective (root : Rs.Path) {a b : Rs.Path} (h : Rs.join root a = Rs.join root b) : a = b := by
  cases root with
  | nil => exact h
  | cons x t => exact List.cons.inj (List.append_cancel_left h) |>.2

theorem strip_prefix_ok_iff {p base r : Rs.Path} :
    Rs.strip_prefix p base = .ok r ↔
      (p = base ∧ r = []) ∨ (p ≠ base ∧ base = [] ∧ r = p) ∨ (base ≠ [] ∧ p = base ++ '/' :: r) := by
  have happ : ∀ t : Rs.Path, base ++ '/' :: t = (base ++ ['/']) ++ t := fun t => by simp
  unfold Rs.strip_prefix
  by_cases h1 : p = base
  · subst h1
    cases p <;> simp [eq_comm]
  · rw [if_neg (by simpa using h1)]
    by_cases h2 : base = []
    · subst h2
      simp [h1, eq_comm]
    · rw [if_neg (by simpa using h2)]
      by_cases h3 : (base ++ ['/']).isPrefixOf p = true
      · obtain ⟨t, rfl⟩ := List.isPrefixOf_iff_prefix.1 h3
        rw [if_pos h3, List.drop_left' (by simp)]
        simp [h2, ← happ, eq_comm]
      · rw [if_neg h3]
        simp only [reduceCtorEq, h1, h2, false_and, and_false, false_or, false_iff]
        rintro ⟨_, rfl⟩
        exact h3 (List.isPrefixOf_iff_prefix.2 ⟨r, (happ r).symm⟩)

theorem strip_prefix_join (root rel : Rs.Path) : Rs.strip_prefix (Rs.join root rel) root = .ok rel := by
  rw [strip_prefix_ok_iff]
  by_cases h : root = []
  · subst h
    by_cases hr : rel = []
    · exact .inl ⟨hr, hr⟩
    · exact .inr (.inl ⟨hr, rfl, rfl⟩)
  · exact .inr (.inr ⟨h, join_of_ne h rel⟩)

theorem join_of_strip_prefix {p root r : Rs.Path} (h : Rs.strip_prefix p root = .ok r) (hr : r ≠ []) :
    p = Rs.join root r := by
  rcases strip_prefix_ok_iff.1 h with ⟨_, h0⟩ | ⟨_, rfl, rfl⟩ | ⟨hb, rfl⟩
  · exact absurd h0 hr
  · rfl
  · exact (join_of_ne hb r).symm

/-! ### `Rs.splitLastAt sep` (the model's `Bisync.splitLast sep` is the same function), for any separator -/

theorem splitLastAt_none {sep : Char} (c : Rs.Str) (h : sep ∉ c) : Rs.splitLastAt sep c = none := by
  unfold Rs.splitLastAt
  have : c.reverse.dropWhile (· ≠ sep) = [] := by
    rw [← List.append_nil c.reverse, List.dropWhile_append_of_pos]
    · rfl
    · intro x hx
      simpa using fun e : x = sep => h (e ▸ List.mem_reverse.mp hx)
  simp only [this]

theorem splitLastAt_last {sep : Char} (a c : Rs.Str) (h : sep ∉ c) :
    Rs.splitLastAt sep (a ++ sep :: c) = some (a, c) := by
  have hp : ∀ x ∈ c.reverse, decide (x ≠ sep) = true := fun x hx => by
    simpa using fun e : x = sep => h (e ▸ List.mem_reverse.mp hx)
  have hr : (a ++ sep :: c).reverse = c.reverse ++ sep :: a.reverse := by simp
  unfold Rs.splitLastAt
  simp only [hr, List.takeWhile_append_of_pos hp, List.dropWhile_append_of_pos hp]
  simp

theorem last_split (sep : Char) : ∀ l : Rs.Str, sep ∉ l ∨ ∃ a c, sep ∉ c ∧ l = a ++ sep :: c
  | [] => .inl (by simp)
  | x :: t => by
    rcases last_split sep t with h | ⟨a, c, h, rfl⟩
    · by_cases hx : x = sep
      · exact .inr ⟨[], t, h, by rw [hx]; rfl⟩
      · exact .inl (by simp [h, Ne.symm hx])
    · exact .inr ⟨x :: a, c, h, rfl⟩

theorem splitLastAt_some {sep : Char} {l a c : Rs.Str} (h : Rs.splitLastAt sep l = some (a, c)) :
    l = a ++ sep :: c ∧ sep ∉ c := by
  rcases last_split sep l with hn | ⟨a', c', hc, rfl⟩
  · rw [splitLastAt_none _ hn] at h; cases h
  · rw [splitLastAt_last _ _ hc] at h; cases h; exact ⟨rfl, hc⟩

theorem splitLastAt_append_sep (sep : Char) (a b : Rs.Str) :
    Rs.splitLastAt sep (a ++ sep :: b) =
      match Rs.splitLastAt sep b with
      | none => some (a, b)
      | some (p, n) => some (a ++ sep :: p, n) := by
  rcases last_split sep b with hn | ⟨p, n, hn, rfl⟩
  · rw [splitLastAt_none _ hn]; exact splitLastAt_last a b hn
  · rw [splitLastAt_last _ _ hn]
    simpa using splitLastAt_last (a ++ sep :: p) n hn

theorem parent_length {p q : Rs.Path} (h : Rs.parent p = some q) : q.length < p.length := by
  unfold Rs.parent at h
  cases hs : Rs.splitLastAt '/' p with
  | none =>
    rw [hs] at h
    cases p with
    | nil => cases h
    | cons a t => cases h; exact Nat.succ_pos _
  | some ac =>
    rw [hs] at h
    cases h
    rw [(splitLastAt_some hs).1, List.length_append, List.length_cons]
    omega

end SyModel.Lemmas.PathText
