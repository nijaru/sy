/-
  Where the destination ends up after quiescence (repaired order), from every program point: at what a
  sync from the current source makes of what the sync in flight (if any) leaves (`target`); that is the
  source when the comparison rule can see the last edit (`Hcmp`).
-/
import SyModel.Lemmas.WatchProgress
import SyModel.Lemmas.WatchInv
namespace SyModel.Watch

/-- The last edit is visible: the comparison rule can tell the current source from the destination
    (or they are equal) — and, while a sync is running, from the snapshot that sync is about to
    install.  Where it fails, nothing is ever propagated (`C20.counterexample_same_size`). -/
def Hcmp (c : Cfg) (s : State) : Prop :=
  Vis c s.src s.dst ∧ ((s.phase = .sync ∨ s.phase = .initSync) → Vis c s.src s.snap)

instance (c : Cfg) (s : State) : Decidable (Hcmp c s) := by unfold Hcmp; exact inferInstance

/-- iterations the model needs from `s` until the destination equals the source -/
def convergeBound (c : Cfg) (s : State) : Nat :=
  s.queue.length + ceilDiv c.debounce c.recvTimeout + 6

/-- what the sync in flight, if there is one, leaves of the destination -/
def inflight (c : Cfg) (s : State) : Ver :=
  if s.phase = .sync ∨ s.phase = .initSync then syncTo c s.snap s.dst else s.dst

/-- where quiescence takes the destination: a sync from the current source on top of the one in flight -/
def target (c : Cfg) (s : State) : Ver := syncTo c s.src (inflight c s)

theorem target_loop {c : Cfg} {s : State} (hp : s.phase = .loop) : target c s = syncTo c s.src s.dst := by
  simp [target, inflight, hp]

theorem converge_loop (c : Cfg) (hr : 0 < c.recvTimeout) (s : State) (hinv : Inv c s)
    (hp : s.phase = .loop) (hsig : s.sig = false) (is : List Input) (hq : Quiescent is)
    (hn : s.queue.length + ceilDiv c.debounce c.recvTimeout + 2 ≤ nSteps is) :
    (run c s is).dst = syncTo c s.src s.dst ∧ (run c s is).src = s.src := by
  by_cases hw : s.pending ≠ [] ∨ ∃ k ∈ s.queue, k.kept = true
  · -- work outstanding: a sync from the current source starts, and one more move completes it
    have hmul := ceilDiv_mul_ge c.debounce c.recvTimeout hr
    obtain ⟨pre, post, now', h1, h2, h3⟩ :=
      reach_sync c is s (ceilDiv c.debounce c.recvTimeout) hq hp hsig (work_outstanding hw)
        (by rw [Nat.succ_mul]; have := hinv.time; omega) (by omega)
    subst h1
    rw [nSteps_append] at hn
    rw [run_append, h3]
    exact sync_completes c (startedSync s now') rfl hsig rfl post (List.forall_mem_append.mp hq).2 (by omega)
  · -- nothing outstanding: the last sync worked from the current source and has settled: another changes nothing
    have hcov := hinv.covered.resolve_left (by rw [hp]; decide)
    obtain ⟨hsnap, hok⟩ := hcov.resolve_right fun h => hw (h.elim Or.inr fun h => Or.inl h.1)
    have hd : syncTo c s.src s.dst = s.dst := hsnap ▸ syncTo_fix (hinv.settled (Or.inr hp) hok)
    rw [hd]
    exact fixed_run c s.src s.dst hd is hq s ⟨rfl, rfl, hsig, Or.inl hp⟩

/-- distance (in loop-thread moves) to the top of the loop -/
def rank (s : State) : Nat :=
  match s.phase with
  | .boot => if s.armed then 3 else 4
  | .initSync => 2
  | .postInit => 1
  | .sync => 1
  | .loop => 0
  | .done => 0

theorem toward_loop (c : Cfg) (hfix : c.armFirst = true) (s : State) (hinv : Inv c s)
    (hnl : s.phase ≠ .loop) (hnd : s.phase ≠ .done) :
    (step c s).1.phase ≠ .done ∧ target c (step c s).1 = target c s ∧ rank (step c s).1 < rank s ∧
      (step c s).1.queue = s.queue := by
  refine step_cases c s (P := fun s' => s'.phase ≠ .done ∧ target c s' = target c s ∧ rank s' < rank s ∧ s'.queue = s.queue)
    ?arm ?initStart ?initEnd ?enter ?exit ?recv ?sync ?idle ?syncEnd ?halted
  case arm =>
    intro hp ha
    rcases hp with hp | hp
    · exact ⟨hnd, rfl, by simp [rank, hp, ha], rfl⟩
    · exact absurd (hinv.armed (by rw [hp]; decide)) (by rw [ha]; decide)
  case initStart =>
    intro hp ha
    exact ⟨nofun, by simp [target, inflight, hp, syncTo_idem], by simp [rank, hp, ha hfix], rfl⟩
  case initEnd =>
    intro hp
    exact ⟨nofun, by simp [target, inflight, hp], by simp [rank, hp], rfl⟩
  case enter =>
    intro hp _
    exact ⟨nofun, by simp [target, inflight, hp], by simp [rank, hp], rfl⟩
  case exit => exact fun hp => absurd hp hnl
  case recv => exact fun _ _ hp => absurd hp hnl
  case sync => exact fun hp => absurd hp hnl
  case idle => exact fun hp => absurd hp hnl
  case syncEnd =>
    intro hp
    exact ⟨nofun, by simp [target, inflight, hp], by simp [rank, hp], rfl⟩
  case halted => exact fun hp => absurd hp hnd

theorem converge_rank (c : Cfg) (hfix : c.armFirst = true) (hr : 0 < c.recvTimeout) :
    ∀ (n : Nat) (s : State) (is : List Input), rank s < n → Inv c s → s.phase ≠ .done →
      s.sig = false → Quiescent is →
      s.queue.length + ceilDiv c.debounce c.recvTimeout + 1 + n ≤ nSteps is →
      (run c s is).dst = target c s ∧ (run c s is).src = s.src := by
  intro n
  induction n with
  | zero => exact fun _ _ hrk => absurd hrk (Nat.not_lt_zero _)
  | succ n ih =>
    intro s is hrk hinv hnd hsig hq hn
    by_cases hp : s.phase = .loop
    · rw [target_loop hp]
      exact converge_loop c hr s hinv hp hsig is hq (by omega)
    · -- some time passes, then the loop thread moves towards the loop
      obtain ⟨δ, post, hqp, hnp, hrun⟩ := quiescent_split c is hq (by omega)
      have hinv' := inv_advance c s δ hinv
      obtain ⟨hnd', htg', hrk', hqu'⟩ := toward_loop c hfix (advance s δ) hinv' hp hnd
      obtain ⟨hsrc', hsig'⟩ := step_src_sig c (advance s δ)
      have h := ih (step c (advance s δ)).1 post (Nat.lt_of_lt_of_le hrk' (Nat.le_of_lt_succ hrk))
        ((inv_step c hfix _ hinv').resolve_left hnd') hnd' (hsig'.trans hsig) hqp
        (by rw [hqu']; show s.queue.length + _ + 1 + n ≤ _; omega)
      rw [hrun]
      rw [hsrc', htg'] at h
      exact h

theorem rank_le_four (s : State) : rank s ≤ 4 := by
  unfold rank
  split <;> try omega
  split <;> omega

/-- `converge_rank` from anywhere.  The `+ 6` of `convergeBound` is `rank ≤ 4` moves to reach the top of
    the loop, `+ 1` the timeout that starts the sync (`reach_sync` with `m = ⌈debounce / recvTimeout⌉`),
    `+ 1` the move that completes it (`sync_completes`). -/
theorem settles_after_quiescence (c : Cfg) (hfix : c.armFirst = true) (hr : 0 < c.recvTimeout)
    (s : State) (hinv : Inv c s) (hnd : s.phase ≠ .done) (hsig : s.sig = false)
    (is : List Input) (hq : Quiescent is) (hn : convergeBound c s ≤ nSteps is) :
    (run c s is).dst = target c s ∧ (run c s is).src = s.src :=
  converge_rank c hfix hr 5 s is (Nat.lt_succ_of_le (rank_le_four s)) hinv hnd hsig hq (by unfold convergeBound at hn; omega)

theorem vis_syncTo {c : Cfg} {v a d : Ver} (h1 : Vis c v d) (h2 : Vis c v a) : Vis c v (syncTo c a d) := by
  unfold syncTo; split <;> assumption

theorem target_of_hcmp {c : Cfg} {s : State} (h : Hcmp c s) : target c s = s.src := by
  refine syncTo_of_vis ?_
  unfold inflight
  split
  · rename_i hp; exact vis_syncTo h.1 (h.2 hp)
  · exact h.1

end SyModel.Watch
