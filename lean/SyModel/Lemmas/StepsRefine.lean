/-
  SyModel.Lemmas.StepsRefine — the step-level model (`SyModel.Engine.Steps`: `stepsOfH`, `applyAll`, `ofMap`) refines
  the entry-level engine model (`SyModel.Engine.Model`: `perform`, `execTask`): one task (`task_refines`) and a
  sequential run (`tasks_run_refines`), with the hypotheses they are stated in (`TaskFits`, `RunOK`, `Pending`,
  `Closed`, `NoLinkTasks`, `taskDst`).  `SyModel.Props.Refine` restates them, lifts them to `run` and to every
  interleaving, and shows that each hypothesis is needed.
-/
import SyModel.Lemmas.StepsRun
import SyModel.Lemmas.EngineClosed
namespace SyModel.Engine

theorem ofMap_set (dst : Map DNode) (p : Path) (v : DNode) :
    ofMap (dst.set p v) = upd (ofMap dst) p (some (embed v)) := by
  funext x
  by_cases h : x = p
  · subst h; simp [ofMap, upd]
  · simp [ofMap, upd, h, Map.get?_set_ne _ _ _ _ (Ne.symm h)]

theorem ofMap_erase (dst : Map DNode) (p : Path) : ofMap (dst.erase p) = upd (ofMap dst) p none := by
  funext x
  by_cases h : x = p
  · subst h; simp [ofMap, upd, Map.get?_erase_same]
  · simp [ofMap, upd, h, Map.get?_erase_ne _ _ _ (Ne.symm h)]

theorem ofMap_eraseSubtree (dst : Map DNode) (p : Path) :
    ofMap (dst.eraseSubtree p) = fun x => if isPrefix p x then none else ofMap dst x := by
  funext x
  simp only [ofMap, Map.get?_eraseSubtree]
  split <;> rfl

theorem ofMap_eq_none {dst : Map DNode} {x : Path} : ofMap dst x = none ↔ dst.get? x = none := by
  simp [ofMap]

theorem applyAll_mkdirs (qs : List Path) (w : SWorld) (x : Path) :
    applyAll (qs.map Step.mkdir) w x = if x ∈ qs then some ((w x).getD .dir) else w x := by
  induction qs generalizing w with
  | nil => rfl
  | cons q qs ih =>
    rw [List.map_cons, applyAll_cons, ih, apply_mkdir, upd_apply]
    by_cases hx : x = q
    · subst hx
      cases w x <;> simp
    · simp [hx]

theorem mkdirs_noop (qs : List Path) (w : SWorld) (h : ∀ x ∈ qs, w x ≠ none) :
    applyAll (qs.map Step.mkdir) w = w := by
  funext x
  rw [applyAll_mkdirs]
  split
  · rename_i hx
    cases hw : w x with
    | none => exact absurd hw (h x hx)
    | some v => rfl
  · rfl

theorem mkdirs_refine {dst d : Map DNode} {r : Path} (hd : mkdirAll dst r = some d) (qs : List Path)
    (hqs : ∀ x, x ∈ qs ↔ x ≠ [] ∧ isPrefix x r = true) :
    applyAll (qs.map Step.mkdir) (ofMap dst) = ofMap d := by
  funext x
  rw [applyAll_mkdirs, ofMap_apply, ofMap_apply, mkdirAll_get hd]
  by_cases hx : x ∈ qs
  · have h := (hqs x).mp hx
    rw [if_pos hx, if_pos h]
    rcases mkdirAll_pre hd x h.1 h.2 with h' | h' <;> rw [h'] <;> rfl
  · rw [if_neg hx, if_neg fun h => hx ((hqs x).mpr h)]

theorem dirSteps_eq_chain {p : Path} (hp : p ≠ []) : dirSteps p = mkdirChain p ++ [Step.mkdir p] := by
  simp [dirSteps, hp]

theorem dirSteps_refines {dst d : Map DNode} {p : Path} (hd : mkdirAll dst p = some d) :
    applyAll (dirSteps p) (ofMap dst) = ofMap d := by
  by_cases hp : p = []
  · subst hp
    exact mkdirs_refine hd [] fun x => ⟨fun h => (nomatch h), fun h => absurd (isPrefix_nil_right h.2) h.1⟩
  · rw [dirSteps_eq_chain hp, mkdirChain, ← List.map_singleton, ← List.map_append]
    refine mkdirs_refine hd _ fun x => ?_
    rw [mem_chain_self]
    exact ⟨fun h => h.elim id fun he => he.symm ▸ ⟨hp, isPrefix_refl _⟩, .inl⟩

theorem ofMap_eq_dir {dst : Map DNode} {x : Path} : ofMap dst x = some .dir ↔ dst.get? x = some .dir := by
  unfold ofMap
  cases dst.get? x with
  | none => simp
  | some v => cases v <;> simp [embed]

theorem Writer.result {hol : Prop} {p : Path} {m : FileMeta} {now : Nat} {T : List Step} (hT : Writer hol p m now T)
    (d : Map DNode) :
    applyAll T (ofMap d) = if d.get? p = some .dir then ofMap d else upd (ofMap d) p (some (fileNode m)) := by
  rw [applyAll_atP hT.atP, hT.final]
  by_cases hd : d.get? p = some .dir
  · rw [if_pos hd, if_pos (ofMap_eq_dir.mpr hd), ← ofMap_eq_dir.mpr hd, upd_self]
  · rw [if_neg hd, if_neg fun h => hd (ofMap_eq_dir.mp h)]

theorem unlinkIfSymlink_chain_comm (p : Path) (w : SWorld) :
    applyAll (mkdirChain p) ((Step.unlinkIfSymlink p).apply w) =
      (Step.unlinkIfSymlink p).apply (applyAll (mkdirChain p) w) := by
  apply apply_applyAll_comm
  intro t ht
  obtain ⟨q, hq, rfl⟩ := mem_mkdirChain ht
  left
  intro x ⟨h1, h2⟩
  simp only [Step.touches, beq_iff_eq] at h1 h2
  exact ancestors_ne hq (h2 ▸ h1)

/-- the first shape of `file_task_shape` on a world: `create_dir_all(parent)`, then a writer -/
theorem chain_writer_apply {hol : Prop} {p : Path} {m : FileMeta} {now : Nat} {T : List Step}
    (hT : Writer hol p m now T) (b : Bool) (w : SWorld) :
    ∃ T', Writer hol p m now T' ∧
      applyAll ((if b then [Step.unlinkIfSymlink p] else []) ++ (mkdirChain p ++ T)) w =
        applyAll T' (applyAll (mkdirChain p) w) := by
  cases b
  · exact ⟨T, hT, by simp [applyAll_append]⟩
  · refine ⟨_, hT.unlinkIfSymlink, ?_⟩
    simp only [↓reduceIte, List.singleton_append, applyAll_cons, applyAll_append]
    rw [unlinkIfSymlink_chain_comm]

/-- the destination after one task of the fault-free entry-level run: a failing task leaves the
    destination as it found it (`execTask`) -/
def taskDst (cfg : Cfg) (w : World) (t : Task) : Map DNode :=
  match perform cfg w t with
  | some w' => w'.dst
  | none => w.dst

theorem execTask_noFaults_dst (cfg : Cfg) (st : Exec) (t : Task) :
    (execTask cfg noFaults st t).w.dst = taskDst cfg st.w t := by
  rw [execTask_noFaults_eq, taskDst]
  cases perform cfg st.w t <;> rfl

theorem taskDst_dry (cfg : Cfg) (w : World) (t : Task) (h : cfg.dryRun = true) : taskDst cfg w t = w.dst := by
  unfold taskDst; rw [perform_dry cfg h]

theorem taskDst_skip (cfg : Cfg) (w : World) (t : Task) (h : t.act = .skip) : taskDst cfg w t = w.dst := by
  unfold taskDst; rw [perform_skip h]

theorem taskDst_delete (cfg : Cfg) (w : World) (t : Task) (h : t.act = .delete)
    (hdry : cfg.dryRun = false) :
    taskDst cfg w t = match w.dst.get? t.rel with
      | some .dir => w.dst.eraseSubtree t.rel
      | some _ => w.dst.erase t.rel
      | none => w.dst := by
  unfold taskDst
  rw [perform_delete h, hdry]
  cases w.dst.get? t.rel with
  | none => rfl
  | some n => cases n <;> rfl

section kinds
variable {cfg : Cfg} {w : World} {t : Task}

/-- a create / update outside the hard-link protocol, payload by payload (as `stepsOfH_write` for the step lists);
    a failing executor leaves the destination as it was -/
theorem taskDst_write (hw : t.writes) (hdry : cfg.dryRun = false)
    (hl : ∀ m n, t.payload = .file m n → cfg.hardlinks = true → 1 < n → w.linkMap.find? (·.1 == m.ino) = none) :
    taskDst cfg w t = (match t.payload with
      | .nothing => some w.dst
      | .dir => mkdirAll (dirBase t.act w.dst t.rel) t.rel
      | .symlink text => (writeSymlink w t.rel text).map World.dst
      | .file m _ => (writeFile cfg w t.rel m).map World.dst).getD w.dst := by
  have hcu : taskDst cfg w t = ((performCU cfg w t).map (·.dst)).getD w.dst := by
    unfold taskDst
    rw [perform_cu hw.ne_skip hw.ne_delete hdry]
    cases performCU cfg w t <;> rfl
  rw [hcu]
  unfold performCU
  cases hp : t.payload with
  | nothing => rfl
  | dir => simp only; cases mkdirAll (dirBase t.act w.dst t.rel) t.rel <;> rfl
  | symlink text => rfl
  | file m n =>
    simp only
    split
    · -- under `-H` with several names the link-map lookup answers `none`: `writeFile` plus a link-map entry
      rename_i hc
      simp only [Bool.and_eq_true, decide_eq_true_eq] at hc
      simp only [hl m n hp hc.1.2 hc.2]
      cases writeFile cfg w t.rel m <;> rfl
    · rfl

end kinds

theorem writeSymlink_ofMap {w : World} {d : Map DNode} {p : Path} (hd : mkdirAll w.dst (parentOf p) = some d)
    (text : String) :
    ofMap (((writeSymlink w p text).map (·.dst)).getD w.dst) =
      if d.get? p = some .dir then ofMap w.dst else upd (ofMap d) p (some (.symlink text)) := by
  unfold writeSymlink
  simp only [hd]
  cases hg : d.get? p with
  | none => simp [ofMap_set, embed]
  | some v => cases v <;> simp [ofMap_set, embed]

theorem writeFile_ofMap {cfg : Cfg} {w : World} {d : Map DNode} {p : Path}
    (hd : mkdirAll w.dst (parentOf p) = some d) (m : FileMeta) :
    ofMap (((writeFile cfg w p m).map (·.dst)).getD w.dst) =
      if d.get? p = some .dir then ofMap w.dst else upd (ofMap d) p (some (fileNode m)) := by
  unfold writeFile
  simp only [hd]
  cases hg : d.get? p with
  | none => simp [ofMap_set, embed, fileNode]
  | some v => cases v <;> simp [ofMap_set, embed, fileNode]

theorem delta_result (sfx : String) (p : Path) (m : FileMeta) (w : SWorld) (d : FileMeta)
    (hp : w p = some (.file d.content d.size d.mtime)) (htmp : w (tempOf sfx p) = none) (hne : tempOf sfx p ≠ p) :
    applyAll ([Step.unlinkIfSymlink p] ++ deltaSteps sfx p m) w = upd w p (some (fileNode m)) := by
  rw [delta_all hp, deltaSteps_apply, htmp, if_neg (by simp)]
  funext x
  simp only [upd_apply]
  by_cases hx : x = tempOf sfx p
  · subst hx; simp [hne, htmp]
  · simp [hx]

theorem unlinkIfSymlink_refines (dst : Map DNode) (p : Path) :
    (Step.unlinkIfSymlink p).apply (ofMap dst) = ofMap (unlinkLink dst p) := by
  rw [apply_single _ rfl, Step.path, ofMap_apply]
  by_cases hl : ∃ s, dst.get? p = some (.symlink s)
  · obtain ⟨s, hs⟩ := hl
    rw [unlinkLink_of_link dst p s hs, ofMap_erase, hs]
    rfl
  · rw [unlinkLink_of_not_link dst p fun s hs => hl ⟨s, hs⟩]
    have : (Step.unlinkIfSymlink p).nodeFn ((dst.get? p).map embed) = ofMap dst p := by
      rw [ofMap_apply]
      cases hg : dst.get? p with
      | none => rfl
      | some v => cases v <;> first | rfl | exact absurd ⟨_, hg⟩ hl
    rw [this, upd_self]

/-- `create_dir_all(p)` of a directory task at both levels, on the destination `dirBase` hands it (the destination
    itself for a creation, the destination with a link at the path unlinked for an update, fix 862af11): where the
    entry level fails — a file or a link is in the way — every `mkdir` is a no-op -/
theorem dir_task_refines (act : Act) {dst : Map DNode} {p : Path}
    (hpar : ∀ q ∈ ancestors p, dst.get? q = none ∨ dst.get? q = some .dir)
    (htree : dst.get? p ≠ none → ∀ q ∈ ancestors p, dst.get? q = some .dir) :
    applyAll (dirSteps p) (ofMap (dirBase act dst p)) = ofMap ((mkdirAll (dirBase act dst p) p).getD dst) := by
  cases hm : mkdirAll (dirBase act dst p) p with
  | some d => exact dirSteps_refines hm
  | none =>
    obtain ⟨x, hx0, hxp, hxn, hxd⟩ := mkdirAll_none hm
    -- the obstacle is at `p` itself: no link was dropped and, the destination being a tree, all ancestors exist
    have hxe : x = p := Classical.byContradiction fun hne => by
      rw [dirBase_get?_ne _ _ _ _ hne] at hxn hxd
      exact (hpar x (mem_ancestors.2 ⟨hx0, hxp, hne⟩)).elim hxn hxd
    rw [hxe] at hx0 hxn
    have hB := dirBase_eq_of_exists hxn
    rw [hB] at hxn ⊢
    rw [Option.getD_none, dirSteps_eq_chain hx0, mkdirChain, ← List.map_singleton, ← List.map_append]
    refine mkdirs_noop _ _ fun q hq => ?_
    rw [ne_eq, ofMap_eq_none]
    rcases List.mem_append.mp hq with hq | hq
    · rw [htree hxn q hq]; simp
    · rw [List.mem_singleton.mp hq]; exact hxn

theorem parent_chain {dst : Map DNode} {p : Path}
    (hpar : ∀ q ∈ ancestors p, dst.get? q = none ∨ dst.get? q = some .dir)
    (htree : dst.get? p ≠ none → ∀ q ∈ ancestors p, dst.get? q = some .dir) :
    ∃ d, mkdirAll dst (parentOf p) = some d ∧ d.get? p = dst.get? p ∧
      applyAll (mkdirChain p) (ofMap dst) = ofMap d ∧ (d.get? p ≠ none → ofMap d = ofMap dst) := by
  obtain ⟨d, hd, hdp, _⟩ := mkdirAll_parent fun x h0 hx hne => hpar x (mem_ancestors.2 ⟨h0, hx, hne⟩)
  refine ⟨d, hd, hdp, mkdirs_refine hd _ fun _ => mem_ancestors_parentOf, fun hne => ?_⟩
  have := mkdirAll_parent_of_dirs fun x h0 hx hn => htree (hdp ▸ hne) x (mem_ancestors.2 ⟨h0, hx, hn⟩)
  rw [hd] at this
  cases this
  rfl

theorem symlinkSteps_refines {w : SWorld} {d : Map DNode} {p : Path} (text : String)
    (hchain : applyAll (mkdirChain p) w = ofMap d) :
    applyAll (symlinkSteps (d.get? p) p text) w =
      if d.get? p = some .dir then ofMap d else ofMap (d.set p (.symlink text)) := by
  have h1 : AtP p [Step.symlink p text] := atP_cons rfl rfl (atP_nil _)
  have h2 : AtP p [Step.unlink p, Step.symlink p text] := atP_cons rfl rfl h1
  unfold symlinkSteps
  rw [List.append_assoc, applyAll_append, hchain]
  cases hg : d.get? p with
  | none =>
    rw [if_neg (by simp), ofMap_set, List.nil_append, applyAll_atP h1, ofMap_apply, hg]
    simp [Step.path]
    rfl
  | some v =>
    cases v with
    | dir =>
      rw [if_pos rfl, List.nil_append, applyAll_atP h1, ofMap_eq_dir.mpr hg, nodeRun_dir,
        ← ofMap_eq_dir.mpr hg, upd_self]
    | file o | symlink o =>
      rw [if_neg (by simp), ofMap_set]
      show applyAll [Step.unlink p, Step.symlink p text] (ofMap d) = _
      rw [applyAll_atP h2, ofMap_apply, hg]
      simp [Step.path, nodeFn_unlink, embed]
      rfl

/-- What the refinement of ONE task needs from the destination `w.dst` the task finds.
    Every field excludes a case in which the two models genuinely differ (see the field comments
    and `SyModel.Props.Refine`). -/
structure TaskFits (cfg : Cfg) (thr : Nat) (sfx : String) (h : Hint) (w : World) (t : Task) : Prop where
  /-- no strict ancestor of the path is a file or a symlink.  The step level has no `ENOTDIR`:
      `mkdir` over a file is the tolerated `EEXIST`, and `open`/`symlink` below a non-directory
      succeed, whereas the entry level (`mkdirAll`) — like the kernel — makes the task fail. -/
  parents : t.writes → ∀ q ∈ ancestors t.rel, w.dst.get? q = none ∨ w.dst.get? q = some .dir
  /-- the destination map is a tree at the path: an existing entry has all its ancestors.  (A map
      is not a tree by construction; without this the entry level would materialise the missing
      ancestors of an existing file on the in-place / temp routes, which issue no `mkdir`, and a
      failing task would leave behind the ancestors its `mkdir` chain created.) -/
  tree : t.writes → w.dst.get? t.rel ≠ none → ∀ q ∈ ancestors t.rel, w.dst.get? q = some .dir
  /-- nothing exists at the working-file path of a temp + rename update, and that path is not the
      destination path itself (`C05/user-file-named-like-temp`: the step level clobbers and renames
      away what is there, the entry level has no working file at all) -/
  tempFree : usesDelta cfg thr h (w.dst.get? t.rel) t = true →
    w.dst.get? (tempOf sfx t.rel) = none ∧ tempOf sfx t.rel ≠ t.rel
  /-- with `-H`, a task that WRITES (create / update) is not a later member of a source hard-link
      group: those are linked to the first member's destination (`linkFile`/`relinkFile`), which the
      step level does not model.  (Skips and deletes never consult the link map.) -/
  noLinkMember : t.writes → ∀ m n, t.payload = .file m n → cfg.hardlinks = true → 1 < n →
    w.linkMap.find? (·.1 == m.ino) = none

/-- **Refinement of one task.**  Executing the whole step list of `t` on the step-level view of the
    destination yields the step-level view of the destination after the entry-level task. -/
theorem task_refines {cfg : Cfg} {thr : Nat} (ch : Nat) {sfx : String} {h : Hint} {w : World} {t : Task}
    (hf : TaskFits cfg thr sfx h w t) :
    applyAll (stepsOfH cfg thr ch sfx h (w.dst.get? t.rel) t) (ofMap w.dst) = ofMap (taskDst cfg w t) := by
  cases hdry : cfg.dryRun with
  | true => rw [stepsOfH_dry hdry, taskDst_dry _ _ _ hdry]; rfl
  | false =>
  rcases t.act_cases with hw | hact | hact
  · have hpar := hf.parents hw
    have hdst := taskDst_write hw hdry (hf.noLinkMember hw)
    cases hpay : t.payload with
    | nothing => rw [stepsOfH_write hdry hw, hdst, hpay]; rfl
    | dir =>
      rw [stepsOfH_write hdry hw, hdst, hpay]
      simp only
      rw [← dir_task_refines t.act hpar (hf.tree hw), dirBase]
      split
      · rw [List.singleton_append, applyAll_cons, unlinkIfSymlink_refines]
      · rfl
    | symlink text =>
      obtain ⟨d, hd, hdp, hchain, hclosed⟩ := parent_chain hpar (hf.tree hw)
      rw [stepsOfH_write hdry hw, hdst, hpay]
      simp only
      rw [writeSymlink_ofMap hd, ← hdp, symlinkSteps_refines text hchain, ofMap_set]
      split
      · rename_i hg; exact hclosed (by rw [hg]; simp)
      · rfl
    | file m n =>
      obtain ⟨d, hd, hdp, hchain, hclosed⟩ := parent_chain hpar (hf.tree hw)
      rw [hdst, hpay]
      simp only
      rw [writeFile_ofMap hd]
      rcases file_task_shape ch sfx h (w.dst.get? t.rel) hpay hdry hw with
        ⟨T, hT, _, ⟨b, hL⟩ | ⟨⟨d0, hold⟩, hL⟩⟩ | ⟨hu, _, d0, hold, _, hL⟩
      · obtain ⟨T', hT', happ⟩ := chain_writer_apply hT b (ofMap w.dst)
        rw [hL, happ, hchain, hT'.result]
        split
        · rename_i hg; exact hclosed (by rw [hg]; simp)
        · rfl
      · rw [hL, ← hclosed (by rw [hdp, hold]; simp), hT.result]
      · obtain ⟨htmp, hne⟩ := hf.tempFree hu
        rw [hL, if_neg (by rw [hdp, hold]; simp), hclosed (by rw [hdp, hold]; simp)]
        exact delta_result sfx t.rel m (ofMap w.dst) d0 (ofMap_file hold) (ofMap_eq_none.mpr htmp) hne
  · rw [stepsOfH_skip hact, taskDst_skip _ _ _ hact]; rfl
  · rw [taskDst_delete _ _ _ hact hdry, stepsOfH_delete hdry hact]
    cases hg : w.dst.get? t.rel with
    | none => rfl
    | some v =>
      have hun : v ≠ .dir → applyAll [Step.unlink t.rel] (ofMap w.dst) = ofMap (w.dst.erase t.rel) := by
        intro hv
        rw [applyAll_cons, applyAll_nil, apply_single _ rfl, ofMap_erase, Step.path, nodeFn_unlink, if_neg]
        rw [ofMap_eq_dir, hg]
        exact fun hc => hv (Option.some.inj hc)
      cases v with
      | dir => simp [apply_removeTree, ofMap_eraseSubtree]
      | file o | symlink o => exact hun (by simp)

/-- a delete task whose target went away with an ancestor: the steps compiled against the initial
    destination are no-ops, like the entry-level task (`NotFound` is tolerated) -/
theorem delete_gone (cfg : Cfg) (thr ch : Nat) (sfx : String) (h : Hint) {w : World} {t : Task}
    (hact : t.act = .delete) (hgone : ∀ x, isPrefix t.rel x = true → w.dst.get? x = none)
    (old : Option DNode) :
    applyAll (stepsOfH cfg thr ch sfx h old t) (ofMap w.dst) = ofMap (taskDst cfg w t) := by
  have hp : w.dst.get? t.rel = none := hgone _ (isPrefix_refl _)
  cases hdry : cfg.dryRun with
  | true => rw [stepsOfH_dry hdry, taskDst_dry _ _ _ hdry]; rfl
  | false =>
    rw [stepsOfH_delete hdry hact, taskDst_delete _ _ _ hact hdry, hp]
    show _ = ofMap w.dst
    have hun : applyAll [Step.unlink t.rel] (ofMap w.dst) = ofMap w.dst := by
      have hn := ofMap_eq_none.mpr hp
      rw [applyAll_cons, applyAll_nil, apply_single _ rfl, Step.path, nodeFn_unlink, hn, if_neg (by simp), ← hn,
        upd_self]
    cases old with
    | none => rfl
    | some v =>
      cases v with
      | dir =>
        funext x
        show (Step.removeTree t.rel).apply (ofMap w.dst) x = _
        rw [apply_removeTree]
        by_cases hx : isPrefix t.rel x = true
        · simp [hx, ofMap_eq_none.mpr (hgone x hx)]
        · simp [hx]
      | file o | symlink o => exact hun

/-- Path by path, what the entry-level task does, read off the engine group's frame (`performCU_frame`,
    `perform_delete_spec`): it leaves the entry alone, or makes a directory of a prefix of its path, or rewrites its
    own path, or removes what is at or below its path. -/
theorem taskDst_effect (cfg : Cfg) (w : World) (t : Task) (x : Path) :
    (taskDst cfg w t).get? x = w.dst.get? x ∨
    (t.writes ∧ isPrefix x t.rel = true ∧ (x ≠ t.rel ∨ t.payload = .dir) ∧
      (x ≠ [] → (taskDst cfg w t).get? x = some .dir)) ∨
    (t.writes ∧ x = t.rel ∧ t.payload ≠ .dir) ∨
    (t.act = .delete ∧ isPrefix t.rel x = true ∧ (taskDst cfg w t).get? x = none ∧
      (x = t.rel ∨ ∀ y, isPrefix t.rel y = true → (taskDst cfg w t).get? y = none)) := by
  unfold taskDst
  cases hp : perform cfg w t with
  | none => exact .inl rfl
  | some w' =>
    simp only
    rcases perform_cases hp with rfl | ⟨hdry, hd⟩ | ⟨_, hs, hd, hcu⟩
    · exact .inl rfl
    · have D := perform_delete_spec hd hdry hp
      by_cases hx : isPrefix t.rel x = true
      · by_cases hc : x = t.rel ∨ w.dst.get? t.rel = some .dir
        · have hgone : ∀ y, isPrefix t.rel y = true → (y = t.rel ∨ w.dst.get? t.rel = some .dir) →
              w'.dst.get? y = none := fun y hy hc => by
            rw [D.get, hy]; rcases hc with h | h <;> simp [h]
          exact .inr (.inr (.inr ⟨hd, hx, hgone x hx hc, hc.imp id fun h y hy => hgone y hy (.inr h)⟩))
        · rw [not_or] at hc
          exact .inl (by rw [D.get]; simp [hc.1, hc.2])
      · exact .inl (D.frame x (Bool.eq_false_iff.mpr hx))
    · have hw : t.writes := Act.create_or_update hs hd
      by_cases hx : x = t.rel
      · by_cases hpd : t.payload = .dir
        · exact .inr (.inl ⟨hw, hx ▸ isPrefix_refl _, .inr hpd, fun h0 => hx ▸ (performCU_dir hpd hcu).1 (hx ▸ h0)⟩)
        · exact .inr (.inr (.inl ⟨hw, hx, hpd⟩))
      · rcases (performCU_frame hcu).1 x hx with h | ⟨_, h1, hpre, _⟩
        · exact .inl h
        · exact .inr (.inl ⟨hw, hpre, .inl hx, fun _ => h1⟩)

/-- the destination map is a tree: an existing entry has all its ancestors, as directories -/
def Closed (dst : Map DNode) : Prop :=
  ∀ x, dst.get? x ≠ none → ∀ q ∈ ancestors x, dst.get? q = some .dir

/-- under `-H` no task carries a member of a source hard-link group (sufficient for `NoLinkTasks`) -/
def NoLinkGroups (cfg : Cfg) (tasks : List Task) : Prop :=
  ∀ t ∈ tasks, ∀ m n, t.payload = .file m n → cfg.hardlinks = true → n ≤ 1

/-- no task of the list goes through the hard-link protocol: no create / update of a regular file
    with more than one name under `-H` (`isLinkTask`).  Members of link groups that are up to date
    (planned as `skip`) or deleted are fine. -/
def NoLinkTasks (cfg : Cfg) (tasks : List Task) : Prop := ∀ t ∈ tasks, isLinkTask cfg t = false

theorem noLinkMember_of_not_linkTask {cfg : Cfg} {t : Task} (h : isLinkTask cfg t = false) (w : World) :
    t.writes → ∀ m n, t.payload = .file m n → cfg.hardlinks = true → 1 < n →
      w.linkMap.find? (·.1 == m.ino) = none := by
  intro hw m n hpay hH hn
  unfold isLinkTask at h
  rcases hw with hc | hu
  · simp [hc, hpay, hH, hn] at h
  · simp [hu, hpay, hH, hn] at h

theorem noLinkTasks_of_noLinkGroups {cfg : Cfg} {tasks : List Task} (h : NoLinkGroups cfg tasks) :
    NoLinkTasks cfg tasks := by
  intro t ht
  have key : ∀ m n, t.payload = .file m n → (cfg.hardlinks && decide (1 < n)) = false := by
    intro m n hpay
    cases hH : cfg.hardlinks with
    | false => rfl
    | true =>
      have := h t ht m n hpay hH
      simp; omega
  unfold isLinkTask
  split
  · rename_i m n hact hpay; exact key m n hpay
  · rename_i m n hact hpay; exact key m n hpay
  · rfl

theorem noLinkTasks_of_hardlinks_off {cfg : Cfg} (tasks : List Task) (h : cfg.hardlinks = false) :
    NoLinkTasks cfg tasks := by
  intro t _
  unfold isLinkTask
  split <;> simp [h]

/-- the hypotheses of the run-level refinement, on the plan and the INITIAL destination -/
structure RunOK (cfg : Cfg) (sfx : String) (tasks : List Task) (dst : Map DNode) : Prop where
  plan : PlanOK tasks
  fresh : TempFresh sfx tasks (ofMap dst)
  closed : Closed dst
  parents : ∀ t ∈ tasks, t.writes → ∀ q ∈ ancestors t.rel, dst.get? q = none ∨ dst.get? q = some .dir
  noLinks : NoLinkTasks cfg tasks

/-- what a task still to be run needs from the current destination `cur` (`dst0`: the destination
    the step lists were compiled against) -/
structure Pending (sfx : String) (dst0 cur : Map DNode) (t : Task) : Prop where
  parents : t.writes → ∀ q ∈ ancestors t.rel, cur.get? q = none ∨ cur.get? q = some .dir
  tree : t.writes → cur.get? t.rel ≠ none → ∀ q ∈ ancestors t.rel, cur.get? q = some .dir
  old : t.writes → t.payload ≠ .dir → cur.get? t.rel = dst0.get? t.rel
  temp : t.mayDelta → cur.get? (tempOf sfx t.rel) = none
  del : t.act = .delete →
    cur.get? t.rel = dst0.get? t.rel ∨ ∀ x, isPrefix t.rel x = true → cur.get? x = none

theorem closed_iff_gclosed (dst : Map DNode) : Closed dst ↔ GClosed dst := by
  simp only [Closed, GClosed, mem_ancestors, and_imp]

/-- a task keeps the destination a tree (the engine group's `perform_closed`) -/
theorem taskDst_closed (cfg : Cfg) (w : World) (t : Task) (hc : Closed w.dst) : Closed (taskDst cfg w t) := by
  rw [closed_iff_gclosed] at hc ⊢
  unfold taskDst
  cases hp : perform cfg w t with
  | none => exact hc
  | some w' => exact perform_closed hp hc

/-- running another task `t'` of the plan keeps what a pending task `t` needs (that the destination stays a tree
    is the engine group's invariant) -/
theorem pending_step {cfg : Cfg} {sfx : String} {tasks : List Task} {w0 : SWorld} {dst0 : Map DNode}
    (hok : PlanOK tasks) (hf : TempFresh sfx tasks w0) {t t' : Task} (ht : t ∈ tasks) (ht' : t' ∈ tasks)
    (hne : t'.rel ≠ t.rel) (w : World) (hc : Closed w.dst)
    (hp : Pending sfx dst0 w.dst t) : Pending sfx dst0 (taskDst cfg w t') t := by
  have E := taskDst_effect cfg w t'
  -- a pending write below a path that `t'` rewrites as a file / link
  have F1 : t.writes → ∀ q, isPrefix q t.rel = true → t'.writes → q = t'.rel → t'.payload ≠ .dir → False := by
    intro hw q hq hw' hqe hnd
    have := hok.tree t ht t' ht' (Ne.symm hne) (fun h => absurd h hnd) hw'.ne_delete hw'.ne_skip
    rw [← hqe, hq] at this; cases this
  -- a pending write below a path that `t'` deletes
  have F2 : t.writes → ∀ y, isPrefix t'.rel y = true → isPrefix y t.rel = true → t'.act = .delete → False := by
    intro hw y h1 h2 hd
    have := hok.delClear t' ht' hd t ht hw.ne_delete hw.ne_skip
    rw [isPrefix_trans h1 h2] at this; cases this
  -- a pending delete above a path that `t'` writes
  have F3 : t.act = .delete → ∀ y, isPrefix t.rel y = true → isPrefix y t'.rel = true → t'.writes → False := by
    intro hd y h1 h2 hw'
    have := hok.delClear t ht hd t' ht' hw'.ne_delete hw'.ne_skip
    rw [isPrefix_trans h1 h2] at this; cases this
  refine {
    parents := fun hw q hq => ?_
    tree := fun _ hex => taskDst_closed cfg w t' hc t.rel hex
    old := fun hw hnd => ?_
    temp := fun hm => ?_
    del := fun hd => ?_ }
  · rcases E q with h | ⟨_, _, _, h⟩ | ⟨hw', hqe, hnd⟩ | ⟨_, _, h, _⟩
    · rw [h]; exact hp.parents hw q hq
    · exact Or.inr (h (ancestors_ne_nil hq))
    · exact (F1 hw q (ancestors_prefix hq) hw' hqe hnd).elim
    · exact Or.inl h
  · rcases E t.rel with h | ⟨hw', hpre, _, _⟩ | ⟨_, he, _⟩ | ⟨hd', hpre, _, _⟩
    · rw [h]; exact hp.old hw hnd
    · have := hok.tree t' ht' t ht hne (fun h => absurd h hnd) hw.ne_delete hw.ne_skip
      rw [hpre] at this; cases this
    · exact absurd he.symm hne
    · exact (F2 hw t.rel hpre (isPrefix_refl _) hd').elim
  · rcases E (tempOf sfx t.rel) with h | ⟨_, hpre, _, _⟩ | ⟨_, he, _⟩ | ⟨_, _, h, _⟩
    · rw [h]; exact hp.temp hm
    · have := hf.notPlanned t ht hm t' ht'
      rw [hpre] at this; cases this
    · have := hf.notPlanned t ht hm t' ht'
      rw [← he, isPrefix_refl] at this; cases this
    · exact h
  · rcases hp.del hd with heq | hgone
    · rcases E t.rel with h | ⟨hw', hpre, _, _⟩ | ⟨_, he, _⟩ | ⟨_, hpre, _, h⟩
      · left; rw [h]; exact heq
      · exact (F3 hd t.rel (isPrefix_refl _) hpre hw').elim
      · exact absurd he.symm hne
      · rcases h with h | h
        · exact absurd h.symm hne
        · right; intro x hx; exact h x (isPrefix_trans hpre hx)
    · right
      intro x hx
      rcases E x with h | ⟨hw', hpre, _, _⟩ | ⟨hw', he, _⟩ | ⟨_, _, h, _⟩
      · rw [h]; exact hgone x hx
      · exact (F3 hd x hx hpre hw').elim
      · exact (F3 hd x hx (by rw [he]; exact isPrefix_refl _) hw').elim
      · exact h

/-- one task of a run: the step list compiled against the INITIAL destination refines the
    entry-level task on the CURRENT destination.  (Directories are exempt from `Pending.old`: another task's
    `create_dir_all` may already have made the directory, and the list of a directory task does not read `old`,
    `stepsOfH_old_irrel`.) -/
theorem run_step {cfg : Cfg} {thr : Nat} (ch : Nat) {sfx : String} {tasks : List Task} {dst0 : Map DNode}
    (h : RunOK cfg sfx tasks dst0) {t : Task} (ht : t ∈ tasks) (hh : Hint) (w : World)
    (hp : Pending sfx dst0 w.dst t) :
    applyAll (stepsOfH cfg thr ch sfx hh (dst0.get? t.rel) t) (ofMap w.dst) = ofMap (taskDst cfg w t) := by
  have hfit : TaskFits cfg thr sfx hh w t :=
    ⟨hp.parents, hp.tree, fun hu => ⟨hp.temp (usesDelta_mayDelta hu), h.fresh.ne ht (usesDelta_mayDelta hu)⟩,
      noLinkMember_of_not_linkTask (h.noLinks t ht) w⟩
  rcases t.act_cases with hw | hact | hact
  · by_cases hd : t.payload = .dir
    · rw [stepsOfH_old_irrel (Or.inr ⟨hd, hw.ne_delete⟩) _ (w.dst.get? t.rel)]
      exact task_refines ch hfit
    · rw [← hp.old hw hd]; exact task_refines ch hfit
  · rw [stepsOfH_old_irrel (Or.inl hact) _ (w.dst.get? t.rel)]
    exact task_refines ch hfit
  · rcases hp.del hact with heq | hgone
    · rw [← heq]; exact task_refines ch hfit
    · exact delete_gone cfg thr ch sfx hh hact hgone _

theorem run_refines_aux {cfg : Cfg} {thr : Nat} (ch : Nat) {sfx : String} {tasks : List Task}
    {dst0 : Map DNode} (h : RunOK cfg sfx tasks dst0) (hint : Task → Hint) :
    ∀ (rest : List Task) (st : Exec), (∀ t ∈ rest, t ∈ tasks) →
      rest.Pairwise (fun a b => a.rel ≠ b.rel) → Closed st.w.dst → (∀ t ∈ rest, Pending sfx dst0 st.w.dst t) →
      applyAll (rest.map fun t => stepsOfH cfg thr ch sfx (hint t) (dst0.get? t.rel) t).flatten
          (ofMap st.w.dst) =
        ofMap (rest.foldl (execTask cfg noFaults) st).w.dst := by
  intro rest
  induction rest with
  | nil => intro st _ _ _ _; rfl
  | cons t rest ih =>
    intro st hmem hpw hc hpend
    simp only [List.map_cons, List.flatten_cons, applyAll_append, List.foldl_cons]
    have ht : t ∈ tasks := hmem t (by simp)
    rw [run_step ch h ht (hint t) st.w (hpend t (by simp)), ← execTask_noFaults_dst]
    apply ih
    · intro u hu; exact hmem u (by simp [hu])
    · exact (List.pairwise_cons.mp hpw).2
    · rw [execTask_noFaults_dst]; exact taskDst_closed cfg st.w t hc
    · intro u hu
      rw [execTask_noFaults_dst]
      have hne : t.rel ≠ u.rel := (List.pairwise_cons.mp hpw).1 u hu
      exact pending_step h.plan h.fresh (hmem u (by simp [hu])) ht hne st.w hc (hpend u (by simp [hu]))

/-- **Refinement of a run** (any task list): the step lists of the tasks, one after the other in
    task order, executed on the step-level view of the destination, yield the step-level view of the
    destination after the fault-free entry-level fold of `execTask`. -/
theorem tasks_run_refines {cfg : Cfg} {thr : Nat} (ch : Nat) {sfx : String} {tasks : List Task}
    {dst : Map DNode} (h : RunOK cfg sfx tasks dst) (hint : Task → Hint) (nextIno : Nat) :
    applyAll (taskLists cfg thr ch sfx hint dst tasks).flatten (ofMap dst) =
      ofMap (tasks.foldl (execTask cfg noFaults) (initExec dst nextIno)).w.dst := by
  have hall : tasks.filter (fun t => !isLinkTask cfg t) = tasks :=
    List.filter_eq_self.mpr fun t ht => by rw [h.noLinks t ht]; rfl
  rw [taskLists, hall]
  exact run_refines_aux ch h hint tasks (initExec dst nextIno) (fun t ht => ht) h.plan.uniq h.closed fun t ht =>
    ⟨h.parents t ht, fun _ hne => h.closed t.rel hne, fun _ _ => rfl,
      fun hm => ofMap_eq_none.mp (h.fresh.notExisting t ht hm), fun _ => .inl rfl⟩

/-- `Closed` is the engine group's `DstParentClosed` (decidable) -/
theorem closed_iff_parentClosed (dst : Map DNode) : Closed dst ↔ DstParentClosed dst :=
  (closed_iff_gclosed dst).trans (gclosed_iff dst)

end SyModel.Engine
