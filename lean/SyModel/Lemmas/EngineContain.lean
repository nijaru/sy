/-
  Fault containment in its strong form: whether the task of a selected entry completes depends
  only on the prior destination along its own path — not on faults that hit tasks elsewhere.
  Vocabulary: `Benign` (a task that is harmless at a path), `Dirwards` (what harmless tasks do to a node), `SparesPath`
  (the fault plan spares the tasks at and above a path).  The chain: `execTask_benign` → `foldl_frame_benign` (one task,
  a list) → `pre_benign_along` / `pre_state_own` (the state along the path and at the own path just before the entry's
  task) → `ok_transfer_at` (completion carries over from one fault plan to another) → `taskOk_transfer`.
-/
import SyModel.Lemmas.EnginePost
namespace SyModel.Engine

/-- task `t` is harmless at `x`: it does not delete from above, and if it sits at `x` the fault plan spares it and it
    at most makes a directory -/
def Benign (cfg : Cfg) (flt : Faults) (x : Path) (t : Task) : Prop :=
  (t.act = .delete → isPrefix t.rel x = false) ∧
  (t.rel = x → faultOf cfg flt t = none ∧ (t.act = .skip ∨ t.payload = .nothing ∨ t.payload = .dir))

/-- what harmless tasks do to a node `s0`: it stays, or an absent one becomes a directory, or a symlink is replaced by
    a directory.  `R` is what is known in that last case: for one task, that it is this task, an `update` with a
    directory payload that completed (`execTask_benign`); for a list, where in the list that task sits
    (`foldl_frame_benign`) -/
def Dirwards (s0 s : Option DNode) (R : Prop) : Prop :=
  s = s0 ∨ (s0 = none ∧ s = some .dir) ∨ ((∃ l, s0 = some (.symlink l)) ∧ s = some .dir ∧ R)

theorem Dirwards.dir_stays {s0 s : Option DNode} {R : Prop} (h : Dirwards s0 s R) (hd : s0 = some .dir) :
    s = some .dir := by
  rcases h with h | ⟨h, _⟩ | ⟨⟨l, h⟩, _⟩
  · rw [h]; exact hd
  · rw [hd] at h; cases h
  · rw [hd] at h; cases h

theorem Dirwards.dirOrAbsent {s0 s : Option DNode} {R : Prop} (h : Dirwards s0 s R) :
    (s = none ∨ s = some .dir) ↔
      (s0 = none ∨ s0 = some .dir ∨ ((∃ l, s0 = some (.symlink l)) ∧ s = some .dir ∧ R)) := by
  rcases h with rfl | ⟨h0, hs⟩ | h
  · constructor
    · rintro (h | h)
      · exact Or.inl h
      · exact Or.inr (Or.inl h)
    · rintro (h | h | ⟨_, h, _⟩)
      · exact Or.inl h
      · exact Or.inr h
      · exact Or.inr h
  · exact ⟨fun _ => Or.inl h0, fun _ => Or.inr hs⟩
  · exact ⟨fun _ => Or.inr (Or.inr h), fun _ => Or.inr h.2.1⟩

/-- one harmless task: a symlink at `x` is replaced only by this very task, an `update` with a directory payload at
    `x` that completed (sy commit 862af11) -/
theorem execTask_benign (cfg : Cfg) (flt : Faults) (st : Exec) (t : Task) (x : Path) (hx0 : x ≠ [])
    (hb : Benign cfg flt x t) :
    Dirwards (st.w.dst.get? x) ((execTask cfg flt st t).w.dst.get? x)
      (t.rel = x ∧ t.payload = .dir ∧ t.act = .update ∧ (execTask cfg flt st t).b.errors = st.b.errors) := by
  by_cases hr : t.rel = x
  · obtain ⟨hf, hben⟩ := hb.2 hr
    have hnd : t.act ≠ .delete := by
      intro hdel; have := hb.1 hdel; rw [hr, isPrefix_refl] at this; cases this
    rcases execTask_cases cfg flt st t with ⟨g, hf', _⟩ | ⟨_, w', hp, he⟩ | ⟨_, _, he⟩
    · rw [hf] at hf'; cases hf'
    · rw [he]
      rcases perform_cases hp with rfl | ⟨_, hdel⟩ | ⟨_, hs, _, hp⟩
      · exact Or.inl rfl
      · exact absurd hdel hnd
      · rcases hben with h1 | h1 | h1
        · exact absurd h1 hs
        · rw [performCU_nothing h1 hp]; exact Or.inl rfl
        · have hdirx : w'.dst.get? x = some .dir := by
            rw [← hr]; exact (performCU_dir h1 hp).1 (hr ▸ hx0)
          rcases performCU_dir_pre h1 hp (hr ▸ hx0) with h2 | h2 | ⟨hu, l, hl⟩
          · exact Or.inr (Or.inl ⟨hr ▸ h2, hdirx⟩)
          · left; show w'.dst.get? x = _; rw [hdirx, ← hr, h2]
          · exact Or.inr (Or.inr ⟨⟨l, hr ▸ hl⟩, hdirx, hr, h1, hu, Book.ok_errors _ _⟩)
    · rw [he]; exact Or.inl rfl
  · rcases execTask_frame cfg flt st t x hr hb.1 with h1 | ⟨a, b, _⟩
    · exact Or.inl h1
    · exact Or.inr (Or.inl ⟨a, b⟩)

theorem foldl_frame_benign (cfg : Cfg) (flt : Faults) (ts : List Task) (st : Exec) (x : Path) (hx0 : x ≠ [])
    (h : ∀ t ∈ ts, Benign cfg flt x t) :
    Dirwards (st.w.dst.get? x) ((ts.foldl (execTask cfg flt) st).w.dst.get? x)
      (∃ p1 p2 t, ts = p1 ++ t :: p2 ∧ t.rel = x ∧ t.payload = .dir ∧ t.act = .update ∧
        OkAfter cfg flt st p1 t) := by
  induction ts generalizing st with
  | nil => exact Or.inl rfl
  | cons t ts ih =>
    rw [List.foldl_cons]
    have ih' := ih (execTask cfg flt st t) (fun t' ht' => h t' (List.mem_cons_of_mem _ ht'))
    rcases execTask_benign cfg flt st t x hx0 (h t (List.mem_cons_self ..)) with s1 | ⟨s1, s2⟩ | ⟨s1, s2, hr, hpl, hu, hok⟩
    · rcases ih' with h2 | ⟨h2, h3⟩ | ⟨⟨l, h2⟩, h3, p1, p2, t', hts, hw⟩
      · exact Or.inl (h2.trans s1)
      · exact Or.inr (Or.inl ⟨s1 ▸ h2, h3⟩)
      · exact Or.inr (Or.inr ⟨⟨l, s1 ▸ h2⟩, h3, t :: p1, p2, t', by rw [hts]; rfl, hw⟩)
    · exact Or.inr (Or.inl ⟨s1, ih'.dir_stays s2⟩)
    · exact Or.inr (Or.inr ⟨s1, ih'.dir_stays s2, [], ts, t, rfl, hr, hpl, hu, hok⟩)

theorem foldl_dir_made {cfg : Cfg} (hdry : cfg.dryRun = false) (flt : Faults) (ts : List Task) (st : Exec) (x : Path)
    (hx0 : x ≠ []) (h : ∀ t ∈ ts, Benign cfg flt x t)
    {p1 p2 : List Task} {t : Task} (hts : ts = p1 ++ t :: p2) (hr : t.rel = x) (hpl : t.payload = .dir)
    (hs : t.act ≠ .skip) (hnd : t.act ≠ .delete)
    (hok : OkAfter cfg flt st p1 t) :
    (ts.foldl (execTask cfg flt) st).w.dst.get? x = some .dir := by
  subst hts
  rw [List.foldl_append, List.foldl_cons]
  obtain ⟨_, w', hp, he⟩ := execTask_ok_of_errors hok
  rw [perform_cu hs hnd hdry] at hp
  apply (foldl_frame_benign cfg flt p2 _ x hx0
    (fun t' ht' => h t' (List.mem_append_right _ (List.mem_cons_of_mem _ ht')))).dir_stays
  rw [he, ← hr]
  exact (performCU_dir hpl hp).1 (hr ▸ hx0)

/-- the fault plan spares the tasks at and above `p` -/
def SparesPath (cfg : Cfg) (flt : Faults) (ts : List Task) (p : Path) : Prop :=
  ∀ t ∈ ts, isPrefix t.rel p = true → faultOf cfg flt t = none

/-- along the path of a selected entry: every task that runs before it is benign at every strict ancestor (the
    only task there is the one of the ancestor directory's entry, which the fault plan spares) -/
theorem pre_benign_along {cfg : Cfg} (flt : Faults) {scan : List SEntry} {dst : Map DNode}
    (hu : UniqueRels scan) (hc : ParentClosed scan) (hroot : cfg.delete = true → dst.get? [] = none)
    {e : SEntry} (he : e ∈ scanFilter cfg scan) {pre post : List Task}
    (hts : plan cfg scan dst = pre ++ planEntry cfg dst e :: post)
    (hsp : SparesPath cfg flt (plan cfg scan dst) e.rel) :
    (∀ a ∈ pre, a.act ≠ .delete ∧ a.rel ≠ e.rel) ∧
    ∀ x, x ≠ [] → isPrefix x e.rel = true → x ≠ e.rel →
      ∀ a ∈ pre, Benign cfg flt x a := by
  have hes := mem_of_mem_scanFilter he
  have hpw := plan_pairwise cfg scan dst hu (fun h => ⟨hc, hroot h⟩)
  rw [hts] at hpw
  have hpre := (later_around hpw (planEntry_act_ne_delete _ _ _)).1
  rw [planEntry_rel] at hpre
  have hmem : ∀ a ∈ pre, a ∈ plan cfg scan dst := fun a ha => by rw [hts]; exact List.mem_append_left _ ha
  refine ⟨hpre, ?_⟩
  intro x hx hpx hxe a ha
  obtain ⟨d, hd, hdr, hdk⟩ := hc.anc hes hx hpx hxe
  refine ⟨fun hdel => absurd hdel (hpre a ha).1, fun hr => ⟨hsp a (hmem a ha) (hr ▸ hpx), ?_⟩⟩
  obtain ⟨s, hs, rfl⟩ := entry_of_task (hmem a ha) (hpre a ha).1
  rw [planEntry_rel] at hr
  have := hu.eq_of_rel (mem_of_mem_scanFilter hs) hd (hr.trans hdr.symm)
  subst this
  exact Or.inr (Or.inr (planEntry_payload_dir hdk))

/-- just before its task the node at the entry's own path is the prior one — or, for a directory entry, a directory made on
    the way to an entry below it -/
theorem pre_state_own {cfg : Cfg} (flt : Faults) {scan : List SEntry} {dst : Map DNode} (n : Nat)
    (hu : UniqueRels scan) (hc : ParentClosed scan)
    {e : SEntry} (he : e ∈ scanFilter cfg scan) {pre : List Task}
    (hmem : ∀ a ∈ pre, a ∈ plan cfg scan dst) (hpre : ∀ a ∈ pre, a.act ≠ .delete ∧ a.rel ≠ e.rel) :
    ((pre.foldl (execTask cfg flt) (initExec dst n)).w.dst.get? e.rel = dst.get? e.rel ∨
      (dst.get? e.rel = none ∧ (pre.foldl (execTask cfg flt) (initExec dst n)).w.dst.get? e.rel = some .dir ∧
        e.kind = .dir)) := by
  have hes := mem_of_mem_scanFilter he
  rcases foldl_frame cfg flt pre (initExec dst n) e.rel
    (fun a ha => ⟨(hpre a ha).2, fun h => absurd h (hpre a ha).1⟩) with h | ⟨a1, a2, a3, t', ht', hp', _⟩
  · exact Or.inl h
  · refine Or.inr ⟨a1, a2, ?_⟩
    obtain ⟨s, hs, rfl⟩ := entry_of_task (hmem t' ht') (hpre t' ht').1
    rw [planEntry_rel] at hp'
    have hne : e.rel ≠ s.rel := by
      intro h; exact (hpre _ ht').2 (by rw [planEntry_rel]; exact h.symm)
    exact anc_is_dir hu hc hes (mem_of_mem_scanFilter hs) a3 hp' hne

/-- at its place in the plan, the task of a selected entry completes under `f2` if it does under `f1`, when both fault
    plans spare the tasks at and above its path — also below a destination link that the run replaces by a directory
    (sy commit 862af11): whether that replacement completed is, by induction along the path, the same under both plans -/
theorem ok_transfer_at {cfg : Cfg} (hdry : cfg.dryRun = false) (f1 f2 : Faults) {scan : List SEntry}
    {dst : Map DNode} (n : Nat) (hu : UniqueRels scan) (hc : ParentClosed scan)
    (hroot : cfg.delete = true → dst.get? [] = none)
    {e : SEntry} (he : e ∈ scanFilter cfg scan) (hne : e.rel ≠ [])
    (hs1 : SparesPath cfg f1 (plan cfg scan dst) e.rel) (hs2 : SparesPath cfg f2 (plan cfg scan dst) e.rel)
    {pre post : List Task} (hts : plan cfg scan dst = pre ++ planEntry cfg dst e :: post)
    (hok : OkAfter cfg f1 (initExec dst n) pre (planEntry cfg dst e)) :
    OkAfter cfg f2 (initExec dst n) pre (planEntry cfg dst e) := by
  generalize hk : e.rel.length = k
  induction k using Nat.strongRecOn generalizing e pre post with
  | _ k ih =>
  have hdelp : cfg.delete = true → ParentClosed scan ∧ dst.get? [] = none := fun h => ⟨hc, hroot h⟩
  have hf2 : faultOf cfg f2 (planEntry cfg dst e) = none :=
    hs2 _ (planEntry_mem_plan he) (by rw [planEntry_rel]; exact isPrefix_refl _)
  obtain ⟨_, w1, hp1, _⟩ := execTask_ok_of_errors hok
  suffices hsuff : ∃ w2, perform cfg (pre.foldl (execTask cfg f2) (initExec dst n)).w (planEntry cfg dst e) = some w2 by
    obtain ⟨w2, hp2⟩ := hsuff
    unfold OkAfter
    rw [execTask_of_perform hf2 hp2]
    exact Book.ok_errors _ _
  by_cases hs : (planEntry cfg dst e).act = .skip
  · exact ⟨_, perform_skip hs⟩
  · have hnd : (planEntry cfg dst e).act ≠ .delete := planEntry_act_ne_delete _ _ _
    rw [perform_cu hs hnd hdry] at hp1 ⊢
    have hrel : (planEntry cfg dst e).rel ≠ [] := by rw [planEntry_rel]; exact hne
    have hmem : ∀ a ∈ pre, a ∈ plan cfg scan dst := fun a ha => by rw [hts]; exact List.mem_append_left _ ha
    obtain ⟨hpre, B1⟩ := pre_benign_along f1 hu hc hroot he hts hs1
    obtain ⟨_, B2⟩ := pre_benign_along f2 hu hc hroot he hts hs2
    have O1 := pre_state_own f1 n hu hc he hmem hpre
    have O2 := pre_state_own f2 n hu hc he hmem hpre
    rcases performCU_necessary hp1 hrel with hnot | ⟨hanc, hown⟩
    · exact ⟨_, by unfold performCU; rw [hnot]⟩
    · rw [planEntry_rel] at hanc
      refine performCU_of_fits ?_ ?_ fun m k' hpl _ => ⟨?_, ?_⟩
      · -- the strict ancestors: absent or directories in run 2 as in run 1
        rw [planEntry_rel]
        intro x hx hpx hxe
        have A1 := foldl_frame_benign cfg f1 pre (initExec dst n) x hx (B1 x hx hpx hxe)
        have A2 := foldl_frame_benign cfg f2 pre (initExec dst n) x hx (B2 x hx hpx hxe)
        rcases A1.dirOrAbsent.1 (hanc x hx hpx hxe) with hg | hg | ⟨_, _, p1, p2, t, hsplit, htr, htp, htu, htok⟩
        · exact A2.dirOrAbsent.2 (Or.inl hg)
        · exact A2.dirOrAbsent.2 (Or.inr (Or.inl hg))
        · -- run 1 replaced the link (else `e` could not have completed); by induction so does run 2
          have htmem : t ∈ pre := by rw [hsplit]; simp
          have htnd : t.act ≠ .delete := by rw [htu]; simp
          have htns : t.act ≠ .skip := by rw [htu]; simp
          obtain ⟨dx, hdx, rfl⟩ := entry_of_task (hmem t htmem) htnd
          rw [planEntry_rel] at htr
          have hplan : plan cfg scan dst = p1 ++ planEntry cfg dst dx :: (p2 ++ planEntry cfg dst e :: post) := by
            rw [hts, hsplit]; simp
          have hqok := ih dx.rel.length (by rw [htr, ← hk]; exact isPrefix_length_lt hpx hxe) hdx (htr ▸ hx)
            (fun a ha hp => hs1 a ha (isPrefix_trans hp (htr ▸ hpx)))
            (fun a ha hp => hs2 a ha (isPrefix_trans hp (htr ▸ hpx))) hplan htok rfl
          exact Or.inr (foldl_dir_made hdry f2 pre (initExec dst n) x hx (B2 x hx hpx hxe) hsplit
            (by rw [planEntry_rel]; exact htr) htp htns htnd hqok)
      · -- the own path: the same node in both runs, or a directory made on the way to an entry below
        rw [planEntry_rel] at hown ⊢
        rcases O2 with o2 | ⟨hn, o2, hk⟩
        · rcases O1 with o1 | ⟨hn, _, hk⟩
          · rw [o2, ← o1]; exact hown
          · unfold OwnOK; rw [planEntry_payload_dir hk, o2]; exact Or.inl hn
        · unfold OwnOK; rw [planEntry_payload_dir hk]; exact Or.inr (Or.inl o2)
      · intro hcr
        rw [planEntry_rel]
        have hk' : e.kind ≠ .dir := fun h => by rw [planEntry_payload_dir h] at hpl; cases hpl
        rcases O2 with o2 | ⟨_, _, k''⟩
        · rw [o2]; exact planEntry_create_none hk' hcr
        · exact absurd k'' hk'
      · -- registered first paths hold regular files (the hard-link map invariant)
        have hl := linkOK_before cfg f2 (hts ▸ plan_pairwise cfg scan dst hu hdelp) (initExec dst n) rfl
        intro x hx
        obtain ⟨⟨_, _, d, _, _, hd, _⟩, _⟩ := hl x hx
        exact ⟨d, hd⟩

/-- **whether the task of a selected entry completes is the same under any two fault plans that
    spare the tasks at and above its path** -/
theorem taskOk_transfer {cfg : Cfg} (hdry : cfg.dryRun = false) (f1 f2 : Faults) {scan : List SEntry}
    {dst : Map DNode} (n : Nat) (hu : UniqueRels scan) (hc : ParentClosed scan)
    (hroot : cfg.delete = true → dst.get? [] = none)
    {e : SEntry} (he : e ∈ scanFilter cfg scan) (hne : e.rel ≠ [])
    (hs1 : SparesPath cfg f1 (plan cfg scan dst) e.rel) (hs2 : SparesPath cfg f2 (plan cfg scan dst) e.rel)
    (hok : TaskOk cfg f1 (plan cfg scan dst) (initExec dst n) (planEntry cfg dst e)) :
    TaskOk cfg f2 (plan cfg scan dst) (initExec dst n) (planEntry cfg dst e) := by
  obtain ⟨pre, post, hts, hok⟩ := hok
  exact ⟨pre, post, hts, ok_transfer_at hdry f1 f2 n hu hc hroot he hne hs1 hs2 hts hok⟩

end SyModel.Engine
