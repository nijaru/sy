/-
  Lemmas relating report events to destination changes (C19): a changed path is covered by a task, a completed
  create/update leaves a node, a completed delete leaves none.
-/
import SyModel.Lemmas.EngineFixpoint
namespace SyModel.Engine

/-- after a delete `a` come only deletes, and one at the same path is the same task: the deletion of a key that the
    destination lists twice is planned twice, as one value `⟨.delete, p, .nothing⟩` -/
def DelLater (a b : Task) : Prop := a.act = .delete → b.act = .delete ∧ (b.rel = a.rel → b = a)

theorem plan_pairwise_del (cfg : Cfg) (scan : List SEntry) (dst : Map DNode) :
    (plan cfg scan dst).Pairwise DelLater := by
  have entry : ∀ a ∈ (scanFilter cfg scan).map (planEntry cfg dst), a.act ≠ .delete := fun a ha => by
    obtain ⟨e, _, rfl⟩ := List.mem_map.1 ha; exact planEntry_act_ne_delete _ _ _
  rw [plan_eq, List.pairwise_append]
  refine ⟨List.pairwise_of_forall_mem_list fun a ha _ _ had => absurd had (entry a ha), ?_,
    fun a ha _ _ had => absurd had (entry a ha)⟩
  apply List.pairwise_of_forall_mem_list
  intro a ha b hb _
  by_cases hd : cfg.delete = true
  · simp only [hd, ↓reduceIte] at ha hb
    obtain ⟨p, rfl, _⟩ := mem_planDeletions.1 ha
    obtain ⟨q, rfl, _⟩ := mem_planDeletions.1 hb
    exact ⟨rfl, fun h => by cases h; rfl⟩
  · simp [hd] at ha

theorem changed_covered (cfg : Cfg) (flt : Faults) (ts : List Task) (st : Exec) (x : Path)
    (h : (ts.foldl (execTask cfg flt) st).w.dst.get? x ≠ st.w.dst.get? x) : ∃ t ∈ ts, Covers t x :=
  Classical.byContradiction fun hn => h (foldl_get?_eq cfg flt ts st x fun t ht hc => hn ⟨t, ht, hc⟩)

theorem taskPost_present {cfg : Cfg} {dst0 : Map DNode} {ts : List Task} {t : Task} {res : Option DNode}
    (tp : TaskPost cfg dst0 ts t res) (hs : t.act ≠ .skip) (hp : t.payload ≠ .nothing) (hr : t.rel ≠ []) :
    res ≠ none := by
  cases hpl : t.payload with
  | nothing => exact absurd hpl hp
  | dir => rw [tp.dir hs hpl hr]; simp
  | symlink text => rw [tp.symlink hs text hpl]; simp
  | file m n => obtain ⟨d, h, _⟩ := tp.file hs m n hpl; rw [h]; simp

/-- a completed delete leaves its path absent at the end of the run.  `Faults` is a function of the task VALUE: two
    equal tasks of a plan (deletions of a key listed twice) are hit or spared together, so a later deletion at the same
    path cannot be the one that leaves garbage there -/
theorem delete_ok_absent {cfg : Cfg} (hdry : cfg.dryRun = false) {flt : Faults} {scan : List SEntry}
    {dst : Map DNode} {n : Nat} {t : Task} (hd : t.act = .delete)
    (hok : TaskOk cfg flt (plan cfg scan dst) (initExec dst n) t) :
    (finalExec cfg flt scan dst n).w.dst.get? t.rel = none := by
  obtain ⟨pre, post, hts, hok⟩ := hok
  have hpw := plan_pairwise_del cfg scan dst
  rw [hts, List.pairwise_append] at hpw
  have hpost := (List.pairwise_cons.1 hpw.2.1).1
  obtain ⟨hf, w', hp, he⟩ := execTask_ok_of_errors hok
  unfold finalExec
  rw [hts, List.foldl_append, List.foldl_cons]
  apply foldl_deletes_none cfg flt post _ t.rel
    (fun b hb => ⟨(hpost b hb hd).1, fun h => (hpost b hb hd).2 h ▸ hf⟩)
  rw [he]
  exact (perform_delete_spec hd hdry hp).self

end SyModel.Engine
