/-
  Well-formedness hypotheses on scans and destinations used by the engine theorems, each with a
  non-vacuity example on a concrete scan / destination, and their first consequences.

  What each one excludes in the real world:
  * `UniqueRels`     — a scanner that reports the same relative path twice (never happens:
                       `ignore::Walk` visits every directory entry once).
  * `ParentClosed`   — a scan that contains `a/b` without the directory entry `a` (never happens
                       for a directory walk; it would happen if the walk itself dropped entries).
  * `ParentsFirst`   — a walk that yields a child before its parent (`ignore::Walk` does not).
  * `NoRoot`         — a scan that lists the source root itself (relative path "").
  * `InoConsistent`  — two source names with link count > 1 and the same inode number but
                       different data (impossible on one file system at one instant; a source
                       modified *during* the scan can violate it).
  * `DstParentClosed`— a destination listing with `a/b` where `a` is missing or not a directory
                       (impossible for a listing of a real tree).
-/
import SyModel.Lemmas.EnginePath
namespace SyModel.Engine

def UniqueRels (scan : List SEntry) : Prop := scan.Pairwise (fun a b => a.rel ≠ b.rel)

def ParentClosed (scan : List SEntry) : Prop :=
  ∀ e ∈ scan, ∀ a ∈ ancestors e.rel, ∃ d ∈ scan, d.rel = a ∧ d.kind = .dir

def ParentsFirst (scan : List SEntry) : Prop :=
  ∀ n, ∀ h : n < scan.length, ∀ a ∈ ancestors (scan[n]).rel, ∃ d ∈ scan.take n, d.rel = a ∧ d.kind = .dir

def NoRoot (scan : List SEntry) : Prop := ∀ e ∈ scan, e.rel ≠ []

def SameData (m m' : FileMeta) : Prop :=
  m.content = m'.content ∧ m.size = m'.size ∧ m.mtime = m'.mtime ∧ m.xattrs = m'.xattrs

instance (m m' : FileMeta) : Decidable (SameData m m') := by unfold SameData; infer_instance

def InoConsistent (scan : List SEntry) : Prop :=
  ∀ e ∈ scan, ∀ e' ∈ scan, ∀ m n m' n', e.kind = .file m n → e'.kind = .file m' n' →
    1 < n → 1 < n' → m.ino = m'.ino → SameData m m'

def DstParentClosed (dst : Map DNode) : Prop :=
  ∀ p ∈ dst.keys, ∀ a ∈ ancestors p, dst.get? a = some .dir

instance (scan : List SEntry) : Decidable (UniqueRels scan) := by unfold UniqueRels; infer_instance
instance (scan : List SEntry) : Decidable (ParentClosed scan) := by unfold ParentClosed; infer_instance
instance (scan : List SEntry) : Decidable (ParentsFirst scan) := by unfold ParentsFirst; infer_instance
instance (scan : List SEntry) : Decidable (NoRoot scan) := by unfold NoRoot; infer_instance
instance (dst : Map DNode) : Decidable (DstParentClosed dst) := by unfold DstParentClosed; infer_instance

theorem ParentClosed.anc {scan : List SEntry} (h : ParentClosed scan) {e : SEntry} (he : e ∈ scan)
    {a : Path} (ha : a ≠ []) (hp : isPrefix a e.rel = true) (hne : a ≠ e.rel) :
    ∃ d ∈ scan, d.rel = a ∧ d.kind = .dir :=
  h e he a (mem_ancestors.2 ⟨ha, hp, hne⟩)

theorem ParentsFirst.closed {scan : List SEntry} (h : ParentsFirst scan) : ParentClosed scan := by
  intro e he a ha
  obtain ⟨n, hn, rfl⟩ := List.getElem_of_mem he
  obtain ⟨d, hd, hr⟩ := h n hn a ha
  exact ⟨d, List.mem_of_mem_take hd, hr⟩

theorem UniqueRels.eq_of_rel {scan : List SEntry} (h : UniqueRels scan) {e e' : SEntry}
    (he : e ∈ scan) (he' : e' ∈ scan) (hr : e.rel = e'.rel) : e = e' := by
  unfold UniqueRels at h
  induction scan with
  | nil => cases he
  | cons x xs ih =>
    rw [List.pairwise_cons] at h
    rcases List.mem_cons.1 he with rfl | he1 <;> rcases List.mem_cons.1 he' with rfl | he2
    · rfl
    · exact absurd hr (h.1 _ he2)
    · exact absurd hr.symm (h.1 _ he1)
    · exact ih h.2 he1 he2

theorem UniqueRels.sublist {scan sub : List SEntry} (h : UniqueRels scan) (hs : sub.Sublist scan) :
    UniqueRels sub := List.Pairwise.sublist hs h

theorem anc_is_dir {scan : List SEntry} (hu : UniqueRels scan) (hc : ParentClosed scan) {e e' : SEntry}
    (he : e ∈ scan) (he' : e' ∈ scan) (hne0 : e.rel ≠ []) (hp : isPrefix e.rel e'.rel = true)
    (hne : e.rel ≠ e'.rel) : e.kind = .dir := by
  obtain ⟨d, hd, hr, hk⟩ := hc.anc he' hne0 hp hne
  have := hu.eq_of_rel hd he hr
  subst this; exact hk

theorem DstParentClosed.anc {dst : Map DNode} (h : DstParentClosed dst) {p a : Path}
    (hp : dst.get? p ≠ none) (ha : a ≠ []) (hpre : isPrefix a p = true) (hne : a ≠ p) :
    dst.get? a = some .dir :=
  h p ((Map.mem_keys_iff dst p).2 hp) a (mem_ancestors.2 ⟨ha, hpre, hne⟩)

theorem scanFilterGo_sublist (cfg : Cfg) (scan : List SEntry) (ex : List Path) :
    (scanFilterGo cfg scan ex).Sublist scan := by
  fun_induction scanFilterGo cfg scan ex with
  | case1 => exact .slnil
  | case2 _ _ _ _ ih => exact ih.cons _
  | case3 _ _ _ _ _ ih => exact ih.cons _
  | case4 _ _ _ _ _ _ ih => exact ih.cons_cons _
  | case5 _ _ _ _ _ _ _ ih => exact ih.cons _
  | case6 _ _ _ _ _ _ _ ih => exact ih.cons_cons _

theorem scanFilter_sublist (cfg : Cfg) (scan : List SEntry) : (scanFilter cfg scan).Sublist scan :=
  scanFilterGo_sublist cfg scan []

theorem mem_of_mem_scanFilter {cfg : Cfg} {scan : List SEntry} {e : SEntry} (h : e ∈ scanFilter cfg scan) :
    e ∈ scan := (scanFilter_sublist cfg scan).subset h

def exMeta (c sz mt ino : Nat) : FileMeta := { content := c, size := sz, mtime := mt, xattrs := [("user.k", c)], ino := ino }

/-- `d/`, `d/f`, `l -> d/f`, `g` and `d/h` (two names of inode 7), `big` (excluded by a rule) -/
def exScan : List SEntry :=
  [ ⟨["d"], .dir, 4096, false⟩,
    ⟨["d", "f"], .file (exMeta 1 10 5000000000 3) 1, 10, false⟩,
    ⟨["l"], .symlink "d/f" (.file (exMeta 1 10 5000000000 3)), 3, false⟩,
    ⟨["g"], .file (exMeta 2 20 7000000000 7) 2, 20, false⟩,
    ⟨["d", "h"], .file (exMeta 2 20 7000000000 7) 2, 20, false⟩,
    ⟨["big"], .file (exMeta 9 900 1 8) 1, 900, true⟩ ]

/-- a prior destination: `d/` exists, `d/f` is stale, `x/` and `x/y` are extras -/
def exDst : Map DNode :=
  [ (["d"], .dir), (["d", "f"], .file (exMeta 0 10 1000000000 100)),
    (["x"], .dir), (["x", "y"], .file (exMeta 5 1 1 101)) ]

theorem exScan_uniqueRels : UniqueRels exScan := by decide
theorem exScan_parentsFirst : ParentsFirst exScan := by decide
theorem exScan_parentClosed : ParentClosed exScan := exScan_parentsFirst.closed
theorem exScan_noRoot : NoRoot exScan := by decide
theorem exDst_parentClosed : DstParentClosed exDst := by decide
theorem exDst_root : exDst.get? [] = none := rfl
/-- the `hdel` argument of the engine theorems for the example trees, shaped like that argument so that it is passed as it
    is (the flag plays no part) -/
theorem exScan_delete_ok {cfg : Cfg} (_ : cfg.delete = true) : ParentClosed exScan ∧ exDst.get? [] = none :=
  ⟨exScan_parentClosed, exDst_root⟩

example : UniqueRels exScan := exScan_uniqueRels
example : ParentClosed exScan := exScan_parentClosed
example : ParentsFirst exScan := exScan_parentsFirst
example : NoRoot exScan := exScan_noRoot
example : DstParentClosed exDst := exDst_parentClosed

theorem exScan_inoConsistent : InoConsistent exScan := by
  -- the only entries with several links are the two names of inode 7, which carry the same data
  have key : ∀ e ∈ exScan, ∀ m n, e.kind = .file m n → 1 < n → m = exMeta 2 20 7000000000 7 := by
    intro e he m n hk hn
    simp only [exScan, List.mem_cons, List.not_mem_nil, or_false] at he
    rcases he with rfl | rfl | rfl | rfl | rfl | rfl <;> simp at hk
    · omega             -- `d/f` has one link
    · exact hk.1.symm   -- `g`
    · exact hk.1.symm   -- `d/h`
    · omega             -- `big` has one link
  intro e he e' he' m n m' n' hk hk' hn hn' _
  rw [key e he m n hk hn, key e' he' m' n' hk' hn']
  exact ⟨rfl, rfl, rfl, rfl⟩

/-- the hypotheses are not trivially true either -/
example : ¬ ParentClosed [⟨["a", "b"], .dir, 0, false⟩] := by decide
example : ¬ ParentsFirst [⟨["a", "b"], .dir, 0, false⟩, ⟨["a"], .dir, 0, false⟩] := by decide
example : ¬ DstParentClosed [(["a", "b"], .dir), (["a"], .symlink "z")] := by decide

end SyModel.Engine
