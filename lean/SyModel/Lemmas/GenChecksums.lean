/-
  Lemmas.GenChecksums — the instance of the `Ext` record of the translated unit `Checksums`
  (`SyModel/Generated/Code/Checksums.lean`: `compute_checksums` of src/delta/checksum.rs) on the world `DWorld` of
  Lemmas/GenDelta.lean, the NORMAL FORM of the translated function (for every `Ext`), and the lemmas that relate it
  to the handwritten model `SyModel.Delta.checksums`.

  THE FIRST PART (`statOp` … `cinstShort`, `toDeltaBC`, `absBlockC`) IS TRUSTED: the bridge theorems of
  `Props/GenChecksums.lean` are statements about `compute_checksums (cinst strong)`, so a wrong operation here
  misrepresents the operating system or the two checksum libraries.  Everything after it is proved.
-/
import SyModel.Generated.Code.Checksums
import SyModel.Lemmas.GenDelta
import SyModel.Lemmas.RsMonad
set_option autoImplicit false
namespace SyModel.GenChecksums
open SyModel SyModel.Generated SyModel.Generated.Checksums SyModel.GenDelta
open SyModel.Generated.Rs (run_bind run_pure)

/-! ## the instance (trusted)

The world is `SyModel.GenDelta.DWorld` (regular files path ↦ bytes, read handles `1 … opened` with path and
position; nothing writes, nothing closes).  `GenDelta.inst` is an instance of ANOTHER record (`Delta.Ext`: this unit
has its own `Checksums.Ext` with `std_fs_metadata` and a live `h_seek`, which `GenDelta.inst` stubs with
`throw .other` because the generators never seek), so the instance is built here from the same world operations
(`openOp`, `readOp`) plus the two new ones. -/

/-- `std::fs::metadata(path)` (stat): ENOENT on a missing file, otherwise the length of the file (the only field the
    translated code looks at; `dir`/`mtime` are constants as in `GenDelta.metadataOp`).  The world does not change. -/
def statOp (p : Rs.Path) : Rs.M DWorld Rs.Metadata := fun w =>
  match w.files p with
  | none => (.error .io, w)
  | some c => (.ok { dir := false, mtime := 0, size := c.length }, w)

/-- `file.seek(pos)` (lseek): EBADF on a dead handle; `Start n` sets the position to `n` — also beyond the end of the
    file, as POSIX allows —, `End d` / `Current d` to `len + d` / `pos + d`, EINVAL when that is negative.  Answers the
    new position.  (`compute_checksums` only uses `Start`.) -/
def seekOp (h : Nat) (sf : Rs.SeekFrom) : Rs.M DWorld Nat := fun w =>
  match w.source h with
  | none => (.error .io, w)
  | some (c, p, pos) =>
    match sf with
    | .Start n => (.ok n, w.setPos h p n)
    | .End d =>
      if (c.length : Int) + d < 0 then (.error .io, w)
      else (.ok ((c.length : Int) + d).toNat, w.setPos h p ((c.length : Int) + d).toNat)
    | .Current d =>
      if (pos : Int) + d < 0 then (.error .io, w)
      else (.ok ((pos : Int) + d).toNat, w.setPos h p ((pos : Int) + d).toNat)

/-- `read(&mut buf)` that delivers AT MOST `k` bytes per call: `min(buf.len(), k, remaining)` bytes at the front of
    the buffer, the position advances by that amount.  This is what `Read::read` PROMISES (any `0 < n ≤ buf.len()`
    before end of file is allowed: a pipe, a network file system, a signal, a reader with an internal buffer of `k`
    bytes that is partly consumed); `GenDelta.readOp` — full reads — is the case `k ≥ buf.len()` (`readOp_eq_cap`). -/
def readCapOp (k : Nat) (h : Nat) (buf : List Nat) : Rs.M DWorld (Nat × List Nat) := fun w =>
  match w.source h with
  | none => (.error .io, w)
  | some (c, p, pos) =>
    let n := min (min buf.length k) (c.length - pos)
    (.ok (n, ofU8 ((c.drop pos).take n) ++ buf.drop n), w.setPos h p (pos + n))

/-- the instance with the `read` operation left open.  `strong` is xxh3-64 as an arbitrary function of the bytes.
    * `Adler32_hash` is the Nat model `SyModel.Delta.hashBytes` (proved equal to the `u32` code of
      src/delta/rolling.rs in `Props/GenRolling`), as in `GenDelta.inst`;
    * a streaming xxh3 hasher is the list of bytes fed so far (`Rs.xxh3_new = []`, `update` appends), `digest`
      hashes that list with `strong`, as in `GenDelta.inst`;
    * `std::fs::metadata` = `statOp`, `File::open` = `GenDelta.openOp` (read only, fresh handle at position 0,
      ENOENT on a missing file), `seek` = `seekOp`;
    * `read` = the parameter `rd`. -/
def cinstWith (strong : Bytes → Nat) (rd : Nat → List Nat → Rs.M DWorld (Nat × List Nat)) : Ext DWorld where
  Adler32_hash l := Delta.hashBytes (toU8 l)
  xxh3_update h l := h ++ l
  xxh3_digest h := strong (toU8 h)
  std_fs_metadata p := statOp p
  File_open p := openOp p
  h_seek h sf := seekOp h sf
  h_read h buf := rd h buf

/-- THE INSTANCE: full reads (`GenDelta.readOp`: `min(buf.len(), remaining)` bytes — POSIX allows short reads; on a
    regular file the kernel does not make them, DESIGN §6 C04 "Assumed") -/
def cinst (strong : Bytes → Nat) : Ext DWorld := cinstWith strong readOp

/-- the instance whose `read` delivers at most `k` bytes per call -/
def cinstShort (k : Nat) (strong : Bytes → Nat) : Ext DWorld := cinstWith strong (readCapOp k)

/-- THE FULL-READ HYPOTHESIS about a `read` operation: on every live handle it is `GenDelta.readOp`
    (`min(buf.len(), remaining)` bytes are delivered) -/
def FullReads (rd : Nat → List Nat → Rs.M DWorld (Nat × List Nat)) : Prop :=
  ∀ h buf w, (w.source h).isSome → rd h buf w = readOp h buf w

/-- `BlockChecksum` is translated once per unit that mentions it: the record of unit `Checksums` as the record of
    unit `Delta` (same Rust type `delta::checksum::BlockChecksum`, field by field) -/
def toDeltaBC (c : BlockChecksum) : Generated.Delta.BlockChecksum := ⟨c.index, c.offset, c.size, c.weak, c.strong⟩

/-- code checksum ↦ model checksum (`GenDelta.absBlock` on this unit's record; the model has no `index`) -/
def absBlockC (c : BlockChecksum) : Delta.Block Nat := ⟨c.offset, c.size, c.weak, c.strong⟩

/-! ## proved -/

theorem absBlock_toDeltaBC (c : BlockChecksum) : absBlock (toDeltaBC c) = absBlockC c := rfl

theorem map_absBlock_toDeltaBC (cs : List BlockChecksum) : (cs.map toDeltaBC).map absBlock = cs.map absBlockC := by
  rw [List.map_map]; rfl

/-! ### normal form of `compute_checksums` (any `Ext`) -/

/-- the record built from what `read` answered (`bytes_read`, `buffer`): checksum.rs:59-75 -/
def mkBlock {W : Type} (ext : Ext W) (bs index : Nat) (r : Nat × List Nat) : BlockChecksum :=
  { index := index, offset := index * bs, size := r.1,
    weak := ext.Adler32_hash (Rs.slice r.2 0 r.1),
    strong := ext.xxh3_digest (ext.xxh3_update Rs.xxh3_new (Rs.slice r.2 0 r.1)) }

/-- the closure of the parallel map (checksum.rs:48-76): open, seek to `index * block_size`, ONE read into a zeroed
    buffer of `block_size` bytes, the record -/
def blockM {W : Type} (ext : Ext W) (path : Rs.Path) (bs index : Nat) : Rs.M W BlockChecksum :=
  ext.File_open path >>= fun file =>
  ext.h_seek file (Rs.SeekFrom.Start (index * bs)) >>= fun _ =>
  ext.h_read file (List.replicate bs 0) >>= fun r => pure (mkBlock ext bs index r)

/-- `collect::<io::Result<Vec<_>>>()` of a map over indices, as the TRANSLATION runs it: in index order, the first error
    ending it.  The Rust code maps with rayon (`into_par_iter`, checksum.rs:46-47): which closures ran and which error
    is returned are not these when a closure fails; on success the result (collected in index order) is the same -/
def seqM {W β : Type} (g : Nat → Rs.M W β) : List Nat → Rs.M W (List β)
  | [] => pure []
  | i :: t => g i >>= fun x => seqM g t >>= fun xs => pure (x :: xs)


theorem forIn_collect {W β : Type} (g : Nat → Rs.M W β) (f : Nat → List β → Rs.M W (ForInStep (List β)))
    (hf : ∀ i a, f i a = g i >>= fun x => pure (ForInStep.yield (a ++ [x]))) (l : List Nat) (acc : List β) :
    forIn l acc f = seqM g l >>= fun xs => pure (acc ++ xs) := by
  induction l generalizing acc with
  | nil => simp [seqM]
  | cons i t ih =>
    rw [List.forIn_cons, hf, bind_assoc]
    simp only [seqM, bind_assoc, pure_bind, ih]
    simp

/-- NORMAL FORM of the translated `compute_checksums`, for every `Ext`: `metadata(path)`, the empty-file return,
    then the closure `blockM` for the indices `0, 1, …, div_ceil(len, block_size) - 1` in this order, the first
    error ending the run. -/
theorem compute_checksums_nf {W : Type} (ext : Ext W) (path : Rs.Path) (bs : Nat) :
    compute_checksums ext path bs =
      (ext.std_fs_metadata path >>= fun md =>
        if (Rs.len md == 0) = true then pure []
        else seqM (blockM ext path bs) (List.range' 0 (Rs.div_ceil (Rs.len md) bs))) := by
  unfold compute_checksums
  simp only [bind_pure_comp]
  refine bind_congr fun md => ?_
  split
  · rfl
  · rw [Rs.capture_liftE]
    rw [Std.Legacy.Range.forIn_eq_forIn_range']
    rw [forIn_collect (blockM ext path bs)]
    · simp [Std.Legacy.Range.size, Rs.cast]
    · intro i a
      simp only [blockM, map_eq_pure_bind, bind_assoc, pure_bind, mkBlock]
      rfl

/-! ### the model as a map over block indices -/

/-- block `j` of the model's list for the bytes `l` starting at offset `off` -/
def modelBlock (strong : Bytes → Nat) (bs off : Nat) (l : Bytes) (j : Nat) : Delta.Block Nat :=
  ⟨off + j * bs, ((l.drop (j * bs)).take bs).length, Delta.hashBytes ((l.drop (j * bs)).take bs),
    strong ((l.drop (j * bs)).take bs)⟩

theorem div_ceil_step (a b : Nat) (ha : 0 < a) (hb : 0 < b) : Rs.div_ceil a b = Rs.div_ceil (a - b) b + 1 := by
  unfold Rs.div_ceil
  have h1 : a + b - 1 = (a - 1) + b := by omega
  rw [h1, Nat.add_div_right _ hb]
  congr 1
  by_cases h : b ≤ a
  · congr 1; omega
  · rw [Nat.div_eq_of_lt (by omega), Nat.div_eq_of_lt (by omega)]

theorem div_ceil_zero (b : Nat) : Rs.div_ceil 0 b = 0 := by
  unfold Rs.div_ceil
  cases b with
  | zero => simp
  | succ n => simp

theorem checksumsFrom_eq_range (strong : Bytes → Nat) (bs : Nat) (hbs : 0 < bs) (off : Nat) (l : Bytes) :
    Delta.checksumsFrom strong bs off l =
      (List.range' 0 (Rs.div_ceil l.length bs)).map (modelBlock strong bs off l) := by
  fun_induction Delta.checksumsFrom strong bs off l with
  | case1 off l h =>
    have : l = [] := by rcases h with h | h; · omega
                        · exact h
    subst this
    simp [div_ceil_zero]
  | case2 off l h blk ih =>
    have hl : l ≠ [] := fun e => h (Or.inr e)
    have hpos : 0 < l.length := List.length_pos_iff.mpr hl
    rw [ih, div_ceil_step _ _ hpos hbs, List.range'_succ]
    simp only [List.map_cons, List.length_drop]
    congr 1
    · simp [modelBlock, blk]
    · have hr : List.range' (0 + 1) (Rs.div_ceil (l.length - bs) bs) =
          (List.range' 0 (Rs.div_ceil (l.length - bs) bs)).map (1 + ·) := by
        rw [List.map_add_range']
      rw [hr, List.map_map]
      apply List.map_congr_left
      intro j _
      have e1 : (1 + j) * bs = bs + j * bs := by rw [Nat.add_mul]; omega
      simp only [modelBlock, Function.comp, List.drop_drop, e1, Nat.add_assoc]

/-! ### on the instance: what the closure answers for a block; the head of the function -/

/-- the bytes one capped read delivers for block `i` -/
def blkBytes (k bs : Nat) (old : Bytes) (i : Nat) : Bytes :=
  (old.drop (i * bs)).take (min (min bs k) (old.length - i * bs))

/-- what the closure answers for block `i` of a file `old` when `read` delivers at most `k` bytes per call -/
def blockOf (k : Nat) (strong : Bytes → Nat) (bs : Nat) (old : Bytes) (i : Nat) : BlockChecksum :=
  ⟨i, i * bs, min (min bs k) (old.length - i * bs), Delta.hashBytes (blkBytes k bs old i), strong (blkBytes k bs old i)⟩

/-- the world after the closure ran for block `i`: one more handle, left behind the bytes it read -/
def stepW (k bs : Nat) (p : Rs.Path) (old : Bytes) (w : DWorld) (i : Nat) : DWorld :=
  { w with opened := w.opened + 1,
           handle := upd w.handle (w.opened + 1) (some (p, i * bs + min (min bs k) (old.length - i * bs))) }

theorem readOp_eq_cap (h : Nat) (buf : List Nat) (k : Nat) (hk : buf.length ≤ k) : readOp h buf = readCapOp k h buf := by
  funext w
  simp only [readOp, readCapOp, Nat.min_eq_left hk]
  rfl

theorem statOp_some (p : Rs.Path) (old : Bytes) (w : DWorld) (hfile : w.files p = some old) :
    statOp p w = (.ok { dir := false, mtime := 0, size := old.length }, w) := by
  simp [statOp, hfile]

theorem compute_checksums_head (strong : Bytes → Nat) (rd : Nat → List Nat → Rs.M DWorld (Nat × List Nat))
    (p : Rs.Path) (bs : Nat) (w : DWorld) :
    compute_checksums (cinstWith strong rd) p bs w =
      match w.files p with
      | none => (.error .io, w)
      | some old =>
        if old.length = 0 then (.ok [], w)
        else seqM (blockM (cinstWith strong rd) p bs) (List.range' 0 (Rs.div_ceil old.length bs)) w := by
  rw [compute_checksums_nf, run_bind]
  rw [show (cinstWith strong rd).std_fs_metadata p w = statOp p w from rfl]
  cases hfile : w.files p with
  | none => rw [statOp, hfile]
  | some old =>
    rw [statOp_some p old w hfile]
    dsimp only
    by_cases he : old.length = 0
    · rw [if_pos he, if_pos (by simp [Rs.len, he])]; rfl
    · rw [if_neg he, if_neg (by simpa [Rs.len] using he)]; rfl

section block
variable (k : Nat) (strong : Bytes → Nat) (rd : Nat → List Nat → Rs.M DWorld (Nat × List Nat)) (bs : Nat) (p : Rs.Path)
  (old : Bytes)

theorem length_blkBytes (i : Nat) :
    (blkBytes k bs old i).length = min (min bs k) (old.length - i * bs) := by
  simp only [blkBytes, List.length_take, List.length_drop]; omega

theorem foldl_stepW_files (l : List Nat) (w : DWorld) :
    (l.foldl (stepW k bs p old) w).files = w.files := by
  induction l generalizing w with
  | nil => rfl
  | cons i t ih => rw [List.foldl_cons, ih]; rfl

theorem foldl_stepW_opened (l : List Nat) (w : DWorld) :
    (l.foldl (stepW k bs p old) w).opened = w.opened + l.length := by
  induction l generalizing w with
  | nil => rfl
  | cons i t ih => rw [List.foldl_cons, ih]; simp only [stepW, List.length_cons]; omega

/-! ### the whole function on the instance, reads capped at `k` -/

-- `rd` is ANY read that acts as `readCapOp k` on the one buffer the closure uses: `FullReads rd` gives that with
-- `k = bs` (`fullReads_cap`), `cinstShort k` by `rfl`
section capped
variable (hrd : ∀ h w, (w.source h).isSome → rd h (List.replicate bs 0) w = readCapOp k h (List.replicate bs 0) w)
include hrd

theorem blockM_inst (w : DWorld) (hfile : w.files p = some old) (i : Nat) :
    blockM (cinstWith strong rd) p bs i w = (.ok (blockOf k strong bs old i), stepW k bs p old w i) := by
  have h1 : (cinstWith strong rd).File_open p w =
      (.ok (w.opened + 1), { w with opened := w.opened + 1, handle := upd w.handle (w.opened + 1) (some (p, 0)) }) := by
    simp [cinstWith, openOp, hfile]
  have h2 : (cinstWith strong rd).h_seek (w.opened + 1) (Rs.SeekFrom.Start (i * bs))
      { w with opened := w.opened + 1, handle := upd w.handle (w.opened + 1) (some (p, 0)) } =
      (.ok (i * bs), { w with opened := w.opened + 1, handle := upd w.handle (w.opened + 1) (some (p, i * bs)) }) := by
    simp [cinstWith, seekOp, DWorld.source, DWorld.setPos, hfile]
  have h3 : (cinstWith strong rd).h_read (w.opened + 1) (List.replicate bs 0)
      { w with opened := w.opened + 1, handle := upd w.handle (w.opened + 1) (some (p, i * bs)) } =
      (.ok (min (min bs k) (old.length - i * bs),
          ofU8 (blkBytes k bs old i) ++ (List.replicate bs 0).drop (min (min bs k) (old.length - i * bs))),
        stepW k bs p old w i) := by
    show rd _ _ _ = _
    rw [hrd _ _ (by simp [DWorld.source, hfile])]
    simp [readCapOp, DWorld.source, DWorld.setPos, hfile, stepW, blkBytes]
  unfold blockM
  rw [run_bind, h1]
  simp only
  rw [run_bind, h2]
  simp only
  rw [run_bind, h3]
  simp only [run_pure, mkBlock, blockOf]
  rw [← length_blkBytes, slice_ofU8_append]
  simp [cinstWith, Rs.xxh3_new]

theorem seqM_inst (l : List Nat) (w : DWorld) (hfile : w.files p = some old) :
    seqM (blockM (cinstWith strong rd) p bs) l w =
      (.ok (l.map (blockOf k strong bs old)), l.foldl (stepW k bs p old) w) := by
  induction l generalizing w with
  | nil => rfl
  | cons i t ih =>
    simp only [seqM]
    rw [run_bind, blockM_inst k strong rd bs p old hrd w hfile i]
    simp only
    rw [run_bind, ih (stepW k bs p old w i) hfile]
    rfl

/-- EXACT RESULT for every block size (0 included), every file, every cap `k` on the bytes one `read` delivers:
    block `i` is labelled `offset = i * bs`, `size = min(bs, k, len - i * bs)` and hashes exactly those bytes. -/
theorem compute_checksums_cap (w : DWorld) (hfile : w.files p = some old) :
    compute_checksums (cinstWith strong rd) p bs w =
      (.ok ((List.range' 0 (Rs.div_ceil old.length bs)).map (blockOf k strong bs old)),
       (List.range' 0 (Rs.div_ceil old.length bs)).foldl (stepW k bs p old) w) := by
  rw [compute_checksums_head, hfile]
  dsimp only
  split
  · rename_i he
    rw [he, div_ceil_zero]
    rfl
  · exact seqM_inst k strong rd bs p old hrd _ w hfile

end capped
end block

theorem blkBytes_full (k bs : Nat) (hk : bs ≤ k) (old : Bytes) (i : Nat) :
    blkBytes k bs old i = (old.drop (i * bs)).take bs := by
  unfold blkBytes
  rw [Nat.min_eq_left hk, List.take_eq_take_iff]
  simp

theorem absBlockC_blockOf_full (k : Nat) (strong : Bytes → Nat) (bs : Nat) (hk : bs ≤ k) (old : Bytes) (i : Nat) :
    absBlockC (blockOf k strong bs old i) = modelBlock strong bs 0 old i := by
  simp only [absBlockC, blockOf, modelBlock, blkBytes_full k bs hk, Nat.zero_add, Nat.min_eq_left hk,
    List.length_take, List.length_drop]

theorem map_blockOf_full (k : Nat) (strong : Bytes → Nat) (bs : Nat) (hbs : 0 < bs) (hk : bs ≤ k) (old : Bytes) :
    ((List.range' 0 (Rs.div_ceil old.length bs)).map (blockOf k strong bs old)).map absBlockC =
      Delta.checksums strong bs old := by
  rw [Delta.checksums, checksumsFrom_eq_range strong bs hbs, List.map_map]
  apply List.map_congr_left
  intro i _
  exact absBlockC_blockOf_full k strong bs hk old i

/-- the hypothesis of `compute_checksums_cap` from `FullReads`, with `k = bs` -/
theorem fullReads_cap (rd : Nat → List Nat → Rs.M DWorld (Nat × List Nat)) (hfull : FullReads rd) (bs : Nat) :
    ∀ h w, (w.source h).isSome → rd h (List.replicate bs 0) w = readCapOp bs h (List.replicate bs 0) w := by
  intro h w hs
  rw [hfull h _ w hs, readOp_eq_cap _ _ bs (by simp)]

theorem fullReads_readOp : FullReads readOp := fun _ _ _ _ => rfl

end SyModel.GenChecksums
