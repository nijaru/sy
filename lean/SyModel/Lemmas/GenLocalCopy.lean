/-
  Lemmas.GenLocalCopy — the groundwork for running the translated unit `LocalCopy` in the world of
  `Lemmas/GenLocalCopyWorld.lean`: the unit's `upd` and `ofU8` tied to the shared vocabulary of `Lemmas/ByteData`
  (`upd_eq`; `ofU8` reducible, so that `List.map`'s lemmas apply), path lookup on a regular file or a free name, the
  `List Nat` twins of `writeAt` / `setLen`, the world while a block loop runs (`loopW`), the fields of the instance
  `posix`, the hypotheses of the route theorems (`UpdPre`) and the conclusion of the temp+rename routes (`TempDone`).
-/
import SyModel.Lemmas.GenLocalCopyWorld
import SyModel.Lemmas.RsLogic
import SyModel.Lemmas.TransferRebuild
import SyModel.Lemmas.ByteData
set_option autoImplicit false
namespace SyModel.LocalCopy
open SyModel SyModel.Generated SyModel.Generated.LocalCopy SyModel.Transfer
open SyModel.Compress (writeAt setLen zeros)
open SyModel.Generated.Rs (run_bind run_capture)

@[simp] theorem upd_eq : @upd = @Data.upd := rfl
open SyModel.Data

theorem upd_comm {κ ν : Type} [DecidableEq κ] (f : κ → ν) {k k' : κ} (v v' : ν) (h : k ≠ k') :
    upd (upd f k v) k' v' = upd (upd f k' v') k v :=
  Data.upd_comm f v v' h

theorem run_pure {W α : Type} (a : α) (w : W) : (pure a : Rs.M W α) w = (.ok a, w) := rfl
theorem run_throw {W α : Type} (e : Rs.Err) (w : W) : (throw e : Rs.M W α) w = (.error e, w) := rfl
theorem run_liftE_ok {W α : Type} (a : α) (w : W) : (Rs.liftE (.ok a) : Rs.M W α) w = (.ok a, w) := rfl
theorem run_liftE_error {W α : Type} (e : Rs.Err) (w : W) : (Rs.liftE (.error e) : Rs.M W α) w = (.error e, w) := rfl

theorem prim_nf {α : Type} (f : Act α) (w : LWorld) (h : w.fault = none) :
    prim f w = match f w with
      | .ok (a, w') => (.ok a, w')
      | .error e => (.error e, w) := by
  unfold prim; rw [h]; rfl

theorem follow_of_not_symlink (names : Rs.Path → Option Node) (n : Nat) (p : Rs.Path)
    (h : ∀ t, names p ≠ some (.symlink t)) : follow names (n + 1) p = some p := by
  unfold follow
  split
  · rename_i t ht; exact absurd ht (h t)
  · rfl

theorem follow_file (nm : Rs.Path → Option Node) (p : Rs.Path) (i : Nat) (h : nm p = some (.file i)) : follow nm LINK_FUEL p = some p :=
  follow_of_not_symlink _ _ _ (by intro t; rw [h]; simp)

theorem follow_free (nm : Rs.Path → Option Node) (p : Rs.Path) (h : nm p = none) : follow nm LINK_FUEL p = some p :=
  follow_of_not_symlink _ _ _ (by intro t; rw [h]; simp)

theorem stat_of_file (w : LWorld) (p : Rs.Path) (i : Nat) (h : w.names p = some (.file i)) : w.stat p = some (.file i) := by
  unfold LWorld.stat
  rw [follow_file _ p i h]
  simpa using h

theorem hasHardLinks_file (w : LWorld) (p : Rs.Path) (i : Nat) (n : Inode) (h : w.names p = some (.file i)) (hi : w.inodes i = some n) :
    hasHardLinks w p = decide (1 < n.nlink) := by
  simp [hasHardLinks, LWorld.inoOf, stat_of_file w p i h, hi]

theorem stat_of_none (w : LWorld) (p : Rs.Path) (h : w.names p = none) : w.stat p = none := by
  unfold LWorld.stat
  rw [follow_free _ p h]
  simpa using h

def ofU8 (l : Bytes) : List Nat := l.map UInt8.toNat

attribute [reducible] ofU8

theorem ofU8_nil : ofU8 [] = [] := rfl
theorem ofU8_zeros (n : Nat) : ofU8 (zeros n) = zerosN n := by simp [ofU8, zeros, zerosN]

theorem ofU8_beq (a b : Bytes) : (ofU8 a == ofU8 b) = (a == b) := by
  rw [Bool.eq_iff_iff]
  simp only [beq_iff_eq]
  exact ofU8_inj

theorem ofU8_writeAt (t : Bytes) (off : Nat) (d : Bytes) : writeAtN (ofU8 t) off (ofU8 d) = ofU8 (writeAt t off d) := by
  unfold writeAtN writeAt
  rw [List.isEmpty_map]
  split
  · rfl
  · rw [← ofU8_zeros, ← List.map_append, ← List.map_take, List.length_map]
    simp only [List.map_append, List.map_drop, List.length_map]

theorem ofU8_setLen (t : Bytes) (n : Nat) : setLenN (ofU8 t) n = ofU8 (setLen t n) := by
  simp only [setLenN, setLen, ← ofU8_zeros, List.map_take, List.length_map, List.map_append]

/-- `&buf[..n]` of a buffer whose first `n` bytes were just read -/
theorem slice_ofU8 (X : Bytes) (Y : List Nat) : Rs.slice (ofU8 X ++ Y) 0 X.length = ofU8 X := by
  have := slice_append_left (ofU8 X) Y
  rwa [List.length_map] at this

/-- what a full read of at most `bs` bytes at position `off` delivers -/
theorem read_take (S : Bytes) (off bs : Nat) :
    List.take (min bs (S.length - off)) (List.drop off (ofU8 S)) = ofU8 ((S.drop off).take bs) := by
  rw [← List.map_drop, ← List.map_take, ← List.length_drop, ← List.take_eq_take_min]

/-- the world while a block loop runs.  `a` is the world just before the three descriptors are opened; `nh = a.nextHandle`,
    `nh+1`, `nh+2` read the source inode `is`, read the destination inode `id` and write the working file's inode `it`, at
    positions `spos`, `dpos`, `tpos`; the working file holds `T` (xattrs `xt`); `ws` are the `(offset, data)` pairs written
    by the loop so far, oldest first. -/
def loopW (a : LWorld) (is id it : Nat) (xt : List Rs.Str) (spos dpos tpos : Nat) (T : List Nat) (ws : List (Nat × List Nat)) : LWorld :=
  { a with handles := upd (upd (upd a.handles a.nextHandle (some ⟨is, spos, false⟩)) (a.nextHandle + 1) (some ⟨id, dpos, false⟩))
                        (a.nextHandle + 2) (some ⟨it, tpos, true⟩),
           nextHandle := a.nextHandle + 3,
           inodes := upd a.inodes it (some ⟨T, a.now, xt, 1⟩),
           log := a.log ++ ws.map (fun x => Op.write it x.1 x.2) }

/-- the loop state of the translated loops: `(source_buf, dest_buf, offset, bytes_written, literal_bytes, changed_blocks)` -/
abbrev LoopSt := List Nat × List Nat × Nat × Nat × Nat × Nat

def wsOf (st : Loop) : List (Nat × List Nat) := st.writes.reverse.map (fun x => (x.1, ofU8 x.2))

@[simp] theorem logOp_fault (w : LWorld) (o : Op) : (w.logOp o).fault = w.fault := rfl
@[simp] theorem logOp_names (w : LWorld) (o : Op) : (w.logOp o).names = w.names := rfl
@[simp] theorem logOp_inodes (w : LWorld) (o : Op) : (w.logOp o).inodes = w.inodes := rfl
@[simp] theorem logOp_handles (w : LWorld) (o : Op) : (w.logOp o).handles = w.handles := rfl
@[simp] theorem logOp_nextHandle (w : LWorld) (o : Op) : (w.logOp o).nextHandle = w.nextHandle := rfl
@[simp] theorem logOp_nextIno (w : LWorld) (o : Op) : (w.logOp o).nextIno = w.nextIno := rfl
@[simp] theorem logOp_guards (w : LWorld) (o : Op) : (w.logOp o).guards = w.guards := rfl
@[simp] theorem logOp_now (w : LWorld) (o : Op) : (w.logOp o).now = w.now := rfl
@[simp] theorem logOp_log (w : LWorld) (o : Op) : (w.logOp o).log = w.log ++ [o] := rfl
@[simp] theorem decLink_fault (w : LWorld) (i : Nat) : (w.decLink i).fault = w.fault := by unfold LWorld.decLink; split <;> rfl
@[simp] theorem decLink_names (w : LWorld) (i : Nat) : (w.decLink i).names = w.names := by unfold LWorld.decLink; split <;> rfl
@[simp] theorem decLink_handles (w : LWorld) (i : Nat) : (w.decLink i).handles = w.handles := by unfold LWorld.decLink; split <;> rfl
@[simp] theorem decLink_nextHandle (w : LWorld) (i : Nat) : (w.decLink i).nextHandle = w.nextHandle := by unfold LWorld.decLink; split <;> rfl
@[simp] theorem decLink_nextIno (w : LWorld) (i : Nat) : (w.decLink i).nextIno = w.nextIno := by unfold LWorld.decLink; split <;> rfl
@[simp] theorem decLink_guards (w : LWorld) (i : Nat) : (w.decLink i).guards = w.guards := by unfold LWorld.decLink; split <;> rfl
@[simp] theorem decLink_now (w : LWorld) (i : Nat) : (w.decLink i).now = w.now := by unfold LWorld.decLink; split <;> rfl
@[simp] theorem decLink_log (w : LWorld) (i : Nat) : (w.decLink i).log = w.log := by unfold LWorld.decLink; split <;> rfl
theorem decLink_inodes_of (w : LWorld) (i : Nat) (n : Inode) (h : w.inodes i = some n) :
    (w.decLink i).inodes = upd w.inodes i (some { n with nlink := n.nlink - 1 }) := by unfold LWorld.decLink; rw [h]

@[simp] theorem loopW_fault (a : LWorld) (is id it : Nat) (xt : List Rs.Str) (sp dp tp : Nat) (T : List Nat) (ws : List (Nat × List Nat)) :
    (loopW a is id it xt sp dp tp T ws).fault = a.fault := rfl

section Fields
set_option linter.unusedVariables false
variable (cfg : Cfg)
@[simp] theorem posix_try_exists : (posix cfg).try_exists = fun p => prim (existsAct p) := rfl
@[simp] theorem posix_tokio_fs_metadata : (posix cfg).tokio_fs_metadata = fun p => prim (metadataAct p) := rfl
@[simp] theorem posix_fs_metadata : (posix cfg).fs_metadata = fun p => prim (metadataAct p) := rfl
@[simp] theorem posix_tokio_fs_symlink_metadata : (posix cfg).tokio_fs_symlink_metadata = fun p => prim (lstatAct p) := rfl
@[simp] theorem posix_fs_symlink_metadata : (posix cfg).fs_symlink_metadata = fun p => prim (lstatAct p) := rfl
@[simp] theorem posix_create_dir_all : (posix cfg).create_dir_all = fun p => prim (createDirAllAct p) := rfl
@[simp] theorem posix_remove_file : (posix cfg).remove_file = fun p => prim (removeFileAct p) := rfl
@[simp] theorem posix_fs_copy : (posix cfg).fs_copy = fun s d => prim (fsCopyAct cfg s d) := rfl
@[simp] theorem posix_fs_rename : (posix cfg).fs_rename = fun q p => prim (renameAct q p) := rfl
@[simp] theorem posix_xattr_list : (posix cfg).xattr_list = fun p => prim (xattrListAct p) := rfl
@[simp] theorem posix_xattr_remove : (posix cfg).xattr_remove = fun p n => prim (xattrRemoveAct p n) := rfl
@[simp] theorem posix_filetime_set_file_mtime : (posix cfg).filetime_set_file_mtime = fun p t => prim (setMtimeAct p t) := rfl
@[simp] theorem posix_is_file_sparse : (posix cfg).is_file_sparse = fun m => pure cfg.sparse := rfl
@[simp] theorem posix_copy_sparse_file : (posix cfg).copy_sparse_file = fun s d => prim (copySparseAct s d) := rfl
@[simp] theorem posix_supports_cow_reflinks : (posix cfg).supports_cow_reflinks = fun p => pure cfg.cow := rfl
@[simp] theorem posix_same_filesystem : (posix cfg).same_filesystem = fun p q => pure cfg.sameFs := rfl
@[simp] theorem posix_has_hard_links : (posix cfg).has_hard_links = fun p => fun w => (.ok (hasHardLinks w p), w) := rfl
@[simp] theorem posix_working_file_path : (posix cfg).working_file_path = fun p => p ++ TEMP_SUFFIX := rfl
@[simp] theorem posix_TempFileGuard_new : (posix cfg).TempFileGuard_new = fun p => fun w => (.ok {}, { w with guards := p :: w.guards }) := rfl
@[simp] theorem posix_guard_defuse : (posix cfg).guard_defuse = fun g => fun w => (.ok (), { w with guards := w.guards.tail }) := rfl
@[simp] theorem posix_scope_exit : (posix cfg).scope_exit = fun u => fun w => (.ok (), w.guards.foldl dropGuard { w with guards := [] }) := rfl
@[simp] theorem posix_File_open : (posix cfg).File_open = fun p => prim (fileOpenAct p) := rfl
@[simp] theorem posix_File_create : (posix cfg).File_create = fun p => prim (fileCreateAct p) := rfl
@[simp] theorem posix_oo_open : (posix cfg).oo_open = fun o p => prim (ooOpenAct o p) := rfl
@[simp] theorem posix_Instant_now : (posix cfg).Instant_now = fun u => pure {} := rfl
@[simp] theorem posix_instant_elapsed : (posix cfg).instant_elapsed = fun i => pure 0 := rfl
@[simp] theorem posix_h_read : (posix cfg).h_read = fun h buf => prim (readAct h buf) := rfl
@[simp] theorem posix_h_read_exact : (posix cfg).h_read_exact = fun h buf => prim (readExactAct h buf) := rfl
@[simp] theorem posix_h_write_all : (posix cfg).h_write_all = fun h d => prim (writeAllAct h d) := rfl
@[simp] theorem posix_h_seek : (posix cfg).h_seek = fun h s => prim (seekAct h s) := rfl
@[simp] theorem posix_h_set_len : (posix cfg).h_set_len = fun h n => prim (setLenAct h n) := rfl
@[simp] theorem posix_h_flush : (posix cfg).h_flush = fun h => pure () := rfl
@[simp] theorem posix_verify_on_write : (posix cfg).verify_on_write = fun v => pure cfg.verifyOnWrite := rfl
@[simp] theorem posix_verify_block : (posix cfg).verify_block = fun v a b => pure (a == b) := rfl
@[simp] theorem posix_compute_data_checksum : (posix cfg).compute_data_checksum = fun v a => pure 0 := rfl
@[simp] theorem posix_to_hex : (posix cfg).to_hex = fun n => pure [] := rfl
@[simp] theorem posix_estimate_change_ratio : (posix cfg).estimate_change_ratio = fun _ _ _ _ _ => prim (fun w =>
    match cfg.ratio with
    | some b => .ok (⟨b, 0, 0, 0⟩, w)
    | none => .error .io) := rfl
end Fields

/-- what `remove_if_symlink p` leaves -/
def unlinkSym (w : LWorld) (p : Rs.Path) : LWorld :=
  match w.names p with
  | some (.symlink _) => { w with names := upd w.names p none }.logOp (.unlink p)
  | _ => w

@[simp] theorem unlinkSym_fault (w : LWorld) (p : Rs.Path) : (unlinkSym w p).fault = w.fault := by unfold unlinkSym; split <;> rfl

theorem unlinkSym_of_none (w : LWorld) (p : Rs.Path) (h : w.names p = none) : unlinkSym w p = w := by
  unfold unlinkSym; rw [h]
theorem unlinkSym_of_symlink (w : LWorld) (p t : Rs.Path) (h : w.names p = some (.symlink t)) :
    unlinkSym w p = { w with names := upd w.names p none, log := w.log ++ [.unlink p] } := by
  unfold unlinkSym; rw [h]; rfl

/-- the directory `dest` lives in is there already (or `dest` is a bare name in the current directory):
    `create_dir_all(parent)` has nothing to do -/
def ParentReady (w : LWorld) (p : Rs.Path) : Prop :=
  ∀ d, Rs.parent p = some d → d = [] ∨ (∃ nd, w.names d = some nd) ∧ w.stat d = some .dir

theorem create_parent_nf (cfg : Cfg) (self : LocalTransport) (w : LWorld) (d : Rs.Path) (hnf : w.fault = none)
    (h : d = [] ∨ (∃ nd, w.names d = some nd) ∧ w.stat d = some .dir) :
    LocalTransport.create_dir_all (posix cfg) self d w = (.ok (), w) := by
  unfold LocalTransport.create_dir_all
  simp only [posix_create_dir_all, prim_nf _ _ hnf, createDirAllAct]
  rcases h with h | ⟨⟨nd, h1⟩, h2⟩
  · simp [h]
  · by_cases hd : d = []
    · simp [hd]
    · simp [hd, h1, h2]

/-- the initial loop state of the in-place strategy -/
@[reducible] def ipInit (S : Bytes) : Loop := { temp := setLen [] S.length, offset := 0, changed := 0, literal := 0, writes := [] }
/-- the initial loop state of the COW strategy -/
@[reducible] def cowInit (D : Bytes) : Loop := { temp := D, offset := 0, changed := 0, literal := 0, writes := [] }

theorem cowGo_eq_model (S D : Bytes) :
    cowGo (fun _ => 65536) S D 0 (cowInit D) = cowGo (chunkAt BUF_CAP LOCAL_BLOCK_SIZE) S D 0 (cowInit D) := by
  show cowGo (fun _ => 65536) S D 0 { temp := D, offset := 0, changed := 0, literal := 0, writes := [] } =
    cowGo (chunkAt BUF_CAP LOCAL_BLOCK_SIZE) S D 0 { temp := D, offset := 0, changed := 0, literal := 0, writes := [] }
  rw [cowGo_start_eq, cowGo_start_eq, cmpBlocks_production]

/-- the working-file path is free, or holds a symlink (which `fs::remove_file(&temp_dest)` unlinks first) -/
def TempOK (w : LWorld) (p : Rs.Path) : Prop := w.names p = none ∨ ∃ t, w.names p = some (.symlink t)

theorem TempOK.ne {w : LWorld} {p q : Rs.Path} {i : Nat} (h : TempOK w p) (hq : w.names q = some (.file i)) : p ≠ q := by
  intro e
  rw [e] at h
  rcases h with h | ⟨t, h⟩ <;> rw [hq] at h <;> cases h

theorem unlinkSym_names_ne (w : LWorld) (p q : Rs.Path) (h : q ≠ p) : (unlinkSym w p).names q = w.names q := by
  unfold unlinkSym; split <;> simp [upd_ne, h]
theorem unlinkSym_names_self (w : LWorld) (p : Rs.Path) (h : TempOK w p) : (unlinkSym w p).names p = none := by
  unfold unlinkSym; rcases h with h | ⟨t, h⟩ <;> simp [h]
@[simp] theorem unlinkSym_inodes (w : LWorld) (p : Rs.Path) : (unlinkSym w p).inodes = w.inodes := by unfold unlinkSym; split <;> rfl
@[simp] theorem unlinkSym_nextIno (w : LWorld) (p : Rs.Path) : (unlinkSym w p).nextIno = w.nextIno := by unfold unlinkSym; split <;> rfl
@[simp] theorem unlinkSym_guards (w : LWorld) (p : Rs.Path) : (unlinkSym w p).guards = w.guards := by unfold unlinkSym; split <;> rfl
@[simp] theorem unlinkSym_handles (w : LWorld) (p : Rs.Path) : (unlinkSym w p).handles = w.handles := by unfold unlinkSym; split <;> rfl
@[simp] theorem unlinkSym_nextHandle (w : LWorld) (p : Rs.Path) : (unlinkSym w p).nextHandle = w.nextHandle := by unfold unlinkSym; split <;> rfl
@[simp] theorem unlinkSym_now (w : LWorld) (p : Rs.Path) : (unlinkSym w p).now = w.now := by unfold unlinkSym; split <;> rfl

/-- an update of an existing regular file `dst` (inode `id`, holding `D`) from the regular file `src` (inode `is`, holding `S`) -/
structure UpdPre (w : LWorld) (src dst : Rs.Path) (is id : Nat) (S D : Bytes) (ms md : Nat) (xs xd : List Rs.Str) (ls ld : Nat) : Prop where
  /-- no fault is injected -/
  nf : w.fault = none
  hsrc : w.names src = some (.file is)
  hisrc : w.inodes is = some ⟨ofU8 S, ms, xs, ls⟩
  hdst : w.names dst = some (.file id)
  hidst : w.inodes id = some ⟨ofU8 D, md, xd, ld⟩
  /-- source and destination are different files -/
  ne : is ≠ id
  /-- the working-file name is free or a symlink (a regular file there is unlinked as well by the code; that case is not
      covered by the bridge) -/
  htmp : TempOK w (dst ++ TEMP_SUFFIX)
  /-- inode numbers in use are below the allocation counter -/
  fresh : is < w.nextIno ∧ id < w.nextIno
  /-- no guard is alive when the call starts -/
  noguards : w.guards = []

/-- **The temp+rename route is done** (either strategy): `dst` names the NEW inode, which holds `T` with the source's mtime, no
    attribute and one link; the working-file path is free and no guard is armed; the old inode only lost a link; nothing else
    changed; `ops` is what the call logged after clearing the working-file path -/
structure TempDone (w : LWorld) (dst : Rs.Path) (is id : Nat) (ns nd : Inode) (T : Bytes) (ops : List Op) (W' : LWorld) : Prop where
  dstname : W'.names dst = some (.file w.nextIno)
  tmpname : W'.names (dst ++ TEMP_SUFFIX) = none
  names : ∀ p, p ≠ dst → p ≠ dst ++ TEMP_SUFFIX → W'.names p = w.names p
  newino : W'.inodes w.nextIno = some ⟨ofU8 T, ns.mtime, [], 1⟩
  srcino : W'.inodes is = some ns
  oldino : W'.inodes id = some { nd with nlink := nd.nlink - 1 }
  inodes : ∀ i, i ≠ w.nextIno → i ≠ id → W'.inodes i = w.inodes i
  log : W'.log = (unlinkSym w (dst ++ TEMP_SUFFIX)).log ++ ops
  guards : W'.guards = []

end SyModel.LocalCopy
