/-
  ByteData (namespace `SyModel.Data`) — the data vocabulary the byte-level worlds share: point update of a function, bytes as the numbers the
  translated code carries (`Vec<u8>` is `List Nat` there), the slices a buffered read takes.  Each unit that runs
  translated code on files has its OWN copy of what it needs of this, with the bodies written here:
    * `upd` in Lemmas/GenDelta, GenRemote, GenSparseCopy, GenLocalCopyWorld; the unit's `upd_eq : @upd = @Data.upd` (by
      `rfl`, a `simp` lemma) leads to the lemmas below;
    * `ofU8` in Lemmas/GenDelta, GenRemote, GenSparseCopy, GenLocalCopy, and `toU8` in GenDelta and GenRemote: plain
      `List.map`s.  GenRemote, GenSparseCopy and GenLocalCopy declare theirs `reducible`, and then `List.map`'s lemmas and
      the few below (stated about the `abbrev`s here) apply to them as they are; GenDelta's are ordinary definitions, and
      it states for itself the few lemmas it needs;
    * `pwrite` / `truncate` (GenRemote, GenSparseCopy) and `writeAtN` / `setLenN` (GenLocalCopyWorld), the `List Nat`
      twins of `Compress.writeAt` / `setLen`: one trusted copy per unit, nothing shared here; each unit proves its own
      `ofU8 (writeAt …) = pwrite (ofU8 …)`.
-/
import SyModel.Basic
import SyModel.Generated.Prelude
namespace SyModel.Data
open SyModel.Generated

def upd {κ ν : Type} [DecidableEq κ] (f : κ → ν) (k : κ) (v : ν) : κ → ν := fun x => if x = k then v else f x

section upd
variable {κ ν : Type} [DecidableEq κ] (f : κ → ν)

@[simp] theorem upd_same (k : κ) (v : ν) : upd f k v k = v := if_pos rfl
theorem upd_ne {k x : κ} (v : ν) (h : x ≠ k) : upd f k v x = f x := if_neg h
@[simp] theorem upd_upd (k : κ) (v v' : ν) : upd (upd f k v) k v' = upd f k v' := by
  funext x; simp only [upd]; split <;> rfl
theorem upd_comm {k k' : κ} (v v' : ν) (h : k ≠ k') : upd (upd f k v) k' v' = upd (upd f k' v') k v := by
  funext x; simp only [upd]; split <;> split <;> simp_all
theorem upd_shadow {a b : κ} (x y x' : ν) (h : a ≠ b) : upd (upd (upd f a x) b y) a x' = upd (upd f a x') b y := by
  rw [upd_comm _ _ _ h.symm, upd_upd]
theorem upd_shadow2 {a b c : κ} (x y z x' : ν) (hab : a ≠ b) (hac : a ≠ c) :
    upd (upd (upd (upd f a x) b y) c z) a x' = upd (upd (upd f a x') b y) c z := by
  rw [upd_comm _ _ _ hac.symm, upd_shadow _ _ _ _ hab]
end upd

abbrev ofU8 (l : Bytes) : List Nat := l.map UInt8.toNat
abbrev toU8 (l : List Nat) : Bytes := l.map Nat.toUInt8

theorem ofU8_inj {a b : Bytes} : ofU8 a = ofU8 b ↔ a = b :=
  List.map_inj_right fun _ _ => UInt8.toNat_inj.mp

theorem ofU8_lt (b : Bytes) : ∀ x ∈ ofU8 b, x < 256 := by
  intro x hx
  obtain ⟨y, _, rfl⟩ := List.mem_map.1 hx
  exact y.toNat_lt

theorem toU8_ofU8 (b : Bytes) : toU8 (ofU8 b) = b := by
  rw [toU8, ofU8, List.map_map]
  exact (List.map_congr_left fun x _ => by simp [Nat.toUInt8]).trans (List.map_id _)

theorem ofU8_toU8 (d : List Nat) (h : ∀ b ∈ d, b < 256) : ofU8 (toU8 d) = d := by
  rw [toU8, ofU8, List.map_map]
  exact (List.map_congr_left fun x hx => by simp [Nat.toUInt8, Nat.mod_eq_of_lt (h x hx)]).trans (List.map_id _)

theorem all_zero_ofU8 (b : Bytes) : (ofU8 b).all (fun x => x == 0) = b.all (· == 0) := by
  rw [ofU8, List.all_map]
  exact List.all_congr rfl fun x => Bool.eq_iff_iff.2 (by simp [← UInt8.toNat_inj])

theorem take_length_take {α : Type} (l : List α) (n : Nat) : l.take (l.take n).length = l.take n := by
  rw [List.take_eq_take_iff, List.length_take]
  omega

/-- `&buf[..n]` of a buffer whose first `n` elements are `d` -/
theorem slice_append_left {α : Type} (d t : List α) : Rs.slice (d ++ t) 0 d.length = d := by
  rw [Rs.slice, List.drop_zero, Nat.sub_zero, List.take_left']
  rfl

theorem drop_drop_take_length {α : Type} (l : List α) (p n : Nat) :
    (l.drop p).drop n = l.drop (p + ((l.drop p).take n).length) := by
  rw [List.drop_drop, List.length_take, List.length_drop]
  by_cases h : n ≤ l.length - p
  · rw [Nat.min_eq_left h]
  · rw [Nat.min_eq_right (by omega), List.drop_eq_nil_of_le (by omega), List.drop_eq_nil_of_le (by omega)]

end SyModel.Data
