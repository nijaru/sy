/-
  Lemmas.GenLocalCopyWp — the countdown of the injected fault (`dec`, `tick`, `spent` and their field equations;
  `dec_eq_none`: a countdown stays pending until it fires), `exitW` (the world after `scope_exit`), `run_of_wp_ex`, and
  `natCast_lt_zero` for the `seek` lemmas.  `wp` (which is `Rs.wp` at this world) and `actPost` with their equations are
  stated here; the routes are stated with `Rs.wp` (Lemmas/RsLogic) and use none of them.
-/
import SyModel.Lemmas.GenLocalCopy
set_option autoImplicit false
namespace SyModel.LocalCopy
open SyModel SyModel.Generated SyModel.Generated.LocalCopy

def wp {α : Type} (m : Rs.M LWorld α) (Q : α → LWorld → Prop) (E : Rs.Err → LWorld → Prop) (w : LWorld) : Prop :=
  match m w with
  | (.ok a, w') => Q a w'
  | (.error e, w') => E e w'

theorem wp_def {α : Type} (m : Rs.M LWorld α) (Q : α → LWorld → Prop) (E : Rs.Err → LWorld → Prop) (w : LWorld) :
    wp m Q E w ↔ (∀ a w', m w = (.ok a, w') → Q a w') ∧ (∀ e w', m w = (.error e, w') → E e w') := by
  unfold wp
  rcases h : m w with ⟨r, w'⟩
  cases r with
  | error e =>
    constructor
    · intro hq; exact ⟨fun a w1 h1 => (by cases h1), fun e1 w1 h1 => (by cases h1; exact hq)⟩
    · intro hq; exact hq.2 e w' rfl
  | ok a =>
    constructor
    · intro hq; exact ⟨fun a w1 h1 => (by cases h1; exact hq), fun e1 w1 h1 => (by cases h1)⟩
    · intro hq; exact hq.1 a w' rfl

theorem wp_pure {α : Type} (a : α) (Q : α → LWorld → Prop) (E : Rs.Err → LWorld → Prop) (w : LWorld) :
    wp (pure a) Q E w = Q a w := rfl

theorem wp_throw {α : Type} (e : Rs.Err) (Q : α → LWorld → Prop) (E : Rs.Err → LWorld → Prop) (w : LWorld) :
    wp (throw e : Rs.M LWorld α) Q E w = E e w := rfl

theorem wp_liftE_ok {α : Type} (a : α) (Q : α → LWorld → Prop) (E : Rs.Err → LWorld → Prop) (w : LWorld) :
    wp (Rs.liftE (.ok a)) Q E w = Q a w := rfl
theorem wp_liftE_error {α : Type} (e : Rs.Err) (Q : α → LWorld → Prop) (E : Rs.Err → LWorld → Prop) (w : LWorld) :
    wp (Rs.liftE (.error e) : Rs.M LWorld α) Q E w = E e w := rfl

theorem run_of_wp_ex {α γ : Type} {m : Rs.M LWorld α} {w : LWorld} {v : α} {P : LWorld → γ → Prop}
    (h : Rs.wp m (fun a w' => a = v ∧ ∃ x, P w' x) (fun _ _ => False) w) : ∃ w' x, m w = (.ok v, w') ∧ P w' x :=
  let ⟨w', hm, x, hx⟩ := Rs.run_of_wp h
  ⟨w', x, hm, hx⟩

/-- an operation that cannot fail and does not consult the fault countdown -/
theorem wp_fun {α : Type} (g : LWorld → α) (t : LWorld → LWorld) (Q : α → LWorld → Prop) (E : Rs.Err → LWorld → Prop) (w : LWorld) :
    wp (fun w => (Except.ok (g w), t w)) Q E w = Q (g w) (t w) := rfl

theorem wp_has_hard_links (p : Rs.Path) (Q : Bool → LWorld → Prop) (E : Rs.Err → LWorld → Prop) (w : LWorld) :
    wp (fun w => (Except.ok (hasHardLinks w p), w)) Q E w = Q (hasHardLinks w p) w := rfl
theorem wp_guard_new (p : Rs.Path) (Q : Rs.Opaque → LWorld → Prop) (E : Rs.Err → LWorld → Prop) (w : LWorld) :
    wp (fun w => (Except.ok ({} : Rs.Opaque), { w with guards := p :: w.guards })) Q E w = Q {} { w with guards := p :: w.guards } := rfl
theorem wp_guard_defuse (Q : Unit → LWorld → Prop) (E : Rs.Err → LWorld → Prop) (w : LWorld) :
    wp (fun w => (Except.ok (), { w with guards := w.guards.tail })) Q E w = Q () { w with guards := w.guards.tail } := rfl
/-- the world after `scope_exit`: every guard that is still armed is dropped -/
def exitW (w : LWorld) : LWorld := w.guards.foldl dropGuard { w with guards := [] }
theorem wp_scope_exit (Q : Unit → LWorld → Prop) (E : Rs.Err → LWorld → Prop) (w : LWorld) :
    wp (fun w => (Except.ok (), w.guards.foldl dropGuard { w with guards := [] })) Q E w = Q () (exitW w) := rfl

/-- the countdown after one more fallible call that was not hit -/
def dec : Option Nat → Option Nat
  | some (k + 1) => some k
  | x => x

/-- the world in which a fallible call that is not hit runs -/
def tick (w : LWorld) : LWorld := { w with fault := dec w.fault }
/-- the world after the injected fault has been used up -/
def spent (w : LWorld) : LWorld := { w with fault := none }

@[simp] theorem tick_names (w : LWorld) : (tick w).names = w.names := rfl
@[simp] theorem tick_inodes (w : LWorld) : (tick w).inodes = w.inodes := rfl
@[simp] theorem tick_nextIno (w : LWorld) : (tick w).nextIno = w.nextIno := rfl
@[simp] theorem tick_handles (w : LWorld) : (tick w).handles = w.handles := rfl
@[simp] theorem tick_nextHandle (w : LWorld) : (tick w).nextHandle = w.nextHandle := rfl
@[simp] theorem tick_guards (w : LWorld) : (tick w).guards = w.guards := rfl
@[simp] theorem tick_log (w : LWorld) : (tick w).log = w.log := rfl
@[simp] theorem tick_now (w : LWorld) : (tick w).now = w.now := rfl
@[simp] theorem tick_fault (w : LWorld) : (tick w).fault = dec w.fault := rfl
@[simp] theorem spent_names (w : LWorld) : (spent w).names = w.names := rfl
@[simp] theorem spent_inodes (w : LWorld) : (spent w).inodes = w.inodes := rfl
@[simp] theorem spent_nextIno (w : LWorld) : (spent w).nextIno = w.nextIno := rfl
@[simp] theorem spent_handles (w : LWorld) : (spent w).handles = w.handles := rfl
@[simp] theorem spent_nextHandle (w : LWorld) : (spent w).nextHandle = w.nextHandle := rfl
@[simp] theorem spent_guards (w : LWorld) : (spent w).guards = w.guards := rfl
@[simp] theorem spent_log (w : LWorld) : (spent w).log = w.log := rfl
@[simp] theorem spent_now (w : LWorld) : (spent w).now = w.now := rfl
@[simp] theorem spent_fault (w : LWorld) : (spent w).fault = none := rfl
@[simp] theorem tick_stat (w : LWorld) (p : Rs.Path) : (tick w).stat p = w.stat p := rfl
@[simp] theorem tick_inoOf (w : LWorld) (p : Rs.Path) : (tick w).inoOf p = w.inoOf p := rfl
@[simp] theorem spent_stat (w : LWorld) (p : Rs.Path) : (spent w).stat p = w.stat p := rfl
@[simp] theorem spent_inoOf (w : LWorld) (p : Rs.Path) : (spent w).inoOf p = w.inoOf p := rfl
@[simp] theorem hasHardLinks_tick (w : LWorld) (p : Rs.Path) : hasHardLinks (tick w) p = hasHardLinks w p := rfl
@[simp] theorem hasHardLinks_spent (w : LWorld) (p : Rs.Path) : hasHardLinks (spent w) p = hasHardLinks w p := rfl
@[simp] theorem dec_none : dec none = none := rfl
@[simp] theorem dec_succ (k : Nat) : dec (some (k + 1)) = some k := rfl
/-- a countdown never runs out by advancing: it stays pending until the fault fires -/
theorem dec_eq_none {F : Option Nat} : dec F = none ↔ F = none := by
  rcases F with _ | _ | k <;> simp [dec]
theorem tick_of_nf (w : LWorld) (h : w.fault = none) : tick w = w := by
  rcases w with ⟨nm, ino, ni, hs, nh, g, l, now, F⟩
  simp only at h; subst h; rfl

/-- what the result of a system call (run in `W`) means for the postconditions -/
def actPost {α : Type} (r : Except Rs.Err (α × LWorld)) (Q : α → LWorld → Prop) (E : Rs.Err → LWorld → Prop) (W : LWorld) : Prop :=
  match r with
  | .ok (a, w') => Q a w'
  | .error e => E e W

@[simp] theorem actPost_ok {α : Type} (a : α) (w' : LWorld) (Q : α → LWorld → Prop) (E : Rs.Err → LWorld → Prop) (W : LWorld) :
    actPost (.ok (a, w')) Q E W = Q a w' := rfl
@[simp] theorem actPost_error {α : Type} (e : Rs.Err) (Q : α → LWorld → Prop) (E : Rs.Err → LWorld → Prop) (W : LWorld) :
    actPost (.error e) Q E W = E e W := rfl
/-- `seek(SeekFrom::Start(n))` never computes a negative position -/
@[simp] theorem natCast_lt_zero (n : Nat) : ((n : Int) < 0) = False := by
  apply eq_false; omega

end SyModel.LocalCopy
