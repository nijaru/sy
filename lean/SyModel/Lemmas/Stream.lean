/-
  The streaming generator reconstructs `new` (the loop invariant `SInv`, kept by `sbody` and `srefill`), and the
  in-memory generator as the streaming one on a file that has been read.
-/
import SyModel.Delta.Stream
import SyModel.Lemmas.Delta
namespace SyModel.Delta

/-- Loop invariant of the streaming generator.  `more` is where `bs ≤ chunk` enters: while the file is not exhausted
    the last read was full, so the window buffer holds at least `chunk ≥ bs` bytes; hence a window that is used up
    stands at `wpos ≥ bs` and the refill fires — the loop never stops with bytes unread (`srefill_inv`).  (The clause
    "`wrest = []` only when `fileRest = []`" holds at the loop head only and is carried beside the invariant.) -/
structure SInv (old new : Bytes) (chunk : Nat) (st : SSt) (pre : Bytes) : Prop where
  ops   : applyOps old st.opsRev.reverse = some pre
  data  : pre ++ st.litRev.reverse ++ st.wrest ++ st.fileRest = new
  more  : st.fileRest ≠ [] → 0 < st.bytesRead ∧ chunk ≤ st.wpos + st.wrest.length

theorem sbody_inv {H} [BEq H] (strong : Bytes → H) (old new : Bytes) (cs : List (Block H)) (bs chunk : Nat)
    (hs : CandidatesSound strong old new cs)
    (st : SSt) (x : UInt8) (tl : Bytes) (h : st.wrest = x :: tl) (pre : Bytes)
    (inv : SInv old new chunk st pre) :
    ∃ pre', SInv old new chunk (sbody strong cs bs st x tl) pre' := by
  obtain ⟨hops, hdata, hmore⟩ := inv
  obtain ⟨k, roll', lit', ops', he, hk, -, hcase⟩ := sbody_cases strong cs bs st x tl
  rw [he]
  rw [h] at hdata
  have hmore' : st.fileRest ≠ [] → 0 < st.bytesRead ∧ chunk ≤ st.wpos + k + ((x :: tl).drop k).length := by
    intro hf
    have := hmore hf
    rw [h] at this
    simp only [List.length_drop, List.length_cons] at this ⊢
    omega
  rcases hcase with ⟨rfl, rfl, rfl⟩ | ⟨c, hmem, hst, rfl, rfl⟩
  · exact ⟨pre, hops, by simpa using hdata, hmore'⟩
  · -- sound candidates make the copy read the piece of `new` that matched
    rw [← List.take_append_drop k (x :: tl)] at hdata
    generalize (x :: tl).take k = W, (x :: tl).drop k = rest at *
    refine ⟨pre ++ st.litRev.reverse ++ W, ?_, by simpa using hdata, hmore'⟩
    simp only [List.reverse_cons]
    exact applyOps_snoc_copy old _ _ _ _ _ (applyOps_flush old st.litRev st.opsRev pre hops)
      (hs c hmem _ ⟨pre ++ st.litRev.reverse, rest ++ st.fileRest, by simpa using hdata⟩ hst)

theorem srefill_inv (old new : Bytes) (bs chunk : Nat) (hbs : 0 < bs) (hchunk : bs ≤ chunk)
    (st : SSt) (pre : Bytes) (inv : SInv old new chunk st pre) :
    SInv old new chunk (srefill bs chunk st) pre ∧
      ((srefill bs chunk st).wrest = [] → (srefill bs chunk st).fileRest = []) := by
  obtain ⟨hops, hdata, hmore⟩ := inv
  unfold srefill
  split
  · rename_i hc
    refine ⟨⟨hops, ?_, ?_⟩, ?_⟩
    · simp only
      rw [List.append_assoc _ (st.wrest ++ _), List.append_assoc st.wrest, List.take_append_drop,
        ← List.append_assoc]; exact hdata
    · simp only
      intro hf
      have : chunk < st.fileRest.length := by
        have := List.length_pos_iff.mpr hf; simp at this; omega
      simp; omega
    · simp only
      intro hw
      have ht : st.fileRest.take chunk = [] := (List.append_eq_nil_iff.mp hw).2
      have : st.fileRest = [] := by
        rcases List.take_eq_nil_iff.mp ht with h0 | h0
        · omega
        · exact h0
      simp [this]
  · rename_i hc
    refine ⟨⟨hops, hdata, hmore⟩, ?_⟩
    intro hw
    by_cases hf : st.fileRest = []
    · exact hf
    · exfalso
      have := hmore hf
      apply hc
      refine ⟨?_, this.1, ?_⟩
      · rw [hw] at this; simp at this; omega
      · rw [hw, hasAtLeast_false_iff]; simpa using hbs

theorem genStreamGo_spec {H} [BEq H] (strong : Bytes → H) (old new : Bytes) (cs : List (Block H))
    (bs chunk : Nat) (hbs : 0 < bs) (hchunk : bs ≤ chunk)
    (hs : CandidatesSound strong old new cs)
    (st : SSt) (pre : Bytes) (inv : SInv old new chunk st pre)
    (hhead : st.wrest = [] → st.fileRest = []) :
    applyOps old (genStreamGo strong cs bs chunk hbs st) = some new := by
  fun_induction genStreamGo strong cs bs chunk hbs st generalizing pre with
  | case1 st h =>
    have hf := hhead h
    have := applyOps_flush old st.litRev st.opsRev pre inv.ops
    rw [this, ← inv.data, h, hf]; simp
  | case2 st x tl h ih =>
    obtain ⟨pre', inv'⟩ := sbody_inv strong old new cs bs chunk hs st x tl h pre inv
    obtain ⟨inv'', hhead'⟩ := srefill_inv old new bs chunk hbs hchunk _ pre' inv'
    exact ih pre' inv'' hhead'

theorem sinit_inv (old new : Bytes) (bs chunk : Nat) (hbs : 0 < bs) (hchunk : bs ≤ chunk) :
    SInv old new chunk (sinit bs chunk new) [] ∧
      ((sinit bs chunk new).wrest = [] → (sinit bs chunk new).fileRest = []) := by
  unfold sinit
  refine ⟨⟨by simp [applyOps], by simp, ?_⟩, ?_⟩
  · simp only
    intro hf
    have : chunk < new.length := by
      have := List.length_pos_iff.mpr hf; simp at this; omega
    simp; omega
  · simp only
    intro hw
    rcases List.take_eq_nil_iff.mp hw with h0 | h0
    · omega
    · simp [h0]

/-- a round of the in-memory loop `genMemGo` is the streaming generator's `sbody` (for `0 < bs`): the in-memory
    generator is the streaming one without refills -/
theorem genMemGo_round {H} [BEq H] (strong : Bytes → H) (cs : List (Block H)) (bs : Nat) (hbs : 0 < bs) (st : SSt) (x : UInt8) (tl : Bytes) :
    genMemGo strong cs bs (x :: tl) st.roll st.litRev st.opsRev =
      genMemGo strong cs bs (sbody strong cs bs st x tl).wrest (sbody strong cs bs st x tl).roll
        (sbody strong cs bs st x tl).litRev (sbody strong cs bs st x tl).opsRev := by
  rw [genMemGo]
  unfold sbody
  dsimp only
  by_cases hfull : hasAtLeast bs (x :: tl) = true
  · rw [dif_pos hfull, if_pos hfull]
    cases findFull cs st.roll.digest (strong ((x :: tl).take bs)) with
    | none => rfl
    | some c => exact dif_neg (Nat.ne_of_gt hbs)
  · rw [dif_neg hfull, if_neg hfull]
    cases findPartial cs (hashBytes (x :: tl)) (strong (x :: tl)) (x :: tl).length with
    | none => rfl
    | some c =>
      dsimp only
      rw [genMemGo]
      rfl

/-- THE IN-MEMORY GENERATOR IS THE STREAMING ONE ON A FILE THAT HAS BEEN READ: the same rounds, and the refills do
    nothing -/
theorem genStreamGo_read {H} [BEq H] (strong : Bytes → H) (cs : List (Block H)) (bs chunk : Nat) (hbs : 0 < bs)
    (st : SSt) (hf : st.fileRest = []) :
    genStreamGo strong cs bs chunk hbs st = genMemGo strong cs bs st.wrest st.roll st.litRev st.opsRev := by
  fun_induction genStreamGo strong cs bs chunk hbs st with
  | case1 st hw => rw [hw, genMemGo]
  | case2 st x tl hw ih =>
    obtain ⟨h1, h2, h3, h4, h5⟩ :=
      srefill_read bs chunk (sbody strong cs bs st x tl) ((sbody_frame strong cs bs st x tl).1.trans hf)
    rw [hw, genMemGo_round strong cs bs hbs st x tl, ih h5, h1, h2, h3, h4]

theorem genMem_spec {H} [BEq H] (strong : Bytes → H) (old new : Bytes) (cs : List (Block H)) (bs : Nat) (hbs : 0 < bs)
    (hs : CandidatesSound strong old new cs) : applyOps old (genMem strong cs bs new) = some new := by
  -- any `chunk ≥ bs` would do (here `bs`); with `fileRest = []` the clause `more` of `SInv` is vacuous
  rw [genMem, ← genStreamGo_read strong cs bs bs hbs
    { wrest := new, wpos := 0, fileRest := [], bytesRead := 0, roll := _, litRev := [], opsRev := [] } rfl]
  exact genStreamGo_spec strong old new cs bs bs hbs (Nat.le_refl _) hs _ []
    ⟨rfl, by simp, fun h => absurd rfl h⟩ fun _ => rfl

theorem genStream_nil {H} [BEq H] (strong : Bytes → H) (cs : List (Block H)) (bs chunk : Nat) (hbs : 0 < bs) :
    genStream strong cs bs chunk [] = some [] := by
  rw [genStream, dif_pos hbs, genStreamGo]
  simp only [sinit]
  split
  · rfl
  · rename_i h; simp at h

end SyModel.Delta
