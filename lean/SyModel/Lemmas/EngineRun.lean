/-
  Run-level lemmas: first facts about `planEntry` (three of its arms as equations) and the structure of `plan`;
  independence of the planned tasks (`Later`); the hard-link map invariant (`LinkOK`); the per-task post-condition of a
  whole fold (`foldl_task_post`); which tasks completed (`TaskOk`) and what the report says of them; `-H`: members of one
  link group share one node (`run_share`); a run without errors is the fault-free run.
-/
import SyModel.Lemmas.EngineFrame
import SyModel.Lemmas.EngineWF
import SyModel.Lemmas.EngineCompare
namespace SyModel.Engine

theorem planEntry_rel (cfg : Cfg) (dst : Map DNode) (e : SEntry) : (planEntry cfg dst e).rel = e.rel := by
  unfold planEntry
  split
  · rfl
  · rfl
  · split
    · rfl
    · split <;> rfl
    · split <;> rfl

theorem planEntry_congr {cfg : Cfg} {dst dst' : Map DNode} {e : SEntry} (h : dst.get? e.rel = dst'.get? e.rel) :
    planEntry cfg dst e = planEntry cfg dst' e := by
  unfold planEntry; rw [h]

theorem planEntry_dir {cfg : Cfg} {dst : Map DNode} {e : SEntry} (hk : e.kind = .dir) :
    planEntry cfg dst e =
      ⟨match dst.get? e.rel with | some .dir => .skip | some (.symlink _) => .update | _ => .create, e.rel, .dir⟩ := by
  unfold planEntry; simp only [hk]; rfl

theorem planEntry_file {cfg : Cfg} {dst : Map DNode} {e : SEntry} {m : FileMeta} {n : Nat} (hk : e.kind = .file m n) :
    planEntry cfg dst e = ⟨planFileAct cfg m (dst.get? e.rel), e.rel, .file m n⟩ := by
  unfold planEntry; simp [hk]

theorem planEntry_link_nothing {cfg : Cfg} {dst : Map DNode} {e : SEntry} {text : String} {tgt : LinkTarget}
    (hk : e.kind = .symlink text tgt) (hl : cfg.links = .skip ∨ (cfg.links = .follow ∧ ∀ m, tgt ≠ .file m)) :
    planEntry cfg dst e = ⟨.skip, e.rel, .nothing⟩ := by
  unfold planEntry
  rcases hl with hl | ⟨hl, hnf⟩
  · simp [hk, hl]
  · cases tgt with
    | file m => exact absurd rfl (hnf m)
    | dir => simp [hk, hl]
    | dangling => simp [hk, hl]

theorem task_eq {a b : Task} (h1 : a.act = b.act) (h2 : a.rel = b.rel) (h3 : a.payload = b.payload) : a = b := by
  cases a; cases b; simp_all

theorem planEntry_act_ne_delete (cfg : Cfg) (dst : Map DNode) (e : SEntry) :
    (planEntry cfg dst e).act ≠ .delete := by
  unfold planEntry
  split
  · simp only; split <;> simp
  · exact planFileAct_ne_delete _ _ _
  · split
    · simp
    · split
      · simp
      · simp only; split <;> simp
      · simp
    · split
      · exact planFileAct_ne_delete _ _ _
      · simp

theorem mem_planDeletions {f s : List SEntry} {dst : Map DNode} {t : Task} :
    t ∈ planDeletions f s dst ↔
      ∃ p, t = ⟨.delete, p, .nothing⟩ ∧ p ∈ dst.keys ∧ (∀ e ∈ f, e.rel ≠ p) ∧ (∀ e ∈ s, e.rel ≠ p) ∧
        p ∉ ownMetadata := by
  unfold planDeletions
  simp only [List.mem_map, List.mem_filter, Bool.and_eq_true, Bool.not_eq_true', List.any_eq_false,
    beq_iff_eq, List.contains_eq_mem, decide_eq_false_iff_not]
  constructor
  · rintro ⟨p, ⟨hk, ⟨hf, hs⟩, ho⟩, rfl⟩
    exact ⟨p, rfl, hk, hf, hs, ho⟩
  · rintro ⟨p, rfl, hk, hf, hs, ho⟩
    exact ⟨p, ⟨hk, ⟨hf, hs⟩, ho⟩, rfl⟩

theorem planDeletions_act {f s : List SEntry} {dst : Map DNode} {t : Task} (h : t ∈ planDeletions f s dst) :
    t.act = .delete := by
  obtain ⟨p, rfl, _⟩ := mem_planDeletions.1 h; rfl

theorem plan_eq (cfg : Cfg) (scan : List SEntry) (dst : Map DNode) :
    plan cfg scan dst = (scanFilter cfg scan).map (planEntry cfg dst) ++
      (if cfg.delete then planDeletions (scanFilter cfg scan) scan dst else []) := by
  unfold plan
  split <;> simp

theorem plan_filter_delete (cfg : Cfg) (scan : List SEntry) (dst : Map DNode) :
    (plan cfg scan dst).filter (·.act == .delete) =
      if cfg.delete then planDeletions (scanFilter cfg scan) scan dst else [] := by
  rw [plan_eq, List.filter_append]
  have h1 : ((scanFilter cfg scan).map (planEntry cfg dst)).filter (·.act == .delete) = [] := by
    rw [List.filter_eq_nil_iff]
    intro t ht
    obtain ⟨e, _, rfl⟩ := List.mem_map.1 ht
    simpa using planEntry_act_ne_delete cfg dst e
  rw [h1, List.nil_append, List.filter_eq_self]
  intro t ht
  split at ht
  · simp [planDeletions_act ht]
  · cases ht

theorem planDeletions_congr (f1 f2 s : List SEntry) (dst : Map DNode) (h : f1.map (·.rel) = f2.map (·.rel)) :
    planDeletions f1 s dst = planDeletions f2 s dst := by
  unfold planDeletions
  congr 1
  apply List.filter_congr
  intro p _
  have e : ∀ f : List SEntry, f.any (·.rel == p) = (f.map (·.rel)).contains p := by
    intro f
    rw [Bool.eq_iff_iff]
    simp only [List.any_eq_true, beq_iff_eq, List.contains_eq_mem, decide_eq_true_eq, List.mem_map]
  rw [e f1, e f2, h]

theorem mem_plan {cfg : Cfg} {scan : List SEntry} {dst : Map DNode} {t : Task} :
    t ∈ plan cfg scan dst ↔ (∃ e ∈ scanFilter cfg scan, planEntry cfg dst e = t) ∨
      (cfg.delete = true ∧ t ∈ planDeletions (scanFilter cfg scan) scan dst) := by
  rw [plan_eq, List.mem_append, List.mem_map]
  by_cases hd : cfg.delete = true <;> simp [hd]

theorem entry_of_task {cfg : Cfg} {scan : List SEntry} {dst : Map DNode} {t : Task}
    (ht : t ∈ plan cfg scan dst) (hnd : t.act ≠ .delete) : ∃ e ∈ scanFilter cfg scan, t = planEntry cfg dst e := by
  rcases mem_plan.1 ht with ⟨e, he, rfl⟩ | ⟨_, h⟩
  · exact ⟨e, he, rfl⟩
  · exact absurd (planDeletions_act h) hnd

theorem deletion_of_task {cfg : Cfg} {scan : List SEntry} {dst : Map DNode} {t : Task}
    (ht : t ∈ plan cfg scan dst) (hd : t.act = .delete) :
    cfg.delete = true ∧ t ∈ planDeletions (scanFilter cfg scan) scan dst := by
  rcases mem_plan.1 ht with ⟨e, _, rfl⟩ | h
  · exact absurd hd (planEntry_act_ne_delete _ _ _)
  · exact h

theorem planEntry_file_payload {cfg : Cfg} {dst : Map DNode} {e : SEntry} {m : FileMeta} {n : Nat}
    (h : (planEntry cfg dst e).payload = .file m n) (hn : 1 < n) : e.kind = .file m n := by
  unfold planEntry at h
  split at h
  · cases h
  · rename_i m' n' hk; simp only [Payload.file.injEq] at h; rw [hk, h.1, h.2]
  · split at h
    · cases h
    · split at h <;> cases h
    · split at h
      · simp only [Payload.file.injEq] at h; omega
      · cases h

/-! ### independence of planned tasks -/

/-- `b` runs after `a`: if `a` is a create/update/skip then `b` has another path and, when a
    delete, is not at or above `a`'s path; deletes come last.  Two deletes need no condition on their paths: a delete
    never makes a path present (`foldl_deletes_none`); only what a create/update/skip left has to be protected from what
    runs later -/
def Later (a b : Task) : Prop :=
  (a.act ≠ .delete → b.rel ≠ a.rel ∧ (b.act = .delete → isPrefix b.rel a.rel = false)) ∧
  (a.act = .delete → b.act = .delete)

theorem deletion_not_above {cfg : Cfg} {scan : List SEntry} {dst : Map DNode} (hc : ParentClosed scan)
    (hroot : dst.get? [] = none) {t : Task} (ht : t ∈ planDeletions (scanFilter cfg scan) scan dst)
    {e : SEntry} (he : e ∈ scan) : isPrefix t.rel e.rel = false := by
  obtain ⟨p, rfl, hk, _, hs, _⟩ := mem_planDeletions.1 ht
  cases hp : isPrefix p e.rel with
  | false => rfl
  | true =>
    exfalso
    have hne : p ≠ e.rel := fun h => hs e he h.symm
    have hp0 : p ≠ [] := by
      intro h; subst h
      exact ((Map.mem_keys_iff dst []).1 hk) hroot
    obtain ⟨d, hd, hr, _⟩ := hc.anc he hp0 hp hne
    exact hs d hd hr

theorem planned_pairwise (cfg : Cfg) (es : List SEntry) (dst : Map DNode) (hu : UniqueRels es) :
    (es.map (planEntry cfg dst)).Pairwise Later := by
  rw [List.pairwise_map]
  apply List.Pairwise.imp _ hu
  intro a b hab
  refine ⟨fun _ => ⟨?_, fun hd => absurd hd (planEntry_act_ne_delete _ _ _)⟩,
    fun hd => absurd hd (planEntry_act_ne_delete _ _ _)⟩
  rw [planEntry_rel, planEntry_rel]
  exact fun h => hab h.symm

theorem plan_pairwise (cfg : Cfg) (scan : List SEntry) (dst : Map DNode) (hu : UniqueRels scan)
    (hdel : cfg.delete = true → ParentClosed scan ∧ dst.get? [] = none) :
    (plan cfg scan dst).Pairwise Later := by
  rw [plan_eq, List.pairwise_append]
  refine ⟨?_, ?_, ?_⟩
  · exact planned_pairwise cfg _ dst (hu.sublist (scanFilter_sublist cfg scan))
  · apply List.pairwise_of_forall_mem_list
    intro a ha b hb
    by_cases hd : cfg.delete = true
    · simp only [hd, ↓reduceIte] at ha hb
      exact ⟨fun hn => absurd (planDeletions_act ha) hn, fun _ => planDeletions_act hb⟩
    · simp only [hd, Bool.false_eq_true, ↓reduceIte, List.not_mem_nil] at ha
  · intro a ha b hb
    obtain ⟨e, he, rfl⟩ := List.mem_map.1 ha
    by_cases hd : cfg.delete = true
    · simp only [hd, ↓reduceIte] at hb
      obtain ⟨hc, hroot⟩ := hdel hd
      have hes := mem_of_mem_scanFilter he
      refine ⟨fun _ => ⟨?_, fun _ => ?_⟩, fun hd => absurd hd (planEntry_act_ne_delete _ _ _)⟩
      · rw [planEntry_rel]
        obtain ⟨p, rfl, _, _, hs, _⟩ := mem_planDeletions.1 hb
        exact fun h => hs e hes h.symm
      · rw [planEntry_rel]; exact deletion_not_above hc hroot hb hes
    · simp only [hd, Bool.false_eq_true, ↓reduceIte, List.not_mem_nil] at hb

/-! ### the hard-link map invariant -/

def InoConsistentT (S : List Task) : Prop :=
  ∀ a ∈ S, ∀ b ∈ S, ∀ m n m' n', a.payload = .file m n → b.payload = .file m' n' →
    1 < n → 1 < n' → m.ino = m'.ino → SameData m m'

theorem plan_inoConsistent {cfg : Cfg} {scan : List SEntry} {dst : Map DNode} (h : InoConsistent scan) :
    InoConsistentT (plan cfg scan dst) := by
  have key : ∀ t ∈ plan cfg scan dst, ∀ m n, t.payload = .file m n → 1 < n →
      ∃ e ∈ scan, e.kind = .file m n := by
    intro t ht m n hp hn
    rcases mem_plan.1 ht with ⟨e, he, rfl⟩ | ⟨_, ht⟩
    · exact ⟨e, mem_of_mem_scanFilter he, planEntry_file_payload hp hn⟩
    · obtain ⟨p, rfl, _⟩ := mem_planDeletions.1 ht; cases hp
  intro a ha b hb m n m' n' hpa hpb hn hn' hino
  obtain ⟨e, he, hk⟩ := key a ha m n hpa hn
  obtain ⟨e', he', hk'⟩ := key b hb m' n' hpb hn'
  exact h e he e' he' m n m' n' hk hk' hn hn' hino

theorem Matches.of_sameData {cfg : Cfg} {d m m' : FileMeta} (h : Matches cfg d m') (hs : SameData m m') :
    Matches cfg d m := by
  obtain ⟨a, b, c, e⟩ := h
  obtain ⟨a', b', c', e'⟩ := hs
  exact ⟨a.trans a'.symm, b.trans b'.symm, c.trans c'.symm, by rw [e, e']⟩

/-- every registered first path of a link group holds a regular file with the data of a group
    member from `S`, and no remaining task can disturb it -/
def LinkOK (cfg : Cfg) (S : List Task) (w : World) (rest : List Task) : Prop :=
  ∀ x ∈ w.linkMap,
    (∃ m n d, (∃ t ∈ S, t.payload = .file m n ∧ 1 < n) ∧ m.ino = x.1 ∧
        w.dst.get? x.2.1 = some (.file d) ∧ Matches cfg d m) ∧
    (∀ t ∈ rest, t.rel ≠ x.2.1 ∧ (t.act = .delete → isPrefix t.rel x.2.1 = false))

theorem execTask_linkMap (cfg : Cfg) (flt : Faults) (st : Exec) (t : Task) :
    (execTask cfg flt st t).w.linkMap = st.w.linkMap ∨
    ∃ m n node i, t.payload = .file m n ∧ 1 < n ∧ t.act ≠ .delete ∧
      (execTask cfg flt st t).w.linkMap = (m.ino, t.rel, i) :: st.w.linkMap ∧
      st.w.linkMap.find? (·.1 == m.ino) = none ∧
      (execTask cfg flt st t).w.dst.get? t.rel = some (.file node) ∧ Matches cfg node m := by
  rcases execTask_cases cfg flt st t with ⟨g, _, _, _, he⟩ | ⟨_, w', hp, he⟩ | ⟨_, _, he⟩
  · rw [he]; exact Or.inl rfl
  · rw [he]
    rcases perform_cases hp with rfl | ⟨hdry, hd⟩ | ⟨_, _, hd, hp⟩
    · exact Or.inl rfl
    · exact Or.inl (perform_delete_spec hd hdry hp).linkMap
    · rcases performCU_linkMap hp with hl | ⟨m, n, node, i, hpl, hn, hl, hf, hget, hmat⟩
      · exact Or.inl hl
      · exact Or.inr ⟨m, n, node, i, hpl, hn, hd, hl, hf, hget, hmat⟩
  · rw [he]; exact Or.inl rfl

theorem execTask_linkOK {cfg : Cfg} (flt : Faults) {S : List Task} {st : Exec}
    {t : Task} {rest : List Task} (ht : t ∈ S) (hrest : ∀ b ∈ rest, Later t b)
    (h : LinkOK cfg S st.w (t :: rest)) : LinkOK cfg S (execTask cfg flt st t).w rest := by
  -- an old entry keeps its node: the task has another path and does not delete from above
  have old : ∀ x ∈ st.w.linkMap,
      (∃ m n d, (∃ t ∈ S, t.payload = .file m n ∧ 1 < n) ∧ m.ino = x.1 ∧
        (execTask cfg flt st t).w.dst.get? x.2.1 = some (.file d) ∧ Matches cfg d m) ∧
      (∀ t ∈ rest, t.rel ≠ x.2.1 ∧ (t.act = .delete → isPrefix t.rel x.2.1 = false)) := by
    intro x hx
    obtain ⟨⟨m, n, d, hs, hi, hn, hm⟩, hr⟩ := h x hx
    refine ⟨⟨m, n, d, hs, hi, ?_, hm⟩, fun b hb => hr b (List.mem_cons_of_mem _ hb)⟩
    rcases execTask_frame cfg flt st t x.2.1 (hr t (List.mem_cons_self ..)).1 (hr t (List.mem_cons_self ..)).2 with
      h1 | ⟨a, _⟩
    · rw [h1]; exact hn
    · rw [hn] at a; cases a
  rcases execTask_linkMap cfg flt st t with hl | ⟨m, n, node, i, hpl, hn, hd, hl, _, hget, hmat⟩
  · intro x hx
    exact old x (hl ▸ hx)
  · intro x hx
    rw [hl] at hx
    rcases List.mem_cons.1 hx with rfl | hx
    · exact ⟨⟨m, n, node, ⟨t, ht, hpl, hn⟩, rfl, hget, hmat⟩, fun b hb => (hrest b hb).1 hd⟩
    · exact old x hx

theorem foldl_linkOK {cfg : Cfg} (flt : Faults) {S : List Task}
    (ts rest : List Task) (st : Exec) (hsub : ∀ t ∈ ts, t ∈ S) (hpw : (ts ++ rest).Pairwise Later)
    (h : LinkOK cfg S st.w (ts ++ rest)) : LinkOK cfg S (ts.foldl (execTask cfg flt) st).w rest := by
  induction ts generalizing st with
  | nil => exact h
  | cons t ts ih =>
    rw [List.foldl_cons]
    rw [List.cons_append, List.pairwise_cons] at hpw
    apply ih _ (fun t' ht' => hsub t' (List.mem_cons_of_mem _ ht')) hpw.2
    exact execTask_linkOK flt (hsub t (List.mem_cons_self ..)) hpw.1 h

theorem later_around {pre post : List Task} {t : Task} (hpw : (pre ++ t :: post).Pairwise Later)
    (hnd : t.act ≠ .delete) :
    (∀ a ∈ pre, a.act ≠ .delete ∧ a.rel ≠ t.rel) ∧
    (∀ b ∈ post, b.rel ≠ t.rel ∧ (b.act = .delete → isPrefix b.rel t.rel = false)) ∧ ∀ b ∈ post, Later t b := by
  rw [List.pairwise_append, List.pairwise_cons] at hpw
  obtain ⟨_, ⟨hpost, _⟩, hcross⟩ := hpw
  refine ⟨fun a ha => ?_, fun b hb => (hpost b hb).1 hnd, hpost⟩
  have hl := hcross a ha t (List.mem_cons_self ..)
  have had : a.act ≠ .delete := fun h => hnd (hl.2 h)
  exact ⟨had, fun h => (hl.1 had).1 h.symm⟩

theorem linkOK_before (cfg : Cfg) (flt : Faults) {pre post : List Task} {t : Task}
    (hpw : (pre ++ t :: post).Pairwise Later) (st0 : Exec) (hl0 : st0.w.linkMap = []) :
    LinkOK cfg (pre ++ t :: post) (pre.foldl (execTask cfg flt) st0).w (t :: post) :=
  foldl_linkOK flt pre (t :: post) st0 (fun _ ha => List.mem_append_left _ ha) hpw
    (fun x hx => by rw [hl0] at hx; cases hx)

/-! ### the per-task post-condition -/

/-- what a completed task establishes at its own path, relative to the state just before it.  The same record is
    then stated twice more: `TaskPost` (final state of the whole list against its initial state) and `EntryPost`
    (`Lemmas/EnginePost`: in terms of the source entry instead of its task) -/
structure LocalPost (cfg : Cfg) (before : Option DNode) (t : Task) (after : Option DNode) : Prop where
  skip : (t.act = .skip ∨ t.payload = .nothing) → after = before
  dir : t.act ≠ .skip → t.payload = .dir → t.rel ≠ [] → after = some .dir
  dir_pre : t.act ≠ .skip → t.payload = .dir → t.rel ≠ [] →
    before = none ∨ before = some .dir ∨ (t.act = .update ∧ ∃ s, before = some (.symlink s))
  symlink : t.act ≠ .skip → ∀ text, t.payload = .symlink text → after = some (.symlink text)
  file : t.act ≠ .skip → ∀ m n, t.payload = .file m n →
    ∃ d, after = some (.file d) ∧ Matches cfg d m ∧
      (cfg.hardlinks = false → ∀ o, before = some (.file o) → d.ino = o.ino)

theorem execTask_post {cfg : Cfg} (hdry : cfg.dryRun = false) (flt : Faults) {S : List Task}
    (hino : cfg.hardlinks = true → InoConsistentT S) {st : Exec} {t : Task} {rest : List Task}
    (ht : t ∈ S) (hnd : t.act ≠ .delete) (hlink : LinkOK cfg S st.w (t :: rest))
    (hok : (execTask cfg flt st t).b.errors = st.b.errors) :
    LocalPost cfg (st.w.dst.get? t.rel) t ((execTask cfg flt st t).w.dst.get? t.rel) := by
  obtain ⟨_, w', hp, he⟩ := execTask_ok_of_errors hok
  rw [he]
  by_cases hs : t.act = .skip
  · rw [perform_skip hs] at hp; cases hp
    exact ⟨fun _ => rfl, fun h => absurd hs h, fun h => absurd hs h, fun h => absurd hs h, fun h => absurd hs h⟩
  · rw [perform_cu hs hnd hdry] at hp
    refine ⟨fun h => ?_, fun _ hpl hne => ?_, fun _ hpl hne => ?_, fun _ text hpl => ?_, fun _ m n hpl => ?_⟩
    · rcases h with h | h
      · exact absurd h hs
      · rw [performCU_nothing h hp]
    · exact (performCU_dir hpl hp).1 hne
    · exact performCU_dir_pre hpl hp hne
    · exact (performCU_symlink hpl hp).1
    · rcases performCU_file hpl hp with ⟨node, hget, hmat, hi, _⟩ | ⟨x, fm, hhl, hn, _, hx, hxi, hfirst, hget, _, _⟩
      · exact ⟨node, hget, hmat, fun _ => hi⟩
      · obtain ⟨⟨m', n', d, ⟨t', ht', hpl', hn'⟩, hi', hd, hmat⟩, _⟩ := hlink x hx
        rw [hfirst] at hd
        simp only [Option.some.injEq, DNode.file.injEq] at hd
        subst hd
        have hsd : SameData m m' := hino hhl t ht t' ht' m n m' n' hpl hpl' hn hn' (hxi.symm.trans hi'.symm)
        exact ⟨fm, hget, hmat.of_sameData hsd, fun h => by rw [hhl] at h; cases h⟩

/-- task `t`, run after the tasks `pre` from `st0`, completes: it adds no error -/
def OkAfter (cfg : Cfg) (flt : Faults) (st0 : Exec) (pre : List Task) (t : Task) : Prop :=
  (execTask cfg flt (pre.foldl (execTask cfg flt) st0) t).b.errors = (pre.foldl (execTask cfg flt) st0).b.errors

/-- what a completed task of a fold establishes at its own path in the *final* state, relative
    to the *initial* destination -/
structure TaskPost (cfg : Cfg) (dst0 : Map DNode) (ts : List Task) (t : Task) (after : Option DNode) : Prop where
  skip : (t.act = .skip ∨ t.payload = .nothing) →
    after = dst0.get? t.rel ∨
      (dst0.get? t.rel = none ∧ after = some .dir ∧ t.rel ≠ [] ∧
        ∃ t' ∈ ts, isPrefix t.rel t'.rel = true ∧ t'.rel ≠ t.rel ∧ t'.act ≠ .delete ∧ t'.act ≠ .skip)
  dir : t.act ≠ .skip → t.payload = .dir → t.rel ≠ [] → after = some .dir
  dir_pre : t.act ≠ .skip → t.payload = .dir → t.rel ≠ [] →
    dst0.get? t.rel = none ∨ dst0.get? t.rel = some .dir ∨
      (t.act = .update ∧ ∃ s, dst0.get? t.rel = some (.symlink s))
  symlink : t.act ≠ .skip → ∀ text, t.payload = .symlink text → after = some (.symlink text)
  file : t.act ≠ .skip → ∀ m n, t.payload = .file m n →
    ∃ d, after = some (.file d) ∧ Matches cfg d m ∧
      (cfg.hardlinks = false → ∀ o, dst0.get? t.rel = some (.file o) → d.ino = o.ino)

theorem foldl_task_post {cfg : Cfg} (hdry : cfg.dryRun = false) (flt : Faults) {ts pre post : List Task}
    {t : Task} (hts : ts = pre ++ t :: post) (hpw : ts.Pairwise Later)
    (hino : cfg.hardlinks = true → InoConsistentT ts) (st0 : Exec) (hl0 : st0.w.linkMap = [])
    (hnd : t.act ≠ .delete)
    (hok : OkAfter cfg flt st0 pre t) :
    TaskPost cfg st0.w.dst ts t ((ts.foldl (execTask cfg flt) st0).w.dst.get? t.rel) := by
  subst hts
  obtain ⟨hpre, hpost, _⟩ := later_around hpw hnd
  have lp := execTask_post hdry flt hino (by simp) hnd (linkOK_before cfg flt hpw st0 hl0) hok
  have f1 := foldl_frame cfg flt pre st0 t.rel (fun a ha => ⟨(hpre a ha).2, fun h => absurd h (hpre a ha).1⟩)
  have f2 := foldl_frame cfg flt post (execTask cfg flt (pre.foldl (execTask cfg flt) st0) t) t.rel hpost
  rw [List.foldl_append, List.foldl_cons]
  -- a present node at `t.rel` after the task survives the rest
  have keep : ∀ v, (execTask cfg flt (pre.foldl (execTask cfg flt) st0) t).w.dst.get? t.rel = some v →
      (post.foldl (execTask cfg flt) (execTask cfg flt (pre.foldl (execTask cfg flt) st0) t)).w.dst.get? t.rel = some v := by
    intro v hv
    exact (foldl_frame_present cfg flt post _ t.rel hpost (by rw [hv]; simp)).trans hv
  refine ⟨fun h => ?_, fun hs hpl hne => keep _ (lp.dir hs hpl hne), fun hs hpl hne => ?_,
    fun hs text hpl => keep _ (lp.symlink hs text hpl), fun hs m n hpl => ?_⟩
  · have e2 := lp.skip h
    rcases f1 with h1 | ⟨a1, b1, c1, t1, ht1, d1⟩
    · rcases f2 with h2 | ⟨a2, b2, c2, t2, ht2, d2⟩
      · exact Or.inl (h2.trans (e2.trans h1))
      · exact Or.inr ⟨by rw [← h1, ← e2]; exact a2, b2, c2, t2,
          List.mem_append_right _ (List.mem_cons_of_mem _ ht2), d2.1, (hpost t2 ht2).1, d2.2⟩
    · rcases f2 with h2 | ⟨a2, _⟩
      · exact Or.inr ⟨a1, by rw [h2, e2]; exact b1, c1, t1, List.mem_append_left _ ht1, d1.1, (hpre t1 ht1).2, d1.2⟩
      · rw [e2, b1] at a2; cases a2
  · have hb := lp.dir_pre hs hpl hne
    rcases f1 with h1 | ⟨a1, _⟩
    · rw [← h1]; exact hb
    · exact Or.inl a1
  · obtain ⟨d, hd, hm, hi⟩ := lp.file hs m n hpl
    refine ⟨d, keep _ hd, hm, fun hh o ho => hi hh o ?_⟩
    rcases f1 with h1 | ⟨a1, _⟩
    · rw [h1]; exact ho
    · rw [ho] at a1; cases a1

/-! ### which tasks completed (`TaskOk`) -/

/-- task `t` of the list ran to completion (it was neither faulted nor did it fail) -/
def TaskOk (cfg : Cfg) (flt : Faults) (ts : List Task) (st0 : Exec) (t : Task) : Prop :=
  ∃ pre post, ts = pre ++ t :: post ∧
    OkAfter cfg flt st0 pre t

theorem taskOk_of_no_errors {cfg : Cfg} {flt : Faults} {ts : List Task} {st0 : Exec}
    (h : (ts.foldl (execTask cfg flt) st0).b.errors.length = st0.b.errors.length) {t : Task} (ht : t ∈ ts) :
    TaskOk cfg flt ts st0 t := by
  obtain ⟨pre, post, hts⟩ := List.append_of_mem ht
  refine ⟨pre, post, hts, ?_⟩
  rw [hts, List.foldl_append, List.foldl_cons] at h
  exact step_ok_of_fold (h ▸ foldl_errors_len cfg flt pre st0)

theorem taskOk_of_event {cfg : Cfg} {flt : Faults} (ts : List Task) (st0 : Exec) (ev : Act × Path)
    (h : ev ∈ (ts.foldl (execTask cfg flt) st0).b.events) :
    ev ∈ st0.b.events ∨ ∃ t, TaskOk cfg flt ts st0 t ∧ ev = (t.act, t.rel) := by
  induction ts generalizing st0 with
  | nil => exact Or.inl h
  | cons t ts ih =>
    rw [List.foldl_cons] at h
    rcases ih _ h with h1 | ⟨t', ⟨pre, post, hts, hok⟩, hev⟩
    · rcases execTask_events cfg flt st0 t with ⟨he, _⟩ | ⟨he, herr⟩
      · rw [he] at h1; exact Or.inl h1
      · rw [he] at h1
        rcases List.mem_cons.1 h1 with h2 | h2
        · exact Or.inr ⟨t, ⟨[], ts, rfl, herr⟩, h2⟩
        · exact Or.inl h2
    · exact Or.inr ⟨t', ⟨t :: pre, post, by rw [hts]; rfl, hok⟩, hev⟩

theorem event_of_taskOk {cfg : Cfg} {flt : Faults} {ts : List Task} {st0 : Exec} {t : Task}
    (h : TaskOk cfg flt ts st0 t) : (t.act, t.rel) ∈ (ts.foldl (execTask cfg flt) st0).b.events := by
  obtain ⟨pre, post, hts, hok⟩ := h
  rw [hts, List.foldl_append, List.foldl_cons]
  apply (foldl_book_suffix cfg flt post _).1.subset
  rcases execTask_events cfg flt (pre.foldl (execTask cfg flt) st0) t with ⟨_, he⟩ | ⟨he, _⟩
  · have := congrArg List.length (he.symm.trans hok)
    simp at this
  · rw [he]; exact List.mem_cons_self ..

theorem task_accounted {cfg : Cfg} {flt : Faults} (ts : List Task) (st0 : Exec) {t : Task} (ht : t ∈ ts) :
    (t.act, t.rel) ∈ (ts.foldl (execTask cfg flt) st0).b.events ∨
    (t.act, t.rel) ∈ (ts.foldl (execTask cfg flt) st0).b.errors := by
  obtain ⟨pre, post, hts⟩ := List.append_of_mem ht
  rw [hts, List.foldl_append, List.foldl_cons]
  obtain ⟨m1, m2⟩ := foldl_book_suffix cfg flt post (execTask cfg flt (pre.foldl (execTask cfg flt) st0) t)
  rcases execTask_events cfg flt (pre.foldl (execTask cfg flt) st0) t with ⟨_, he⟩ | ⟨he, _⟩
  · exact Or.inr (m2.subset (he ▸ List.mem_cons_self ..))
  · exact Or.inl (m1.subset (he ▸ List.mem_cons_self ..))

theorem run_task_post {cfg : Cfg} (hdry : cfg.dryRun = false) (flt : Faults) (scan : List SEntry)
    (dst : Map DNode) (n : Nat) (hu : UniqueRels scan)
    (hdel : cfg.delete = true → ParentClosed scan ∧ dst.get? [] = none)
    (hino : cfg.hardlinks = true → InoConsistent scan) {e : SEntry}
    (hok : TaskOk cfg flt (plan cfg scan dst) (initExec dst n) (planEntry cfg dst e)) :
    TaskPost cfg dst (plan cfg scan dst) (planEntry cfg dst e)
      ((finalExec cfg flt scan dst n).w.dst.get? e.rel) := by
  obtain ⟨pre, post, hts, hok⟩ := hok
  have := foldl_task_post hdry flt hts (plan_pairwise cfg scan dst hu hdel)
    (fun h => plan_inoConsistent (hino h)) (initExec dst n) rfl (planEntry_act_ne_delete _ _ _) hok
  rw [planEntry_rel] at this
  exact this

theorem planEntry_mem_plan {cfg : Cfg} {scan : List SEntry} {dst : Map DNode} {e : SEntry}
    (he : e ∈ scanFilter cfg scan) : planEntry cfg dst e ∈ plan cfg scan dst :=
  mem_plan.2 (Or.inl ⟨e, he, rfl⟩)

/-! ### members of one link group share one node (`-H`) -/

theorem execTask_find_stable (cfg : Cfg) (flt : Faults) (st : Exec) (t : Task) (i : Nat) (x : Nat × Path × Nat)
    (h : st.w.linkMap.find? (·.1 == i) = some x) :
    (execTask cfg flt st t).w.linkMap.find? (·.1 == i) = some x := by
  rcases execTask_linkMap cfg flt st t with hl | ⟨m, _, _, j, _, _, _, hl, hy, _⟩
  · rw [hl]; exact h
  · rw [hl, List.find?_cons]
    have hne : (m.ino == i) = false := by
      cases hyi : (m.ino == i) with
      | false => rfl
      | true =>
        have : m.ino = i := by simpa using hyi
        rw [this, h] at hy; cases hy
    simp only [hne]; exact h

theorem foldl_share (cfg : Cfg) (flt : Faults) (ts : List Task) (st : Exec) (p : Path) (i : Nat)
    (x : Nat × Path × Nat) (hf : st.w.linkMap.find? (·.1 == i) = some x)
    (heq : st.w.dst.get? p = st.w.dst.get? x.2.1) (hp : st.w.dst.get? p ≠ none)
    (hts : ∀ t ∈ ts, (t.rel ≠ p ∧ (t.act = .delete → isPrefix t.rel p = false)) ∧
      (t.rel ≠ x.2.1 ∧ (t.act = .delete → isPrefix t.rel x.2.1 = false))) :
    (ts.foldl (execTask cfg flt) st).w.linkMap.find? (·.1 == i) = some x ∧
    (ts.foldl (execTask cfg flt) st).w.dst.get? p = (ts.foldl (execTask cfg flt) st).w.dst.get? x.2.1 := by
  refine ⟨List.foldlRecOn (motive := fun s : Exec => s.w.linkMap.find? (·.1 == i) = some x) ts _ hf
    (fun s hs t _ => execTask_find_stable cfg flt s t i x hs), ?_⟩
  rw [foldl_frame_present cfg flt ts st p (fun t ht => (hts t ht).1) hp,
    foldl_frame_present cfg flt ts st x.2.1 (fun t ht => (hts t ht).2) (heq ▸ hp)]
  exact heq

theorem foldl_task_share {cfg : Cfg} (hdry : cfg.dryRun = false) (flt : Faults) {ts pre post : List Task}
    {t : Task} (hts : ts = pre ++ t :: post) (hpw : ts.Pairwise Later) (st0 : Exec)
    (hl0 : st0.w.linkMap = []) (hnd : t.act ≠ .delete) (hs : t.act ≠ .skip) {m : FileMeta} {n : Nat}
    (hpl : t.payload = .file m n) (hhl : cfg.hardlinks = true) (hn : 1 < n)
    (hok : OkAfter cfg flt st0 pre t) :
    ∃ x, (ts.foldl (execTask cfg flt) st0).w.linkMap.find? (·.1 == m.ino) = some x ∧
      (ts.foldl (execTask cfg flt) st0).w.dst.get? t.rel = (ts.foldl (execTask cfg flt) st0).w.dst.get? x.2.1 := by
  subst hts
  obtain ⟨_, hpost, hlater⟩ := later_around hpw hnd
  have hl1 := linkOK_before cfg flt hpw st0 hl0
  have hl2 := execTask_linkOK flt (by simp) hlater hl1
  rw [List.foldl_append, List.foldl_cons]
  have loc : ∃ x, (execTask cfg flt (pre.foldl (execTask cfg flt) st0) t).w.linkMap.find? (·.1 == m.ino) = some x ∧
      (execTask cfg flt (pre.foldl (execTask cfg flt) st0) t).w.dst.get? t.rel
        = (execTask cfg flt (pre.foldl (execTask cfg flt) st0) t).w.dst.get? x.2.1 ∧
      (execTask cfg flt (pre.foldl (execTask cfg flt) st0) t).w.dst.get? t.rel ≠ none := by
    obtain ⟨_, w', hp, he⟩ := execTask_ok_of_errors hok
    rw [he]
    rw [perform_cu hs hnd hdry] at hp
    rcases performCU_file hpl hp with ⟨node, hget, _, _, ⟨_, hno⟩ | ⟨⟨i, hl⟩, _, _, _⟩⟩ | ⟨x, fm, _, _, hfind, hx, _, hfirst, hget, hl, _⟩
    · exact absurd ⟨hhl, hn⟩ (hno (Act.create_or_update hs hnd))
    · refine ⟨(m.ino, t.rel, i), ?_, rfl, by rw [hget]; simp⟩
      simp only; rw [hl, List.find?_cons]; simp
    · refine ⟨x, by simp only; rw [hl]; exact hfind, ?_, by rw [hget]; simp⟩
      by_cases hxt : x.2.1 = t.rel
      · rw [hxt]
      · rcases (performCU_frame hp).1 x.2.1 hxt with h | ⟨h, _⟩
        · simp only; rw [hget, h, hfirst]
        · rw [hfirst] at h; cases h
  obtain ⟨x, hf, heq, hpres⟩ := loc
  have hxmem : x ∈ (execTask cfg flt (pre.foldl (execTask cfg flt) st0) t).w.linkMap :=
    List.mem_of_find?_eq_some hf
  have hx2 := (hl2 x hxmem).2
  exact ⟨x, foldl_share cfg flt post _ t.rel m.ino x hf heq hpres (fun b hb => ⟨hpost b hb, hx2 b hb⟩)⟩

/-- **`-H`: all transferred members of one source inode are names of one destination node** -/
theorem run_share {cfg : Cfg} (hdry : cfg.dryRun = false) (flt : Faults) (scan : List SEntry)
    (dst : Map DNode) (n : Nat) (hu : UniqueRels scan)
    (hdel : cfg.delete = true → ParentClosed scan ∧ dst.get? [] = none)
    (hhl : cfg.hardlinks = true) {e e' : SEntry} {m m' : FileMeta} {k k' : Nat}
    (hk : e.kind = .file m k) (hk' : e'.kind = .file m' k') (hn : 1 < k) (hn' : 1 < k') (hi : m.ino = m'.ino)
    (hs : planFileAct cfg m (dst.get? e.rel) ≠ .skip) (hs' : planFileAct cfg m' (dst.get? e'.rel) ≠ .skip)
    (hok : TaskOk cfg flt (plan cfg scan dst) (initExec dst n) (planEntry cfg dst e))
    (hok' : TaskOk cfg flt (plan cfg scan dst) (initExec dst n) (planEntry cfg dst e')) :
    (finalExec cfg flt scan dst n).w.dst.get? e.rel = (finalExec cfg flt scan dst n).w.dst.get? e'.rel := by
  have hpe := planEntry_file (cfg := cfg) (dst := dst) hk
  have hpe' := planEntry_file (cfg := cfg) (dst := dst) hk'
  obtain ⟨pre, post, hts, hok⟩ := hok
  obtain ⟨pre', post', hts', hok'⟩ := hok'
  have hpw := plan_pairwise cfg scan dst hu hdel
  obtain ⟨x, hf, hx⟩ := foldl_task_share hdry flt hts hpw (initExec dst n) rfl (planEntry_act_ne_delete _ _ _)
    (by rw [hpe]; exact hs) (by rw [hpe]) hhl hn hok
  obtain ⟨x', hf', hx'⟩ := foldl_task_share hdry flt hts' hpw (initExec dst n) rfl (planEntry_act_ne_delete _ _ _)
    (by rw [hpe']; exact hs') (by rw [hpe']) hhl hn' hok'
  rw [planEntry_rel] at hx hx'
  rw [← hi, hf] at hf'
  cases hf'
  unfold finalExec
  rw [hx, hx']

/-! ### a run without errors is the fault-free run -/

theorem execTask_eq_noFaults_of_ok {cfg : Cfg} {flt : Faults} {st : Exec} {t : Task}
    (h : (execTask cfg flt st t).b.errors = st.b.errors) :
    execTask cfg flt st t = execTask cfg noFaults st t := by
  obtain ⟨_, w', hp, he⟩ := execTask_ok_of_errors h
  rw [he, execTask_of_perform (faultOf_noFaults _ _) hp]

theorem foldl_eq_noFaults_of_no_errors {cfg : Cfg} {flt : Faults} (ts : List Task) (st : Exec)
    (h : (ts.foldl (execTask cfg flt) st).b.errors.length = st.b.errors.length) :
    ts.foldl (execTask cfg flt) st = ts.foldl (execTask cfg noFaults) st := by
  induction ts generalizing st with
  | nil => rfl
  | cons t ts ih =>
    rw [List.foldl_cons] at h ⊢
    have hstep := step_ok_of_fold (Nat.le_of_eq h)
    rw [List.foldl_cons, ← execTask_eq_noFaults_of_ok hstep]
    exact ih _ (by rw [h, hstep])

theorem runF_eq_run_of_exit_zero {cfg : Cfg} {flt : Faults} {scan : List SEntry} {dst : Map DNode} {n : Nat}
    (h : (runF cfg flt scan dst n).exit = 0) : runF cfg flt scan dst n = run cfg scan dst n := by
  have he := (runF_exit_zero h).2
  have hfold : finalExec cfg flt scan dst n = finalExec cfg noFaults scan dst n := by
    unfold finalExec at he ⊢
    exact foldl_eq_noFaults_of_no_errors _ _ (by rw [he]; rfl)
  unfold finalExec at hfold
  unfold run runF
  simp only [hfold]

end SyModel.Engine
