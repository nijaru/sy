/-
  One path at a time. `View` (defined here) is what the world holds at a path; the action chosen for a path and its
  shape (`actions_eq`, `action_rcSpec`); one executor step in closed form (`execO_apply`); steps with disjoint
  footprints do not see each other (`execPaths_spec`, `execPaths_errors`). `Lemmas/BisyncSync` puts these together
  under `Fresh`.
-/
import SyModel.Lemmas.BisyncMap
namespace SyModel.Bisync

/-- everything the world holds at one path. -/
structure View where
  l : Option File
  r : Option File
  rl : Option Row
  rr : Option Row
  deriving DecidableEq, Repr

def World.view (w : World) (p : Path) : View :=
  ⟨aget p w.left, aget p w.right, aget (p, Side.source) w.db, aget (p, Side.dest) w.db⟩

def View.ctype (cfg : Cfg) (v : View) : Option ChangeType :=
  classifySingle cfg (v.l.map File.entry) (v.r.map File.entry) v.rl v.rr

def View.action (cfg : Cfg) (strat : Strategy) (stamp : Nat) (p : Path) (v : View) : Option Action :=
  (v.ctype cfg).bind fun ct => resolveOne strat stamp ⟨p, ct, v.l.map File.entry, v.r.map File.entry⟩

theorem classifyOne_eq (cfg : Cfg) (w : World) (p : Path) :
    classifyOne cfg (scan w.left) (scan w.right) w.db.loadAll p =
      ((w.view p).ctype cfg).map fun ct =>
        ⟨p, ct, (aget p w.left).map File.entry, (aget p w.right).map File.entry⟩ := by
  unfold classifyOne
  simp only [(prior_rows p w.db).1, (prior_rows p w.db).2, lookup_scan]
  rfl

theorem resolve_classify_eq (cfg : Cfg) (strat : Strategy) (stamp : Nat) (w : World) (order : List Path) :
    resolveChanges strat stamp (order.filterMap (classifyOne cfg (scan w.left) (scan w.right) w.db.loadAll)) =
      order.filterMap fun p => (w.view p).action cfg strat stamp p := by
  unfold resolveChanges
  rw [List.filterMap_filterMap]
  congr 1
  funext p
  rw [classifyOne_eq]
  unfold View.action
  cases (w.view p).ctype cfg <;> rfl

theorem changes_eq (cfg : Cfg) (w : World) :
    w.changes cfg = w.allPaths.filterMap fun p =>
      ((w.view p).ctype cfg).map fun ct => ⟨p, ct, (aget p w.left).map File.entry, (aget p w.right).map File.entry⟩ := by
  unfold World.changes classifyChanges World.allPaths
  congr 1
  funext p
  exact classifyOne_eq cfg w p

theorem actions_eq (cfg : Cfg) (strat : Strategy) (stamp : Nat) (w : World) :
    resolveChanges strat stamp (w.changes cfg) =
      w.allPaths.filterMap fun p => (w.view p).action cfg strat stamp p :=
  resolve_classify_eq cfg strat stamp w w.allPaths

/-- what the resolver can answer for a conflict. -/
def RcSpec (p : Path) (s d : Option Entry) (stamp : Nat) : Action → Prop
  | .copyToDest q e => q = p ∧ s = some e
  | .copyToSource q e => q = p ∧ d = some e
  | .deleteFromDest q => q = p ∧ s = none
  | .deleteFromSource q => q = p ∧ d = none
  | .renameConflict q a b st => q = p ∧ s = some a ∧ d = some b ∧ st = stamp

/-- the shape `resolveByMtime` and `resolveBySize` share when both entries exist -/
theorem rcSpec_tie (p : Path) (a b : Entry) (stamp : Nat) (c1 c2 : Prop) [Decidable c1] [Decidable c2] :
    RcSpec p (some a) (some b) stamp
      (if c1 then .copyToDest p a else if c2 then .copyToSource p b else .renameConflict p a b stamp) := by
  split
  · exact ⟨rfl, rfl⟩
  · split
    · exact ⟨rfl, rfl⟩
    · exact ⟨rfl, rfl, rfl, rfl⟩

theorem rc_spec (strat : Strategy) (p : Path) (s d : Option Entry) (stamp : Nat) :
    RcSpec p s d stamp (resolveConflict strat p s d stamp) := by
  rcases s with _ | a <;> rcases d with _ | b
  case none.none | none.some | some.none => cases strat <;> exact And.intro rfl rfl
  case some.some =>
    cases strat
    case newer | larger | smaller => exact rcSpec_tie p a b stamp _ _
    case source | dest => exact ⟨rfl, rfl⟩
    case rename => exact ⟨rfl, rfl, rfl, rfl⟩

/-- an action that works on path `p` and, if it renames, uses the run's stamp -/
def Action.For (stamp : Nat) (p : Path) (a : Action) : Prop :=
  a.path = p ∧ ∀ p' s d st, a = .renameConflict p' s d st → st = stamp

theorem RcSpec.for {p s d stamp a} (h : RcSpec p s d stamp a) : a.For stamp p := by
  cases a
  case renameConflict => exact ⟨h.1, fun _ _ _ _ e => by cases e; exact h.2.2.2⟩
  all_goals exact ⟨h.1, fun _ _ _ _ e => nomatch e⟩

/-- which entries a verdict of the classifier presupposes (`s`, `d`: is there a source / dest entry); a deletion
    verdict also presupposes that the side that deleted has none -/
def needs : ChangeType → Bool → Bool → Bool
  | .newInSource, s, _ | .modifiedInSource, s, _ => s
  | .newInDest, _, d | .modifiedInDest, _, d => d
  | .deletedFromDest, s, d => s && !d
  | .deletedFromSource, s, d => !s && d
  | _, s, d => s || d

theorem classifySingle_needs {cfg : Cfg} {s d : Option Entry} {ps pd : Option Row} {ct : ChangeType}
    (h : classifySingle cfg s d ps pd = some ct) : needs ct s.isSome d.isSome = true := by
  unfold classifySingle at h
  split at h
  · cases h
  -- every arm that answers `ct` has matched the entries as `ct` presupposes
  · rcases s with _ | s <;> rcases d with _ | d <;> rcases ps with _ | ps <;> rcases pd with _ | pd <;>
      dsimp only at h <;> (repeat' split at h) <;> cases h <;> rfl

/-- every action chosen for a path is one the resolver may answer for its two entries: the copies and deletions
    chosen without the resolver have that shape too -/
theorem action_rcSpec {cfg strat stamp p} {v : View} {a : Action}
    (h : v.action cfg strat stamp p = some a) : RcSpec p (v.l.map File.entry) (v.r.map File.entry) stamp a := by
  unfold View.action at h
  obtain ⟨ct, hct, hr⟩ := Option.bind_eq_some_iff.mp h
  have hn := classifySingle_needs hct
  cases ct <;> dsimp only [resolveOne] at hr
  case newInSource | modifiedInSource | newInDest | modifiedInDest =>
    obtain ⟨e, he, rfl⟩ := Option.map_eq_some_iff.mp hr
    exact ⟨rfl, he⟩
  case deletedFromSource | deletedFromDest =>
    cases hr
    simp only [needs, Bool.and_eq_true, Bool.not_eq_true', Option.isSome_eq_false_iff, Option.isNone_iff_eq_none] at hn
    exact ⟨rfl, by simp [hn]⟩
  all_goals
    cases hr
    exact rc_spec strat p _ _ stamp

theorem action_path {cfg strat stamp p} {v : View} {a : Action}
    (h : v.action cfg strat stamp p = some a) : a.path = p :=
  (action_rcSpec h).for.1

/-- no lemma below refers to `upd`: `execO_apply` states the closed form of a step with `if` -/
def upd (f : Path → Option File) (k : Path) (v : Option File) : Path → Option File :=
  fun q => if q = k then v else f q

theorem upd_def (f : Path → Option File) (k : Path) (v : Option File) :
    upd f k v = fun q => if q = k then v else f q := rfl

/-- the two files of the action's own path afterwards. -/
def own (now : Nat) (a : Option Action) (l r : Option File) : Option File × Option File :=
  match a with
  | none => (l, r)
  | some (.copyToSource ..) => match r with
    | some f => (some { f with mtime := now }, r)
    | none => (l, r)
  | some (.copyToDest ..) => match l with
    | some f => (l, some { f with mtime := now })
    | none => (l, r)
  | some (.deleteFromSource _) => (none, r)
  | some (.deleteFromDest _) => (l, none)
  | some (.renameConflict ..) => match l with
    | none => (l, r)
    | some _ => (none, none)

/-- the files `execOne` looks for are there: the action then records no error (`execOne_ok`) -/
def enabled (a : Action) (l r : Option File) : Bool :=
  match a with
  | .copyToSource .. => r.isSome
  | .copyToDest .. => l.isSome
  | .deleteFromSource _ => l.isSome
  | .deleteFromDest _ => r.isSome
  | .renameConflict .. => l.isSome && r.isSome

def names (stamp : Nat) (p : Path) : List Path := [conflictName p stamp .source, conflictName p stamp .dest]

def isRen (o : Option Action) : Bool := (o.map Action.isRename).getD false

def execO (now : Nat) (st : ExecState) : Option Action → ExecState
  | none => st
  | some a => execOne now st a

/-- the footprint of a path: the names its action may write -/
def fp (stamp : Nat) (p : Path) : List Path := p :: names stamp p

/-- one step in closed form: path `p` itself ends as `own` says, its two conflict names receive the renamed files,
    every other path is untouched. `execOne` renames on the left whenever the left file exists and on the right only
    after that succeeded: hence the two different conditions. -/
theorem execO_apply (now stamp : Nat) (st : ExecState) (o : Option Action) (p : Path)
    (ho : ∀ a, o = some a → a.For stamp p) (hfp : (fp stamp p).Nodup) (q : Path) :
    aget q (execO now st o).left =
      (if q = p then (own now o (aget p st.left) (aget p st.right)).1
       else if q = conflictName p stamp .source ∧ isRen o = true ∧ (aget p st.left).isSome = true then aget p st.left
       else aget q st.left) ∧
    aget q (execO now st o).right =
      (if q = p then (own now o (aget p st.left) (aget p st.right)).2
       else if q = conflictName p stamp .dest ∧ isRen o = true ∧ (aget p st.left).isSome = true ∧
           (aget p st.right).isSome = true then aget p st.right
       else aget q st.right) := by
  simp only [fp, names, List.nodup_cons, List.mem_cons, List.not_mem_nil, or_false, not_or, List.nodup_nil, and_true,
    not_false_eq_true] at hfp
  obtain ⟨⟨h2, h3⟩, h4⟩ := hfp
  cases o with
  | none => by_cases hq : q = p <;> simp [execO, own, isRen, hq]
  | some a =>
    obtain ⟨rfl, hs⟩ := ho a rfl
    cases a <;> simp only [Action.path] at h2 h3 h4 ⊢ <;>
      simp only [execO, execOne, copyFile, renameFile, own, isRen, Option.map_some, Option.getD_some,
        Action.isRename, Bool.false_eq_true, false_and, and_false, if_false]
    case renameConflict p' s d st' =>
      obtain rfl : st' = stamp := hs _ _ _ _ rfl
      cases hl : aget p' st.left <;> cases hr : aget p' st.right <;> by_cases hq : q = p' <;>
        simp [aget_aset, aget_aerase, hq, hl, hr, h2, h3]
    case copyToSource p' e => cases hr : aget p' st.right <;> by_cases hq : q = p' <;> simp [aget_aset, hq, hr]
    case copyToDest p' e => cases hl : aget p' st.left <;> by_cases hq : q = p' <;> simp [aget_aset, hq, hl]
    case deleteFromSource p' => cases hl : aget p' st.left <;> by_cases hq : q = p' <;> simp [aget_aerase, hq, hl]
    case deleteFromDest p' => cases hr : aget p' st.right <;> by_cases hq : q = p' <;> simp [aget_aerase, hq, hr]

theorem execO_frame {now stamp : Nat} {st : ExecState} {o : Option Action} {p : Path}
    (ho : ∀ a, o = some a → a.For stamp p) (hfp : (fp stamp p).Nodup) {q : Path} (hq : q ∉ fp stamp p) :
    aget q (execO now st o).left = aget q st.left ∧ aget q (execO now st o).right = aget q st.right := by
  simp only [fp, names, List.mem_cons, List.not_mem_nil, or_false, not_or] at hq
  have := execO_apply now stamp st o p ho hfp q
  simp only [hq.1, hq.2.1, hq.2.2, false_and, if_false] at this
  exact this

theorem execO_local {now stamp : Nat} {st st' : ExecState} {o : Option Action} {p : Path}
    (ho : ∀ a, o = some a → a.For stamp p) (hfp : (fp stamp p).Nodup)
    (h : ∀ q ∈ fp stamp p, aget q st'.left = aget q st.left ∧ aget q st'.right = aget q st.right) (q : Path) (hq : q ∈ fp stamp p) :
    aget q (execO now st' o).left = aget q (execO now st o).left ∧
      aget q (execO now st' o).right = aget q (execO now st o).right := by
  have hp := h p (List.mem_cons_self ..)
  have e' := execO_apply now stamp st' o p ho hfp q
  rw [hp.1, hp.2, (h q hq).1, (h q hq).2] at e'
  have e := execO_apply now stamp st o p ho hfp q
  exact ⟨e'.1.trans e.1.symm, e'.2.trans e.2.symm⟩

theorem execOne_ok (now : Nat) (st : ExecState) (a : Action)
    (h : enabled a (aget a.path st.left) (aget a.path st.right) = true) : (execOne now st a).errors = st.errors := by
  cases a <;> simp only [enabled, Action.path, Bool.and_eq_true, Option.isSome_iff_exists] at h <;>
    simp only [execOne, copyFile, renameFile]
  case renameConflict => obtain ⟨⟨f, hl⟩, g, hr⟩ := h; rw [hl, hr]; rfl
  case copyToSource | copyToDest => obtain ⟨f, hf⟩ := h; rw [hf]; rfl
  all_goals obtain ⟨f, hf⟩ := h; rw [hf]

def execPaths (now : Nat) (g : Path → Option Action) (ps : List Path) (st : ExecState) : ExecState :=
  ps.foldl (fun st p => execO now st (g p)) st

theorem execActions_filterMap (now : Nat) (g : Path → Option Action) (ps : List Path) (st : ExecState) :
    execActions now (ps.filterMap g) st = execPaths now g ps st := by
  unfold execActions execPaths
  rw [List.foldl_filterMap]
  congr 1
  funext st p
  cases g p <;> rfl

/-- steps with disjoint footprints do not see each other -/
theorem execPaths_spec (now stamp : Nat) (g : Path → Option Action) (hg : ∀ p a, g p = some a → a.For stamp p) :
    ∀ (ps : List Path) (st : ExecState), (ps.flatMap (fp stamp)).Nodup →
      (∀ q, q ∉ ps.flatMap (fp stamp) →
        aget q (execPaths now g ps st).left = aget q st.left ∧ aget q (execPaths now g ps st).right = aget q st.right) ∧
      (∀ p ∈ ps, ∀ q ∈ fp stamp p,
        aget q (execPaths now g ps st).left = aget q (execO now st (g p)).left ∧
        aget q (execPaths now g ps st).right = aget q (execO now st (g p)).right) := by
  intro ps
  induction ps with
  | nil => intro st _; exact ⟨fun _ _ => ⟨rfl, rfl⟩, nofun⟩
  | cons p0 ps ih =>
    intro st hnd
    rw [List.flatMap_cons, List.nodup_append] at hnd
    obtain ⟨h0, ht, hdis⟩ := hnd
    obtain ⟨ihA, ihB⟩ := ih (execO now st (g p0)) ht
    have frame := @execO_frame now stamp st (g p0) p0 (hg p0) h0
    refine ⟨fun q hq => ?_, fun p hp q hq => ?_⟩
    · rw [List.flatMap_cons, List.mem_append, not_or] at hq
      obtain ⟨a1, a2⟩ := ihA q hq.2
      exact ⟨a1.trans (frame hq.1).1, a2.trans (frame hq.1).2⟩
    · rcases List.mem_cons.mp hp with rfl | hp'
      · exact ihA q fun hm => hdis q hq q hm rfl
      · have hin : ∀ q ∈ fp stamp p, q ∉ fp stamp p0 := fun q hq hq0 =>
          hdis q hq0 q (List.mem_flatMap.mpr ⟨p, hp', hq⟩) rfl
        obtain ⟨b1, b2⟩ := ihB p hp' q hq
        obtain ⟨c1, c2⟩ := execO_local (hg p) ((List.pairwise_flatMap.mp ht).1 p hp') (fun q hq => frame (hin q hq)) q hq
        exact ⟨b1.trans c1, b2.trans c2⟩

theorem execPaths_errors (now stamp : Nat) (g : Path → Option Action) (hg : ∀ p a, g p = some a → a.For stamp p) :
    ∀ (ps : List Path) (st : ExecState), (ps.flatMap (fp stamp)).Nodup →
      (∀ p ∈ ps, ∀ a, g p = some a → enabled a (aget p st.left) (aget p st.right) = true) →
      (execPaths now g ps st).errors = st.errors := by
  intro ps
  induction ps with
  | nil => intro st _ _; rfl
  | cons p0 ps ih =>
    intro st hnd hen
    rw [List.flatMap_cons, List.nodup_append] at hnd
    obtain ⟨h0, ht, hdis⟩ := hnd
    have e0 : (execO now st (g p0)).errors = st.errors := by
      cases hgp : g p0 with
      | none => rfl
      | some a =>
        refine execOne_ok now st a ?_
        rw [(hg _ _ hgp).1]
        exact hen p0 List.mem_cons_self a hgp
    refine (ih (execO now st (g p0)) ht fun p hp a ha => ?_).trans e0
    obtain ⟨b1, b2⟩ := @execO_frame now stamp st (g p0) p0 (hg p0) h0 p fun hm =>
      hdis p hm p (List.mem_flatMap.mpr ⟨p, hp, List.mem_cons_self ..⟩) rfl
    rw [b1, b2]
    exact hen p (List.mem_cons_of_mem _ hp) a ha

end SyModel.Bisync
