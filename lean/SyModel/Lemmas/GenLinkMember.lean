/-
  The translated hard-link hand-off `Transferrer::transfer_link_member` (`Generated/Code/LinkMember.lean`, regenerated on
  every run from /repo/src/sync/transfer.rs:115-260), for ANY instance `ext : Ext W`.  The worker carries NO local state
  from one round of the Rust `loop` to the next (the accumulator of the translated `for` is only the "has returned"
  slot), so the function is `ext.fuel` rounds of `round`: one read of the map under the lock, then `linkArm` (saw
  `Completed`), `waitArm` (saw `InProgress`) or `claimArm` (saw nothing; `copyBlock`, the captured `async { … }`, then
  `release`).  Beside the normal form: the sequential instance `seqExt` over the world of Lemmas/GenTransfer.lean
  (TRUSTED, described at its definition), on which the function is the model's `linkMemberW`.  (The tracing instance and
  its scripted runs of the generated term are Lemmas/GenLinkMemberTrace.lean, in this same namespace: a name
  `GenLinkMember.X` may live there.)
-/
import SyModel.Generated.Code.LinkMember
import SyModel.Lemmas.GenTransfer
import SyModel.Lemmas.RsLoops
namespace SyModel.Lemmas.GenLinkMember
open SyModel SyModel.Generated SyModel.Generated.LinkMember
open SyModel.Lemmas.GenTransfer (runM op runM_op runM_pure runM_throw runM_bind runM_bind_ok runM_bind_error
  runM_capture_eq)

section Loop
variable {W σ : Type}

/-- `n` iterations of a loop body that may leave the loop (`ForInStep.done`) -/
def loopN : Nat → (σ → Rs.M W (ForInStep σ)) → σ → Rs.M W σ
  | 0, _, s => pure s
  | n + 1, b, s => do
    match (← b s) with
    | .done s' => pure s'
    | .yield s' => loopN n b s'

theorem forIn_range_eq_loopN (b : σ → Rs.M W (ForInStep σ)) (n : Nat) (s : σ) :
    forIn [0:n] s (fun _ r => b r) = loopN n b s :=
  GenDeltaStream.forIn_range_of_loop b (loopN · b) (fun _ => rfl) (fun _ _ => rfl) _ (fun _ _ => rfl) n s

end Loop

/-- the accumulator of the translated `for`: `some r` once the function has returned `Ok(r)` — nothing else is carried
    from one round of the Rust `loop` to the next -/
abbrev Acc := Option (Option TransferResult) × Unit
abbrev Step := ForInStep Acc

/-- `TransferResult { bytes_written: 0, compression_used: false, transferred_bytes: Some(0), delta_operations: None,
    literal_bytes: None }` (transfer.rs:144-150, 158-164): what a member that became a link reports -/
def zeroResult : TransferResult :=
  { bytes_written := 0, compression_used := false, transferred_bytes := some 0, delta_operations := none,
    literal_bytes := none }

/-- `return Ok(r)` -/
def finish (r : Option TransferResult) : Step := ForInStep.done (some r, ())
/-- `continue` -/
def again : Step := ForInStep.yield (none, ())

section Arms
variable {W : Type} (ext : Ext W) (self : Transferrer) (source : FileEntry) (dest : Rs.Path) (inode : Nat) (upd : Bool)

/-- transfer.rs:130-165 — the map answered `Completed(first)`: on update nothing when `dest` already names the inode of
    `first`, else the old name is removed; then the link -/
def linkArm (first : Rs.Path) : Rs.M W Step :=
  if upd = true then do
    let same ← ext.same_inode self first dest
    if same = true then pure (finish (some zeroResult))
    else do
      ext.t_remove self.transport dest false
      ext.t_create_hardlink self.transport first dest
      pure (finish (some zeroResult))
  else do
    ext.t_create_hardlink self.transport first dest
    pure (finish (some zeroResult))

/-- transfer.rs:166-191 — the map answered `InProgress(notify)`: REGISTER (`notify.notified()`), re-read the map under
    the lock, and await the registered future only when the entry still is `InProgress` of the SAME `Notify`; then
    `continue` -/
def waitArm (notify : Nat) : Rs.M W Step := do
  let t ← ext.notified notify
  let st ← ext.map_get inode
  if (match st with | some (InodeState.InProgress current) => current == notify | _ => false) = true then do
    ext.await_notified t
    pure again
  else pure again

/-- transfer.rs:213-234 — the captured `async { … }.await`: the transfer, then the three attribute writers; the first
    error ends the BLOCK (not the function) -/
def copyBlock : Rs.M W TransferResult :=
  if upd = true then do
    let result ← ext.t_sync_file_with_delta self.transport source.path dest
    ext.write_xattrs self source dest
    ext.write_acls self source dest
    ext.write_bsd_flags self source dest
    pure result
  else do
    let result ← ext.transferrer_copy_file self source.path dest
    ext.write_xattrs self source dest
    ext.write_acls self source dest
    ext.write_bsd_flags self source dest
    pure result

/-- transfer.rs:236-256 — the claim is released whatever the block answered: `Ok` ⇒ the entry becomes
    `Completed(dest)`, `Err` ⇒ the entry is removed; then `notify_waiters()` on the Notify that was inserted; then the
    block's answer is the function's answer -/
def release (notify : Nat) (copied : Except Rs.Err TransferResult) : Rs.M W Step :=
  match copied with
  | .ok result => do
    ext.map_insert inode (InodeState.Completed dest)
    ext.notify_waiters notify
    pure (finish (some result))
  | .error e => do
    ext.map_remove inode
    ext.notify_waiters notify
    throw e

/-- transfer.rs:192-257 — the map answered nothing: a fresh `Notify`; under the lock `contains_key` (lost the race ⇒
    `continue`) else `insert(InProgress(notify))`; the copy block; the release -/
def claimArm : Rs.M W Step := do
  let notify ← ext.Notify_new ()
  let taken ← ext.map_contains inode
  if taken = true then pure again
  else do
    ext.map_insert inode (InodeState.InProgress notify)
    let copied ← Rs.capture (copyBlock ext self source dest upd)
    release ext dest inode notify copied

def dispatch (st : Option InodeState) : Rs.M W Step :=
  match st with
  | some (InodeState.Completed first) => linkArm ext self dest upd first
  | some (InodeState.InProgress notify) => waitArm ext inode notify
  | none => claimArm ext self source dest inode upd

/-- ONE ROUND of the Rust `loop` (transfer.rs:123-259): one read of the map under the lock, then the arm -/
def round : Rs.M W Step := do
  let st ← ext.map_get inode
  dispatch ext self source dest inode upd st

/-- after the loop: the returned value, or — the fuel ran out — an error -/
def conclude (s : Acc) : Rs.M W (Option TransferResult) :=
  match s.1 with
  | some r => pure r
  | none => throw Rs.Err.other

def rounds (n : Nat) : Rs.M W (Option TransferResult) :=
  loopN n (fun _ => round ext self source dest inode upd) ((none, ()) : Acc) >>= conclude

theorem transfer_link_member_rounds :
    Transferrer.transfer_link_member ext self source dest inode upd = rounds ext self source dest inode upd ext.fuel := by
  unfold Transferrer.transfer_link_member rounds
  rw [← forIn_range_eq_loopN]
  simp only [pure_bind, ExceptT.bind_throw]
  congr 1
  funext s
  rcases s with ⟨_ | r, _⟩ <;> rfl

variable {w w1 : W}

/-- a statement that ends with an operation's `Ok` leading on, its `Err` ending the run -/
def andThen {α β : Type} (r : Except Rs.Err α × W) (k : α → W → Except Rs.Err β × W) : Except Rs.Err β × W :=
  match r with
  | (.ok a, w') => k a w'
  | (.error e, w') => (.error e, w')

theorem runM_bind_andThen {α β : Type} (x : Rs.M W α) (f : α → Rs.M W β) (w : W) :
    runM (x >>= f) w = andThen (runM x w) (fun a w' => runM (f a) w') := by
  rw [runM_bind]; unfold andThen
  rcases runM x w with ⟨r, w'⟩
  cases r <;> rfl

@[simp] theorem andThen_ok {α β : Type} (a : α) (w : W) (k : α → W → Except Rs.Err β × W) :
    andThen (.ok a, w) k = k a w := rfl
@[simp] theorem andThen_error {α β : Type} (e : Rs.Err) (w : W) (k : α → W → Except Rs.Err β × W) :
    andThen (.error e, w) k = (.error e, w) := rfl
theorem andThen_assoc {α β γ : Type} (r : Except Rs.Err α × W) (f : α → W → Except Rs.Err β × W)
    (g : β → W → Except Rs.Err γ × W) :
    andThen (andThen r f) g = andThen r (fun a w => andThen (f a w) g) := by
  rcases r with ⟨r, w⟩; cases r <;> rfl

/-- what the function answers once a round has ended -/
def afterRound (n : Nat) (st : Step) (w : W) : Except Rs.Err (Option TransferResult) × W :=
  match st with
  | .done (some r, _) => (.ok r, w)
  | .done (none, _) => (.error .other, w)
  | .yield s => runM (loopN n (fun _ => round ext self source dest inode upd) s >>= conclude) w

theorem rounds_zero : runM (rounds ext self source dest inode upd 0) w = (.error .other, w) := rfl

theorem rounds_succ (n : Nat) :
    runM (rounds ext self source dest inode upd (n + 1)) w =
      andThen (runM (round ext self source dest inode upd) w) (afterRound ext self source dest inode upd n) := by
  unfold rounds
  simp only [loopN, bind_assoc, runM_bind_andThen]
  congr 1; funext st w1
  rcases st with ⟨_ | r, _⟩ | s
  · rfl
  · rfl
  · simp only [afterRound, runM_bind_andThen]

@[simp] theorem afterRound_finish (n : Nat) (r : Option TransferResult) :
    afterRound ext self source dest inode upd n (finish r) w = (.ok r, w) := rfl
@[simp] theorem afterRound_again (n : Nat) :
    afterRound ext self source dest inode upd n again w = runM (rounds ext self source dest inode upd n) w := rfl

theorem rounds_again (n : Nat) (h : runM (round ext self source dest inode upd) w = (.ok again, w1)) :
    runM (rounds ext self source dest inode upd (n + 1)) w = runM (rounds ext self source dest inode upd n) w1 := by
  rw [rounds_succ, h]; rfl

theorem round_run {st : Option InodeState} (h : runM (ext.map_get inode) w = (.ok st, w1)) :
    runM (round ext self source dest inode upd) w = runM (dispatch ext self source dest inode upd st) w1 := by
  unfold round; rw [runM_bind_ok h]

theorem round_get_error {e : Rs.Err} (h : runM (ext.map_get inode) w = (.error e, w1)) :
    runM (round ext self source dest inode upd) w = (.error e, w1) := by
  unfold round; rw [runM_bind_error h]

theorem linkArm_create_run (first : Rs.Path) :
    runM (linkArm ext self dest false first) w =
      andThen (runM (ext.t_create_hardlink self.transport first dest) w) (fun _ w' => (.ok (finish (some zeroResult)), w')) := by
  unfold linkArm
  simp only [Bool.false_eq_true, ↓reduceIte, runM_bind_andThen, runM_pure]

theorem linkArm_update_run (first : Rs.Path) :
    runM (linkArm ext self dest true first) w =
      andThen (runM (ext.same_inode self first dest) w) (fun same w1 =>
        if same = true then (.ok (finish (some zeroResult)), w1)
        else andThen (runM (ext.t_remove self.transport dest false) w1) (fun _ w2 =>
          andThen (runM (ext.t_create_hardlink self.transport first dest) w2) (fun _ w3 =>
            (.ok (finish (some zeroResult)), w3)))) := by
  unfold linkArm
  simp only [↓reduceIte, runM_bind_andThen]
  congr 1
  funext same w1
  cases same <;> simp only [Bool.false_eq_true, ↓reduceIte, runM_bind_andThen, runM_pure]

theorem waitArm_run (notify : Nat) :
    runM (waitArm ext inode notify) w =
      andThen (runM (ext.notified notify) w) (fun t w1 =>
        andThen (runM (ext.map_get inode) w1) (fun st w2 =>
          if st = some (InodeState.InProgress notify) then
            andThen (runM (ext.await_notified t) w2) (fun _ w3 => (.ok again, w3))
          else (.ok again, w2))) := by
  unfold waitArm
  simp only [runM_bind_andThen]
  congr 1; funext t w1; congr 1; funext st w2
  rcases st with _ | (cur | p)
  · simp
  · by_cases hc : cur = notify
    · subst hc; simp only [beq_self_eq_true, ↓reduceIte, runM_bind_andThen, runM_pure]
    · have : (cur == notify) = false := by simpa using hc
      simp [this, hc]
  · simp

theorem copyBlock_run :
    runM (copyBlock ext self source dest upd) w =
      andThen (runM (if upd = true then ext.t_sync_file_with_delta self.transport source.path dest
                     else ext.transferrer_copy_file self source.path dest) w) (fun result w1 =>
        andThen (runM (ext.write_xattrs self source dest) w1) (fun _ w2 =>
          andThen (runM (ext.write_acls self source dest) w2) (fun _ w3 =>
            andThen (runM (ext.write_bsd_flags self source dest) w3) (fun _ w4 => (.ok result, w4))))) := by
  unfold copyBlock
  cases upd <;> simp only [Bool.false_eq_true, ↓reduceIte, runM_bind_andThen, runM_pure]

theorem release_ok_run (notify : Nat) (result : TransferResult) :
    runM (release ext dest inode notify (.ok result)) w =
      andThen (runM (ext.map_insert inode (InodeState.Completed dest)) w) (fun _ w1 =>
        andThen (runM (ext.notify_waiters notify) w1) (fun _ w2 => (.ok (finish (some result)), w2))) := by
  unfold release
  simp only [runM_bind_andThen, runM_pure]

theorem release_err_run (notify : Nat) (e : Rs.Err) :
    runM (release ext dest inode notify (.error e)) w =
      andThen (runM (ext.map_remove inode) w) (fun _ w1 =>
        andThen (runM (ext.notify_waiters notify) w1) (fun _ w2 => (.error e, w2))) := by
  unfold release
  simp only [runM_bind_andThen, runM_throw]

theorem claimArm_run :
    runM (claimArm ext self source dest inode upd) w =
      andThen (runM (ext.Notify_new ()) w) (fun notify w1 =>
        andThen (runM (ext.map_contains inode) w1) (fun taken w2 =>
          if taken = true then (.ok again, w2)
          else andThen (runM (ext.map_insert inode (InodeState.InProgress notify)) w2) (fun _ w3 =>
            runM (release ext dest inode notify (runM (copyBlock ext self source dest upd) w3).1)
              (runM (copyBlock ext self source dest upd) w3).2))) := by
  unfold claimArm
  simp only [runM_bind_andThen]
  congr 1; funext notify w1; congr 1; funext taken w2
  cases taken
  · simp only [Bool.false_eq_true, ↓reduceIte, runM_bind_andThen, runM_capture_eq]
    rfl
  · simp only [↓reduceIte, runM_pure]

end Arms

/-! ## The sequential instance

  ### The world `SWorld` (TRUSTED)

  `xw` is the world of Lemmas/GenTransfer.lean (`XWorld`: the model's `Engine.World` under a root text, and what source
  path texts resolve to).  The shared `HashMap<u64, InodeState>` of the run is the PAIR of `claims` (its `InProgress`
  entries: inode ↦ identity of the `Notify`) and `xw.w.linkMap` (its `Completed` entries: the model records a group by the
  KEY of the first member's destination path; the map holds the path text `destOf root key`).  `fresh` counts the
  `Notify` objects created, `woken` logs the `notify_waiters()` calls.

  ### The instance `seqExt cfg fuel same cp` (TRUSTED: this is where the modelling decisions are)

    map_get i / map_contains i   the claim of `i` if there is one, else the recorded group of `i`, else nothing
    map_insert i st              `HashMap::insert`: any old entry of `i` (claim or record) is replaced; `Completed(p)`
                                 records the key of `p` with the inode number of the file at it (`inoAt`, as `perform`)
    map_remove i                 `HashMap::remove`: claim and record of `i` are dropped
    Notify_new                   the next unused identity
    notified n                   the number of `notify_waiters()` calls on `n` so far (tokio's snapshot)
    await_notified t             NO OTHER WORKER EXISTS, so a future that has to wait waits for ever: `Err(other)` stands
                                 for the deadlock.  (Not reached from a world without claims: `seq_first_run`, `seq_later_run`.)
    notify_waiters n             logged
    same_inode a b               the oracle `same xw a b` (the per-path representation of `Engine.World` does not show
                                 whether two names share an inode after a write-through; see `same_inode_touches_nothing` in Props)
    t_remove, t_sync_file_with_delta, write_xattrs, write_acls, write_bsd_flags
                                 the very operations of `extOf cfg` (Lemmas/GenTransfer.lean), on `xw`
    transferrer_copy_file s d    the parameter `cp s d`, an operation on `xw`: `atomicCopy cfg` = `extOf cfg`'s `t_copy_file`
                                 (one step), or `translatedCopy cfg self` = the TRANSLATED `Transferrer::copy_file` of unit
                                 Transfer run on `extOf cfg` (`create_dir_all(parent)`, then `t_copy_file`)
    t_create_hardlink first d    the model's `linkFile` at the key of `d` towards the key of `first`
-/
structure SWorld where
  xw : SyModel.Lemmas.GenTransfer.XWorld
  claims : List (Nat × Nat)
  fresh : Nat
  woken : List Nat

section Seq
open SyModel.Engine SyModel.Lemmas.GenTransfer

def SWorld.start (xw : XWorld) : SWorld := ⟨xw, [], 0, []⟩

/-- an operation on `xw` as an operation on the whole world -/
def liftX {α : Type} (x : Rs.M XWorld α) : Rs.M SWorld α :=
  op fun s => ((runM x s.xw).1, { s with xw := (runM x s.xw).2 })

@[simp] theorem runM_liftX {α : Type} (x : Rs.M XWorld α) (s : SWorld) :
    runM (liftX x) s = ((runM x s.xw).1, { s with xw := (runM x s.xw).2 }) := rfl

def dropKey {α : Type} (i : Nat) (l : List (Nat × α)) : List (Nat × α) := l.filter fun p => !(p.1 == i)

theorem dropKey_of_find_none {α : Type} (i : Nat) (l : List (Nat × α)) (h : l.find? (·.1 == i) = none) :
    dropKey i l = l := by
  unfold dropKey
  rw [List.filter_eq_self]
  intro a ha
  have := List.find?_eq_none.1 h a ha
  simpa using this

/-- `map.get(&i).cloned()` -/
def SWorld.get (s : SWorld) (i : Nat) : Option InodeState :=
  match s.claims.find? (·.1 == i) with
  | some (_, n) => some (.InProgress n)
  | none =>
    match s.xw.w.linkMap.find? (·.1 == i) with
    | some (_, first, _) => some (.Completed (destOf s.xw.root first))
    | none => none

def SWorld.setLinkMap (s : SWorld) (lm : List (Nat × Engine.Path × Nat)) : SWorld :=
  { s with xw := { s.xw with w := { s.xw.w with linkMap := lm } } }

/-- `map.insert(i, st)` -/
def SWorld.insert (s : SWorld) (i : Nat) : InodeState → SWorld
  | .InProgress n => { s.setLinkMap (dropKey i s.xw.w.linkMap) with claims := (i, n) :: dropKey i s.claims }
  | .Completed p =>
    match keyOf s.xw.root p with
    | some k => { s.setLinkMap ((i, k, inoAt s.xw.w.dst k) :: dropKey i s.xw.w.linkMap) with claims := dropKey i s.claims }
    | none => { s.setLinkMap (dropKey i s.xw.w.linkMap) with claims := dropKey i s.claims }

/-- `map.remove(&i)` -/
def SWorld.remove (s : SWorld) (i : Nat) : SWorld :=
  { s.setLinkMap (dropKey i s.xw.w.linkMap) with claims := dropKey i s.claims }

/-- the two units have their own copies of the scanned-entry and result structures (one per generated file) -/
def toT (e : FileEntry) : Transfer.FileEntry :=
  { path := e.path, relative_path := e.relative_path, size := e.size, modified := e.modified, is_dir := e.is_dir,
    is_symlink := e.is_symlink, symlink_target := e.symlink_target, is_sparse := e.is_sparse,
    allocated_size := e.allocated_size, xattrs := e.xattrs, inode := e.inode, nlink := e.nlink, acls := e.acls,
    bsd_flags := e.bsd_flags }
def ofT (e : Transfer.FileEntry) : FileEntry :=
  { path := e.path, relative_path := e.relative_path, size := e.size, modified := e.modified, is_dir := e.is_dir,
    is_symlink := e.is_symlink, symlink_target := e.symlink_target, is_sparse := e.is_sparse,
    allocated_size := e.allocated_size, xattrs := e.xattrs, inode := e.inode, nlink := e.nlink, acls := e.acls,
    bsd_flags := e.bsd_flags }
def resOfT (r : Transfer.TransferResult) : TransferResult :=
  { bytes_written := r.bytes_written, delta_operations := r.delta_operations, literal_bytes := r.literal_bytes,
    transferred_bytes := r.transferred_bytes, compression_used := r.compression_used }
def resToT (r : TransferResult) : Transfer.TransferResult :=
  { bytes_written := r.bytes_written, delta_operations := r.delta_operations, literal_bytes := r.literal_bytes,
    transferred_bytes := r.transferred_bytes, compression_used := r.compression_used }

@[simp] theorem toT_ofT (e : Transfer.FileEntry) : toT (ofT e) = e := rfl
@[simp] theorem resToT_resOfT (r : Transfer.TransferResult) : resToT (resOfT r) = r := rfl
@[simp] theorem resToT_zero : resToT zeroResult = linkResult := rfl

/-- `create_hardlink(first, dest)` on the model's world: `linkFile` at the key of `dest` towards the key of `first` -/
def hardlinkW (xw : XWorld) (first : Rs.Path) (k : Engine.Path) : Option (Unit × World) :=
  match keyOf xw.root first with
  | some kf => (linkFile xw.w k kf).map fun w' => ((), w')
  | none => none

/-- `extOf cfg`'s `t_copy_file`: the transfer as one step -/
def atomicCopy (cfg : Cfg) (s d : Rs.Path) : Rs.M XWorld Transfer.TransferResult := (extOf cfg).t_copy_file ⟨⟩ s d
/-- the TRANSLATED `Transferrer::copy_file` (unit Transfer) on `extOf cfg` -/
def translatedCopy (cfg : Cfg) (self : Transfer.Transferrer) (s d : Rs.Path) : Rs.M XWorld Transfer.TransferResult :=
  Transfer.Transferrer.copy_file (extOf cfg) self s d

def seqExt (cfg : Cfg) (fuel : Nat) (same : XWorld → Rs.Path → Rs.Path → Bool)
    (cp : Rs.Path → Rs.Path → Rs.M XWorld Transfer.TransferResult) : Ext SWorld where
  fuel := fuel
  Notify_new _ := op fun s => (.ok s.fresh, { s with fresh := s.fresh + 1 })
  map_get i := op fun s => (.ok (s.get i), s)
  map_contains i := op fun s => (.ok (s.get i).isSome, s)
  map_insert i st := op fun s => (.ok (), s.insert i st)
  map_remove i := op fun s => (.ok (), s.remove i)
  same_inode _ a b := op fun s => (.ok (same s.xw a b), s)
  t_remove _ p isDir := liftX ((extOf cfg).t_remove ⟨⟩ p isDir)
  t_create_hardlink _ first d := liftX (op fun xw => xw.at d fun k => hardlinkW xw first k)
  t_sync_file_with_delta _ s d := liftX (((extOf cfg).t_sync_file_with_delta ⟨⟩ s d) >>= fun r => pure (resOfT r))
  transferrer_copy_file _ s d := liftX (cp s d >>= fun r => pure (resOfT r))
  write_xattrs _ e d := liftX ((extOf cfg).write_xattrs default (toT e) d)
  write_acls _ e d := liftX ((extOf cfg).write_acls default (toT e) d)
  write_bsd_flags _ e d := liftX ((extOf cfg).write_bsd_flags default (toT e) d)
  notified n := op fun s => (.ok (s.woken.count n), s)
  await_notified _ := throw .other
  notify_waiters n := op fun s => (.ok (), { s with woken := n :: s.woken })


section fields
variable (cfg : Cfg) (fuel : Nat) (same : XWorld → Rs.Path → Rs.Path → Bool)
  (cp : Rs.Path → Rs.Path → Rs.M XWorld Transfer.TransferResult) (o : Rs.Opaque) (lself : Transferrer) (le : FileEntry)
  (i n : Nat) (a b : Rs.Path)
@[simp] theorem seqExt_fuel : (seqExt cfg fuel same cp).fuel = fuel := rfl
@[simp] theorem seqExt_Notify_new (u : Unit) :
    (seqExt cfg fuel same cp).Notify_new u = op fun s => (.ok s.fresh, { s with fresh := s.fresh + 1 }) := rfl
@[simp] theorem seqExt_map_get : (seqExt cfg fuel same cp).map_get i = op fun s => (.ok (s.get i), s) := rfl
@[simp] theorem seqExt_map_contains :
    (seqExt cfg fuel same cp).map_contains i = op fun s => (.ok (s.get i).isSome, s) := rfl
@[simp] theorem seqExt_map_insert (st : InodeState) :
    (seqExt cfg fuel same cp).map_insert i st = op fun s => (.ok (), s.insert i st) := rfl
@[simp] theorem seqExt_map_remove : (seqExt cfg fuel same cp).map_remove i = op fun s => (.ok (), s.remove i) := rfl
@[simp] theorem seqExt_same_inode :
    (seqExt cfg fuel same cp).same_inode lself a b = op fun s => (.ok (same s.xw a b), s) := rfl
@[simp] theorem seqExt_t_remove (isDir : Bool) :
    (seqExt cfg fuel same cp).t_remove o a isDir = liftX ((extOf cfg).t_remove ⟨⟩ a isDir) := rfl
@[simp] theorem seqExt_t_create_hardlink :
    (seqExt cfg fuel same cp).t_create_hardlink o a b = liftX (op fun xw => xw.at b fun k => hardlinkW xw a k) := rfl
@[simp] theorem seqExt_t_sync :
    (seqExt cfg fuel same cp).t_sync_file_with_delta o a b =
      liftX (((extOf cfg).t_sync_file_with_delta ⟨⟩ a b) >>= fun r => pure (resOfT r)) := rfl
@[simp] theorem seqExt_copy_file :
    (seqExt cfg fuel same cp).transferrer_copy_file lself a b = liftX (cp a b >>= fun r => pure (resOfT r)) := rfl
@[simp] theorem seqExt_write_xattrs :
    (seqExt cfg fuel same cp).write_xattrs lself le a = liftX ((extOf cfg).write_xattrs default (toT le) a) := rfl
@[simp] theorem seqExt_write_acls :
    (seqExt cfg fuel same cp).write_acls lself le a = liftX ((extOf cfg).write_acls default (toT le) a) := rfl
@[simp] theorem seqExt_write_bsd_flags :
    (seqExt cfg fuel same cp).write_bsd_flags lself le a = liftX ((extOf cfg).write_bsd_flags default (toT le) a) := rfl
@[simp] theorem seqExt_notified : (seqExt cfg fuel same cp).notified n = op fun s => (.ok (s.woken.count n), s) := rfl
@[simp] theorem seqExt_await_notified : (seqExt cfg fuel same cp).await_notified n = throw .other := rfl
@[simp] theorem seqExt_notify_waiters :
    (seqExt cfg fuel same cp).notify_waiters n = op fun s => (.ok (), { s with woken := n :: s.woken }) := rfl
end fields

/-- the hand-off as an operation of unit Transfer's `Ext XWorld`: the TRANSLATED `transfer_link_member` run on `seqExt`
    from the world with no claim, the claims / counters forgotten afterwards -/
def seqLinkMember (cfg : Cfg) (fuel : Nat) (same : XWorld → Rs.Path → Rs.Path → Bool)
    (cp : Transfer.Transferrer → Rs.Path → Rs.Path → Rs.M XWorld Transfer.TransferResult)
    (self : Transfer.Transferrer) (e : Transfer.FileEntry) (d : Rs.Path) (inode : Nat) (upd : Bool) :
    Rs.M XWorld (Option Transfer.TransferResult) :=
  op fun xw =>
    let r := runM (Transferrer.transfer_link_member (seqExt cfg fuel same (cp self)) ⟨self.transport, ⟨⟩⟩ (ofT e) d inode upd)
      (SWorld.start xw)
    (match r.1 with | .ok v => .ok (v.map resToT) | .error er => .error er, r.2.xw)

section SeqProofs
variable (cfg : Cfg) (fuel : Nat) (same : XWorld → Rs.Path → Rs.Path → Bool)
  (cp : Transfer.Transferrer → Rs.Path → Rs.Path → Rs.M XWorld Transfer.TransferResult)
  (self : Transfer.Transferrer) (e : Transfer.FileEntry) (inode : Nat) (xw : XWorld) (k : Engine.Path)

theorem seqLinkMember_run (d : Rs.Path) (upd : Bool) :
    runM (seqLinkMember cfg fuel same cp self e d inode upd) xw =
      (match (runM (rounds (seqExt cfg fuel same (cp self)) ⟨self.transport, ⟨⟩⟩ (ofT e) d inode upd fuel) (SWorld.start xw)).1 with
        | .ok v => .ok (v.map resToT) | .error er => .error er,
       (runM (rounds (seqExt cfg fuel same (cp self)) ⟨self.transport, ⟨⟩⟩ (ofT e) d inode upd fuel) (SWorld.start xw)).2.xw) := by
  unfold seqLinkMember
  rw [runM_op, transfer_link_member_rounds]
  rfl

/-- LATER MEMBER (the group's first path is recorded), whatever the operations answer: on update nothing when
    `same_inode` says yes, else `remove`; then the link towards the recorded path -/
theorem seq_later_run (hk : CleanPath k) (a b : Nat) (first : Engine.Path)
    (hf : xw.w.linkMap.find? (·.1 == inode) = some (a, first, b)) (upd : Bool) :
    runM (seqLinkMember cfg (fuel + 1) same cp self e (destOf xw.root k) inode upd) xw =
      if upd = true ∧ same xw (destOf xw.root first) (destOf xw.root k) = true then (.ok (some linkResult), xw)
      else
        match (if upd = true then removeW xw.w k false else some xw.w) with
        | none => (.error .io, xw)
        | some w1 =>
          match hardlinkW { xw with w := w1 } (destOf xw.root first) k with
          | none => (.error .io, { xw with w := w1 })
          | some (_, w2) => (.ok (some linkResult), { xw with w := w2 }) := by
  rw [seqLinkMember_run, SWorld.start, rounds_succ]
  simp only [round, runM_bind_andThen, seqExt_map_get, runM_op, SWorld.get, List.find?_nil, hf, andThen_ok]
  cases upd with
  | false =>
    simp only [dispatch, linkArm_create_run, seqExt_t_create_hardlink, runM_liftX, runM_op,
      at_destOf xw _ rfl k hk, Bool.false_eq_true, false_and, ↓reduceIte]
    cases hardlinkW xw (destOf xw.root first) k <;> rfl
  | true =>
    simp only [dispatch, linkArm_update_run, seqExt_same_inode, runM_op, andThen_ok, true_and, ↓reduceIte]
    by_cases hs : same xw (destOf xw.root first) (destOf xw.root k) = true
    · rw [if_pos hs, if_pos hs]
      rfl
    · rw [if_neg hs, if_neg hs]
      simp only [seqExt_t_remove, seqExt_t_create_hardlink, runM_liftX, extOf_t_remove, runM_op,
        at_destOf xw _ rfl k hk]
      cases removeW xw.w k false with
      | none => rfl
      | some w1 =>
        simp only [Option.map_some, outcome_some, andThen_ok, at_destOf { xw with w := w1 } xw.root rfl k hk]
        cases hardlinkW { xw with w := w1 } (destOf xw.root first) k <;> rfl

theorem setLinkMap_self (s : SWorld) : s.setLinkMap s.xw.w.linkMap = s := rfl

/-- the captured block on the sequential instance: the transfer on `xw`, then (with `-X`) the entry's attributes -/
theorem seq_copyBlock_run (cpS : Rs.Path → Rs.Path → Rs.M XWorld Transfer.TransferResult) (lself : Transferrer)
    (le : FileEntry) (d : Rs.Path) (upd : Bool) (s : SWorld) :
    runM (copyBlock (seqExt cfg fuel same cpS) lself le d upd) s =
      match runM (if upd = true then (extOf cfg).t_sync_file_with_delta ⟨⟩ le.path d else cpS le.path d) s.xw with
      | (.ok r, xw1) => (.ok (resOfT r), { s with xw := if cfg.xattrs then xw1.writeX (toT le) d else xw1 })
      | (.error er, xw1) => (.error er, { s with xw := xw1 }) := by
  rw [copyBlock_run]
  cases upd
  all_goals
    -- every operation of the block is `liftX` of an operation on `xw`: run them there, the rest of the world rides along
    simp only [Bool.false_eq_true, ↓reduceIte, seqExt_copy_file, seqExt_t_sync, seqExt_write_xattrs, seqExt_write_acls,
      seqExt_write_bsd_flags, runM_liftX, runM_bind]
    -- `split` names the transfer's answer as it stands in the goal; `simp` must not rewrite the transfer under it
    split <;>
      simp [*, -extOf_t_sync_file_with_delta, andThen, runM_pure, extOf_write_xattrs, extOf_write_acls, extOf_write_bsd_flags,
        runM_op]

/-- FIRST MEMBER (no group recorded), whatever the transfer answers: claim `0`, the transfer from the world with that
    claim; `Ok` ⇒ the entry's attributes (with `-X`), `Completed(d)` recorded, the transfer's result; `Err` ⇒ the claim
    removed, the transfer's error -/
theorem seq_first_run (d : Rs.Path) (upd : Bool) (hf : xw.w.linkMap.find? (·.1 == inode) = none) :
    runM (seqLinkMember cfg (fuel + 1) same cp self e d inode upd) xw =
      match runM (if upd = true then (extOf cfg).t_sync_file_with_delta ⟨⟩ e.path d else cp self e.path d) xw with
      | (.ok r, xw1) =>
        (.ok (some r), (SWorld.insert ⟨if cfg.xattrs then xw1.writeX e d else xw1, [(inode, 0)], 1, []⟩ inode
          (.Completed d)).xw)
      | (.error er, xw1) => (.error er, (SWorld.remove ⟨xw1, [(inode, 0)], 1, []⟩ inode).xw) := by
  have h3 : runM ((seqExt cfg (fuel + 1) same (cp self)).map_insert inode (.InProgress 0)) ⟨xw, [], 1, []⟩ =
      (.ok (), ⟨xw, [(inode, 0)], 1, []⟩) := by
    simp only [seqExt_map_insert, runM_op, SWorld.insert, SWorld.setLinkMap, dropKey_of_find_none inode _ hf]
    rfl
  have hp : (ofT e).path = e.path := rfl
  rw [seqLinkMember_run, SWorld.start, rounds_succ]
  simp only [round, runM_bind_andThen, seqExt_map_get, dispatch, claimArm_run, seqExt_Notify_new, seqExt_map_contains,
    runM_op, SWorld.get, hf,
    List.find?_nil, Option.isSome_none, andThen_ok, Bool.false_eq_true, ↓reduceIte, h3, seq_copyBlock_run, hp]
  generalize runM (if upd = true then (extOf cfg).t_sync_file_with_delta ⟨⟩ e.path d else cp self e.path d) xw = res
  obtain ⟨r, xw1⟩ := res
  cases r with
  | error er =>
    simp only [release_err_run, seqExt_map_remove, seqExt_notify_waiters, runM_op, andThen_ok, andThen_error]
  | ok r =>
    simp only [release_ok_run, seqExt_map_insert, seqExt_notify_waiters, runM_op, andThen_ok, toT_ofT]
    rfl

/-- the model's step of a FIRST member, by the transfer: `copyW`, then the entry's attributes (with `-X`), then the path
    recorded as the group's first path -/
theorem linkMemberW_first (hf : xw.w.linkMap.find? (·.1 == inode) = none) (upd : Bool) :
    linkMemberW cfg xw e k inode upd =
      (copyW cfg xw e.path k).map fun p =>
        (some p.1, { (if cfg.xattrs then setXattrs p.2 k (absX xw.valId e.xattrs) else p.2) with
          linkMap := (inode, k, inoAt (if cfg.xattrs then setXattrs p.2 k (absX xw.valId e.xattrs) else p.2).dst k) ::
            (if cfg.xattrs then setXattrs p.2 k (absX xw.valId e.xattrs) else p.2).linkMap }) := by
  simp only [linkMemberW, hf, copyW]
  cases hs : xw.src e.path with
  | dangling => rfl
  | dir => rfl
  | file sm =>
    have hcg : writeFile (stripX cfg) xw.w k (metaOf xw e) = writeFile (stripX cfg) xw.w k sm :=
      writeFile_congr _ _ _ _ _ (by simp [metaOf, hs]) (by simp [metaOf, hs]) (by simp [metaOf, hs]) (by simp [stripX])
    dsimp only
    rw [writeFile_split, hcg, metaOf_xattrs]
    cases writeFile (stripX cfg) xw.w k sm <;> rfl

/-- FIRST MEMBER for ANY `copy_file` parameter that, where it is called (a creation; an update calls
    `sync_file_with_delta`), does what the model's `copyW` does: the run is the model's `linkMemberW` -/
theorem seq_first_gen (hk : CleanPath k) (hf : xw.w.linkMap.find? (·.1 == inode) = none) (upd : Bool)
    (hcp : upd = false → runM (cp self e.path (destOf xw.root k)) xw = xw.outcome (copyW cfg xw e.path k)) :
    runM (seqLinkMember cfg (fuel + 1) same cp self e (destOf xw.root k) inode upd) xw =
      xw.at (destOf xw.root k) (fun k => linkMemberW cfg xw e k inode upd) := by
  have hcopy : runM (if upd = true then (extOf cfg).t_sync_file_with_delta ⟨⟩ e.path (destOf xw.root k)
      else cp self e.path (destOf xw.root k)) xw = xw.outcome (copyW cfg xw e.path k) := by
    cases upd
    · exact hcp rfl
    · simp only [↓reduceIte, extOf_t_sync_file_with_delta, runM_op, at_destOf xw _ rfl k hk]
  rw [seq_first_run cfg fuel same cp self e inode xw _ upd hf, hcopy, at_destOf xw _ rfl k hk,
    linkMemberW_first cfg e inode xw k hf]
  cases hc : copyW cfg xw e.path k with
  | none => simp [SWorld.remove, SWorld.setLinkMap, dropKey_of_find_none inode _ hf]
  | some p =>
    obtain ⟨r, w2⟩ := p
    have hlm : w2.linkMap = xw.w.linkMap := copyW_linkMap cfg xw k hc
    cases hx : cfg.xattrs with
    | false =>
      simp only [Bool.false_eq_true, ↓reduceIte, SWorld.insert, keyOf_destOf xw.root k hk, SWorld.setLinkMap, hlm,
        dropKey_of_find_none inode _ hf, Option.map_some, outcome_some]
    | true =>
      have hlm' := setXattrs_linkMap w2 k (absX xw.valId e.xattrs)
      simp only [↓reduceIte, SWorld.insert, writeX_destOf { xw with w := w2 } _ k hk,
        keyOf_destOf xw.root k hk, SWorld.setLinkMap, hlm, hlm',
        dropKey_of_find_none inode _ hf, Option.map_some, outcome_some]

/-- FIRST MEMBER of an update with the translated `copy_file` as parameter: it is not called -/
theorem seq_first_update_translated (hk : CleanPath k) (hf : xw.w.linkMap.find? (·.1 == inode) = none) :
    runM (seqLinkMember cfg (fuel + 1) same (translatedCopy cfg) self e (destOf xw.root k) inode true) xw =
      xw.at (destOf xw.root k) (fun k => linkMemberW cfg xw e k inode true) :=
  seq_first_gen cfg fuel same _ self e inode xw k hk hf true (fun h => by cases h)

/-- FIRST MEMBER of a creation with the TRANSLATED `Transferrer::copy_file` inside, the model's step succeeds: the same
    answer and world -/
theorem seq_first_create_translated_ok (hk : CleanPath k) (hf : xw.w.linkMap.find? (·.1 == inode) = none)
    (r : Option Transfer.TransferResult) (w' : World) (hm : linkMemberW cfg xw e k inode false = some (r, w')) :
    runM (seqLinkMember cfg (fuel + 1) same (translatedCopy cfg) self e (destOf xw.root k) inode false) xw =
      (.ok r, { xw with w := w' }) := by
  rw [seq_first_gen cfg fuel same _ self e inode xw k hk hf false, at_destOf xw _ rfl k hk, hm]
  · rfl
  · intro _
    rw [linkMemberW_first cfg e inode xw k hf] at hm
    cases hs : xw.src e.path with
    | dangling => simp [copyW, hs] at hm
    | dir => simp [copyW, hs] at hm
    | file sm =>
      cases hwf : writeFile (stripX cfg) xw.w k sm with
      | none => simp [copyW, hs, hwf] at hm
      | some w2 =>
        simp only [translatedCopy, copy_file_ok cfg self xw e.path k hk sm hs w2 hwf, copyW, hs, hwf, Option.map_some,
          outcome_some]

/-- … the model's step fails: `Err(io)`, the claim is released, and what is left is the world as it was or with the
    parent directories of the path created (`copy_file` runs `create_dir_all(parent)` before the transport's copy) -/
theorem seq_first_create_translated_err (hk : CleanPath k) (hf : xw.w.linkMap.find? (·.1 == inode) = none)
    (hm : linkMemberW cfg xw e k inode false = none) :
    ∃ xw', runM (seqLinkMember cfg (fuel + 1) same (translatedCopy cfg) self e (destOf xw.root k) inode false) xw =
        (.error .io, xw') ∧
      (xw' = xw ∨ ∃ d, mkdirAll xw.w.dst (parentOf k) = some d ∧ xw' = { xw with w := { xw.w with dst := d } }) := by
  rw [linkMemberW_first cfg e inode xw k hf, Option.map_eq_none_iff] at hm
  obtain ⟨xw', h1, h2⟩ := copy_file_err_strong cfg self xw e.path k hk (copyW_eq_none cfg xw k hm)
  refine ⟨xw', ?_, h2⟩
  have hl : xw'.w.linkMap = xw.w.linkMap := by
    rcases h2 with rfl | ⟨d, _, rfl⟩ <;> rfl
  rw [seq_first_run cfg fuel same _ self e inode xw _ false hf]
  simp only [Bool.false_eq_true, ↓reduceIte, translatedCopy, h1, SWorld.remove, SWorld.setLinkMap, hl,
    dropKey_of_find_none inode _ hf]
  rw [← hl]

/-- LATER MEMBER of an update, `dest` names another inode and holds a file or a link: `remove`, then `create_hardlink`.
    When the model's `relinkFile` succeeds the answer and the world are the model's; when it fails (an ancestor is not
    a directory, or the first path holds no file) the call fails AFTER the removal: the old name is gone. -/
theorem seq_later_update_other (hk : CleanPath k) (a b : Nat) (first : Engine.Path)
    (hf : xw.w.linkMap.find? (·.1 == inode) = some (a, first, b)) (hfc : CleanPath first)
    (hs : same xw (destOf xw.root first) (destOf xw.root k) = false) (hne : first ≠ k)
    (n : DNode) (hn : xw.w.dst.get? k = some n) (hnd : n ≠ .dir) :
    runM (seqLinkMember cfg (fuel + 1) same cp self e (destOf xw.root k) inode true) xw =
      match relinkFile xw.w k first with
      | some w' => (.ok (some linkResult), { xw with w := w' })
      | none => (.error .io, { xw with w := { xw.w with dst := xw.w.dst.erase k } }) := by
  have hrm : removeW xw.w k false = some { xw.w with dst := xw.w.dst.erase k } := by
    unfold removeW; rw [hn]
    cases n with
    | dir => exact absurd rfl hnd
    | file m => rfl
    | symlink t => rfl
  rw [seq_later_run cfg fuel same cp self e inode xw k hk a b first hf, if_neg (by simp [hs])]
  simp only [↓reduceIte, hrm, hardlinkW, keyOf_destOf xw.root first hfc,
    linkFile_erase_eq_relinkFile xw.w hk.1 hne hn hnd]
  cases relinkFile xw.w k first <;> rfl

end SeqProofs
section Discharge

/-- `extOf cfg` with its ASSUMED `transfer_link_member` replaced by the translated one run on `seqExt` -/
def extOfT (cfg : Cfg) (fuel : Nat) (same : XWorld → Rs.Path → Rs.Path → Bool)
    (cp : Transfer.Transferrer → Rs.Path → Rs.Path → Rs.M XWorld Transfer.TransferResult) : Transfer.Ext XWorld :=
  { extOf cfg with transfer_link_member := seqLinkMember cfg fuel same cp }

/-- the hard-link hand-off is taken (transfer.rs:88-93 in `create`, 312-316 in `update`) -/
def HandedOff (self : Transfer.Transferrer) (e : Transfer.FileEntry) : Prop :=
  self.dry_run = false ∧ e.is_symlink = false ∧ e.is_dir = false ∧ self.preserve_hardlinks = true ∧ 1 < e.nlink ∧
    e.inode.isSome = true

theorem create_tlm_irrelevant {W : Type} (ext : Transfer.Ext W)
    (f : Transfer.Transferrer → Transfer.FileEntry → Rs.Path → Nat → Bool → Rs.M W (Option Transfer.TransferResult))
    (self : Transfer.Transferrer) (e : Transfer.FileEntry) (d : Rs.Path) (h : ¬ HandedOff self e) :
    Transfer.Transferrer.create { ext with transfer_link_member := f } self e d = Transfer.Transferrer.create ext self e d := by
  unfold Transfer.Transferrer.create
  cases hd : self.dry_run
  · cases hs : e.is_symlink
    · cases hdir : e.is_dir
      · simp only [Bool.false_eq_true, ↓reduceIte]
        by_cases hc : (self.preserve_hardlinks && decide (e.nlink > 1)) = true
        · cases hi : e.inode with
          | none => simp only [hc, ↓reduceIte]; rfl
          | some i =>
            exfalso; apply h
            simp only [Bool.and_eq_true, decide_eq_true_eq] at hc
            exact ⟨hd, hs, hdir, hc.1, hc.2, by simp [hi]⟩
        · simp only [hc, Bool.false_eq_true, ↓reduceIte]; rfl
      · rfl
    · rfl
  · rfl

theorem update_tlm_irrelevant {W : Type} (ext : Transfer.Ext W)
    (f : Transfer.Transferrer → Transfer.FileEntry → Rs.Path → Nat → Bool → Rs.M W (Option Transfer.TransferResult))
    (self : Transfer.Transferrer) (e : Transfer.FileEntry) (d : Rs.Path) (h : ¬ HandedOff self e) :
    Transfer.Transferrer.update { ext with transfer_link_member := f } self e d = Transfer.Transferrer.update ext self e d := by
  unfold Transfer.Transferrer.update
  cases hd : self.dry_run
  · cases hs : e.is_symlink
    · simp only [Bool.false_eq_true, ↓reduceIte]
      by_cases hc : (((!e.is_dir) && self.preserve_hardlinks) && decide (e.nlink > 1)) = true
      · cases hi : e.inode with
        | none => simp only [hc, ↓reduceIte]; rfl
        | some i =>
          exfalso; apply h
          simp only [Bool.and_eq_true, decide_eq_true_eq, Bool.not_eq_true'] at hc
          exact ⟨hd, hs, hc.1.1, hc.1.2, hc.2, by simp [hi]⟩
      · simp only [hc, Bool.false_eq_true, ↓reduceIte]; rfl
    · rfl
  · rfl


/-- every recorded first path is a key a directory walk can produce (they are the `k` of earlier tasks) -/
def LinkMapClean (xw : XWorld) : Prop := ∀ x ∈ xw.w.linkMap, CleanPath x.2.1

/-- what the update of a LATER member needs for the translated hand-off to be the model's `relinkFile`: `same_inode`
    answers "no", the first path is another path, and the destination holds a directory (both fail) or a file / link
    that the model can replace -/
def RelinkOK (same : XWorld → Rs.Path → Rs.Path → Bool) (xw : XWorld) (k first : Engine.Path) : Prop :=
  same xw (destOf xw.root first) (destOf xw.root k) = false ∧ first ≠ k ∧
    (xw.w.dst.get? k = some .dir ∨
      ∃ n, xw.w.dst.get? k = some n ∧ n ≠ .dir ∧ (relinkFile xw.w k first).isSome = true)

end Discharge

end Seq

end SyModel.Lemmas.GenLinkMember
