/-
  `HashMap` of the Prelude (an association list, newest binding first): what `get` and `contains_key` answer after
  `insert_mut`, used wherever a translated function keeps a map (the directory cache, `verify`'s `dest_map`, the two scan
  maps of bisync's `classify_changes`), what the map built by a loop of `insert`s holds, membership in `keys` after
  `insert_mut`, what `get` answers after `entry_push` (the buckets of `entry(k).or_default().push(v)`); `HashSet`
  (`set_insert`, `extend`) as a duplicate-free list; `is_empty` on lists; a loop of conditional `push`es as `filter` and
  `map` (`foldl_push_if`); and facts about functions that are translated in more than one unit, stated once about their
  common body (`size_filter_do`, `secs_apart`).
  Declared in the Prelude's namespace `SyModel.Generated.Rs`; nothing here is trusted.
-/
import SyModel.Generated.Prelude
namespace SyModel.Generated.Rs
variable {κ ν : Type} [BEq κ] [LawfulBEq κ]

theorem find?_filter_of_imp {α : Type} (p q : α → Bool) (h : ∀ a, q a = true → p a = true) (l : List α) :
    (l.filter p).find? q = l.find? q := by
  rw [List.find?_filter]
  congr 1; funext a
  cases hq : q a
  · exact decide_eq_false fun h => Bool.false_ne_true h.2
  · exact decide_eq_true ⟨h a hq, rfl⟩

theorem get_insert_mut (m : HashMap κ ν) (k : κ) (v : ν) (t : κ) :
    get (insert_mut m k v) t = if k == t then some v else get m t := by
  unfold get insert_mut
  rw [List.find?_cons]
  cases hk : k == t
  · -- the bindings of `k` that `insert_mut` removes are not bindings of `t`
    rw [find?_filter_of_imp _ _ fun a ha => ?_]
    · rfl
    · rw [Bool.not_eq_true', beq_iff_eq.mp ha, ← Bool.not_eq_true]
      exact fun h => Bool.false_ne_true (hk.symm.trans (beq_iff_eq.mpr (beq_iff_eq.mp h).symm))
  · rfl

omit [LawfulBEq κ] in
theorem get_isSome_eq_contains_key (m : HashMap κ ν) (k : κ) : (get m k).isSome = contains_key m k := by
  unfold get contains_key
  rw [Option.isSome_map, Bool.eq_iff_iff, List.find?_isSome, List.any_eq_true]

omit [LawfulBEq κ] in
theorem get_eq_none_iff (m : HashMap κ ν) (k : κ) : get m k = none ↔ contains_key m k = false := by
  rw [← get_isSome_eq_contains_key]
  cases get m k
  · exact ⟨fun _ => rfl, fun _ => rfl⟩
  · exact ⟨nofun, nofun⟩

theorem contains_key_insert_mut (m : HashMap κ ν) (k : κ) (v : ν) (t : κ) :
    contains_key (insert_mut m k v) t = (k == t || contains_key m t) := by
  rw [← get_isSome_eq_contains_key, ← get_isSome_eq_contains_key, get_insert_mut]
  cases k == t <;> rfl

/-- `SyncEngine::should_filter_by_size` (src/sync/mod.rs; translated in the units Filter, Verify and SingleFile with the same
    body): the two early `return true`s are a disjunction.  The units' `match`es are their own matcher constants, so their
    bridges apply this by unification (`exact`), not by `rw`. -/
theorem size_filter_do (mn mx : Option Nat) (n : Nat) :
    (Id.run do
      match mn with
      | some min => if decide (n < min) then return true
      | _ => pure ()
      match mx with
      | some max => if decide (n > max) then return true
      | _ => pure ()
      return false) =
      ((match mn with | some m => decide (n < m) | none => false) ||
       (match mx with | some m => decide (n > m) | none => false)) := by
  cases mn <;> cases mx <;> simp only [Id.run]
  · rfl
  · rename_i mx; cases decide (n > mx) <;> rfl
  · rename_i mn; cases decide (n < mn) <;> rfl
  · rename_i mn mx; cases decide (n < mn) <;> cases decide (n > mx) <;> rfl

/-- `duration_since` with both arms of its `Result` read through `as_secs` (the shape of `StrategyPlanner::mtime_matches` and
    `DirectoryCache::needs_rescan`, each translated in two units): whatever is done with the seconds, they are the whole
    seconds of the absolute difference -/
theorem secs_apart {α : Type} (a b : SystemTime) (P : Nat → α) :
    (match duration_since a b with
      | .ok d => P (as_secs d)
      | .error e => P (as_secs (duration e))) = P (abs_diff a b / 1000000000) := by
  unfold duration_since abs_diff
  by_cases hba : b ≤ a
  · rw [if_pos hba]
    by_cases hab : a ≤ b
    · rw [if_pos hab, Nat.le_antisymm hab hba]; rfl
    · rw [if_neg hab]; rfl
  · rw [if_neg hba, if_pos (Nat.le_of_lt (Nat.lt_of_not_le hba))]; rfl

omit [BEq κ] [LawfulBEq κ] in
theorem is_empty_eq {α : Type} (s : List α) : is_empty s = s.isEmpty := by
  cases s <;> rfl

section
variable {α : Type} [BEq α] [LawfulBEq α]

theorem set_insert_eq (s : List α) (y : α) : set_insert s y = if y ∈ s then s else s ++ [y] := by
  unfold set_insert
  simp only [List.contains_iff_mem]

theorem mem_set_insert (s : List α) (y x : α) : x ∈ set_insert s y ↔ x ∈ s ∨ x = y := by
  rw [set_insert_eq]
  split
  · exact ⟨Or.inl, fun h => h.elim id (· ▸ ‹_›)⟩
  · rw [List.mem_append, List.mem_singleton]

theorem nodup_set_insert (s : List α) (y : α) (h : s.Nodup) : (set_insert s y).Nodup := by
  rw [set_insert_eq]
  by_cases hc : y ∈ s
  · simp [hc, h]
  · simp only [hc, if_false]
    rw [List.nodup_append]
    refine ⟨h, by simp, ?_⟩
    intro a ha b hb
    simp at hb
    subst hb
    intro e; subst e
    exact hc ha

theorem mem_extend (s l : List α) (x : α) : x ∈ extend s l ↔ x ∈ s ∨ x ∈ l := by
  unfold extend
  induction l generalizing s with
  | nil => simp
  | cons a t ih => rw [List.foldl_cons, ih, mem_set_insert]; simp [or_assoc]

theorem nodup_extend (s l : List α) (h : s.Nodup) : (extend s l).Nodup := by
  unfold extend
  induction l generalizing s with
  | nil => exact h
  | cons a t ih => rw [List.foldl_cons]; exact ih _ (nodup_set_insert s a h)
end

theorem mem_keys_insert_mut (m : HashMap κ ν) (k k' : κ) (v : ν) :
    k' ∈ keys (insert_mut m k v) ↔ k' = k ∨ k' ∈ keys m := by
  unfold keys insert_mut
  simp only [List.map_cons, List.mem_cons, List.mem_map, List.mem_filter]
  constructor
  · rintro (h | ⟨p, ⟨hp, _⟩, rfl⟩)
    · exact .inl h
    · exact .inr ⟨p, hp, rfl⟩
  · rintro (h | ⟨p, hp, rfl⟩)
    · exact .inl h
    · by_cases hk : p.1 = k
      · exact .inl hk
      · exact .inr ⟨p, ⟨hp, by simpa using hk⟩, rfl⟩

/-- the map a `for e in l { m.insert(key(e), e) }` loop builds from `m0`, looked up: when no key occurs twice in
    `l`, the entry of `l` with that key, else what `m0` held -/
theorem get_foldl_insert_mut {α : Type} (key : α → κ) (l : List α) (hnd : (l.map key).Nodup)
    (m0 : HashMap κ α) (k : κ) :
    get (l.foldl (fun m e => insert_mut m (key e) e) m0) k =
      match l.find? (fun e => key e == k) with
      | some e => some e
      | none => get m0 k := by
  induction l generalizing m0 with
  | nil => rfl
  | cons e t ih =>
    rw [List.map_cons, List.nodup_cons] at hnd
    rw [List.foldl_cons, ih hnd.2, List.find?_cons]
    by_cases hk : key e = k
    · have hnone : t.find? (fun e => key e == k) = none := by
        rw [List.find?_eq_none]
        intro x hx hxk
        apply hnd.1
        rw [hk, ← (beq_iff_eq.mp hxk)]
        exact List.mem_map_of_mem hx
      simp [hnone, hk, get_insert_mut]
    · have : (key e == k) = false := by simpa using hk
      simp only [this, get_insert_mut, Bool.false_eq_true, if_false]

theorem mem_keys_foldl_insert_mut {α : Type} (key : α → κ) (l : List α) (m0 : HashMap κ α) (k : κ) :
    k ∈ keys (l.foldl (fun m e => insert_mut m (key e) e) m0) ↔ k ∈ l.map key ∨ k ∈ keys m0 := by
  induction l generalizing m0 with
  | nil => simp
  | cons e t ih =>
    rw [List.foldl_cons, ih, mem_keys_insert_mut]
    simp only [List.map_cons, List.mem_cons]
    constructor
    · rintro (h | h | h)
      · exact .inl (.inr h)
      · exact .inl (.inl h)
      · exact .inr h
    · rintro ((h | h) | h)
      · exact .inr (.inl h)
      · exact .inl h
      · exact .inr (.inr h)

theorem foldl_push_if {γ δ : Type} (p : γ → Bool) (f : γ → δ) (l : List γ) (a : List δ) :
    l.foldl (fun r x => if p x then r ++ [f x] else r) a = a ++ (l.filter p).map f := by
  induction l generalizing a with
  | nil => simp
  | cons x l ih =>
    rw [List.foldl_cons, ih]
    cases hp : p x <;> simp [hp]

/-- `entry(k').or_default().push(v)`: only the bucket of `k'` changes, by appending at its END -/
theorem get_entry_push (m : HashMap κ (List ν)) (k' : κ) (v : ν) (k : κ) :
    get (entry_push m k' v) k = if k' == k then some ((get m k).getD [] ++ [v]) else get m k := by
  -- the map rewrites buckets, not keys: `find?` for a key commutes with it
  have hkey : ∀ q : κ × List ν, (if (q.1 == k') = true then (q.1, q.2 ++ [v]) else q).1 = q.1 :=
    fun q => by split <;> rfl
  have hany := get_isSome_eq_contains_key m k'
  unfold entry_push
  unfold contains_key get at hany
  unfold get
  rw [← hany]
  cases hf' : m.find? (fun p => p.1 == k') with
  | none =>
    by_cases hk : k' = k
    · simp [List.find?_append, ← hk, hf']
    · simp [List.find?_append, hk]
  | some q' =>
    rw [Option.map_some, Option.isSome_some, if_pos rfl, List.find?_map]
    simp only [Function.comp_def, hkey]
    cases hf : m.find? (fun p => p.1 == k) with
    | none =>
      have hk : ¬k' = k := fun e => by rw [e, hf] at hf'; cases hf'
      simp [hk]
    | some q =>
      have hq : q.1 = k := by simpa using List.find?_some hf
      by_cases hk : k' = k
      · simp [hk, hq]
      · simp [hk, hq, Ne.symm hk]

end SyModel.Generated.Rs
