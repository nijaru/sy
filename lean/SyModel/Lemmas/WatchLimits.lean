/-
  What the watch loop cannot do: sync again once idle, exit without a SIGINT or a failing sync, lower
  the sync counter, empty `pending` other than by the end of a sync or on entering the loop
  (`PendingMove`, `step_pending`, `failMove_pending`), start a sync before the queued events are
  received (`receive_prefix`).  These stand behind the recorded C20 defects and behind
  `never_exits_partial`, `pending_cleared_only_by_sync_end`, `no_event_lost_eventually`.  (That a
  difference the comparison rule cannot see is never repaired, however often the loop syncs, is
  `fixed_run` of WatchProgress.)
-/
import SyModel.Lemmas.WatchProgress
namespace SyModel.Watch

theorem idle_run (c : Cfg) (is : List Input) (hq : Quiescent is) (s : State) (hp : s.phase = .loop)
    (hqu : s.queue = []) (hpe : s.pending = []) (hsig : s.sig = false) :
    ∃ δ, run c s is = advance s δ := by
  refine quiescent_inv c (P := fun s' => ∃ δ, s' = advance s δ) is hq ?_ ?_ s ⟨0, rfl⟩
  · intro s' ⟨δ, e⟩
    rw [e, step_timeout_idle c (advance s δ) hp hsig hqu (Or.inl hpe)]
    exact ⟨δ + (c.selectSleep + c.recvTimeout), by simp only [advance, Nat.add_assoc]⟩
  · intro s' δ' ⟨δ, e⟩
    exact ⟨δ + δ', by rw [e, advance_advance]⟩

/-- Neither a SIGINT nor a failing sync (`fail`) in the schedule.  The second half matters twice: a
    failing *initial* sync ends the process (`no_exit_run` needs it gone), and where no sync is
    running a `fail` is a `step` that `nSteps` does not count (`receive_prefix` counts receptions). -/
def NoSigint (is : List Input) : Prop := ∀ i ∈ is, i ≠ .sigint ∧ i ≠ .fail

instance (is : List Input) : Decidable (NoSigint is) := by unfold NoSigint; exact inferInstance

theorem no_exit_run (c : Cfg) (is : List Input) (hn : NoSigint is) (s : State) (hs : s.sig = false)
    (hp : s.phase ≠ .done) : (run c s is).phase ≠ .done ∧ (run c s is).sig = false := by
  refine run_inv c (P := fun s => s.phase ≠ .done ∧ s.sig = false) is ?_ s ⟨hp, hs⟩
  intro s ⟨hp, hs⟩ i hi
  cases i with
  | sigint => exact absurd rfl (hn _ hi).1
  | fail => exact absurd rfl (hn _ hi).2
  | tick δ => exact ⟨hp, hs⟩
  | event k e => rw [apply_event]; exact ⟨hp, hs⟩
  | step =>
    refine ⟨?_, (step_src_sig c s).2.trans hs⟩
    -- only the `ctrl_c` arm of the select leaves the loop
    exact step_cases c s (P := fun s' => s'.phase ≠ .done)
      (exit := fun _ h => absurd (hs.symm.trans h) (by decide))
      (arm := fun _ _ => hp) (recv := fun _ _ _ _ _ => hp) (idle := fun _ _ _ => hp)
      (halted := fun h => absurd h hp)
      (initStart := fun _ _ => nofun) (initEnd := fun _ => nofun) (enter := fun _ _ => nofun)
      (sync := fun _ _ _ _ => nofun) (syncEnd := fun _ => nofun)

theorem syncs_mono (c : Cfg) (is : List Input) (s : State) : s.syncs ≤ (run c s is).syncs := by
  refine run_inv c (P := fun s' => s.syncs ≤ s'.syncs) is ?_ s (Nat.le_refl _)
  intro s' hs' i _
  -- the counter moves when a sync starts, nowhere else
  have hstep : s.syncs ≤ (step c s').1.syncs :=
    step_cases c s' (P := fun s'' => s.syncs ≤ s''.syncs)
      (initStart := fun _ _ => Nat.le_succ_of_le hs') (sync := fun _ _ _ _ => Nat.le_succ_of_le hs')
      (arm := fun _ _ => hs') (initEnd := fun _ => hs') (enter := fun _ _ => hs') (exit := fun _ _ => hs')
      (recv := fun _ _ _ _ _ => hs') (idle := fun _ _ _ => hs') (syncEnd := fun _ => hs') (halted := fun _ => hs')
  cases i with
  | event k e => rw [apply_event]; exact hs'
  | tick δ => exact hs'
  | sigint => exact signal_cases s' (P := fun s'' => s.syncs ≤ s''.syncs) (fun _ => hs') (fun _ _ => hs') (fun _ _ => hs')
  | fail => exact failMove_cases c s' (P := fun s'' => s.syncs ≤ s''.syncs) (fun _ => hs') (fun _ => hs') (fun _ _ => hstep)
  | step => exact hstep

/-- `pending` is left alone, or grows by one received event of a kept kind, or is emptied — by the
    end of a sync or when the loop is entered -/
def PendingMove (s s' : State) : Prop :=
  s'.pending = s.pending ∨ (∃ k, k.kept = true ∧ s'.pending = s.pending ++ [k]) ∨
    ((s.phase = .sync ∨ s.phase = .postInit) ∧ s'.pending = [])

theorem step_pending (c : Cfg) (s : State) : PendingMove s (step c s).1 := by
  refine step_cases c s (P := PendingMove s)
    ?arm ?initStart ?initEnd ?enter ?exit ?recv ?sync ?idle ?syncEnd ?halted
  case arm => exact fun _ _ => Or.inl rfl
  case initStart => exact fun _ _ => Or.inl rfl
  case initEnd => exact fun _ => Or.inl rfl
  case enter => exact fun hp _ => Or.inr (Or.inr ⟨Or.inr hp, rfl⟩)
  case exit => exact fun _ _ => Or.inl rfl
  case recv =>
    intro k q _ _ _
    cases hk : k.kept
    · exact Or.inl (by simp [hk])
    · exact Or.inr (Or.inl ⟨k, hk, by simp [hk]⟩)
  case sync => exact fun _ _ _ _ => Or.inl rfl
  case idle => exact fun _ _ _ => Or.inl rfl
  case syncEnd => exact fun hp => Or.inr (Or.inr ⟨Or.inl hp, rfl⟩)
  case halted => exact fun _ => Or.inl rfl

theorem failMove_pending (c : Cfg) (s : State) : PendingMove s (failMove c s).1 :=
  failMove_cases c s (P := PendingMove s) (fun hp => Or.inr (Or.inr ⟨Or.inl hp, rfl⟩)) (fun _ => Or.inl rfl)
    (fun _ _ => step_pending c s)

/-- From the top of the loop, while no SIGINT arrives: the iterations that receive the front part
    of the channel move exactly its kept events to `pending`, in order, whatever else is delivered
    meanwhile; no sync can start in between (a timeout needs an empty channel). -/
theorem receive_prefix (c : Cfg) (is : List Input) :
    ∀ (s : State) (front back : List Kind), NoSigint is → s.phase = .loop → s.sig = false →
      s.queue = front ++ back → nSteps is = front.length →
      (run c s is).pending = s.pending ++ front.filter Kind.kept ∧ (run c s is).syncs = s.syncs := by
  induction is with
  | nil =>
    intro s front back _ _ _ _ hn
    rw [List.eq_nil_of_length_eq_zero hn.symm]
    exact ⟨(List.append_nil _).symm, rfl⟩
  | cons i t ih =>
    intro s front back hns hp hs hq hn
    have hnt : NoSigint t := fun j hj => hns j (List.mem_cons_of_mem _ hj)
    cases i with
    | sigint => exact absurd rfl (hns .sigint List.mem_cons_self).1
    | fail => exact absurd rfl (hns .fail List.mem_cons_self).2
    | tick δ => exact ih (advance s δ) front back hnt hp hs hq hn
    | event k e =>
      -- an item delivered meanwhile goes to the back of the channel
      rw [run_cons, apply_event]
      refine ih _ front (if s.armed then back ++ [k] else back) hnt hp hs ?_ hn
      show (if s.armed then s.queue ++ [k] else s.queue) = _
      rw [hq]
      split
      · exact List.append_assoc _ _ _
      · rfl
    | step =>
      cases front with
      | nil => cases hn
      | cons k f =>
        have hq' : s.queue = k :: (f ++ back) := hq
        obtain ⟨h1, h2⟩ :=
          ih { s with now := s.now + c.selectSleep, queue := f ++ back, pending := s.pending ++ [k].filter Kind.kept }
            f back hnt hp hs rfl (Nat.succ.inj hn)
        show (run c (step c s).1 t).pending = _ ∧ (run c (step c s).1 t).syncs = _
        rw [step_recv c s hp hs hq']
        exact ⟨by rw [h1, List.append_assoc, filter_singleton_append], h2⟩

end SyModel.Watch
