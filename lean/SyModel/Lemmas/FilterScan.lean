/-
  Lemmas about the scan filter: the stateful fold with its growing `excluded_dirs` equals a
  stateless per-entry predicate over the entries seen before (`specList`).
-/
import SyModel.Lemmas.FilterRule
namespace SyModel.Filter

theorem startsWith_iff (p d : RelPath) : startsWith p d = true ↔ d <+: p := by
  unfold startsWith; exact List.isPrefixOf_iff_prefix

/-- how `excluded_dirs` relates to the entries processed so far -/
structure ExclInv (rules : List Rule) (done : List Entry) (excl : List RelPath) : Prop where
  sound : ∀ x ∈ excl, ∃ a ∈ done, a.isDir = true ∧ a.rel = x ∧ shouldInclude rules a.rel a.isDir = false
  complete : ∀ a ∈ done, a.isDir = true → shouldInclude rules a.rel a.isDir = false →
    ∃ x ∈ excl, x <+: a.rel

theorem ancOk_false_iff (rules : List Rule) (done : List Entry) (e : Entry) :
    ancOk rules done e = false ↔
      ∃ a ∈ done, a.isDir = true ∧ a.rel <+: e.rel ∧ shouldInclude rules a.rel a.isDir = false := by
  unfold ancOk
  rw [List.all_eq_false]
  refine exists_congr fun a => and_congr_right fun _ => ?_
  rw [← List.isPrefixOf_iff_prefix]
  cases a.isDir <;> cases a.rel.isPrefixOf e.rel <;> cases shouldInclude rules a.rel _ <;> decide

theorem ancOk_iff (rules : List Rule) (done : List Entry) (e : Entry) :
    ancOk rules done e = true ↔
      ∀ a ∈ done, a.isDir = true → a.rel <+: e.rel → shouldInclude rules a.rel a.isDir = true := by
  simp only [← Bool.not_eq_false, ancOk_false_iff, not_exists, not_and]

theorem excl_any_eq {rules : List Rule} {done : List Entry} {excl : List RelPath}
    (h : ExclInv rules done excl) (e : Entry) :
    excl.any (fun d => startsWith e.rel d) = !ancOk rules done e := by
  rw [Bool.eq_iff_iff, Bool.not_eq_true', ancOk_false_iff, List.any_eq_true]
  constructor
  · rintro ⟨x, hx, hs⟩
    obtain ⟨a, had, hd, hax, hi⟩ := h.sound x hx
    exact ⟨a, had, hd, hax ▸ (startsWith_iff _ _).mp hs, hi⟩
  · rintro ⟨a, had, hd, hp, hi⟩
    obtain ⟨x, hx, hxa⟩ := h.complete a had hd hi
    exact ⟨x, hx, (startsWith_iff _ _).mpr (hxa.trans hp)⟩

/-- the next entry leaves the invariant alone unless it is a directory the rules exclude that no recorded directory
    covers yet … -/
theorem ExclInv.snoc {rules : List Rule} {done : List Entry} {excl : List RelPath} (h : ExclInv rules done excl)
    (e : Entry) (he : e.isDir = true → shouldInclude rules e.rel e.isDir = false → ∃ x ∈ excl, x <+: e.rel) :
    ExclInv rules (done ++ [e]) excl := by
  refine ⟨fun x hx => ?_, fun a had hd hi => ?_⟩
  · obtain ⟨a, ha, r⟩ := h.sound x hx
    exact ⟨a, List.mem_append_left _ ha, r⟩
  · rcases List.mem_append.mp had with had | had
    · exact h.complete a had hd hi
    · cases List.mem_singleton.mp had
      exact he hd hi

/-- … and then recording it restores the invariant -/
theorem ExclInv.snoc_excluded {rules : List Rule} {done : List Entry} {excl : List RelPath}
    (h : ExclInv rules done excl) (e : Entry) (hd : e.isDir = true)
    (hi : shouldInclude rules e.rel e.isDir = false) : ExclInv rules (done ++ [e]) (excl ++ [e.rel]) := by
  refine ⟨fun x hx => ?_, fun a had hd' hi' => ?_⟩
  · rcases List.mem_append.mp hx with hx | hx
    · obtain ⟨a, ha, r⟩ := h.sound x hx
      exact ⟨a, List.mem_append_left _ ha, r⟩
    · cases List.mem_singleton.mp hx
      exact ⟨e, List.mem_append_right _ List.mem_cons_self, hd, rfl, hi⟩
  · rcases List.mem_append.mp had with had | had
    · obtain ⟨x, hx, hp⟩ := h.complete a had hd' hi'
      exact ⟨x, List.mem_append_left _ hx, hp⟩
    · cases List.mem_singleton.mp had
      exact ⟨e.rel, List.mem_append_right _ List.mem_cons_self, List.prefix_refl _⟩

theorem scanStep_spec (cfg : FilterCfg) (done : List Entry) (st : ScanState) (e : Entry)
    (h : ExclInv cfg.rules done st.excludedDirs) :
    (scanStep cfg st e).kept = st.kept ++ (if keptSpec cfg done e then [e] else []) ∧
    ExclInv cfg.rules (done ++ [e]) (scanStep cfg st e).excludedDirs := by
  have hany := excl_any_eq h e
  unfold scanStep keptSpec
  rw [hany]
  cases ha : ancOk cfg.rules done e
  · -- inside an excluded directory
    obtain ⟨x, hx, hs⟩ := List.any_eq_true.mp (hany.trans (congrArg not ha))
    exact ⟨(List.append_nil _).symm, h.snoc e fun _ _ => ⟨x, hx, (startsWith_iff _ _).mp hs⟩⟩
  · cases hi : shouldInclude cfg.rules e.rel e.isDir
    · -- excluded by the rules: a directory is recorded
      cases hd : e.isDir
      · exact ⟨(List.append_nil _).symm, h.snoc e fun hd' => absurd (hd.symm.trans hd') Bool.false_ne_true⟩
      · exact ⟨(List.append_nil _).symm, h.snoc_excluded e hd hi⟩
    · -- included by the rules: `excluded_dirs` unchanged
      have hinv := h.snoc e fun _ hi' => absurd (hi'.symm.trans hi) Bool.false_ne_true
      cases hd : e.isDir
      · cases filterBySize cfg e.size
        · exact ⟨rfl, hinv⟩
        · exact ⟨(List.append_nil _).symm, hinv⟩
      · exact ⟨rfl, hinv⟩

theorem foldl_scanStep (cfg : FilterCfg) :
    ∀ (todo done : List Entry) (st : ScanState), ExclInv cfg.rules done st.excludedDirs →
      (todo.foldl (scanStep cfg) st).kept = st.kept ++ specList cfg done todo := by
  intro todo
  induction todo with
  | nil => intro done st _; simp [specList]
  | cons e todo ih =>
    intro done st h
    obtain ⟨hk, hinv⟩ := scanStep_spec cfg done st e h
    simp only [List.foldl_cons, specList]
    rw [ih (done ++ [e]) (scanStep cfg st e) hinv, hk, List.append_assoc]

theorem scanFilter_eq_specList (cfg : FilterCfg) (scan : List Entry) :
    scanFilter cfg scan = specList cfg [] scan := by
  unfold scanFilter
  have := foldl_scanStep cfg scan [] {} ⟨(by intro x hx; cases hx), (by intro a ha; cases ha)⟩
  simpa using this

theorem mem_specList (cfg : FilterCfg) (x : Entry) (todo done : List Entry) :
    x ∈ specList cfg done todo ↔ ∃ l1 l2, todo = l1 ++ x :: l2 ∧ keptSpec cfg (done ++ l1) x = true := by
  induction todo generalizing done with
  | nil => exact ⟨nofun, fun ⟨l1, _, h, _⟩ => by cases l1 <;> cases h⟩
  | cons e todo ih =>
    rw [specList, List.mem_append, ih]
    constructor
    · rintro (h | ⟨l1, l2, rfl, hk⟩)
      · split at h
        · cases List.mem_singleton.mp h
          exact ⟨[], todo, rfl, (List.append_nil done).symm ▸ ‹_›⟩
        · cases h
      · exact ⟨e :: l1, l2, rfl, List.append_assoc done [e] l1 ▸ hk⟩
    · rintro ⟨l1, l2, ht, hk⟩
      cases l1 with
      | nil =>
        cases ht
        rw [List.append_nil] at hk
        exact .inl (by rw [if_pos hk]; exact List.mem_singleton_self _)
      | cons a l1 =>
        cases ht
        exact .inr ⟨l1, l2, rfl, (List.append_assoc done [e] l1).symm ▸ hk⟩

theorem specList_sublist (cfg : FilterCfg) :
    ∀ (todo done : List Entry), (specList cfg done todo).Sublist todo := by
  intro todo
  induction todo with
  | nil => intro done; simp [specList]
  | cons e todo ih =>
    intro done
    simp only [specList]
    split
    · exact (ih _).cons_cons e
    · exact (ih _).cons e

/-! ### `ParentsFirst` is decidable (used for the non-vacuity examples) -/

theorem parentsFirst_iff (scan : List Entry) : ParentsFirst scan ↔ scan.Pairwise fun e a => ¬ a.rel <+: e.rel := by
  induction scan with
  | nil => exact ⟨fun _ => .nil, fun _ l1 _ _ h => by cases l1 <;> cases h⟩
  | cons x rest ih =>
    rw [List.pairwise_cons, ← ih]
    constructor
    · exact fun h => ⟨h [] x rest rfl, fun l1 e l2 he => h (x :: l1) e l2 (congrArg _ he)⟩
    · rintro ⟨h1, h2⟩ l1 e l2 he
      cases l1 with
      | nil =>
        cases he
        exact h1
      | cons y l1 => exact h2 l1 e l2 (List.cons.inj he).2

instance (scan : List Entry) : Decidable (ParentsFirst scan) :=
  decidable_of_iff _ (parentsFirst_iff scan).symm

end SyModel.Filter
