/-
  Lemmas for C13 on top of the invariants and the variant, in this order: enabledness, fair polling, the error
  path of a failing owner, clean runs, paths transferred `Ok`, locality of the destination effects, a single
  update in isolation.
-/
import SyModel.Lemmas.Hardlink
import SyModel.Lemmas.HardlinkPoll
import SyModel.Hardlink.Update
namespace SyModel.Hardlink

theorem next_isSome (cfg : Cfg) (w : Nat) (c : WorkerCfg) (pc : Pc) (entry : Option Entry)
    (calls : Nat → Nat) (dst : Nat → Option File)
    (hd : pc.isDone = false) (hb : ∀ g snap, pc = .waiting g snap → calls g ≠ snap) :
    (next cfg w c pc entry calls dst).isSome = true := by
  cases pc with
  | waiting g snap => simp [next, hb g snap rfl]
  | done r => cases hd
  | linkOp _ k | removeOp _ k | mkdirOp k | copyOp k | syncOp k =>
    cases k <;> simp only [next] <;> (repeat' split) <;> rfl
  | _ => simp only [next] <;> (repeat' split) <;> rfl

theorem step_isSome {cfg : Cfg} {s : State} {w : Nat} (hw : w < cfg.n)
    (hd : (s.pc w).isDone = false) (hb : ∀ g snap, s.pc w = .waiting g snap → s.calls g ≠ snap) :
    (step cfg s w).isSome = true := by
  obtain ⟨⟨l, e⟩, hn⟩ := Option.isSome_iff_exists.1
    (next_isSome cfg w (cfg.worker w) (s.pc w) (s.map (cfg.worker w).inode) s.calls s.dst hd hb)
  rw [step_of_next hw hn]; rfl

theorem Pc.owner_moves (pc : Pc) (h : pc.holdsClaim = true ∨ pc.notifying = true) :
    pc.isDone = false ∧ ∀ g snap, pc ≠ .waiting g snap := by
  cases pc <;> simp_all [Pc.holdsClaim, Pc.notifying, Pc.isDone]

theorem enabled_or_owner_enabled {cfg : Cfg} {s : State} (hr : InvR cfg s)
    {w : Nat} (hw : w < cfg.n) (hd : (s.pc w).isDone = false) :
    (step cfg s w).isSome = true ∨
      ∃ g, g < cfg.n ∧ (s.pc w).waitsOn = some g ∧ (step cfg s g).isSome = true := by
  by_cases hb : ∀ g snap, s.pc w = .waiting g snap → s.calls g ≠ snap
  · exact Or.inl (step_isSome hw hd hb)
  · obtain ⟨g, hb⟩ := Classical.not_forall.1 hb
    obtain ⟨snap, hb⟩ := Classical.not_forall.1 hb
    obtain ⟨hp, hc⟩ := Classical.not_imp.1 hb
    have hsnap := hr.snapWaiting w g snap hp
    have hwo : (s.pc w).waitsOn = some g := by rw [hp]; rfl
    obtain ⟨hg, _, hown⟩ := hr.waits w g hwo
    obtain ⟨hnd, hnw⟩ := Pc.owner_moves _ (hown (by omega))
    exact .inr ⟨g, hg, hwo, step_isSome hg hnd fun g' snap' hp' => absurd hp' (hnw g' snap')⟩

theorem allDone_of_maximal {cfg : Cfg} {s : State} (hr : InvR cfg s)
    (hmax : ∀ w, w < cfg.n → enabled cfg s w = false) : allDone cfg s := by
  intro w hw
  cases hd : (s.pc w).isDone
  · rcases enabled_or_owner_enabled hr hw hd with h | ⟨g, hg, _, h⟩
    · rw [show (step cfg s w).isSome = enabled cfg s w from rfl, hmax w hw] at h; cases h
    · rw [show (step cfg s g).isSome = enabled cfg s g from rfl, hmax g hg] at h; cases h
  · rfl

/-- the model's side of `Props.GenLinkMemberLts.gen_fair_schedule_completes`, which carries it over to polls that are
    runs of the translated function -/
theorem fair_polls_complete {cfg : Cfg} (hv : cfg.variant = .repaired) {σ : Nat → Nat} {st : Nat → State}
    (hfair : ∀ w, w < cfg.n → ∀ i, ∃ j, i ≤ j ∧ σ j = w) (h0 : Reachable cfg (st 0))
    (hs : ∀ i, st (i + 1) = (poll cfg (st i) (σ i)).1) : ∃ N, allDone cfg (st N) := by
  have reach : ∀ i, Reachable cfg (st i) := fun i => by
    induction i with
    | zero => exact h0
    | succ i ih => rw [hs]; exact (poll_exec cfg _ _).elim fun _ hk => reachable_exec ih hk
  -- until a poll uses up some of the variant, the state stays what it is
  have stay : ∀ i d, st (i + d) = st i ∨ measure cfg (st (i + d)) < measure cfg (st i) := by
    intro i d
    induction d with
    | zero => exact Or.inl rfl
    | succ d ih =>
      rw [← Nat.add_assoc, hs]
      rcases ih with h | h
      · rw [h]; exact poll_same_or_less cfg _ _
      · exact Or.inr (Nat.lt_of_le_of_lt (poll_measure_le cfg _ _) h)
  -- by induction on a bound of the variant: an enabled worker is polled again, and its poll uses up some of it
  have key : ∀ M i, measure cfg (st i) < M → ∃ N, allDone cfg (st N) := by
    intro M
    induction M with
    | zero => intro i h; exact absurd h (Nat.not_lt_zero _)
    | succ M ih =>
      intro i hM
      apply Classical.byContradiction
      intro hno
      -- not final, so somebody is enabled
      obtain ⟨w, hw⟩ := Classical.not_forall.1 fun h => hno ⟨i, allDone_of_maximal (invR_reachable hv (reach i)) h⟩
      obtain ⟨hw, hen⟩ := Classical.not_imp.1 hw
      obtain ⟨j, hij, hj⟩ := hfair w hw i
      obtain ⟨d, rfl⟩ : ∃ d, j = i + d := ⟨j - i, by omega⟩
      have hlt : measure cfg (st (i + d + 1)) < measure cfg (st i) := by
        rw [hs, hj]
        rcases stay i d with h | h
        · rw [h]; exact poll_enabled_less (eq_true_of_ne_false hen)
        · exact Nat.lt_of_le_of_lt (poll_measure_le cfg _ _) h
      exact hno (ih (i + d + 1) (by omega))
  exact key _ 0 (Nat.lt_succ_self _)

theorem errPath_step {cfg : Cfg} {s s' : State} {w g : Nat} {l : Label} {op : Op}
    (h : step cfg s w = some (l, s')) (hp : (s.pc g).errPath op = true) :
    (s'.pc g).errPath op = true := by
  obtain ⟨_, e, hnext, rfl⟩ := step_eq_some h
  by_cases hgw : g = w
  · subst hgw
    rw [apply_pc_self]
    exact (next_ok hnext).errPath op hp
  · rw [apply_pc_other hgw]; exact hp

theorem errPath_exec {cfg : Cfg} {s s' : State} {sched : List Nat} {g : Nat} {op : Op}
    (h : Exec cfg s sched s') (hp : (s.pc g).errPath op = true) : (s'.pc g).errPath op = true := by
  induction h with
  | nil s => exact hp
  | cons hstep _ ih => exact ih (errPath_step hstep hp)

theorem opErr_returned {cfg : Cfg} {s s₁ s₂ : State} {g : Nat} {op : Op} {sched : List Nat}
    (hfail : step cfg s g = some (.opErr op, s₁)) (hex : Exec cfg s₁ sched s₂)
    (hd : (s₂.pc g).isDone = true) : s₂.pc g = .done (.err op) := by
  obtain ⟨_, e, hnext, rfl⟩ := step_eq_some hfail
  have h := errPath_exec (g := g) hex (by rw [apply_pc_self]; exact (next_ok hnext).opErr op rfl)
  obtain ⟨r, hp⟩ := Pc.eq_done_of_isDone hd
  rw [hp] at h ⊢
  cases r with
  | ok => cases h
  | err o => rw [of_decide_eq_true h]

theorem allDone_no_claim {cfg : Cfg} {s : State} (hv : cfg.variant = .repaired) (hi : Inv cfg s)
    (hd : allDone cfg s) (i g : Nat) : s.map i ≠ some (.inProgress g) := fun hm => by
  have := hd g (hi.mapClaim i g hm).1
  rw [Pc.holdsClaim_not_done _ (hi.claimed hv hm)] at this
  cases this

/-- a clean worker's step fails only at `removeOp` on a missing file; `InvD.updDst` says an update's file is there,
    and only updates reach `removeOp` (`updateOnly_reachable`), which is what `hu` carries -/
theorem clean_step {cfg : Cfg} {s s' : State} {w : Nat} {l : Label}
    (hc : ∀ v, v < cfg.n → (cfg.worker v).clean = true) (hd : InvD cfg s)
    (hu : ∀ v, v < cfg.n → ∀ p k, s.pc v = .removeOp p k → (cfg.worker v).action = .update)
    (h : step cfg s w = some (l, s')) (hp : ∀ v, (s.pc v).errish = false) :
    ∀ v, (s'.pc v).errish = false := by
  obtain ⟨hw, e, hnext, rfl⟩ := step_eq_some h
  intro v
  by_cases hvw : v = w
  · subst hvw
    rw [apply_pc_self]
    refine (next_ok hnext).errish (hc v hw) (fun p k hpk => ?_) (hp v)
    exact hd.updDst v hw (hu v hw p k hpk) (by rw [hpk]; rfl)
  · rw [apply_pc_other hvw]; exact hp v

theorem updateOnly_step {cfg : Cfg} {s s' : State} {w : Nat} {l : Label}
    (h : step cfg s w = some (l, s'))
    (hp : ∀ v, (s.pc v).updateOnly = true → (cfg.worker v).action = .update) :
    ∀ v, (s'.pc v).updateOnly = true → (cfg.worker v).action = .update := by
  obtain ⟨hw, e, hnext, rfl⟩ := step_eq_some h
  intro v
  by_cases hvw : v = w
  · subst hvw
    rw [apply_pc_self]
    exact fun h => ((next_ok hnext).updateOnly h).elim (hp v) id
  · rw [apply_pc_other hvw]; exact hp v

theorem updateOnly_reachable {cfg : Cfg} {s : State} (hr : Reachable cfg s) :
    ∀ v, (s.pc v).updateOnly = true → (cfg.worker v).action = .update :=
  hr.induct (fun v hv => by simp only [init] at hv; split at hv <;> cases hv) fun _ hp hs => updateOnly_step hs hp

theorem clean_reachable {cfg : Cfg} {s : State} (hc : ∀ v, v < cfg.n → (cfg.worker v).clean = true)
    (hdst : cfg.DstOk) (hr : Reachable cfg s) : ∀ v, (s.pc v).errish = false :=
  hr.induct (fun v => by simp only [init]; split <;> rfl) fun hr hp hs =>
    clean_step hc (invD_reachable hdst hr) (fun v _ p k hpk => updateOnly_reachable hr v (by rw [hpk]; rfl)) hs hp

theorem InvD.ok_content {cfg : Cfg} {s : State} (hd : InvD cfg s) {w : Nat}
    (ha : (cfg.worker w).action ≠ .skip) (hok : s.pc w = .done .ok) :
    (s.dst w).map File.content = some (cfg.content (cfg.worker w).inode) := by
  cases hl : (cfg.worker w).linked
  · exact hd.okPlain w hl ha hok
  · obtain ⟨p, hm⟩ := hd.okLinkedMap w hl ha hok
    exact (hd.okLinkedDst w p hl ha hok hm).2

/-- every name of the inode of a path transferred `Ok` belongs to its source inode: the path's root
    — itself for an ordinary file, the recorded first path of its group otherwise — names that inode -/
theorem InvD.ok_refines {cfg : Cfg} {s : State} (hi : Inv cfg s) (hd : InvD cfg s) {w r i : Nat}
    (ha : (cfg.worker w).action ≠ .skip) (hok : s.pc w = .done .ok)
    (hw : (s.dst w).map File.ino = some i) (hr : (s.dst r).map File.ino = some i) :
    (cfg.worker w).inode = (cfg.worker r).inode := by
  cases hl : (cfg.worker w).linked
  · exact hd.refines w r i (by rw [hok]; rfl) (.inl ⟨hl, ha⟩) hw hr
  · obtain ⟨p, hm⟩ := hd.okLinkedMap w hl ha hok
    obtain ⟨_, _, hpi, hpc⟩ := hi.mapDone _ p hm
    have hroot : (s.pc p).rootPc = true := by rcases hpc with h | h <;> rw [h] <;> rfl
    rw [← hpi]
    exact hd.refines p r i hroot (.inr (.inr (by rw [hpi]; exact hm)))
      (by rw [← (hd.okLinkedDst w p hl ha hok hm).1]; exact hw) hr

/-! Locality of the destination effects: since 8b4f96e `sync_file_with_delta` writes through an existing inode only when no other path of the run
names it, so a micro-step of worker `w` changes no destination path but its own; hence a path whose worker
has returned (in particular a skipped, up-to-date name) is never changed again. -/

theorem next_through {cfg : Cfg} {w : Nat} {pc : Pc} {entry : Option Entry}
    {calls : Nat → Nat} {dst : Nat → Option File} {l : Label} {e : Effect} {k : Nat}
    (h : next cfg w (cfg.worker w) pc entry calls dst = some (l, e)) (ht : e.dst = .through k) :
    ∃ fw, dst w = some fw ∧ sharedIno cfg.n dst w fw.ino = false := by
  rcases (next_ok h).change with hk | ⟨_, _, rfl⟩ | ⟨_, _, _, rfl⟩ | ⟨_, rfl | ⟨fw, hfw, hsh, _⟩⟩
  · rw [hk] at ht; cases ht
  · cases ht
  · cases ht
  · cases ht
  · exact ⟨fw, hfw, hsh⟩

theorem step_dst_other {cfg : Cfg} {s s' : State} {w : Nat} {l : Label}
    (h : step cfg s w = some (l, s')) (hout : ∀ v, cfg.n ≤ v → s.dst v = none)
    (q : Nat) (hq : q ≠ w) : s'.dst q = s.dst q := by
  obtain ⟨hw, e, hnext, rfl⟩ := step_eq_some h
  simp only [State.apply]
  cases hd : e.dst with
  | keep => rfl
  | set d => simp [hq]
  | through c =>
    obtain ⟨fw, hfw, hsh⟩ := next_through hnext hd
    simp only [writeThrough_unshared hfw (unshared hout hsh), hq, ↓reduceIte]

theorem outside_step {cfg : Cfg} {s s' : State} {w : Nat} {l : Label}
    (h : step cfg s w = some (l, s')) (hout : ∀ v, cfg.n ≤ v → s.dst v = none) (v : Nat)
    (hv : cfg.n ≤ v) : s'.dst v = none := by
  have hw := (step_eq_some h).1
  rw [step_dst_other h hout v (by omega)]
  exact hout v hv

/-- once a worker has returned, nobody changes its destination path any more; locality of the steps is all
    this takes, no invariant of the protocol -/
theorem exec_done_untouched {cfg : Cfg} {s s' : State} {sched : List Nat}
    (hout : ∀ v, cfg.n ≤ v → s.dst v = none) (h : Exec cfg s sched s') (q : Nat)
    (hpc : (s.pc q).isDone = true) : s'.dst q = s.dst q := by
  induction h with
  | nil s => rfl
  | @cons s s₁ s₂ w l ws hstep _ ih =>
    have hne : q ≠ w := fun he => by rw [he, done_not_enabled hstep] at hpc; cases hpc
    rw [ih (outside_step hstep hout) (by rw [step_pc_other hstep hne]; exact hpc), step_dst_other hstep hout q hne]

theorem outside_init (cfg : Cfg) (v : Nat) (hv : cfg.n ≤ v) : (init cfg).dst v = none := by
  simp [init, Nat.not_lt.2 hv]

theorem outside_reachable {cfg : Cfg} {s : State} (hr : Reachable cfg s) : ∀ v, cfg.n ≤ v → s.dst v = none :=
  hr.induct (outside_init cfg) fun _ hout hs => outside_step hs hout

/-! A single `sync_file_with_delta` in isolation (`Hardlink/Update.lean`): write-through updates keep the inode classes (that temp+rename updates do not is shown by the witness
`uncoordinated_update_splits_link_group` in Props/C13). -/

theorem updateSmall_ino (d : Dst) (p c q : Nat) :
    ((updateSmall d p c) q).map File.ino = (d q).map File.ino := by
  unfold updateSmall
  exact wt_ino d p c q

theorem sameIno_iff_ino (d : Dst) (p q : Nat) :
    sameIno d p q ↔ ∃ i, (d p).map File.ino = some i ∧ (d q).map File.ino = some i := by
  constructor
  · rintro ⟨f, g, hf, hg, h⟩
    exact ⟨f.ino, by simp [hf], by simp [hg, h]⟩
  · rintro ⟨i, hp, hq⟩
    simp only [Option.map_eq_some_iff] at hp hq
    obtain ⟨f, hf, hfi⟩ := hp
    obtain ⟨g, hg, hgi⟩ := hq
    exact ⟨f, g, hf, hg, by rw [hfi, hgi]⟩

theorem updateSmall_sameIno (d : Dst) (p c q r : Nat) :
    sameIno (updateSmall d p c) q r ↔ sameIno d q r := by
  rw [sameIno_iff_ino, sameIno_iff_ino, updateSmall_ino, updateSmall_ino]

theorem updateSmall_content (d : Dst) (p c q : Nat) (h : sameIno d p q) :
    ∃ f, updateSmall d p c q = some f ∧ f.content = c := by
  obtain ⟨f, g, hf, hg, he⟩ := h
  unfold updateSmall writeThrough
  simp [hf, hg, he]

end SyModel.Hardlink
