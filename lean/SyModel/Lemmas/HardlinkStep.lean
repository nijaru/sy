/-
  Lemmas for C13 that every other module of the group rests on: what `State.apply` leaves alone, the
  shape of `step`, executions and reachability.  Nothing here looks into `next`, except that a worker
  that has returned has no step.  The last two lemmas are for `Props/C13` alone: an `Exec` from an evaluated `runMicro`
  schedule (`exec_of_runMicro`) and from an infinite stream of steps (`exec_of_stream`, for `no_infinite_execution`).
-/
import SyModel.Hardlink.Protocol
namespace SyModel.Hardlink

def Effect.entryAfter (e : Effect) (entry : Option Entry) : Option Entry :=
  match e.map with
  | none => entry
  | some m => m

def Effect.callsAfter (e : Effect) (w : Nat) (calls : Nat → Nat) : Nat → Nat :=
  if e.notify then fun v => if v = w then calls v + 1 else calls v else calls

theorem Effect.callsAfter_other (e : Effect) (calls : Nat → Nat) {w g : Nat} (h : g ≠ w) :
    e.callsAfter w calls g = calls g := by
  unfold Effect.callsAfter
  split <;> simp [h]

theorem Effect.le_callsAfter (e : Effect) (calls : Nat → Nat) (w g : Nat) :
    calls g ≤ e.callsAfter w calls g := by
  unfold Effect.callsAfter
  split
  · dsimp only
    split <;> omega
  · exact Nat.le_refl _

@[simp] theorem apply_pc_self (s : State) (w i : Nat) (e : Effect) : (s.apply w i e).pc w = e.pc := by
  simp [State.apply]

theorem apply_pc_other {s : State} {w i : Nat} {e : Effect} {v : Nat} (h : v ≠ w) :
    (s.apply w i e).pc v = s.pc v := by
  simp [State.apply, h]

theorem apply_map_self (s : State) (w i : Nat) (e : Effect) :
    (s.apply w i e).map i = e.entryAfter (s.map i) := by
  unfold State.apply Effect.entryAfter
  cases e.map <;> simp

theorem apply_map_other (s : State) (w i : Nat) (e : Effect) (j : Nat) (h : j ≠ i) :
    (s.apply w i e).map j = s.map j := by
  unfold State.apply
  cases e.map <;> simp [h]

theorem apply_calls (s : State) (w i : Nat) (e : Effect) :
    (s.apply w i e).calls = e.callsAfter w s.calls := rfl

theorem step_eq_some {cfg : Cfg} {s s' : State} {w : Nat} {l : Label}
    (h : step cfg s w = some (l, s')) :
    w < cfg.n ∧ ∃ e, next cfg w (cfg.worker w) (s.pc w) (s.map (cfg.worker w).inode) s.calls s.dst
        = some (l, e) ∧ s' = s.apply w (cfg.worker w).inode e := by
  unfold step at h
  split at h
  · rename_i hw
    split at h
    · cases h
    · rename_i l' e heq
      cases h
      exact ⟨hw, e, heq, rfl⟩
  · cases h

theorem step_of_next {cfg : Cfg} {s : State} {w : Nat} {l : Label} {e : Effect} (hw : w < cfg.n)
    (h : next cfg w (cfg.worker w) (s.pc w) (s.map (cfg.worker w).inode) s.calls s.dst = some (l, e)) :
    step cfg s w = some (l, s.apply w (cfg.worker w).inode e) := by
  simp [step, hw, h]

theorem step_none_of_next {cfg : Cfg} {s : State} {w : Nat}
    (h : next cfg w (cfg.worker w) (s.pc w) (s.map (cfg.worker w).inode) s.calls s.dst = none) :
    step cfg s w = none := by
  unfold step; split <;> simp [h]

theorem step_none_of_ge {cfg : Cfg} {s : State} {w : Nat} (h : cfg.n ≤ w) : step cfg s w = none := by
  unfold step
  rw [if_neg (by omega)]

theorem enabledSet_eq_nil {cfg : Cfg} {s : State} : enabledSet cfg s = [] ↔ ∀ w, enabled cfg s w = false := by
  unfold enabledSet
  rw [List.filter_eq_nil_iff]
  constructor
  · intro h w
    by_cases hw : w < cfg.n
    · simpa using h w (List.mem_range.2 hw)
    · unfold enabled; rw [step_none_of_ge (by omega)]; rfl
  · intro h w _; simp [h w]

theorem Pc.eq_done_of_isDone {pc : Pc} (h : pc.isDone = true) : ∃ r, pc = .done r := by
  cases pc <;> first | exact ⟨_, rfl⟩ | cases h

theorem done_not_enabled {cfg : Cfg} {s s' : State} {w : Nat} {l : Label}
    (h : step cfg s w = some (l, s')) : (s.pc w).isDone = false := by
  obtain ⟨_, e, hnext, _⟩ := step_eq_some h
  cases hp : s.pc w <;> first | rfl | (rw [hp] at hnext; cases hnext)

theorem step_pc_other {cfg : Cfg} {s s' : State} {w v : Nat} {l : Label}
    (h : step cfg s w = some (l, s')) (hv : v ≠ w) : s'.pc v = s.pc v := by
  obtain ⟨_, e, _, rfl⟩ := step_eq_some h
  exact apply_pc_other hv

theorem exec_append {cfg : Cfg} {s s' s'' : State} {a b : List Nat}
    (h1 : Exec cfg s a s') (h2 : Exec cfg s' b s'') : Exec cfg s (a ++ b) s'' := by
  induction h1 with
  | nil s => simpa using h2
  | cons hstep _ ih => exact Exec.cons hstep (ih h2)

theorem reachable_exec {cfg : Cfg} {s s' : State} {sched : List Nat}
    (hr : Reachable cfg s) (h : Exec cfg s sched s') : Reachable cfg s' := by
  obtain ⟨a, ha⟩ := hr
  exact ⟨a ++ sched, exec_append ha h⟩

theorem reachable_step {cfg : Cfg} {s s' : State} {w : Nat} {l : Label}
    (hr : Reachable cfg s) (h : step cfg s w = some (l, s')) : Reachable cfg s' :=
  reachable_exec hr (Exec.cons h (Exec.nil s'))

theorem reachable_init (cfg : Cfg) : Reachable cfg (init cfg) := ⟨[], Exec.nil _⟩

/-- The reachable states are the least set that holds `init cfg` and is closed under `step`; in the step case the
    state stepped from is known to be reachable, so what was shown of reachable states before may be used. -/
theorem Reachable.induct {cfg : Cfg} {P : State → Prop} (h0 : P (init cfg))
    (hstep : ∀ {s s' w l}, Reachable cfg s → P s → step cfg s w = some (l, s') → P s') {s : State}
    (hr : Reachable cfg s) : P s := by
  obtain ⟨sched, hex⟩ := hr
  have gen : ∀ {a b sch}, Exec cfg a sch b → Reachable cfg a → P a → P b := by
    intro a b sch h
    induction h with
    | nil _ => exact fun _ h => h
    | cons hs _ ih => exact fun hr hp => ih (reachable_step hr hs) (hstep hr hp hs)
  exact gen hex (reachable_init cfg) h0

theorem exec_of_runMicro {cfg : Cfg} : ∀ (sched : List Nat) (s : State),
    (runMicro cfg s sched).2.2 = [] → Exec cfg s sched (runMicro cfg s sched).1
  | [], s, _ => Exec.nil s
  | w :: ws, s, h => by
    unfold runMicro at h ⊢
    cases hs : step cfg s w with
    | none => simp [hs] at h
    | some p =>
      obtain ⟨l, s'⟩ := p
      simp only [hs] at h ⊢
      exact Exec.cons hs (exec_of_runMicro ws s' h)

theorem exec_of_stream {cfg : Cfg} {σ : Nat → Nat} {st : Nat → State}
    (h : ∀ i, ∃ l, step cfg (st i) (σ i) = some (l, st (i + 1))) :
    ∀ i, Exec cfg (st 0) ((List.range i).map σ) (st i)
  | 0 => Exec.nil _
  | i + 1 => by
    obtain ⟨l, hl⟩ := h i
    rw [List.range_succ, List.map_append]
    exact exec_append (exec_of_stream h i) (Exec.cons hl (Exec.nil _))

theorem exec_pc_other {cfg : Cfg} {s s' : State} {w v : Nat} {k : Nat} (h : Exec cfg s (List.replicate k w) s')
    (hv : v ≠ w) : s'.pc v = s.pc v := by
  induction k generalizing s with
  | zero => cases h; rfl
  | succ k ih =>
    rw [List.replicate_succ] at h
    cases h with
    | cons hstep hrest => rw [ih hrest, step_pc_other hstep hv]

theorem exec_done_stable {cfg : Cfg} {s s' : State} {sched : List Nat} (h : Exec cfg s sched s') (v : Nat)
    (hd : (s.pc v).isDone = true) : s'.pc v = s.pc v := by
  induction h with
  | nil s => rfl
  | @cons s s₁ s₂ u l ws hstep _ ih =>
    have h2 : s₁.pc v = s.pc v :=
      step_pc_other hstep fun he => by rw [he, done_not_enabled hstep] at hd; cases hd
    rw [ih (by rw [h2]; exact hd), h2]

end SyModel.Hardlink
