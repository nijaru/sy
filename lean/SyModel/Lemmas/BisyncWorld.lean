/-
  From one path to whole worlds: what a sync of the repaired code leaves behind.  `PostSync` (every path in sync or a
  pending conflict copy) is what a sync leaves (`SyncSpec.postSync`, `sync_postSync`) and what makes the next sync accepted,
  rename-free and synced (`postSync_not_refused`, `postSync_no_rename`, `second_sync_synced`); `SyncSpec.file_after` is
  C11's `no_silent_loss` at one path, with the position kept; `synced_sync_noop` needs no `Fresh`.
-/
import SyModel.Lemmas.BisyncView
namespace SyModel.Bisync

theorem consistent_iff_viewOK {w : World} : Consistent w ↔ ∀ p, ViewOK (w.view p) :=
  ⟨fun h p => ⟨h.1 p, fun l r rl rr h1 h2 h3 h4 m1 m2 => h.2 p l r rl rr h1 h2 (Prod.ext h3 h4) m1 m2⟩,
   fun h => ⟨fun p => (h p).1, fun p l r rl rr h1 h2 h3 m1 m2 =>
    (h p).2 l r rl rr h1 h2 (congrArg Prod.fst h3) (congrArg Prod.snd h3) m1 m2⟩⟩

/-- only a left (resp. right) file, no rows: a conflict copy waiting to be propagated. -/
def OneSided (v : View) : Prop :=
  (∃ f, v = ⟨some f, none, none, none⟩) ∨ (∃ f, v = ⟨none, some f, none, none⟩)

theorem OneSided.viewOK {v : View} (h : OneSided v) : ViewOK v := by
  rcases h with ⟨f, rfl⟩ | ⟨f, rfl⟩ <;> simp [ViewOK]

/-- every path is in sync or is a pending conflict copy. -/
def PostSync (w : World) : Prop := ∀ q, Synced (w.view q) ∨ OneSided (w.view q)

theorem SyncSpec.view_cases {cfg strat stamp} {w w' : World} (hs : SyncSpec cfg strat stamp w w') (q : Path) :
    (q ∈ w.allPaths ∧ w'.view q = stepView cfg strat stamp w.clock q (w.view q)) ∨
    (∃ p ∈ w.allPaths, w'.view q =
      ⟨if isRen (w.act cfg strat stamp p) = true then (w.view p).l else none, none, none, none⟩) ∨
    (∃ p ∈ w.allPaths, w'.view q =
      ⟨none, if isRen (w.act cfg strat stamp p) = true then (w.view p).r else none, none, none⟩) ∨
    w'.view q = View.empty := by
  by_cases hq : q ∈ w.allPaths
  · exact .inl ⟨hq, hs.own q hq⟩
  · by_cases hqn : q ∈ conflictNames w stamp
    · obtain ⟨p, hp, rfl | rfl⟩ := mem_conflictNames hqn
      · exact .inr (.inl ⟨p, hp, hs.nameS p hp⟩)
      · exact .inr (.inr (.inl ⟨p, hp, hs.nameD p hp⟩))
    · exact .inr (.inr (.inr (hs.other q hq hqn)))

theorem SyncSpec.postSync {strat : Strategy} {stamp : Nat} {w w' : World}
    (hs : SyncSpec .repaired strat stamp w w') (hc : Consistent w) (q : Path) :
    Synced (w'.view q) ∨
      (OneSided (w'.view q) ∧ ∃ p ∈ w.allPaths, isRen (w.act .repaired strat stamp p) = true) := by
  rcases hs.view_cases q with ⟨hq, e⟩ | ⟨p, hp, e⟩ | ⟨p, hp, e⟩ | e <;> rw [e]
  · exact .inl (stepView_synced _ _ _ _ _ (consistent_iff_viewOK.mp hc q))
  · by_cases hr : isRen (w.act .repaired strat stamp p) = true
    · obtain ⟨⟨f, hl⟩, -⟩ := isRen_some_files hr
      exact .inr ⟨.inl ⟨f, by simp [hr, hl]⟩, p, hp, hr⟩
    · rw [if_neg hr]
      exact .inl synced_empty
  · by_cases hr : isRen (w.act .repaired strat stamp p) = true
    · obtain ⟨-, ⟨g, hg⟩⟩ := isRen_some_files hr
      exact .inr ⟨.inr ⟨g, by simp [hr, hg]⟩, p, hp, hr⟩
    · rw [if_neg hr]
      exact .inl synced_empty
  · exact .inl synced_empty

theorem SyncSpec.synced {strat : Strategy} {stamp : Nat} {w w' : World}
    (hs : SyncSpec .repaired strat stamp w w') (hc : Consistent w)
    (hno : ∀ p ∈ w.allPaths, isRen (w.act .repaired strat stamp p) = false) (q : Path) : Synced (w'.view q) :=
  (hs.postSync hc q).elim id fun ⟨_, p, hp, hr⟩ => absurd ((hno p hp).symm.trans hr) Bool.false_ne_true

/-- C11 `no_silent_loss` with the position kept: at `p` the content survives (a copy carries a new mtime), at a
    conflict name the file itself -/
theorem SyncSpec.file_after {strat : Strategy} {stamp : Nat} {w w' : World}
    (hs : SyncSpec .repaired strat stamp w w') {p : Path} (hp : (w.view p).rl = none ↔ (w.view p).rr = none)
    {f : File} (hpf : (w.view p).l = some f ∨ (w.view p).r = some f) :
    (∃ g, ((w'.view p).l = some g ∨ (w'.view p).r = some g) ∧ g.cid = f.cid) ∨
    ((w'.view (conflictName p stamp .source)).l = some f ∨ (w'.view (conflictName p stamp .dest)).r = some f) ∨
    SupersededV (w.view p) f ∨ LoserV strat stamp p (w.view p) f := by
  have hmem : p ∈ w.allPaths := by
    rw [mem_allPaths]
    rcases hpf with h | h
    · exact .inl fun e => nomatch h.symm.trans e
    · exact .inr (.inl fun e => nomatch h.symm.trans e)
  rcases loss_cases strat stamp w.clock p (w.view p) hp f hpf with ⟨g, hg, hgc⟩ | hr | h
  · have hown := hs.own p hmem
    rw [stepView_eq] at hown
    exact .inl ⟨g, hg.imp ((congrArg View.l hown).trans ·) ((congrArg View.r hown).trans ·), hgc⟩
  · have hS := congrArg View.l (hs.nameS p hmem)
    have hD := congrArg View.r (hs.nameD p hmem)
    simp only [World.act, hr, if_true] at hS hD
    exact .inr (.inl (hpf.imp hS.trans hD.trans))
  · exact .inr (.inr h)

theorem sync_postSync (strat : Strategy) (md stamp : Nat) (w : World) (hc : Consistent w)
    (hf : Fresh w stamp) (hnr : (sync .repaired strat md stamp w).refused = false) :
    PostSync (sync .repaired strat md stamp w).world :=
  fun q => ((sync_spec .repaired rfl strat md stamp w hf hnr).1.postSync hc q).imp id And.left

theorem PostSync.paired {w : World} (h : PostSync w) (p : Path) :
    match aget p w.left, aget p w.right with
    | some l, some r => w.rows p = (some l.meta, some r.meta) ∧ l.content = r.content
    | _, _ => w.rows p = (none, none) := by
  show match (w.view p).l, (w.view p).r with
    | some l, some r => ((w.view p).rl, (w.view p).rr) = (some l.meta, some r.meta) ∧ l.content = r.content
    | _, _ => ((w.view p).rl, (w.view p).rr) = (none, none)
  rcases h p with hs | ⟨f, e⟩ | ⟨f, e⟩
  · rcases hs.cases with e | ⟨a, b, hc, e⟩ <;> rw [e]
    · rfl
    · exact ⟨rfl, hc⟩
  all_goals rw [e]

theorem PostSync.consistent {w : World} (h : PostSync w) : Consistent w :=
  consistent_iff_viewOK.mpr fun p => (h p).elim Synced.viewOK OneSided.viewOK

theorem not_exceeded_of_no_deletion (cfg : Cfg) (w : World) (md : Nat)
    (h : ∀ p ct, (w.view p).ctype cfg = some ct → ct.isDeletion = false) :
    deletionLimitExceeded (w.changes cfg) md = false := by
  have hf : (w.changes cfg).filter (·.ctype.isDeletion) = [] := by
    rw [List.filter_eq_nil_iff]
    intro c hc
    rw [changes_eq, List.mem_filterMap] at hc
    obtain ⟨p, _, hc⟩ := hc
    cases hct : (w.view p).ctype cfg with
    | none => simp [hct] at hc
    | some ct =>
      simp only [hct, Option.map_some, Option.some.injEq] at hc
      subst hc
      simp [h p ct hct]
  simp [deletionLimitExceeded, hf]

theorem oneSided_ctype {v : View} (h : OneSided v) :
    v.ctype .repaired = some .newInSource ∨ v.ctype .repaired = some .newInDest := by
  rcases h with ⟨f, rfl⟩ | ⟨f, rfl⟩
  · left; simp [View.ctype, classifySingle]
  · right; simp [View.ctype, classifySingle]

theorem postSync_not_refused {w : World} (h : PostSync w) (strat : Strategy) (md stamp : Nat) :
    (sync .repaired strat md stamp w).refused = false := by
  rw [sync_refused_eq]
  apply not_exceeded_of_no_deletion
  intro p ct hct
  rcases h p with hs | ho
  · rw [synced_ctype hs] at hct; cases hct
  · rcases oneSided_ctype ho with e | e <;> rw [e] at hct <;> cases hct <;> rfl

theorem synced_sync_noop {w : World} (hsync : ∀ p, Synced (w.view p)) (strat : Strategy) (md stamp : Nat) :
    let r := sync .repaired strat md stamp w
    r.actions = [] ∧ r.refused = false ∧ r.errors = [] ∧ r.world.left = w.left ∧ r.world.right = w.right ∧
      ∀ p, r.world.rows p = w.rows p := by
  intro r
  have hps : PostSync w := fun p => Or.inl (hsync p)
  have hnr := postSync_not_refused hps strat md stamp
  -- no `Fresh` is assumed, so `sync_spec` (and with it `synced_stepView`) is out of reach: with no action chosen the
  -- run is read off `sync` itself
  have hacts : resolveChanges strat stamp (w.changes .repaired) = [] := by
    rw [actions_eq, List.filterMap_eq_nil_iff]
    intro p _
    exact synced_action (hsync p) strat stamp p
  have hsync' := sync_of_accepted hnr
  rw [hacts] at hsync'
  have hw : (sync .repaired strat md stamp w).world =
      { left := w.left, right := w.right,
        db := updateStateRepaired w.left w.right [] w.db w.allPaths, clock := w.clock + 1 } :=
    congrArg SyncResult.world hsync'
  refine ⟨congrArg SyncResult.actions hsync', hnr, congrArg SyncResult.errors hsync', by rw [hw], by rw [hw], ?_⟩
  intro p
  rw [hw]
  show (aget (p, Side.source) _, aget (p, Side.dest) _) = ((w.view p).rl, (w.view p).rr)
  rw [updRepaired_get, updRepaired_get]
  split
  · exact congrArg (fun v : View => (v.rl, v.rr)) (hsync p).rowsOf_eq
  · rfl

theorem postSync_no_rename {w : World} (h : PostSync w) (strat : Strategy) (stamp : Nat) (p : Path) :
    isRen (w.act .repaired strat stamp p) = false := by
  unfold World.act
  rcases h p with hs | ho
  · rw [synced_action hs]; rfl
  · rcases ho with ⟨f, e⟩ | ⟨f, e⟩ <;> rw [e] <;>
      simp [View.action, View.ctype, classifySingle, resolveOne, isRen, Action.isRename]

/-- the pending conflict copies go across -/
theorem second_sync_synced {w : World} (h : PostSync w) (strat : Strategy) (md stamp : Nat)
    (hf : Fresh w stamp) :
    ∀ q, Synced ((sync .repaired strat md stamp w).world.view q) :=
  (sync_spec .repaired rfl strat md stamp w hf (postSync_not_refused h strat md stamp)).1.synced h.consistent
    fun p _ => postSync_no_rename h strat stamp p

end SyModel.Bisync
