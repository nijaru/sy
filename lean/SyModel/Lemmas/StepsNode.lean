/-
  SyModel.Lemmas.StepsNode — what a step list does to the node at ONE path: node-level runs (`nodeRun`),
  segments of a list with an invariant on every prefix (`Seg`), and the phases an in-place file write goes
  through (`Writer`): the same analysis yields the crash states and the final node of every copy route.  At the end:
  a list of single-path steps at one path (`AtP`) changes the world at that path only (`applyAll_atP`).
-/
import SyModel.Lemmas.Steps
import SyModel.Lemmas.EnginePath
namespace SyModel.Engine

theorem mem_mkdirChain {p : Path} {s : Step} (h : s ∈ mkdirChain p) : ∃ q ∈ ancestors p, s = .mkdir q := by
  obtain ⟨q, hq, rfl⟩ := List.mem_map.mp h
  exact ⟨q, hq, rfl⟩

/-- a single-path, non-`mkdir` step at `p` -/
def At (p : Path) (s : Step) : Prop := s.single = true ∧ s.path = p ∧ s.isMkdir = false

theorem At.touches {p : Path} {s : Step} (h : At p s) {x : Path} (hx : s.touches x = true) : x = p := by
  rw [touches_single s h.1] at hx
  rw [← h.2.1]; simpa using hx

/-- the node at `p` under a list of single-path steps -/
def nodeRun (p : Path) (l : List Step) (n : Option SNode) : Option SNode :=
  l.foldl (fun n s => if s.path = p then s.nodeFn n else n) n

@[simp] theorem nodeRun_nil (p : Path) (n : Option SNode) : nodeRun p [] n = n := rfl
@[simp] theorem nodeRun_cons (p : Path) (s : Step) (l : List Step) (n : Option SNode) :
    nodeRun p (s :: l) n = nodeRun p l (if s.path = p then s.nodeFn n else n) := rfl
theorem nodeRun_append (p : Path) (a b : List Step) (n : Option SNode) :
    nodeRun p (a ++ b) n = nodeRun p b (nodeRun p a n) := List.foldl_append ..

theorem applyAll_single (l : List Step) (hl : ∀ s ∈ l, s.single = true) (w : SWorld) (p : Path) :
    applyAll l w p = nodeRun p l (w p) := by
  induction l generalizing w with
  | nil => rfl
  | cons s l ih =>
    rw [applyAll_cons, nodeRun_cons, ih (fun t ht => hl t (by simp [ht])),
      apply_single s (hl s (by simp)), upd_apply]
    by_cases h : s.path = p
    · rw [if_pos h, if_pos h.symm, h]
    · rw [if_neg h, if_neg (Ne.symm h)]

theorem nodeRun_skip (p : Path) (A : List Step) (hA : ∀ s ∈ A, s.path ≠ p) (i : Option SNode) :
    nodeRun p A i = i := by
  induction A with
  | nil => rfl
  | cons s A ih =>
    rw [nodeRun_cons, if_neg (hA s (by simp))]
    exact ih fun t ht => hA t (by simp [ht])

/-- a directory at the path makes every step of the list fail -/
theorem nodeRun_dir (p : Path) (A : List Step) : nodeRun p A (some .dir) = some .dir := by
  induction A with
  | nil => rfl
  | cons s A ih =>
    rw [nodeRun_cons, nodeFn_dir, ite_self]
    exact ih

/-- a segment of a step list: from any node satisfying `Pin`, every prefix yields a `Good` node and
    the whole segment yields a node satisfying `Pout` -/
def Seg (p : Path) (Good : Option SNode → Prop) (A : List Step) (Pin Pout : Option SNode → Prop) : Prop :=
  ∀ i, Pin i → (∀ n, Good (nodeRun p (A.take n) i)) ∧ Pout (nodeRun p A i)

theorem seg_append {p : Path} {Good : Option SNode → Prop} {A B : List Step}
    {P Q R : Option SNode → Prop} (hA : Seg p Good A P Q) (hB : Seg p Good B Q R) :
    Seg p Good (A ++ B) P R := by
  intro i hi
  obtain ⟨hA1, hA2⟩ := hA i hi
  obtain ⟨hB1, hB2⟩ := hB _ hA2
  refine ⟨fun n => ?_, by rw [nodeRun_append]; exact hB2⟩
  rw [List.take_append, nodeRun_append]
  by_cases hn : n ≤ A.length
  · rw [Nat.sub_eq_zero_of_le hn, List.take_zero, nodeRun_nil]
    exact hA1 n
  · rw [List.take_of_length_le (show A.length ≤ n by omega)]
    exact hB1 _

theorem seg_nil {p : Path} {Good P Q : Option SNode → Prop} (h : ∀ i, P i → Good i) (hPQ : ∀ i, P i → Q i) :
    Seg p Good [] P Q := fun i hi => ⟨fun n => by rw [List.take_nil]; exact h i hi, hPQ i hi⟩

theorem seg_step {p : Path} {Good P Q : Option SNode → Prop} (s : Step) (hp : s.path = p)
    (hP : ∀ i, P i → Good i) (hQ : ∀ i, Q i → Good i) (hPQ : ∀ i, P i → Q (s.nodeFn i)) :
    Seg p Good [s] P Q := by
  intro i hi
  have hq : Q (nodeRun p [s] i) := by simpa [hp] using hPQ i hi
  refine ⟨fun n => ?_, hq⟩
  cases n with
  | zero => exact hP i hi
  | succ n =>
    rw [List.take_succ_cons, List.take_nil]
    exact hQ _ hq

theorem seg_skip {p : Path} {Good P : Option SNode → Prop} (A : List Step)
    (hA : ∀ s ∈ A, s.path ≠ p) (h : ∀ i, P i → Good i) : Seg p Good A P P := by
  intro i hi
  refine ⟨fun n => ?_, by rw [nodeRun_skip p A hA]; exact hi⟩
  rw [nodeRun_skip p _ fun s hs => hA s (List.mem_of_mem_take hs)]
  exact h i hi

theorem mkdirChain_path_ne {p : Path} : ∀ s ∈ mkdirChain p, s.path ≠ p := by
  intro s hs
  obtain ⟨q, hq, rfl⟩ := mem_mkdirChain hs
  exact ancestors_ne hq

theorem seg_mkdirChain {p : Path} {Good P : Option SNode → Prop} (h : ∀ i, P i → Good i) :
    Seg p Good (mkdirChain p) P P :=
  seg_skip _ mkdirChain_path_ne h

theorem seg_pre {p : Path} {Good P P' Q : Option SNode → Prop} {A : List Step}
    (h : Seg p Good A P Q) (hP : ∀ i, P' i → P i) : Seg p Good A P' Q := fun i hi => h i (hP i hi)

theorem seg_if {p : Path} {Good P : Option SNode → Prop} {A : List Step} (b : Bool) (h : Seg p Good A P P)
    (hP : ∀ i, P i → Good i) : Seg p Good (if b then A else []) P P := by
  cases b
  · exact seg_nil hP fun _ => id
  · exact h

theorem uptos_le (ch : Nat) {sz u : Nat} (h : u ∈ uptos ch sz) : u ≤ sz := by
  unfold uptos at h
  rcases List.mem_append.mp h with h | h
  · obtain ⟨i, hi, rfl⟩ := List.mem_map.mp h
    rw [List.mem_range] at hi
    calc (i + 1) * ch ≤ (sz / ch) * ch := Nat.mul_le_mul_right _ hi
      _ ≤ sz := Nat.div_mul_le_self sz ch
  · split at h
    · simp at h
    · simp at h; omega

theorem uptos_zero (ch : Nat) : uptos ch 0 = [] := by simp [uptos]

theorem uptos_last (ch : Nat) {sz : Nat} (h : 0 < sz) : ∃ init, uptos ch sz = init ++ [sz] := by
  unfold uptos
  by_cases hm : sz % ch = 0
  · have hd := Nat.div_add_mod sz ch
    rw [hm, Nat.add_zero] at hd
    obtain ⟨k, hk⟩ : ∃ k, sz / ch = k + 1 := by
      cases hq : sz / ch with
      | zero => rw [hq, Nat.mul_zero] at hd; omega
      | succ k => exact ⟨k, rfl⟩
    refine ⟨(List.range k).map fun i => (i + 1) * ch, ?_⟩
    rw [if_pos hm, List.append_nil, hk, List.range_succ, List.map_append, List.map_singleton, ← hk,
      Nat.mul_comm, hd]
  · exact ⟨_, by rw [if_neg hm]⟩

/-- `hzero`: for an empty file there is no write -/
theorem seg_uptos {p : Path} {Good Q Q' : Option SNode → Prop} (f : Nat → Step) (ch sz : Nat)
    (hmid : ∀ u, u ≤ sz → Seg p Good [f u] Q Q) (hlast : Seg p Good [f sz] Q Q')
    (hG : ∀ i, Q i → Good i) (hzero : sz = 0 → ∀ i, Q i → Q' i) :
    Seg p Good ((uptos ch sz).map f) Q Q' := by
  have hlist : ∀ us : List Nat, (∀ u ∈ us, u ≤ sz) → Seg p Good (us.map f) Q Q := by
    intro us hus
    induction us with
    | nil => exact seg_nil hG fun _ => id
    | cons u us ih =>
      exact seg_append (A := [_]) (hmid u (hus u (by simp))) (ih fun v hv => hus v (by simp [hv]))
  rcases Nat.eq_zero_or_pos sz with h0 | h0
  · rw [h0, uptos_zero]
    exact seg_nil hG (hzero h0)
  · obtain ⟨ini, hini⟩ := uptos_last ch h0
    rw [hini, List.map_append]
    exact seg_append (hlist ini fun u hu => uptos_le ch (by rw [hini]; simp [hu])) hlast

/-- a node predicate relative to the node `init` found at the path: a directory stays a directory (every call of
    the write fails with EISDIR), anything else is in `Q` -/
def DirOr (init : Option SNode) (Q : Option SNode → Prop) (i : Option SNode) : Prop :=
  (init = some .dir ∧ i = some .dir) ∨ (init ≠ some .dir ∧ Q i)

theorem DirOr.mono {init : Option SNode} {Q Q' : Option SNode → Prop} (h : ∀ i, Q i → Q' i) (i : Option SNode) :
    DirOr init Q i → DirOr init Q' i
  | .inl hd => .inl hd
  | .inr ⟨hn, hq⟩ => .inr ⟨hn, h i hq⟩

theorem DirOr.self {init : Option SNode} {Q : Option SNode → Prop} (h : Q init) : DirOr init Q init := by
  by_cases hd : init = some .dir
  · exact .inl ⟨hd, hd⟩
  · exact .inr ⟨hd, h⟩

/-- one step of a write: its effect on a non-directory is what has to be shown -/
theorem seg_dirOr {p : Path} {init : Option SNode} {G Q Q' : Option SNode → Prop} (s : Step) (hp : s.path = p)
    (hG : ∀ i, Q i → G i) (hG' : ∀ i, Q' i → G i) (h : init ≠ some .dir → ∀ i, Q i → Q' (s.nodeFn i)) :
    Seg p (DirOr init G) [s] (DirOr init Q) (DirOr init Q') := by
  refine seg_step s hp (DirOr.mono hG) (DirOr.mono hG') fun i hi => ?_
  rcases hi with ⟨hd, rfl⟩ | ⟨hn, hq⟩
  · exact .inl ⟨hd, nodeFn_dir s⟩
  · exact .inr ⟨hn, h hn i hq⟩

def fileNode (m : FileMeta) : SNode := .file m.content m.size m.mtime

/-- the nodes a file write (source meta `m`, clock `now`) can leave at its destination path when it is
    interrupted, `init` being the node before its first step and not a directory: `init` itself, nothing, a torn
    file, a holey file (`hol`: the write goes through the `set_len`-first sparse copier), the finished file -/
def FileNodes (hol : Prop) (m : FileMeta) (now : Nat) (init i : Option SNode) : Prop :=
  i = init ∨ i = none ∨ (∃ l, l ≤ m.size ∧ i = some (.file m.content l now)) ∨
    (hol ∧ ∃ d, d ≤ m.size ∧ 0 < m.size ∧ i = some (.holey m.content m.size d now)) ∨
    i = some (fileNode m)

/-- what an interrupted file write leaves at its path: a directory found there stays, anything else becomes one
    of the `FileNodes` -/
abbrev FileCrashNode (hol : Prop) (m : FileMeta) (now : Nat) (init : Option SNode) : Option SNode → Prop :=
  DirOr init (FileNodes hol m now init)

/-- before the file is opened: the node found, or nothing once it was unlinked -/
def Old (init i : Option SNode) : Prop := i = init ∨ i = none

/-- the new content up to `l` bytes, stamped `now` -/
def Torn (m : FileMeta) (now : Nat) (i : Option SNode) : Prop :=
  ∃ l, l ≤ m.size ∧ i = some (.file m.content l now)

/-- after `set_len(size)`: the final size with `d` bytes of data, or the complete data -/
def Holey (m : FileMeta) (now : Nat) (i : Option SNode) : Prop :=
  (0 < m.size ∧ ∃ d, d ≤ m.size ∧ i = some (.holey m.content m.size d now)) ∨
    i = some (.file m.content m.size now)

section phases
variable {hol : Prop} {m : FileMeta} {now : Nat} {init : Option SNode} {p : Path}

theorem old_good (i : Option SNode) (h : Old init i) : FileNodes hol m now init i :=
  h.elim .inl fun h => .inr (.inl h)

theorem torn_good (i : Option SNode) (h : Torn m now i) : FileNodes hol m now init i :=
  .inr (.inr (.inl h))

theorem file_good {l : Nat} (hl : l ≤ m.size) (i : Option SNode) (h : i = some (.file m.content l now)) :
    FileNodes hol m now init i :=
  torn_good i ⟨l, hl, h⟩

theorem holey_good (hh : hol) (i : Option SNode) (h : Holey m now i) : FileNodes hol m now init i := by
  rcases h with ⟨h0, d, hd, h⟩ | h
  · exact .inr (.inr (.inr (.inl ⟨hh, d, hd, h0, h⟩)))
  · exact file_good (Nat.le_refl _) i h

theorem final_good (i : Option SNode) (h : i = some (fileNode m)) : FileNodes hol m now init i :=
  .inr (.inr (.inr (.inr h)))

theorem seg_unlinkIfSymlink :
    Seg p (FileCrashNode hol m now init) [Step.unlinkIfSymlink p] (DirOr init (Old init)) (DirOr init (Old init)) := by
  refine seg_dirOr _ rfl old_good old_good fun _ i hi => ?_
  rcases hi with rfl | rfl
  · cases i with
    | none => exact .inl rfl
    | some v => cases v <;> first | exact .inl rfl | exact .inr rfl
  · exact .inr rfl

theorem seg_unlink :
    Seg p (FileCrashNode hol m now init) [Step.unlink p] (DirOr init (Old init)) (DirOr init (Old init)) := by
  refine seg_dirOr _ rfl old_good old_good fun hn i hi => .inr ?_
  rw [nodeFn_unlink, if_neg]
  rcases hi with rfl | rfl
  · exact hn
  · simp

theorem seg_openTrunc :
    Seg p (FileCrashNode hol m now init) [Step.openTrunc p m.content now] (DirOr init (Old init))
      (DirOr init (· = some (.file m.content 0 now))) := by
  refine seg_dirOr _ rfl old_good (file_good (Nat.zero_le _)) fun hn i hi => ?_
  rw [nodeFn_openTrunc, if_neg]
  rcases hi with rfl | rfl
  · exact hn
  · simp

theorem seg_growSteps (ch : Nat) :
    Seg p (FileCrashNode hol m now init) (growSteps p m.content ch m.size)
      (DirOr init (· = some (.file m.content 0 now))) (DirOr init (· = some (.file m.content m.size now))) := by
  have hgrow : ∀ u (Q' : Option SNode → Prop), (∀ i, Q' i → FileNodes hol m now init i) →
      Q' (some (.file m.content u now)) →
      Seg p (FileCrashNode hol m now init) [Step.grow p m.content u] (DirOr init (Torn m now)) (DirOr init Q') := by
    intro u Q' hQ' hu
    refine seg_dirOr _ rfl torn_good hQ' fun _ i hi => ?_
    obtain ⟨l, _, rfl⟩ := hi
    exact hu
  refine seg_pre (seg_uptos _ ch m.size (fun u hu => hgrow u _ torn_good ⟨u, hu, rfl⟩)
    (hgrow _ _ (file_good (Nat.le_refl _)) rfl) (DirOr.mono torn_good) fun h0 => DirOr.mono fun i hi => ?_)
    (DirOr.mono fun i hi => ⟨0, Nat.zero_le _, hi⟩)
  obtain ⟨l, hl, rfl⟩ := hi
  rw [h0] at hl ⊢
  rw [Nat.le_zero.mp hl]

theorem seg_utimens :
    Seg p (FileCrashNode hol m now init) [Step.utimens p m.mtime] (DirOr init (· = some (.file m.content m.size now)))
      (DirOr init (· = some (fileNode m))) := by
  refine seg_dirOr _ rfl (file_good (Nat.le_refl _)) final_good fun _ i hi => ?_
  rw [hi]
  rfl

theorem seg_setLen (hh : hol) :
    Seg p (FileCrashNode hol m now init) [Step.setLen p m.content m.size]
      (DirOr init (· = some (.file m.content 0 now))) (DirOr init (Holey m now)) := by
  refine seg_dirOr _ rfl (file_good (Nat.zero_le _)) (holey_good hh) fun _ i hi => ?_
  rw [hi]
  show Holey m now (if m.size = 0 then _ else _)
  split
  · rename_i h0
    exact .inr (by rw [h0])
  · rename_i h0
    exact .inl ⟨Nat.pos_of_ne_zero h0, 0, Nat.zero_le _, rfl⟩

theorem seg_fillSteps (hh : hol) (ch : Nat) :
    Seg p (FileCrashNode hol m now init) (fillSteps p m.content ch m.size) (DirOr init (Holey m now))
      (DirOr init (· = some (.file m.content m.size now))) := by
  have hfill : ∀ u, u ≤ m.size → ∀ i, Holey m now i → (Step.fill p m.content u).nodeFn i =
      some (.file m.content m.size now) ∨ (¬ m.size ≤ u ∧ Holey m now ((Step.fill p m.content u).nodeFn i)) := by
    intro u hu i hi
    rcases hi with ⟨h0, d, hd, rfl⟩ | rfl
    · show (if m.size ≤ u then _ else _) = _ ∨ _ ∧ Holey m now (if m.size ≤ u then _ else _)
      split
      · exact .inl rfl
      · rename_i hlt
        exact .inr ⟨hlt, .inl ⟨h0, u, hu, rfl⟩⟩
    · exact .inl rfl
  refine seg_uptos _ ch m.size (fun u hu => seg_dirOr _ rfl (holey_good hh) (holey_good hh) fun _ i hi => ?_)
    (seg_dirOr _ rfl (holey_good hh) (file_good (Nat.le_refl _)) fun _ i hi => ?_) (DirOr.mono (holey_good hh))
    fun h0 => DirOr.mono fun i hi => ?_
  · exact (hfill u hu i hi).elim .inr (·.2)
  · exact (hfill _ (Nat.le_refl _) i hi).elim id fun h => absurd (Nat.le_refl _) h.1
  · exact hi.elim (fun h => absurd h.1 (by omega)) id

end phases

def Step.isCreateTemp : Step → Bool
  | .createTemp .. => true
  | _ => false

/-- `T` writes the file `m` in place at `p`: its steps are single-path steps at `p`, none of them creates a working
    file, and whatever node `init` it finds, every prefix of `T` leaves a `FileCrashNode` and the whole of `T` the
    finished file — or the directory that was there -/
structure Writer (hol : Prop) (p : Path) (m : FileMeta) (now : Nat) (T : List Step) : Prop where
  steps : ∀ s ∈ T, At p s ∧ s.isCreateTemp = false
  seg : ∀ init, Seg p (FileCrashNode hol m now init) T (DirOr init (Old init)) (DirOr init (· = some (fileNode m)))

section writer
variable {hol : Prop} {p : Path} {m : FileMeta} {now : Nat} {T : List Step}

theorem Writer.cons (h : Writer hol p m now T) (s : Step) (hs : At p s ∧ s.isCreateTemp = false)
    (hseg : ∀ init, Seg p (FileCrashNode hol m now init) [s] (DirOr init (Old init)) (DirOr init (Old init))) :
    Writer hol p m now (s :: T) where
  steps := fun t ht => (List.mem_cons.mp ht).elim (fun e => e ▸ hs) (h.steps t)
  seg := fun init => seg_append (A := [s]) (hseg init) (h.seg init)

theorem Writer.unlinkIfSymlink (h : Writer hol p m now T) : Writer hol p m now (Step.unlinkIfSymlink p :: T) :=
  h.cons _ ⟨⟨rfl, rfl, rfl⟩, rfl⟩ fun _ => seg_unlinkIfSymlink

theorem Writer.unlink (h : Writer hol p m now T) : Writer hol p m now (Step.unlink p :: T) :=
  h.cons _ ⟨⟨rfl, rfl, rfl⟩, rfl⟩ fun _ => seg_unlink

/-- `break_unshared_hard_link` -/
theorem Writer.breakLink (h : Writer hol p m now T) (b : Bool) :
    Writer hol p m now ((if b then [Step.unlink p] else []) ++ T) := by
  cases b
  · exact h
  · exact h.unlink

theorem writer_writeSteps (ch : Nat) : Writer hol p m now (writeSteps p m ch now) where
  steps := by
    intro s hs
    simp only [writeSteps, growSteps, List.mem_append, List.mem_cons, List.mem_map, List.not_mem_nil,
      or_false] at hs
    rcases hs with (rfl | ⟨u, _, rfl⟩) | rfl <;> exact ⟨⟨rfl, rfl, rfl⟩, rfl⟩
  seg := fun init => seg_append (seg_append seg_openTrunc (seg_growSteps ch)) seg_utimens

theorem writer_sparseSeekSteps (ch : Nat) : Writer hol p m now (sparseSeekSteps p m ch now) :=
  (writer_writeSteps ch).unlink

theorem writer_sparseBlocksSteps (hh : hol) (ch : Nat) : Writer hol p m now (sparseBlocksSteps p m ch now) where
  steps := by
    intro s hs
    simp only [sparseBlocksSteps, fillSteps, List.mem_append, List.mem_cons, List.mem_map, List.not_mem_nil,
      or_false] at hs
    rcases hs with ((rfl | rfl | rfl) | ⟨u, _, rfl⟩) | rfl <;> exact ⟨⟨rfl, rfl, rfl⟩, rfl⟩
  seg := fun init => seg_append (seg_append (A := [_, _, _])
    (seg_append (A := [_]) seg_unlink (seg_append (A := [_]) seg_openTrunc (seg_setLen hh)))
    (seg_fillSteps hh ch)) seg_utimens

/-- the part of `fullCopySteps` after `create_dir_all(parent)` -/
def fullTail (p : Path) (m : FileMeta) (ch : Nat) (h : Hint) : List Step :=
  Step.unlinkIfSymlink p :: ((if h.breakLink then [Step.unlink p] else []) ++ writeSteps p m ch h.now)

theorem fullCopySteps_eq (p : Path) (m : FileMeta) (ch : Nat) (h : Hint) :
    fullCopySteps p m ch h = mkdirChain p ++ fullTail p m ch h := by
  simp [fullCopySteps, fullTail, List.append_assoc]

theorem writer_fullTail (ch : Nat) (h : Hint) : Writer hol p m h.now (fullTail p m ch h) :=
  ((writer_writeSteps ch).breakLink _).unlinkIfSymlink

theorem Writer.final (h : Writer hol p m now T) (init : Option SNode) :
    nodeRun p T init = if init = some .dir then some .dir else some (fileNode m) := by
  rcases ((h.seg init) init (DirOr.self (.inl rfl))).2 with ⟨hd, hi⟩ | ⟨hn, hi⟩
  · rw [hi, if_pos hd]
  · rw [hi, if_neg hn]

end writer

/-- every step of `A` is a single-path step at `p` -/
def AtP (p : Path) (A : List Step) : Prop := ∀ s ∈ A, s.single = true ∧ s.path = p

theorem atP_nil (p : Path) : AtP p [] := fun _ hs => nomatch hs

theorem atP_cons {p : Path} {s : Step} {A : List Step} (h1 : s.single = true) (h2 : s.path = p)
    (h : AtP p A) : AtP p (s :: A) := by
  intro t ht
  rcases List.mem_cons.mp ht with rfl | ht
  · exact ⟨h1, h2⟩
  · exact h t ht

theorem atP_append {p : Path} {A B : List Step} (hA : AtP p A) (hB : AtP p B) : AtP p (A ++ B) := by
  intro t ht
  rcases List.mem_append.mp ht with h | h
  · exact hA t h
  · exact hB t h

theorem applyAll_atP {p : Path} {A : List Step} (h : AtP p A) (w : SWorld) :
    applyAll A w = upd w p (nodeRun p A (w p)) := by
  funext x
  rw [upd_apply]
  split
  · rename_i hx
    rw [hx, applyAll_single A (fun s hs => (h s hs).1)]
  · rename_i hx
    refine applyAll_frame A w x fun s hs => ?_
    rw [touches_single s (h s hs).1, (h s hs).2]
    exact beq_false_of_ne hx

theorem Writer.atP {hol : Prop} {p : Path} {m : FileMeta} {now : Nat} {T : List Step} (hT : Writer hol p m now T) :
    AtP p T := fun s hs => ⟨(hT.steps s hs).1.1, (hT.steps s hs).1.2.1⟩

end SyModel.Engine
