/-
  The planner's decision for a regular file (`planFileAct`) spelled out: when it skips (`UpToDate`, mode by mode),
  when it creates, that it never deletes, its two forms by comparison mode, and what it reads of the source's
  metadata.  On the model alone, so that the translated planner's bridge (GenPlannerFx) need not wait for the executor
  lemmas.
-/
import SyModel.Engine.Model
namespace SyModel.Engine

/-- "up to date" per comparison mode, as the property text states it -/
def UpToDate (c : Compare) (m d : FileMeta) : Prop :=
  match c with
  | .default => m.size = d.size ∧ absDiff m.mtime d.mtime < 2000000000
  | .checksum => m.content = d.content
  | .ignoreTimes => False
  | .sizeOnly => m.size = d.size

/-- whole-second truncation with tolerance 1 is the open 2 s window -/
theorem mtime_window (a b : Nat) : absDiff a b / 1000000000 ≤ 1 ↔ absDiff a b < 2000000000 := by
  omega

theorem planFileAct_skip_iff (cfg : Cfg) (m : FileMeta) (o : Option DNode) :
    planFileAct cfg m o = .skip ↔ ∃ d, o = some (.file d) ∧ UpToDate cfg.compare m d := by
  unfold planFileAct UpToDate
  cases o with
  | none => simp
  | some v =>
    cases v with
    | dir => simp
    | symlink s => simp
    | file d =>
      -- mode by mode: `needsUpdate` answers no exactly when the clause of `UpToDate` holds (`!=`, `||`, `!` are its
      -- Boolean spelling)
      cases hc : cfg.compare <;> simp [needsUpdate, mtimeMatches, mtime_window]

theorem planFileAct_create_iff (cfg : Cfg) (m : FileMeta) (o : Option DNode) :
    planFileAct cfg m o = .create ↔ o = none := by
  unfold planFileAct
  cases o with
  | none => simp
  | some v =>
    cases v with
    | dir => simp
    | symlink s => simp
    | file d =>
      simp only [reduceCtorEq, iff_false]
      split
      · split <;> simp
      · split <;> simp

theorem planFileAct_ne_delete (cfg : Cfg) (m : FileMeta) (o : Option DNode) : planFileAct cfg m o ≠ .delete := by
  unfold planFileAct
  split
  · simp
  · simp
  · simp
  · split
    · split <;> simp
    · split <;> simp

theorem planFileAct_file_nonck (cfg : Cfg) (m d : FileMeta) (h : cfg.compare ≠ .checksum) :
    planFileAct cfg m (some (.file d)) =
      if needsUpdate cfg.compare m.size m.mtime d.size d.mtime then .update else .skip := by
  unfold planFileAct
  cases hc : cfg.compare <;> simp_all

theorem planFileAct_file_ck (cfg : Cfg) (m d : FileMeta) (h : cfg.compare = .checksum) :
    planFileAct cfg m (some (.file d)) = if m.content = d.content then .skip else .update := by
  unfold planFileAct
  simp [h]

theorem planFileAct_file_cases (cfg : Cfg) (m d : FileMeta) :
    planFileAct cfg m (some (.file d)) = .skip ∨ planFileAct cfg m (some (.file d)) = .update := by
  unfold planFileAct
  simp only
  split
  · split <;> simp
  · split <;> simp

theorem planFileAct_update_some {cfg : Cfg} {m : FileMeta} {o : Option DNode}
    (h : planFileAct cfg m o = .update) : o ≠ none := by
  intro ho; subst ho; simp [planFileAct] at h

theorem planFileAct_sim (cfg : Cfg) (m m' : FileMeta) (o : Option DNode) (hc : m.content = m'.content)
    (hs : m.size = m'.size) (ht : m.mtime = m'.mtime) : planFileAct cfg m o = planFileAct cfg m' o := by
  unfold planFileAct
  rcases o with _ | (d | _ | s) <;> simp only []
  cases cfg.compare <;> simp [hc, hs, ht]

theorem absDiff_self (a : Nat) : absDiff a a = 0 := by simp [absDiff]

end SyModel.Engine
