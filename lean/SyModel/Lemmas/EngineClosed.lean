/-
  Parent-closedness of the destination (`every strict ancestor of an existing path is a
  directory`) is an invariant of fault-free task execution; consequences for delete-only folds
  (order independence) and for re-running on an up-to-date destination.  The second half (from `### re-running …`) is
  the re-run argument: `Still` is the invariant of a fault-free run over a settled destination (`still_step`: one task keeps
  it), `run_settled` the run-level statement, `rerun_content_unchanged` (for `C03_ignore_times`) its instance at the result
  of a clean run, `iterRun_stable` the k-fold form.
-/
import SyModel.Lemmas.EngineFixpoint
namespace SyModel.Engine

/-- `DstParentClosed` in terms of `get?` -/
def GClosed (d : Map DNode) : Prop :=
  ∀ p, d.get? p ≠ none → ∀ a, a ≠ [] → isPrefix a p = true → a ≠ p → d.get? a = some .dir

theorem gclosed_iff (d : Map DNode) : GClosed d ↔ DstParentClosed d := by
  constructor
  · intro h p hp a ha
    obtain ⟨h1, h2, h3⟩ := mem_ancestors.1 ha
    exact h p ((Map.mem_keys_iff d p).1 hp) a h1 h2 h3
  · intro h p hp a h1 h2 h3
    exact h.anc hp h1 h2 h3

theorem GClosed.congr {d d' : Map DNode} (h : GClosed d) (he : ∀ p, d'.get? p = d.get? p) : GClosed d' := by
  intro p hp a h1 h2 h3
  rw [he] at hp ⊢
  exact h p hp a h1 h2 h3

theorem mkdirAll_closed {d0 d : Map DNode} {r : Path} (h : mkdirAll d0 r = some d) (hc : GClosed d0) :
    GClosed d := by
  intro p hp a h1 h2 h3
  rcases mkdirAll_frame h p with hs | ⟨_, hpr, _, _⟩
  · rw [hs] at hp
    have := hc p hp a h1 h2 h3
    rcases mkdirAll_frame h a with ha | ⟨_, _, hn, _⟩
    · rw [ha]; exact this
    · rw [this] at hn; cases hn
  · exact mkdirAll_dirs h a h1 (isPrefix_trans h2 hpr)

theorem set_mkdir_closed {d0 d : Map DNode} {r : Path} {v : DNode}
    (h : mkdirAll d0 (parentOf r) = some d) (hc : GClosed d0) (hnd : d.get? r ≠ some .dir) :
    GClosed (d.set r v) := by
  have hcd := mkdirAll_closed h hc
  intro p hp a h1 h2 h3
  by_cases hpr : p = r
  · subst hpr; exact set_mkdir_anc v h a h1 h2 h3
  · rw [Map.get?_set_ne _ _ _ _ (Ne.symm hpr)] at hp
    have := hcd p hp a h1 h2 h3
    by_cases har : a = r
    · subst har; exact absurd this hnd
    · rw [Map.get?_set_ne _ _ _ _ (Ne.symm har)]; exact this

/-- unlinking a symlink keeps the destination parent-closed: nothing lives below a link -/
theorem dirBase_closed (act : Act) {d : Map DNode} (r : Path) (hc : GClosed d) : GClosed (dirBase act d r) := by
  intro p hp a h1 h2 h3
  by_cases hpr : p = r
  · subst hpr
    rw [dirBase_get?_ne _ _ _ _ h3]
    rcases dirBase_get?_self act d p with he | ⟨_, _, hn⟩
    · rw [he] at hp; exact hc p hp a h1 h2 h3
    · exact absurd hn hp
  · rw [dirBase_get?_ne _ _ _ _ hpr] at hp
    have hda := hc p hp a h1 h2 h3
    by_cases har : a = r
    · subst har
      rcases dirBase_get?_self act d a with he | ⟨_, ⟨s, hs⟩, _⟩
      · rw [he]; exact hda
      · rw [hda] at hs; cases hs
    · rw [dirBase_get?_ne _ _ _ _ har]; exact hda

theorem perform_closed {cfg : Cfg} {w w' : World} {t : Task} (h : perform cfg w t = some w')
    (hc : GClosed w.dst) : GClosed w'.dst := by
  rcases perform_cases h with rfl | ⟨hdry, hd⟩ | ⟨_, _, _, h⟩
  · exact hc
  · have sp := (perform_delete_spec hd hdry h).get
    intro p hp a h1 h2 h3
    rw [sp] at hp ⊢
    split at hp
    · exact absurd rfl hp
    · rename_i hcov
      have hda := hc p hp a h1 h2 h3
      have : (isPrefix t.rel a && (a == t.rel || w.dst.get? t.rel == some DNode.dir)) = false := by
        cases hpa : isPrefix t.rel a with
        | false => rfl
        | true =>
          have hpp := isPrefix_trans hpa h2
          simp only [hpp, Bool.true_and, Bool.or_eq_true, beq_iff_eq, not_or] at hcov
          have hat : a ≠ t.rel := by
            intro hat; subst hat; exact hcov.2 hda
          simp [hat, hcov.2]
      rw [this]; exact hda
  · rcases performCU_cases h with ⟨_, rfl⟩ | ⟨_, d, hm, rfl⟩ | ⟨_, _, d, v, hm, hnd, hd⟩
    · exact hc
    · exact mkdirAll_closed hm (dirBase_closed t.act t.rel hc)
    · rw [hd]; exact set_mkdir_closed hm hc hnd

theorem execTask_noFaults_closed (cfg : Cfg) (st : Exec) (t : Task) (hc : GClosed st.w.dst) :
    GClosed (execTask cfg noFaults st t).w.dst := by
  rcases execTask_cases cfg noFaults st t with ⟨g, hf, _⟩ | ⟨_, w', hp, he⟩ | ⟨_, _, he⟩
  · rw [faultOf_noFaults] at hf; cases hf
  · rw [he]; exact perform_closed hp hc
  · rw [he]; exact hc

theorem foldl_noFaults_closed (cfg : Cfg) (ts : List Task) (st : Exec) (hc : GClosed st.w.dst) :
    GClosed (ts.foldl (execTask cfg noFaults) st).w.dst := by
  induction ts generalizing st with
  | nil => exact hc
  | cons t ts ih => rw [List.foldl_cons]; exact ih _ (execTask_noFaults_closed cfg st t hc)

theorem run_closed {cfg : Cfg} {flt : Faults} {scan : List SEntry} {dst : Map DNode} {n : Nat}
    (hok : (runF cfg flt scan dst n).exit = 0) (hc : GClosed dst) : GClosed (runF cfg flt scan dst n).dst := by
  have heq := runF_eq_run_of_exit_zero hok
  rw [heq] at hok ⊢
  unfold run at hok ⊢
  rw [(runF_of_not_refused (runF_exit_zero hok).1).dst]
  exact foldl_noFaults_closed cfg _ _ hc

/-! ### deleting from a parent-closed destination: order does not matter -/

theorem delete_closed_get? {cfg : Cfg} (hdry : cfg.dryRun = false) {w w' : World} {t : Task}
    (hd : t.act = .delete) (hne : t.rel ≠ []) (hc : GClosed w.dst) (h : perform cfg w t = some w') (x : Path) :
    w'.dst.get? x = if isPrefix t.rel x then none else w.dst.get? x := by
  rw [(perform_delete_spec hd hdry h).get x]
  cases hp : isPrefix t.rel x with
  | false => simp
  | true =>
    simp only [Bool.true_and, ↓reduceIte]
    split
    · rfl
    · rename_i hcov
      simp only [Bool.or_eq_true, beq_iff_eq, not_or] at hcov
      cases hg : w.dst.get? x with
      | none => rfl
      | some v =>
        exact absurd (hc x (by rw [hg]; simp) t.rel hne hp (Ne.symm hcov.1)) hcov.2

theorem foldl_deletes_get? {cfg : Cfg} (hdry : cfg.dryRun = false) (ds : List Task) (st : Exec)
    (hd : ∀ t ∈ ds, t.act = .delete) (hne : ∀ t ∈ ds, t.rel ≠ []) (hc : GClosed st.w.dst) (x : Path) :
    (ds.foldl (execTask cfg noFaults) st).w.dst.get? x =
      if ds.any (fun t => isPrefix t.rel x) then none else st.w.dst.get? x := by
  induction ds generalizing st with
  | nil => simp
  | cons t ds ih =>
    rw [List.foldl_cons]
    obtain ⟨w', hp, he⟩ := execTask_noFaults_delete st (hd t (List.mem_cons_self ..))
    have hc' : GClosed (execTask cfg noFaults st t).w.dst := execTask_noFaults_closed cfg st t hc
    rw [ih _ (fun t' ht' => hd t' (List.mem_cons_of_mem _ ht')) (fun t' ht' => hne t' (List.mem_cons_of_mem _ ht')) hc']
    rw [he]
    simp only [List.any_cons]
    rw [delete_closed_get? hdry (hd t (List.mem_cons_self ..)) (hne t (List.mem_cons_self ..)) hc hp x]
    by_cases h1 : isPrefix t.rel x = true <;> by_cases h2 : (ds.any fun t => isPrefix t.rel x) = true <;>
      simp [h1, h2]

/-! ### re-running on an up-to-date destination rewrites nothing observable -/

/-- what the link map of a re-run holds: destination paths of selected `-H` group members that
    the first run transferred -/
def RelinkInv (cfg : Cfg) (scan : List SEntry) (dst : Map DNode) (L : List (Nat × Path × Nat)) : Prop :=
  ∀ y ∈ L, ∃ e' ∈ scanFilter cfg scan, ∃ m' n', e'.kind = .file m' n' ∧ 1 < n' ∧ m'.ino = y.1 ∧
    e'.rel = y.2.1 ∧ planFileAct cfg m' (dst.get? e'.rel) ≠ .skip

/-- in `d1` the transferred members of one source inode are names of one node -/
def Shared (cfg : Cfg) (scan : List SEntry) (dst d1 : Map DNode) : Prop :=
  ∀ e ∈ scanFilter cfg scan, ∀ e' ∈ scanFilter cfg scan, ∀ m k m' k', e.kind = .file m k →
    e'.kind = .file m' k' → 1 < k → 1 < k' → m.ino = m'.ino →
    planFileAct cfg m (dst.get? e.rel) ≠ .skip → planFileAct cfg m' (dst.get? e'.rel) ≠ .skip →
    d1.get? e.rel = d1.get? e'.rel

/-- the invariant of a run over a settled destination `d1`: no node has changed, the link map holds transferred members of
    link groups only, nothing has failed, been created or deleted -/
structure Still (cfg : Cfg) (scan : List SEntry) (dst d1 : Map DNode) (s : Exec) : Prop where
  get : ∀ p, s.w.dst.get? p = d1.get? p
  links : RelinkInv cfg scan dst s.w.linkMap
  errors : s.b.errors = []
  created : s.b.created = 0
  deleted : s.b.deleted = 0

theorem still_step {cfg : Cfg} (hdry : cfg.dryRun = false) {scan : List SEntry} {dst d1 : Map DNode}
    {e : SEntry} (he : e ∈ scanFilter cfg scan) (ep : EntryPost cfg scan dst e (d1.get? e.rel))
    (hne : e.kind = .dir → e.rel ≠ [])
    (hc : GClosed d1) (hsh : cfg.hardlinks = true → Shared cfg scan dst d1)
    {st : Exec} (hst : Still cfg scan dst d1 st) :
    Still cfg scan dst d1 (execTask cfg noFaults st (planEntry cfg d1 e)) := by
  obtain ⟨hpt, hL, herr, hcr, hdl⟩ := hst
  by_cases hs : (planEntry cfg d1 e).act = .skip
  · rw [execTask_skip cfg noFaults st hs]
    refine ⟨hpt, hL, (Book.ok_errors _ _).trans herr, ?_, ?_⟩ <;> (unfold Book.ok; rw [hs])
    · exact hcr
    · exact hdl
  · -- only a regular file (or followed link) can be re-planned as non-skip
    rcases planEntry_replan hne ep with h | key
    · exact absurd h hs
    obtain ⟨m, n, hpe, ⟨d, hd1, hskip, hmat, _⟩, hkind⟩ := key
    have hact : planFileAct cfg m (d1.get? e.rel) = .update := by
      rw [hpe] at hs
      rw [hd1] at hs ⊢
      rcases planFileAct_file_cases cfg m d with h | h
      · exact absurd h hs
      · exact h
    have hns1 : planFileAct cfg m (dst.get? e.rel) ≠ .skip := by
      intro hsk
      rw [hpe] at hs
      apply hs
      show planFileAct cfg m (d1.get? e.rel) = .skip
      rw [hskip hsk]; exact hsk
    have hmatch : Matches cfg d m := hmat hns1
    have hgst : st.w.dst.get? e.rel = some (.file d) := by rw [hpt]; exact hd1
    have hancst : AncDirs st.w.dst e.rel :=
      fun x hx hpx hxe => by rw [hpt]; exact hc e.rel (by rw [hd1]; simp) x hx hpx hxe
    obtain ⟨w', hw, hget, hlm⟩ := writeFile_rewrite (cfg := cfg) (w := st.w) (p := e.rel) (m := m) (d := d)
      hgst hancst hmatch
    have hperf : ∃ w'', perform cfg st.w (planEntry cfg d1 e) = some w'' ∧
        (∀ q, w''.dst.get? q = st.w.dst.get? q) ∧ RelinkInv cfg scan dst w''.linkMap := by
      rw [perform_cu hs (planEntry_act_ne_delete _ _ _) hdry]
      unfold performCU
      rw [hpe]
      simp only [hact]
      by_cases hb : cfg.hardlinks = true ∧ 1 < n
      · rw [if_pos (by simp [hb.1, hb.2])]
        cases hfind : st.w.linkMap.find? (·.1 == m.ino) with
        | none =>
          simp only [hw, Option.map_some]
          refine ⟨_, rfl, hget, ?_⟩
          intro y hy
          simp only at hy
          rw [hlm] at hy
          rcases List.mem_cons.1 hy with rfl | hy
          · rcases hkind with hk | h1
            · exact ⟨e, he, m, n, hk, hb.2, rfl, rfl, hns1⟩
            · omega
          · exact hL y hy
        | some y =>
          obtain ⟨i, first, j⟩ := y
          simp only [reduceCtorEq, ↓reduceIte]
          obtain ⟨e', he', m', n', hk', hn', hi', hr', hs'⟩ := hL _ (List.mem_of_find?_eq_some hfind)
          have hyi : i = m.ino := by have := List.find?_some hfind; simpa using this
          rcases hkind with hk | h1
          · have hshare := hsh hb.1 e he e' he' m n m' n' hk hk' hb.2 hn' (by rw [hi']; exact hyi.symm) hns1 hs'
            simp only at hr'
            have hfirst : st.w.dst.get? first = some (.file d) := by
              rw [hpt, ← hr', ← hshare]; exact hd1
            obtain ⟨w2, h2, g2, l2⟩ := relinkFile_same hgst hancst hfirst
            exact ⟨w2, h2, g2, by rw [l2]; exact hL⟩
          · omega
      · rw [if_neg (by intro h; simp at h; exact hb h)]
        exact ⟨w', hw, hget, by rw [hlm]; exact hL⟩
    obtain ⟨w'', hperf, hget'', hL''⟩ := hperf
    rw [execTask_of_perform (faultOf_noFaults _ _) hperf]
    have hau : (planEntry cfg d1 e).act = .update := by rw [hpe]; exact hact
    refine ⟨fun p => (hget'' p).trans (hpt p), hL'', (Book.ok_errors _ _).trans herr, ?_, ?_⟩ <;>
      (unfold Book.ok; rw [hau])
    · exact hcr
    · exact hdl

/-- a fault-free run over a parent-closed destination `d1` in which the post-condition of every selected entry holds
    already (relative to some earlier destination `dst`) and against which no deletion is planned leaves the node at every
    path as it is, creates and deletes nothing and does not fail -/
theorem run_settled {cfg : Cfg} (hdry : cfg.dryRun = false) {scan : List SEntry} {dst d1 : Map DNode} (n' : Nat)
    (hnr : NoRoot scan) (hc1 : GClosed d1)
    (hmem : ∀ t ∈ plan cfg scan d1, ∃ e ∈ scanFilter cfg scan, planEntry cfg d1 e = t)
    (hsh : cfg.hardlinks = true → Shared cfg scan dst d1)
    (hep : ∀ e ∈ scanFilter cfg scan, EntryPost cfg scan dst e (d1.get? e.rel)) :
    (∀ p, (run cfg scan d1 n').dst.get? p = d1.get? p) ∧ (run cfg scan d1 n').created = 0 ∧
    (run cfg scan d1 n').deleted = 0 ∧ (run cfg scan d1 n').errors = [] ∧ (run cfg scan d1 n').exit = 0 := by
  unfold run
  obtain ⟨i1, _, i2, i3, i4⟩ : Still cfg scan dst d1 (finalExec cfg noFaults scan d1 n') := by
    refine List.foldlRecOn (motive := Still cfg scan dst d1) _ _
      ⟨fun _ => rfl, (fun y hy => by cases hy), rfl, rfl, rfl⟩ (fun s hs t ht => ?_)
    obtain ⟨e, he, rfl⟩ := hmem t ht
    exact still_step hdry he (hep e he) (fun _ => hnr e (mem_of_mem_scanFilter he)) hc1 hsh hs
  have hr : (runF cfg noFaults scan d1 n').refused = false := not_refused_of_no_deletes (fun t ht => by
    obtain ⟨e, _, rfl⟩ := hmem t ht; exact planEntry_act_ne_delete _ _ _)
  have rep := runF_of_not_refused hr
  exact ⟨fun p => by rw [rep.dst]; exact i1 p, by rw [rep.created, i3], by rw [rep.deleted, i4],
    by rw [rep.errors, i2]; rfl, by rw [rep.exit, i2]; rfl⟩

/-- **re-run, any comparison mode (including `--ignore-times`)**: on the result of a clean run
    over a parent-closed destination, the second run leaves the node at every path as it is
    (content, size, mtime, xattrs, link text *and* inode: a rewritten file keeps its inode),
    creates and deletes nothing and does not fail -/
theorem rerun_content_unchanged {cfg : Cfg} (hdry : cfg.dryRun = false) {scan : List SEntry} {dst : Map DNode}
    {n n' : Nat} (hu : UniqueRels scan) (hnr : NoRoot scan)
    (hdel : cfg.delete = true → ParentClosed scan ∧ dst.get? [] = none)
    (hino : cfg.hardlinks = true → InoConsistent scan) (hc : GClosed dst)
    (hok : (run cfg scan dst n).exit = 0) :
    (∀ p, (run cfg scan (run cfg scan dst n).dst n').dst.get? p = (run cfg scan dst n).dst.get? p) ∧
    (run cfg scan (run cfg scan dst n).dst n').created = 0 ∧
    (run cfg scan (run cfg scan dst n).dst n').deleted = 0 ∧
    (run cfg scan (run cfg scan dst n).dst n').errors = [] ∧
    (run cfg scan (run cfg scan dst n).dst n').exit = 0 := by
  unfold run at hok
  refine run_settled hdry n' hnr (run_closed hok hc) (fun t ht => ?_)
    (fun hhl e he e' he' m k m' k' hk hk' h1 h1' hi hs hs' => ?_)
    fun e he => entryPost_of_exit_zero hdry noFaults scan dst n hu hdel hino he hok
  · -- the second plan has no deletions
    rcases mem_plan.1 ht with h | ⟨hd, h⟩
    · exact h
    · rw [run, no_deletions_after_clean_run hdry hd (hdel hd).1 hok] at h; cases h
  · -- `-H`: transferred members of one inode share their node after the first run
    rw [run, (runF_of_not_refused (runF_exit_zero hok).1).dst]
    exact run_share hdry noFaults scan dst n hu hdel hhl hk hk' h1 h1' hi hs hs'
      (taskOk_of_exit_zero hok (planEntry_mem_plan he)) (taskOk_of_exit_zero hok (planEntry_mem_plan he'))

/-- the sequence of re-runs: run 0 on `dst`, run `k+1` on the result of run `k` (`ns k` is the
    inode counter seen by run `k`) -/
def iterRun (cfg : Cfg) (scan : List SEntry) (dst : Map DNode) (ns : Nat → Nat) : Nat → Result
  | 0 => run cfg scan dst (ns 0)
  | k + 1 => run cfg scan (iterRun cfg scan dst ns k).dst (ns (k + 1))

theorem iterRun_stable {cfg : Cfg} (hdry : cfg.dryRun = false) {scan : List SEntry} {dst : Map DNode}
    (ns : Nat → Nat) (hu : UniqueRels scan) (hnr : NoRoot scan)
    (hdel : cfg.delete = true → ParentClosed scan ∧ dst.get? [] = none)
    (hino : cfg.hardlinks = true → InoConsistent scan) (hc : GClosed dst)
    (h0 : (iterRun cfg scan dst ns 0).exit = 0) (k : Nat) :
    (iterRun cfg scan dst ns k).exit = 0 ∧
    (∀ p, (iterRun cfg scan dst ns k).dst.get? p = (iterRun cfg scan dst ns 0).dst.get? p) ∧
    (1 ≤ k → (iterRun cfg scan dst ns k).created = 0 ∧ (iterRun cfg scan dst ns k).deleted = 0 ∧
      (iterRun cfg scan dst ns k).errors = []) := by
  have P : ∀ k, ∃ inp, iterRun cfg scan dst ns k = run cfg scan inp (ns k) ∧ GClosed inp ∧
      (cfg.delete = true → inp.get? [] = none) ∧ (run cfg scan inp (ns k)).exit = 0 ∧
      (∀ p, (run cfg scan inp (ns k)).dst.get? p = (iterRun cfg scan dst ns 0).dst.get? p) ∧
      (1 ≤ k → (run cfg scan inp (ns k)).created = 0 ∧ (run cfg scan inp (ns k)).deleted = 0 ∧
        (run cfg scan inp (ns k)).errors = []) := by
    intro k
    induction k with
    | zero => exact ⟨dst, rfl, hc, fun h => (hdel h).2, h0, fun _ => rfl, fun h => absurd h (by omega)⟩
    | succ k ih =>
      obtain ⟨inp, he, hci, hri, hex, hpt, _⟩ := ih
      have hdel' : cfg.delete = true → ParentClosed scan ∧ inp.get? [] = none := fun h => ⟨(hdel h).1, hri h⟩
      obtain ⟨a, b, c, d, e⟩ := rerun_content_unchanged (n := ns k) (n' := ns (k + 1)) hdry hu hnr hdel' hino hci hex
      refine ⟨(run cfg scan inp (ns k)).dst, ?_, ?_, ?_, e, fun p => (a p).trans (hpt p), fun _ => ⟨b, c, d⟩⟩
      · show run cfg scan (iterRun cfg scan dst ns k).dst (ns (k + 1)) = _
        rw [he]
      · unfold run at hex ⊢; exact run_closed hex hci
      · intro hd; unfold run at hex ⊢; exact result_root_none hdry hd (hdel hd).1 hnr hex
  obtain ⟨inp, he, _, _, hex, hpt, hk⟩ := P k
  rw [he]; exact ⟨hex, hpt, hk⟩

end SyModel.Engine
