/-
  Helper lemmas for the Adler-32 model: the two sums without their reductions (one fold, `pushU`) and the
  modular-arithmetic step behind `roll`.
-/
import SyModel.Delta.Adler
namespace SyModel.Delta

/-- `push` without the reductions: the two running sums as plain numbers -/
def pushU (s : Nat × Nat) (x : UInt8) : Nat × Nat := (s.1 + x.toNat, s.2 + s.1 + x.toNat)

/-- the reductions commute with the loop -/
theorem foldl_push (s : Nat × Nat) (d : Bytes) :
    d.foldl Adler.push ⟨s.1 % MOD, s.2 % MOD⟩ = ⟨(d.foldl pushU s).1 % MOD, (d.foldl pushU s).2 % MOD⟩ := by
  induction d generalizing s with
  | nil => rfl
  | cons x d ih =>
    have h : Adler.push ⟨s.1 % MOD, s.2 % MOD⟩ x = ⟨(pushU s x).1 % MOD, (pushU s x).2 % MOD⟩ := by
      simp only [Adler.push, pushU, Nat.mod_add_mod, Nat.add_mod_mod, Nat.add_assoc]
    rw [List.foldl_cons, List.foldl_cons, h, ih]

theorem ofBlock_eq (d : Bytes) : Adler.ofBlock d = ⟨(d.foldl pushU (1, 0)).1 % MOD, (d.foldl pushU (1, 0)).2 % MOD⟩ :=
  foldl_push (1, 0) d

theorem sums_shift (a b x c : Nat) (d : Bytes) :
    d.foldl pushU (a + x, b + c) = ((d.foldl pushU (a, b)).1 + x, (d.foldl pushU (a, b)).2 + x * d.length + c) := by
  induction d generalizing a b c with
  | nil => simp
  | cons y d ih =>
    simp only [List.foldl_cons, pushU, List.length_cons]
    rw [show a + x + y.toNat = (a + y.toNat) + x by omega,
        show b + c + (a + x) + y.toNat = (b + a + y.toNat) + (c + x) by omega, ih, Nat.mul_add]
    simp only [Prod.mk.injEq, true_and]; omega

/-- `roll` on unreduced sums, `a` component: the outgoing byte `x` leaves, `y` enters (`MOD * 2` keeps the
    subtraction in `Nat`, as it keeps the Rust one in `u32`) -/
theorem roll_mod_a (A x y : Nat) (hx : x < 256) : ((A + x) % MOD + MOD * 2 - x + y) % MOD = (A + y) % MOD := by
  simp only [MOD]
  omega

/-- … `b` component: `t` is the weight `n * x` the outgoing byte has in the `b`-sum, `1` the initial `a` -/
theorem roll_mod_b (A B t y : Nat) :
    ((B + t + 1) % MOD + MOD * 3 - t % MOD + (A + y) % MOD - 1) % MOD = (B + A + y) % MOD := by
  simp only [MOD]
  omega

/-- `hov`: the product `n * old` in `roll` does not wrap `u32` -/
theorem roll_ofBlock (x y : UInt8) (d : Bytes) (n : Nat) (hn : n = d.length + 1)
    (hov : n * 255 < 4294967296) :
    Adler.roll n (Adler.ofBlock (x :: d)) x y = Adler.ofBlock (d ++ [y]) := by
  have hx : x.toNat < 256 := x.toNat_lt
  have hw : wrap32 (wrap32 n * x.toNat) = n * x.toNat := by
    have : n * x.toNat ≤ n * 255 := Nat.mul_le_mul_left n (by omega)
    have hn' : wrap32 n = n := Nat.mod_eq_of_lt (by omega)
    rw [hn']
    exact Nat.mod_eq_of_lt (by omega)
  -- the first byte enters both sums at the start: `x` in the first, `x` per byte and `1 + x` in the second
  have hcons : (x :: d).foldl pushU (1, 0) =
      ((d.foldl pushU (1, 0)).1 + x.toNat, (d.foldl pushU (1, 0)).2 + n * x.toNat + 1) := by
    rw [List.foldl_cons, show pushU (1, 0) x = (1 + x.toNat, 0 + (1 + x.toNat)) by simp [pushU], sums_shift, hn,
      Nat.add_mul, Nat.one_mul, Nat.mul_comm d.length]
    simp only [Prod.mk.injEq, true_and]; omega
  rw [ofBlock_eq, ofBlock_eq, hcons, List.foldl_append]
  simp only [List.foldl_cons, List.foldl_nil, Adler.roll, pushU, hw, roll_mod_a _ _ _ hx, roll_mod_b]


theorem rollN_window (n : Nat) (hn : 0 < n) (hov : n * 255 < 4294967296) :
    ∀ (k : Nat) (d : Bytes), k + n ≤ d.length →
      rollN n (Adler.ofBlock (d.take n)) d k = Adler.ofBlock ((d.drop k).take n) := by
  intro k
  induction k with
  | zero => intro d _; simp [rollN]
  | succ k ih =>
    intro d hk
    obtain ⟨m, rfl⟩ : ∃ m, n = m + 1 := ⟨n - 1, by omega⟩
    cases d with
    | nil => simp at hk
    | cons x t =>
      have hlen : m < t.length := by simp at hk; omega
      cases hdrop : t.drop m with
      | nil =>
        have := List.drop_eq_nil_iff.mp hdrop
        omega
      | cons y rest =>
        have htake : t.take (m + 1) = t.take m ++ [y] := by rw [List.take_add_one, ← List.head?_drop, hdrop]; rfl
        have hm : (t.take m).length = m := by simp; omega
        have hstep : ∀ s, rollN (m + 1) s (x :: t) (k + 1) = rollN (m + 1) (Adler.roll (m + 1) s x y) t k := by
          intro s; simp only [rollN, List.drop_succ_cons, hdrop]
        simp only [List.take_succ_cons, hstep]
        rw [roll_ofBlock x y (t.take m) (m + 1) (by rw [hm]) hov, ← htake]
        have := ih t (by simp at hk; omega)
        simpa using this

end SyModel.Delta
