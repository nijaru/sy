/-
  Lemmas.GenLocalCopyWorld — PART 1 (TRUSTED) of the bridge for the translated unit `LocalCopy`
  (`SyModel/Generated/Code/LocalCopy.lean`: `LocalTransport::copy_file` and `LocalTransport::sync_file_with_delta`
  of src/transport/local.rs, with `remove_if_symlink`, `break_unshared_hard_link`).

  The world `LWorld` in which the translated code is run and the instance `posix cfg : Ext LWorld` that gives every
  operation of the unit its POSIX meaning.  The bridge theorems of `Props/GenLocalCopy.lean` are statements about
  `sync_file_with_delta (posix cfg) …` and `copy_file (posix cfg) …`, so a wrong operation HERE misrepresents the
  operating system: this file is trusted base and is kept small; every operation is commented with the POSIX / std
  fact it encodes.  Nothing is proved in this file.

  Simplifications:
    * the name space is FLAT: a path text is a name; the directories above a name are not modelled (no ENOENT/ENOTDIR
      for a missing parent; `create_dir_all p` only makes `p` itself a directory).  A symlink's target text is a name;
    * a lookup visits at most `LINK_FUEL` names, so at most `LINK_FUEL - 1` trailing symlinks are followed (ELOOP afterwards);
    * permissions, ownership, timestamps other than mtime, durability (`fsync`) are not modelled;
    * the clock does not advance during one call: every write stamps the inode with `LWorld.now`;
    * at most one operation of a run fails by injection (`LWorld.fault`, a countdown over the fallible operations).
-/
import SyModel.Generated.Code.LocalCopy
set_option autoImplicit false
namespace SyModel.LocalCopy
open SyModel.Generated SyModel.Generated.LocalCopy

/-- point update of a function -/
def upd {κ ν : Type} [DecidableEq κ] (f : κ → ν) (k : κ) (v : ν) : κ → ν := fun x => if x = k then v else f x

/-- what a NAME refers to: a regular file is a reference to an inode (several names may share one: hard links) -/
inductive Node where
  | file (ino : Nat)
  | dir
  | symlink (target : Rs.Path)
  deriving DecidableEq, Repr

/-- a regular file's inode: content (bytes as numbers, as in the translated code), modification time (ns), the names of
    its extended attributes, link count -/
structure Inode where
  bytes  : List Nat
  mtime  : Nat
  xattrs : List Rs.Str
  nlink  : Nat
  deriving DecidableEq, Repr

/-- an open file description: the INODE it refers to (it survives `unlink`/`rename` of the name it was opened by), the
    file position, and whether it was opened for writing -/
structure Handle where
  ino      : Nat
  pos      : Nat
  writable : Bool
  deriving DecidableEq, Repr

/-- the mutating system calls, as they are appended to `LWorld.log` -/
inductive Op where
  /-- `mkdir p` -/
  | mkdir (p : Rs.Path)
  /-- `unlink p`: the NAME is removed -/
  | unlink (p : Rs.Path)
  /-- `open(p, O_CREAT…)` on a free name: `p` now refers to the NEW inode `ino` -/
  | create (p : Rs.Path) (ino : Nat)
  /-- `open(…, O_TRUNC)` reached an EXISTING inode (possibly through a symlink): its content is gone -/
  | truncate (ino : Nat)
  /-- `pwrite(data, off)` into inode `ino` -/
  | write (ino off : Nat) (data : List Nat)
  /-- `ftruncate(ino, n)` -/
  | setLen (ino n : Nat)
  /-- `utimensat(p, t)` reached inode `ino` -/
  | utime (p : Rs.Path) (ino t : Nat)
  /-- `removexattr` on inode `ino` -/
  | xattrRemove (ino : Nat) (name : Rs.Str)
  /-- `rename(q, p)` -/
  | rename (q p : Rs.Path)
  deriving DecidableEq, Repr

/-- What one call of the local transport can see and change. -/
structure LWorld where
  /-- the directory entries: name ↦ what it refers to -/
  names      : Rs.Path → Option Node
  /-- the inode table; inode numbers `< nextIno` have been handed out -/
  inodes     : Nat → Option Inode
  nextIno    : Nat
  /-- open file descriptions; handles `< nextHandle` have been handed out -/
  handles    : Nat → Option Handle
  nextHandle : Nat
  /-- the working-file paths of the `TempFileGuard`s that are alive and still armed, newest first -/
  guards     : List Rs.Path
  /-- the mutating system calls performed so far, oldest first -/
  log        : List Op
  /-- the time the kernel stamps on an inode it writes -/
  now        : Nat
  /-- fault injection: `some k` — the `k`-th fallible operation from now (counting from 0) fails with EIO and changes
      nothing; `none` — no operation fails by injection -/
  fault      : Option Nat

/-- the answers of the decision procedures the transport consults (they read file-system geometry, allocation maps and
    sampled hashes, none of which is part of `LWorld`) -/
structure Cfg where
  /-- `is_file_sparse(&source_meta)` -/
  sparse        : Bool
  /-- `estimate_change_ratio(..)`: `none` = `Err`, `some b` = `Ok(r)` with `r.use_delta = b` -/
  ratio         : Option Bool
  /-- `supports_cow_reflinks(dest)` / `same_filesystem(source, dest)` -/
  cow           : Bool
  sameFs        : Bool
  /-- `IntegrityVerifier::verify_on_write()` (paranoid mode) -/
  verifyOnWrite : Bool
  /-- `fs::copy` also copies extended attributes (macOS `fclonefileat`/`fcopyfile`; not on Linux) -/
  copyXattrs    : Bool

/-- how many names a path lookup visits before ELOOP (one more than the symlinks it follows) -/
abbrev LINK_FUEL : Nat := 8

/-- the name a lookup of `p` ends at when trailing symlinks are followed (`none`: ELOOP) -/
def follow (names : Rs.Path → Option Node) : Nat → Rs.Path → Option Rs.Path
  | 0, _ => none
  | n + 1, p =>
    match names p with
    | some (.symlink t) => follow names n t
    | _ => some p

/-- `stat`-like lookup: what `p` refers to after following trailing symlinks (never a symlink; `none`: nothing / ELOOP) -/
def LWorld.stat (w : LWorld) (p : Rs.Path) : Option Node := (follow w.names LINK_FUEL p).bind w.names

/-- the inode of the regular file `p` refers to (following trailing symlinks) -/
def LWorld.inoOf (w : LWorld) (p : Rs.Path) : Option Nat :=
  match w.stat p with
  | some (.file i) => some i
  | _ => none

def LWorld.logOp (w : LWorld) (o : Op) : LWorld := { w with log := w.log ++ [o] }

/-- one name of inode `i` is gone (the inode itself stays in the table: open descriptions keep it alive) -/
def LWorld.decLink (w : LWorld) (i : Nat) : LWorld :=
  match w.inodes i with
  | some n => { w with inodes := upd w.inodes i (some { n with nlink := n.nlink - 1 }) }
  | none => w

def zerosN (n : Nat) : List Nat := List.replicate n 0

/-- `pwrite(data, off)`: overwrite, extend the file when the range passes its end; a position beyond the end leaves a
    gap of zeros; writing nothing changes nothing (the `List Nat` twin of `Compress.writeAt`) -/
def writeAtN (file : List Nat) (off : Nat) (data : List Nat) : List Nat :=
  if data.isEmpty then file
  else (file ++ zerosN (off - file.length)).take off ++ data ++ file.drop (off + data.length)

/-- `ftruncate(n)`: cut, or extend with zeros (the `List Nat` twin of `Compress.setLen`) -/
def setLenN (file : List Nat) (n : Nat) : List Nat := file.take n ++ zerosN (n - file.length)

/-- an operation: a result and a new world, or an error (the caller, `prim`, keeps the world it ran the operation in) -/
abbrev Act (α : Type) := LWorld → Except Rs.Err (α × LWorld)

/-- a FALLIBLE system call: the injected fault, if it is due, makes it fail with EIO (and is used up); otherwise the
    countdown advances and the call does what it does — an error of its own leaves the world unchanged but for the countdown,
    which has advanced -/
def prim {α : Type} (f : Act α) : Rs.M LWorld α := fun w =>
  match w.fault with
  | some 0 => (.error .io, { w with fault := none })
  | some (k + 1) =>
    (match f { w with fault := some k } with
     | .ok (a, w') => (.ok a, w')
     | .error e => (.error e, { w with fault := some k }))
  | none =>
    (match f w with
     | .ok (a, w') => (.ok a, w')
     | .error e => (.error e, w))

/-! ### the system calls -/

/-- `Path::try_exists` / `exists` (`stat`): follows symlinks; a dangling link does not "exist" -/
def existsAct (p : Rs.Path) : Act Bool := fun w => .ok ((w.stat p).isSome, w)

/-- `fs::metadata` (`stat`): follows symlinks; ENOENT when nothing is there -/
def metadataAct (p : Rs.Path) : Act Rs.Metadata := fun w =>
  match w.stat p with
  | some .dir => .ok (⟨true, 0, 0⟩, w)
  | some (.file i) =>
    (match w.inodes i with
     | some n => .ok (⟨false, n.mtime, n.bytes.length⟩, w)
     | none => .error .io)
  | _ => .error .io

/-- `fs::symlink_metadata` (`lstat`): the entry ITSELF -/
def lstatAct (p : Rs.Path) : Act Rs.LMetadata := fun w =>
  match w.names p with
  | none => .error .io
  | some .dir => .ok (⟨.dir, 2⟩, w)
  | some (.symlink _) => .ok (⟨.symlink, 1⟩, w)
  | some (.file i) =>
    (match w.inodes i with
     | some n => .ok (⟨.file, n.nlink⟩, w)
     | none => .error .io)

/-- `fs::create_dir_all(p)`: `Ok` for the empty path and for an existing directory (also through a link); creates `p`
    when the name is free; fails (EEXIST/ENOTDIR) when something else has the name -/
def createDirAllAct (p : Rs.Path) : Act Unit := fun w =>
  if p = [] then .ok ((), w)
  else match w.names p with
    | none => .ok ((), { w with names := upd w.names p (some .dir) }.logOp (.mkdir p))
    | some _ => if w.stat p = some .dir then .ok ((), w) else .error .io

/-- `fs::remove_file(p)` (`unlink`): removes the NAME — a symlink itself, never its target; EISDIR on a directory,
    ENOENT on a free name -/
def removeFileAct (p : Rs.Path) : Act Unit := fun w =>
  match w.names p with
  | some (.symlink _) => .ok ((), { w with names := upd w.names p none }.logOp (.unlink p))
  | some (.file i) => .ok ((), ({ w with names := upd w.names p none }.decLink i).logOp (.unlink p))
  | _ => .error .io

/-- `open(p, O_WRONLY | O_CREAT | O_TRUNC)` — what `File::create` and the destination side of `fs::copy` do: trailing
    symlinks ARE FOLLOWED; a free final name gets a new empty inode; an existing regular file is truncated IN PLACE
    (same inode, all its other names see it); a directory is EISDIR.  Answers the inode. -/
def createTrunc (w : LWorld) (p : Rs.Path) : Option (Nat × LWorld) :=
  match follow w.names LINK_FUEL p with
  | none => none
  | some q =>
    match w.names q with
    | none =>
      some (w.nextIno,
        { w with names := upd w.names q (some (.file w.nextIno)),
                 inodes := upd w.inodes w.nextIno (some ⟨[], w.now, [], 1⟩),
                 nextIno := w.nextIno + 1 }.logOp (.create q w.nextIno))
    | some (.file i) =>
      (match w.inodes i with
       | some n => some (i, { w with inodes := upd w.inodes i (some { n with bytes := [], mtime := w.now }) }.logOp (.truncate i))
       | none => none)
    | some _ => none

/-- `std::fs::copy(src, dst)`: open `src` (following links), `createTrunc dst`, then copy the bytes the source holds
    AT THAT MOMENT (so a destination that resolves to the source's own inode yields an empty file), new mtime;
    extended attributes are copied on platforms that do so; answers the number of bytes copied -/
def fsCopyAct (cfg : Cfg) (src dst : Rs.Path) : Act Nat := fun w =>
  match w.inoOf src with
  | none => .error .io
  | some s =>
    match createTrunc w dst with
    | none => .error .io
    | some (j, w1) =>
      match w1.inodes s, w1.inodes j with
      | some ns, some nj =>
        .ok (ns.bytes.length,
          { w1 with inodes := upd w1.inodes j (some { nj with
              bytes := ns.bytes, mtime := w1.now,
              xattrs := (if cfg.copyXattrs then ns.xattrs ++ nj.xattrs else nj.xattrs) }) }.logOp (.write j 0 ns.bytes))
      | _, _ => .error .io

/-- `copy_sparse_file(src, dst)` (local.rs:36-170) as ONE operation: `if dst.exists() { remove_file(dst) }`, `File::create(dst)`,
    the data regions, `set_len(size)` — content-exact under the SEEK_DATA contract (`Props.C01Bytes`, `Covers`) -/
def copySparseAct (src dst : Rs.Path) : Act Nat := fun w =>
  match w.inoOf src with
  | none => .error .io
  | some s =>
    match w.inodes s with
    | none => .error .io
    | some ns =>
      let r : Except Rs.Err (Unit × LWorld) := if (w.stat dst).isSome then removeFileAct dst w else .ok ((), w)
      match r with
      | .error e => .error e
      | .ok (_, w0) =>
        match createTrunc w0 dst with
        | none => .error .io
        | some (j, w1) =>
          match w1.inodes j with
          | some nj => .ok (ns.bytes.length,
              { w1 with inodes := upd w1.inodes j (some { nj with bytes := ns.bytes, mtime := w1.now }) }.logOp (.write j 0 ns.bytes))
          | none => .error .io

/-- `fs::rename(q, p)` for `q ≠ p`: ATOMICALLY, `p` refers to what `q` referred to and `q` is free; what `p` referred to before
    loses that name.  ENOENT without `q`; renaming over a directory is refused.  (For `q = p` POSIX does nothing; this
    definition removes the name.  No theorem renames a path onto itself.) -/
def renameAct (q p : Rs.Path) : Act Unit := fun w =>
  match w.names q with
  | none => .error .io
  | some nq =>
    match w.names p with
    | some .dir => .error .io
    | some (.file i) => .ok ((), ({ w with names := upd (upd w.names p (some nq)) q none }.decLink i).logOp (.rename q p))
    | _ => .ok ((), { w with names := upd (upd w.names p (some nq)) q none }.logOp (.rename q p))

/-- `xattr::list(p)` on a regular file name -/
def xattrListAct (p : Rs.Path) : Act (List Rs.Str) := fun w =>
  match w.names p with
  | some (.file i) => (match w.inodes i with | some n => .ok (n.xattrs, w) | none => .error .io)
  | _ => .error .io

/-- `xattr::remove(p, name)`: ENODATA when the inode has no such attribute -/
def xattrRemoveAct (p : Rs.Path) (name : Rs.Str) : Act Unit := fun w =>
  match w.names p with
  | some (.file i) =>
    (match w.inodes i with
     | some n =>
       if name ∈ n.xattrs then
         .ok ((), { w with inodes := upd w.inodes i (some { n with xattrs := n.xattrs.filter (· ≠ name) }) }.logOp (.xattrRemove i name))
       else .error .io
     | none => .error .io)
  | _ => .error .io

/-- `filetime::set_file_mtime(p, t)` (`utimensat`, FOLLOWS symlinks) on a regular file -/
def setMtimeAct (p : Rs.Path) (t : Nat) : Act Unit := fun w =>
  match w.inoOf p with
  | some i =>
    (match w.inodes i with
     | some n => .ok ((), { w with inodes := upd w.inodes i (some { n with mtime := t }) }.logOp (.utime p i t))
     | none => .error .io)
  | none => .error .io

def LWorld.newHandle (w : LWorld) (i : Nat) (writable : Bool) : Nat × LWorld :=
  (w.nextHandle, { w with handles := upd w.handles w.nextHandle (some ⟨i, 0, writable⟩), nextHandle := w.nextHandle + 1 })

/-- `File::open(p)`: read only, follows symlinks, position 0; ENOENT / not a regular file -/
def fileOpenAct (p : Rs.Path) : Act Nat := fun w =>
  match w.inoOf p with
  | some i => .ok (w.newHandle i false)
  | none => .error .io

/-- `File::create(p)` = `createTrunc`, write only, position 0 -/
def fileCreateAct (p : Rs.Path) : Act Nat := fun w =>
  match createTrunc w p with
  | some (j, w1) => .ok (w1.newHandle j true)
  | none => .error .io

/-- `File::options().write(b).open(p)`: NO create, NO truncate; follows symlinks; position 0 -/
def ooOpenAct (o : Rs.OpenOptions) (p : Rs.Path) : Act Nat := fun w =>
  match w.inoOf p with
  | some i => .ok (w.newHandle i o.write)
  | none => .error .io

def LWorld.setPos (w : LWorld) (h : Nat) (hd : Handle) (p : Nat) : LWorld :=
  { w with handles := upd w.handles h (some { hd with pos := p }) }

/-- `read(&mut buf)` on a regular file opened for reading (EBADF on a write-only descriptor): FULL reads — `min buf.len() remaining` bytes arrive at the front of the buffer
    (the rest of the buffer keeps what it held), the position advances by that count, which is the answer -/
def readAct (h : Nat) (buf : List Nat) : Act (Nat × List Nat) := fun w =>
  match w.handles h with
  | none => .error .io
  | some hd =>
    if hd.writable then .error .io
    else match w.inodes hd.ino with
    | none => .error .io
    | some n =>
      let k := min buf.length (n.bytes.length - hd.pos)
      .ok ((k, (n.bytes.drop hd.pos).take k ++ buf.drop k), w.setPos h hd (hd.pos + k))

/-- `read_exact(&mut buf)`: fills the whole buffer or fails (`UnexpectedEof`); needs a descriptor opened for reading —
    the working file is opened write-only (`File::options().write(true)`), so on it the call fails with EBADF -/
def readExactAct (h : Nat) (buf : List Nat) : Act (List Nat) := fun w =>
  match w.handles h with
  | none => .error .io
  | some hd =>
    if hd.writable then .error .io
    else match w.inodes hd.ino with
      | none => .error .io
      | some n =>
        if hd.pos + buf.length ≤ n.bytes.length then
          .ok ((n.bytes.drop hd.pos).take buf.length, w.setPos h hd (hd.pos + buf.length))
        else .error .io

/-- `write_all(data)` on a descriptor opened for writing (EBADF otherwise): `pwrite` at the position, which advances;
    new mtime; nothing at all for empty data -/
def writeAllAct (h : Nat) (data : List Nat) : Act Unit := fun w =>
  match w.handles h with
  | none => .error .io
  | some hd =>
    if !hd.writable then .error .io
    else if data.isEmpty then .ok ((), w)
    else match w.inodes hd.ino with
      | none => .error .io
      | some n =>
        .ok ((), { (w.setPos h hd (hd.pos + data.length)) with
                     inodes := upd w.inodes hd.ino (some { n with bytes := writeAtN n.bytes hd.pos data, mtime := w.now }) }.logOp
                   (.write hd.ino hd.pos data))

/-- `seek`: `Start n` sets the position; `End`/`Current` are relative; a negative result is EINVAL -/
def seekAct (h : Nat) (s : Rs.SeekFrom) : Act Nat := fun w =>
  match w.handles h with
  | none => .error .io
  | some hd =>
    match w.inodes hd.ino with
    | none => .error .io
    | some n =>
      let p : Int := match s with
        | .Start k => k
        | .End k => n.bytes.length + k
        | .Current k => hd.pos + k
      if p < 0 then .error .io else .ok (p.toNat, w.setPos h hd p.toNat)

/-- `File::set_len(n)` (`ftruncate`) on a descriptor opened for writing; the position does not move; new mtime -/
def setLenAct (h : Nat) (len : Nat) : Act Unit := fun w =>
  match w.handles h with
  | none => .error .io
  | some hd =>
    if !hd.writable then .error .io
    else match w.inodes hd.ino with
      | none => .error .io
      | some n =>
        .ok ((), { w with inodes := upd w.inodes hd.ino (some { n with bytes := setLenN n.bytes len, mtime := w.now }) }.logOp
                   (.setLen hd.ino len))

/-- `has_hard_links(p)` (fs_util.rs:210): `metadata(p).map(|m| m.nlink() > 1).unwrap_or(false)` -/
def hasHardLinks (w : LWorld) (p : Rs.Path) : Bool :=
  match w.inoOf p with
  | some i => (match w.inodes i with | some n => decide (1 < n.nlink) | none => false)
  | none => false

/-- Drop of one `TempFileGuard` that is still armed (temp_file.rs:69-79): `if path.exists() { let _ = remove_file(path); }`
    — the removal is an ordinary fallible system call whose error is ignored -/
def dropGuard (w : LWorld) (p : Rs.Path) : LWorld :=
  if (w.stat p).isSome then (prim (removeFileAct p) w).2 else w

/-- the suffix of `working_file_path` (temp_file.rs:35-42) -/
def TEMP_SUFFIX : Rs.Str := ['.', 's', 'y', '.', 't', 'm', 'p']

/-- THE INSTANCE: every operation of the translated unit in the world above. -/
def posix (cfg : Cfg) : Ext LWorld where
  try_exists p := prim (existsAct p)
  tokio_fs_metadata p := prim (metadataAct p)
  fs_metadata p := prim (metadataAct p)
  tokio_fs_symlink_metadata p := prim (lstatAct p)
  fs_symlink_metadata p := prim (lstatAct p)
  create_dir_all p := prim (createDirAllAct p)
  remove_file p := prim (removeFileAct p)
  fs_copy s d := prim (fsCopyAct cfg s d)
  fs_rename q p := prim (renameAct q p)
  xattr_list p := prim (xattrListAct p)
  xattr_remove p n := prim (xattrRemoveAct p n)
  filetime_set_file_mtime p t := prim (setMtimeAct p t)
  -- allocation is not part of the world: the answer is a parameter
  is_file_sparse _ := pure cfg.sparse
  copy_sparse_file s d := prim (copySparseAct s d)
  -- reads both files (fallible), changes nothing; only `use_delta` of the answer is looked at by the caller
  estimate_change_ratio _ _ _ _ _ := prim (fun w =>
    match cfg.ratio with
    | some b => .ok (⟨b, 0, 0, 0⟩, w)
    | none => .error .io)
  supports_cow_reflinks _ := pure cfg.cow
  same_filesystem _ _ := pure cfg.sameFs
  has_hard_links p := fun w => (.ok (hasHardLinks w p), w)
  -- `<file name>.sy.tmp` next to `dest` (names are path texts without a trailing `/`)
  working_file_path p := p ++ TEMP_SUFFIX
  -- `Rs.Opaque` carries no identity: a unit creates at most one guard per call, `defuse` disarms the newest
  TempFileGuard_new p := fun w => (.ok {}, { w with guards := p :: w.guards })
  guard_defuse _ := fun w => (.ok (), { w with guards := w.guards.tail })
  -- end of the closure's scope: every guard that is still armed is dropped
  scope_exit _ := fun w => (.ok (), w.guards.foldl dropGuard { w with guards := [] })
  File_open p := prim (fileOpenAct p)
  File_create p := prim (fileCreateAct p)
  oo_open o p := prim (ooOpenAct o p)
  Instant_now _ := pure {}
  instant_elapsed _ := pure 0
  format_bytes _ := []
  h_read h buf := prim (readAct h buf)
  h_read_exact h buf := prim (readExactAct h buf)
  h_write_all h d := prim (writeAllAct h d)
  h_seek h s := prim (seekAct h s)
  h_set_len h n := prim (setLenAct h n)
  -- `File::flush` is a no-op in std (no user-space buffer)
  h_flush _ := pure ()
  verify_on_write _ := pure cfg.verifyOnWrite
  -- checksums are collision-free on the compared blocks (standing assumption of C01): equal iff the bytes are equal
  verify_block _ a b := pure (a == b)
  compute_data_checksum _ _ := pure 0
  to_hex _ := pure []

end SyModel.LocalCopy
