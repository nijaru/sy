/-
  Lemmas.GenEngineRunGlue — THE GLUE of the capstone `Props/GenEngineRun.lean`: `seqEngine`, the sequential composition
  of the translated pieces of `SyncEngine::sync` (src/sync/mod.rs) and of the exit decision of `main` (src/main.rs).

  EVERYTHING in this file is TRUSTED: it stands for the parts of `sync` that are NOT translated — the `for` headers, the
  hand-over of values between the translated fragments, the one-worker schedule — and for the field-wise identification of
  the copies of `FileEntry` / `SyncTask` / `SyncAction` that each translation unit carries.  It is kept as small and as
  explicit as possible; the Rust lines each piece stands for are cited.

    unit (translated, regenerated on every run)        used here as
    EnginePlan.plan_round (mod.rs:527-582)             body of `planLoop` (the fold is `Props.GenEnginePlan.planLoop`)
    PlannerFx.*  (strategy.rs)                         inside the instance `ext2` of the round; `plan_deletions`
    EngineGuard.dest_file_count (mod.rs:603-612)       the guard's denominator, on `guardExt`
    Guards.delete_percentage / threshold_exceeded      the guard's arithmetic (mod.rs:615-618)
    EngineTask.run_task (mod.rs:863-, `let result`)    body of `execLoop`, on the instance `engineExt cfg`
    Transfer.* (transfer.rs)                           inside the instance `engineExt cfg`
    MainExit.sync_failed (main.rs:776, last `if` on stats)  the exit status

  NOT in the glue: the filter closure (the filtered list `files` is an INPUT; its bridge is `Props/GenFilter.lean`), the
  sort that moves replaced links first and the barrier (mod.rs:584-585, 668-681, 767-775), the unreplaced-link guard of
  the worker loop (mod.rs:774-808; translated and proved separately in `Props/GenEngineLinkGuard.lean`, see `execLoop`),
  `tokio::spawn` / semaphore / `join_all` with more than one worker, the checksum database (`checksum_db = None` is passed
  to every round), the resume state, progress bars, the `Start` / `Summary` events, `max_errors`.

  The declarations are in the namespace of Lemmas/GenEngineRun.lean (`SyModel.Lemmas.GenEngineRun`, where `execLoop` is).
-/
import SyModel.Lemmas.GenEngineRun
import SyModel.Props.GenEnginePlan
import SyModel.Props.GenEngineGuard
import SyModel.Props.GenGuards
import SyModel.Props.GenMainExit
namespace SyModel.Lemmas.GenEngineRun
open SyModel SyModel.Engine SyModel.Generated SyModel.GenEngineTask
open SyModel.Lemmas.GenEnginePlan (ext2 toPEntry ofPTask)
open SyModel.Lemmas.GenPlannerFx (PlanWorld)
open SyModel.Props.GenEnginePlan (planLoop)

/-! ## field-wise identification of the units' copies of the same Rust types -/

/-- `FileEntry` of unit EnginePlan ↦ `FileEntry` of unit EngineTask (same Rust struct, src/sync/scanner.rs) -/
def toXEntry (e : EnginePlan.FileEntry) : EngineTask.FileEntry :=
  { path := e.path, relative_path := e.relative_path, size := e.size, modified := e.modified, is_dir := e.is_dir,
    is_symlink := e.is_symlink, symlink_target := e.symlink_target, is_sparse := e.is_sparse,
    allocated_size := e.allocated_size, xattrs := e.xattrs, inode := e.inode, nlink := e.nlink, acls := e.acls,
    bsd_flags := e.bsd_flags }

/-- `SyncAction` of unit EnginePlan ↦ `SyncAction` of unit EngineTask -/
def toXAct : EnginePlan.SyncAction → EngineTask.SyncAction
  | .Skip => .Skip | .Create => .Create | .Update => .Update | .Delete => .Delete

/-- `SyncTask` of unit EnginePlan ↦ `SyncTask` of unit EngineTask (same Rust struct, src/sync/strategy.rs) -/
def toXTask (t : EnginePlan.SyncTask) : EngineTask.SyncTask :=
  { source := t.source.map toXEntry, dest_path := t.dest_path, action := toXAct t.action,
    source_checksum := t.source_checksum, dest_checksum := t.dest_checksum }

/-- `FileEntry` of unit PlannerFx ↦ `FileEntry` of unit EngineGuard -/
def toGEntry (e : PlannerFx.FileEntry) : EngineGuard.FileEntry :=
  { path := e.path, relative_path := e.relative_path, size := e.size, modified := e.modified, is_dir := e.is_dir,
    is_symlink := e.is_symlink, symlink_target := e.symlink_target, is_sparse := e.is_sparse,
    allocated_size := e.allocated_size, xattrs := e.xattrs, inode := e.inode, nlink := e.nlink, acls := e.acls,
    bsd_flags := e.bsd_flags }

/-! ## the engine's fields, read off the model's configuration -/

def modeOfLinks : LinkMode → EnginePlan.SymlinkMode
  | .preserve => .Preserve | .follow => .Follow | .skip => .Skip

/-- the view of `SyncEngine` the planning round reads: `self.symlink_mode`, `self.transport` -/
def engOf (cfg : Cfg) : EnginePlan.SyncEngine := ⟨modeOfLinks cfg.links, {}⟩

/-- `StrategyPlanner::with_comparison_flags(self.ignore_times, self.size_only, self.checksum)` (src/sync/mod.rs:518-522,
    src/sync/strategy.rs:60-75: tolerance = the literal 1, a `Fast` verifier exactly with `--checksum`) -/
def plannerOf (cfg : Cfg) : PlannerFx.StrategyPlanner :=
  { mtime_tolerance := MTIME_TOLERANCE_SECS, ignore_times := cfg.compare == .ignoreTimes,
    size_only := cfg.compare == .sizeOnly, checksum := cfg.compare == .checksum,
    verifier := if cfg.compare == .checksum then some ⟨.Fast, false⟩ else none }

/-! ## one world for the planner and the executors -/

/-- what the planner's world has beyond the executors': what a destination symlink resolves to, the metadata of
    directories, the source root text (row keys of the checksum database — unused: the database is empty) -/
structure PlanView where
  through : Engine.Path → LinkTarget
  dirInfo : Rs.Path → Nat × Nat
  srcRoot : Rs.Path

/-- **the planner probes the SAME destination tree the executors write, and the SAME source files**: the planner's
    world (`Lemmas/GenPlannerFx.PlanWorld`) read off the executors' world (`Lemmas/GenEngineTask.EWorld`): same root text,
    same destination map, source path texts resolve as `xw.src` says, no checksum-database rows -/
def planWorldOf (ew : EWorld) (v : PlanView) : PlanWorld :=
  { root := ew.xw.root, dst := ew.xw.w.dst, through := v.through, dirInfo := v.dirInfo, outside := ew.xw.src,
    srcRoot := v.srcRoot, db := [] }

/-- the instance of unit EngineGuard: `Scanner::new(destination).scan()` is the walk of the destination the planner's
    world defines (`PlanWorld.scanOf`: one entry per node of the map, relative path = the key's text) -/
def guardExt : EngineGuard.Ext PlanWorld where
  scanner_Scanner_new p := p
  scanner_scan r := SyModel.Lemmas.GenPlannerFx.probe fun w => .ok ((w.scanOf r).map toGEntry)

/-! ## the untranslated fragments between the translated ones -/

/-- `deletions.retain(|task| { let rel = task.dest_path.strip_prefix(destination).unwrap_or(&task.dest_path);
    !scanned_paths.contains(rel) && !Self::is_own_metadata_file(rel) })` (src/sync/mod.rs:590-596) — transcribed by
    hand; `is_own_metadata_file` is the TRANSLATED function of unit EngineGuard -/
def retainGlue (scanned : List Rs.Path) (destination : Rs.Path) (ds : List PlannerFx.SyncTask) :
    List PlannerFx.SyncTask :=
  ds.filter fun t =>
    let rel := Rs.unwrap_or (Rs.strip_prefix t.dest_path destination) t.dest_path
    !(scanned.contains rel) && !(EngineGuard.is_own_metadata_file rel)

/-- the mass-deletion guard (src/sync/mod.rs:599-643), the nesting of the source kept: `if !deletions.is_empty() &&
    !self.force_delete { let dest_file_count = …; if dest_file_count > 0 { let delete_percentage = …; if delete_percentage
    > self.delete_threshold as f64 { return Err(..) } } }` with the three TRANSLATED fragments in their places.  (The
    interactive confirmation above 1000 deletions is skipped: `json = true`.) -/
def guardGlue (cfg : Cfg) (dels : List PlannerFx.SyncTask) (pw : PlanWorld) : Bool :=
  if !dels.isEmpty && !cfg.force then
    match SyModel.Lemmas.GenPlannerFx.runM (EngineGuard.dest_file_count guardExt pw.root) pw with
    | (.ok cnt, _) =>
      if cnt > 0 then
        Guards.threshold_exceeded (SyModel.Props.GenGuards.viewOf cfg) (Guards.delete_percentage (dels.map fun _ => ⟨⟩) cnt)
      else false
    | (.error _, _) => false
  else false

/-- `SyncStats::default()` -/
def stats0 : EngineTask.SyncStats :=
  { files_scanned := 0, files_created := 0, files_updated := 0, files_skipped := 0, files_deleted := 0,
    bytes_transferred := 0, files_delta_synced := 0, delta_bytes_saved := 0, files_compressed := 0,
    compression_bytes_saved := 0, files_verified := 0, verification_failures := 0, duration := 0,
    bytes_would_add := 0, bytes_would_change := 0, bytes_would_delete := 0, errors := [] }

/-- the inputs of a run that are not in the model's configuration -/
structure RunIn where
  /-- `source_files`: the scan AFTER the filter closure (src/sync/mod.rs:393-440) -/
  files : List EnginePlan.FileEntry
  /-- `scanned_paths`: the relative paths of ALL scanned entries (src/sync/mod.rs:383-387) -/
  scanned : List Rs.Path
  view : PlanView
  /-- `self.verification_mode` -/
  mode : EngineTask.ChecksumType

/-- what a run answers -/
structure SeqOut where
  /-- `sync` returned the guard's `Err` (src/sync/mod.rs:637-641) -/
  refused : Bool
  /-- the task list handed to the execution loop -/
  tasks : List EngineTask.SyncTask
  /-- the final `SyncStats` -/
  stats : EngineTask.SyncStats
  /-- the `Result` of every task body, in task order -/
  results : List (Except Rs.Err Unit)
  /-- the world afterwards: destination tree, link map, the JSON event stream -/
  world : EWorld
  /-- the process exit status -/
  exit : Nat

/-- **THE GLUE (TRUSTED): `SyncEngine::sync` + the exit decision of `main`, sequentially, from the translated pieces.**
    `none` = the planning loop or the execution loop answered `Err` (`sync` returned through a `?`; never on these
    instances).
    (a) planning: the TRANSLATED round `EnginePlan.plan_round` on the instance `ext2` (whose planner operations are the
        translated functions of unit PlannerFx), folded over `source_files` in order with `tasks` / `replaced_links`
        threaded, from `[]` / `[]`, `checksum_db = None` (mod.rs:523-582; the fold is `GenEnginePlan.planLoop`);
    (b) with `--delete`: the TRANSLATED `plan_deletions`, the `retain`, the guard with the TRANSLATED fragments; a refusal
        ends the run with exit status 1 (`sync` returns `Err`, `main` propagates it); else `tasks.extend(deletions)`
        (mod.rs:588-681 without the working-file partition);
    (c) execution: the TRANSLATED `EngineTask.run_task` on `engineExt cfg` (whose executors are the translated functions
        of unit Transfer), folded over the tasks in order with the statistics threaded (`execLoop`), `json = true`,
        no rate limiter, no performance monitor;
    (d) the TRANSLATED `MainExit.sync_failed` (src/main.rs:776) on the final statistics: exit status 1 if it fires, else 0. -/
def seqEngine (cfg : Cfg) (I : RunIn) (ew : EWorld) : Option SeqOut :=
  let pw := planWorldOf ew I.view
  match SyModel.Lemmas.GenPlannerFx.runM
      (planLoop (ext2 (plannerOf cfg)) (engOf cfg) pw.root {} none I.files [] []) pw with
  | (.error _, _) => none
  | (.ok (ts, _), pw1) =>
    let dels : List PlannerFx.SyncTask :=
      if cfg.delete then
        match SyModel.Lemmas.GenPlannerFx.runM
            ((plannerOf cfg).plan_deletions SyModel.Lemmas.GenPlannerFx.extOf (I.files.map toPEntry) pw1.root) pw1 with
        | (.ok ds, _) => retainGlue I.scanned pw1.root ds
        | (.error _, _) => []
      else []
    let tasks := ts.map toXTask ++ dels.map (fun d => toXTask (ofPTask d))
    if cfg.delete && guardGlue cfg dels pw1 then
      some { refused := true, tasks := tasks, stats := stats0, results := [], world := ew, exit := 1 }
    else
      match SyModel.Lemmas.GenTransfer.runM
          (execLoop (engineExt cfg) {} {} cfg.dryRun true I.mode none none tasks stats0 []) ew with
      | (.error _, _) => none
      | (.ok (st, rs), ew') =>
        some { refused := false, tasks := tasks, stats := st, results := rs, world := ew',
               exit := if MainExit.sync_failed ⟨st.errors.map fun _ => ⟨⟩, st.verification_failures⟩ then 1 else 0 }

/-! ## the abstraction of what a run answers -/

/-- the model key of a task: its destination path relative to the root, as components -/
def keyOfTask (root : Rs.Path) (t : EngineTask.SyncTask) : Engine.Path :=
  (SyModel.Lemmas.GenTransfer.keyOf root t.dest_path).getD []

/-- `SeqOut ↦ Engine.Result`: destination map and byte counter of the world; counters, events, error records through
    `absBook` (Lemmas/GenEngineTask); tasks through `absTaskE`; `aborted` is computed from the error list as the model
    computes it (the `max_errors` abort itself is not in the glue) -/
def absOut (cfg : Cfg) (ew0 : EWorld) (o : SeqOut) : Result :=
  let b := absBook o.world.xw.root o.stats o.world.log
  { refused := o.refused,
    aborted := !o.refused && (decide (0 < cfg.maxErrors) && decide (cfg.maxErrors ≤ b.errors.length)),
    dst := o.world.xw.w.dst,
    tasks := o.tasks.map fun t => absTaskE cfg ew0.xw t (keyOfTask ew0.xw.root t),
    created := b.created, updated := b.updated, skipped := b.skipped, deleted := b.deleted,
    bytes := o.world.xw.w.bytes, events := b.events.reverse, errors := b.errors.reverse, exit := o.exit }

end SyModel.Lemmas.GenEngineRun
