/-
  Lemmas/GenSingleFile — the bridge for the TRANSLATED `SyncEngine::sync_single_file`
  (Generated/Code/SingleFile.lean, regenerated from src/sync/mod.rs on every run).

  `singleSpec` is the same function written as a structured program (probe → finish | transferStep → verifyPhase →
  finish) over named record-valued helpers; `sync_single_file_eq_spec` says the generated do-block (join points,
  17-field record updates) IS that program, for ANY `Ext W` — the one place where a proof unfolds the generated body
  (the `run_*` theorems of Props/GenSingleFile evaluate it on a logging instance).  The rest runs the phases (`runM` of
  Lemmas/GenTransfer) forwards and backwards, and gives two predicates on computations that are closed under `pure`,
  `>>=`, `if`, `capture`: `Quiet` (the world is left alone: `Rs.Pres` of Lemmas/RsLogic, whose rules are used) and
  `FailsOnly P` (every failure is one `P` admits).
-/
import SyModel.Generated.Code.SingleFile
import SyModel.Lemmas.GenTransfer
namespace SyModel.GenSingleFile
open SyModel.Generated SyModel.Generated.SingleFile
open SyModel.Lemmas.GenTransfer (runM runM_bind runM_bind_ok runM_capture_eq runM_bind_eq_ok runM_bind_eq_error)

section
variable {W : Type}

def stats0 : SyncStats :=
  { files_scanned := 1, files_created := 0, files_updated := 0, files_skipped := 0, files_deleted := 0,
    bytes_transferred := 0, files_delta_synced := 0, delta_bytes_saved := 0, files_compressed := 0,
    compression_bytes_saved := 0, files_verified := 0, verification_failures := 0, duration := Rs.DURATION_ZERO,
    bytes_would_add := 0, bytes_would_change := 0, bytes_would_delete := 0, errors := [] }

def compressionPart (st : SyncStats) (r : TransferResult) : SyncStats :=
  if r.compression_used then
    match r.transferred_bytes with
    | some t => { st with files_compressed := 1, compression_bytes_saved := r.bytes_written - t }
    | none => { st with files_compressed := 1 }
  else st

def deltaPart (st : SyncStats) (r : TransferResult) : SyncStats :=
  if r.delta_operations.isSome then
    match r.literal_bytes with
    | some l => { st with files_delta_synced := 1, delta_bytes_saved := r.bytes_written - l }
    | none => { st with files_delta_synced := 1 }
  else st

theorem compressionPart_frame (st : SyncStats) (r : TransferResult) : compressionPart st r =
    { st with files_compressed := (compressionPart st r).files_compressed,
              compression_bytes_saved := (compressionPart st r).compression_bytes_saved } := by
  unfold compressionPart
  split
  · split <;> rfl
  · rfl

theorem deltaPart_frame (st : SyncStats) (r : TransferResult) : deltaPart st r =
    { st with files_delta_synced := (deltaPart st r).files_delta_synced,
              delta_bytes_saved := (deltaPart st r).delta_bytes_saved } := by
  unfold deltaPart
  split
  · split <;> rfl
  · rfl

def createStats (r : Option TransferResult) : SyncStats :=
  match r with
  | some r => { compressionPart { stats0 with bytes_transferred := r.bytes_written } r with files_created := 1 }
  | none => { stats0 with files_created := 1 }

def updateStats (r : Option TransferResult) : SyncStats :=
  match r with
  | some r => { compressionPart (deltaPart { stats0 with bytes_transferred := r.bytes_written } r) r with files_updated := 1 }
  | none => { stats0 with files_updated := 1 }

def verifyStats (st : SyncStats) (v : Except Rs.Err Bool) : SyncStats :=
  match v with
  | .ok true => { st with files_verified := 1 }
  | _ => { st with verification_failures := 1 }

def wantsVerify (self : SyncEngine) : Bool := self.verification_mode != ChecksumType.None && !self.dry_run
def verifierOf (self : SyncEngine) : IntegrityVerifier := ⟨self.verification_mode, self.verify_on_write⟩
def transferrerOf (self : SyncEngine) : Transferrer :=
  ⟨self.transport, self.dry_run, self.diff_mode, self.symlink_mode, self.preserve_xattrs, self.preserve_hardlinks,
    self.preserve_acls, self.preserve_flags, []⟩
def entryOf (s : Rs.Path) (filename : Rs.Str) (md : Rs.Metadata) : FileEntry :=
  { path := s, relative_path := filename, size := md.size, modified := md.mtime, is_dir := false, is_symlink := false,
    symlink_target := none, is_sparse := false, allocated_size := md.size, xattrs := none, inode := none, nlink := 1,
    acls := none, bsd_flags := none }

def finish (ext : Ext W) (start : Rs.Opaque) (st : SyncStats) : Rs.M W SyncStats := do
  let el ← ext.instant_elapsed start
  pure { st with duration := el }

def verifyPhase (ext : Ext W) (self : SyncEngine) (s d : Rs.Path) (st : SyncStats) : Rs.M W SyncStats :=
  if wantsVerify self then do
    let v ← Rs.capture (ext.verify_transfer (verifierOf self) s d)
    pure (verifyStats st v)
  else pure st

def transferStep (ext : Ext W) (self : SyncEngine) (s d : Rs.Path) : Rs.M W SyncStats := do
  let dest_exists ← ext.t_exists self.transport d
  let md ← ext.path_metadata s
  let filename ← Rs.liftE (Rs.ok_or_else (Rs.path_file_name s) (fun _ => Rs.Err.io))
  if dest_exists then do
    let r ← ext.transferrer_update (transferrerOf self) (entryOf s filename md) d
    pure (updateStats r)
  else do
    let r ← ext.transferrer_create (transferrerOf self) (entryOf s filename md) d
    pure (createStats r)

def transferPhase (ext : Ext W) (self : SyncEngine) (s d : Rs.Path) (start : Rs.Opaque) : Rs.M W SyncStats := do
  let st ← transferStep ext self s d
  let st ← verifyPhase ext self s d st
  finish ext start st

def probe (ext : Ext W) (self : SyncEngine) (s : Rs.Path) : Rs.M W (Rs.Opaque × Bool) := do
  let start ← ext.std_time_Instant_now ()
  match Rs.path_file_name s with
  | some name => do
    let md ← ext.path_metadata s
    let ex ← ext.should_exclude self name false
    pure (start, ex || self.should_filter_by_size md.size)
  | none => pure (start, false)

def singleSpec (ext : Ext W) (self : SyncEngine) (s d : Rs.Path) : Rs.M W SyncStats := do
  let p ← probe ext self s
  if p.2 then finish ext p.1 stats0 else transferPhase ext self s d p.1

theorem liftE_modified (md : Rs.Metadata) : (Rs.liftE (Rs.modified md) : Rs.M W _) = pure md.mtime := rfl
theorem liftE_ok_or_else_some {α : Type} (v : α) (f : Unit → Rs.Err) :
    (Rs.liftE (Rs.ok_or_else (some v) f) : Rs.M W _) = pure v := rfl

/-- The do-block's join points (`__do_jp`: the code after a branching statement) are pulled out as local definitions
    and each is shown ONCE to be the matching phase of `singleSpec`; the branches that jump to a join point are then
    closed by that equation, without running the continuation again in every branch. -/
theorem sync_single_file_eq_spec (ext : Ext W) (self : SyncEngine) (s d : Rs.Path) :
    SyncEngine.sync_single_file ext self s d = singleSpec ext self s d := by
  unfold SyncEngine.sync_single_file singleSpec probe
  rw [bind_assoc]
  refine bind_congr fun start => ?_
  extract_lets -underBinder start_time stats afterFilter
  have hphase : ∀ u, afterFilter u stats = transferPhase ext self s d start := by
    intro u
    unfold afterFilter transferPhase transferStep
    rw [bind_assoc]
    refine bind_congr fun de => ?_
    extract_lets -underBinder dest_exists hardlink_map transferrer fin
    have hfin : ∀ u st, fin u st = finish ext start st := fun _ _ => rfl
    clear_value fin
    cases de
    · simp -zeta only [dest_exists, Bool.not_false, if_true, Bool.false_eq_true, if_false, bind_assoc, liftE_modified,
        pure_bind]
      refine bind_congr fun md => bind_congr fun filename => bind_congr fun r => ?_
      extract_lets -underBinder afterCreate
      have hv : ∀ u st, afterCreate u st =
          verifyPhase ext self s d { st with files_created := 1 } >>= finish ext start := by
        intro u st
        unfold afterCreate verifyPhase wantsVerify
        split
        · rw [bind_assoc]
          refine bind_congr fun v => ?_
          rcases v with e | (_ | _) <;> exact hfin _ _
        · exact hfin _ _
      clear_value afterCreate
      rcases r with _ | ⟨bw, dops, lit, tb, cu⟩
      · exact hv _ _
      · cases cu <;> cases tb <;> exact hv _ _
    · simp -zeta only [dest_exists, Bool.not_true, if_true, Bool.false_eq_true, if_false, bind_assoc, liftE_modified,
        pure_bind]
      refine bind_congr fun md => bind_congr fun filename => bind_congr fun r => ?_
      extract_lets -underBinder afterUpdate
      have hv : ∀ u st, afterUpdate u st =
          verifyPhase ext self s d { st with files_updated := 1 } >>= finish ext start := by
        intro u st
        unfold afterUpdate verifyPhase wantsVerify
        split
        · rw [bind_assoc]
          refine bind_congr fun v => ?_
          rcases v with e | (_ | _) <;> exact hfin _ _
        · exact hfin _ _
      clear_value afterUpdate
      rcases r with _ | ⟨bw, dops, lit, tb, cu⟩
      · exact hv _ _
      · cases dops <;> cases lit <;> cases cu <;> cases tb <;> exact hv _ _
  clear_value afterFilter
  cases Rs.path_file_name s with
  | none => exact hphase ()
  | some name =>
    simp only [bind_assoc, pure_bind]
    refine bind_congr fun md => bind_congr fun ex => ?_
    cases ex || self.should_filter_by_size (Rs.len md)
    · exact hphase ()
    · rfl

/-- `stats.duration = start_time.elapsed(); Ok(stats)` -/
theorem finish_run (ext : Ext W) (t : Rs.Opaque) (st : SyncStats) (w : W) :
    runM (finish ext t st) w = match runM (ext.instant_elapsed t) w with
      | (.ok el, w') => (.ok { st with duration := el }, w')
      | (.error e, w') => (.error e, w') := by
  unfold finish
  rw [runM_bind]
  rcases runM (ext.instant_elapsed t) w with ⟨_ | _, _⟩ <;> rfl

/-- the verification phase never fails: the `Result` of `verify_transfer` is kept as a value -/
theorem verifyPhase_run (ext : Ext W) (self : SyncEngine) (s d : Rs.Path) (st : SyncStats) (w : W) :
    runM (verifyPhase ext self s d st) w =
      if wantsVerify self = true then
        (.ok (verifyStats st (runM (ext.verify_transfer (verifierOf self) s d) w).1),
          (runM (ext.verify_transfer (verifierOf self) s d) w).2)
      else (.ok st, w) := by
  unfold verifyPhase
  split
  · rw [runM_bind, runM_capture_eq]; rfl
  · rfl

theorem probe_run (ext : Ext W) (self : SyncEngine) (s : Rs.Path) {w w1 w2 w3 : W} {t : Rs.Opaque} {name : Rs.Str}
    {md : Rs.Metadata} {ex : Bool}
    (hnow : runM (ext.std_time_Instant_now ()) w = (.ok t, w1))
    (hn : Rs.path_file_name s = some name)
    (hmd : runM (ext.path_metadata s) w1 = (.ok md, w2))
    (hex : runM (ext.should_exclude self name false) w2 = (.ok ex, w3)) :
    runM (probe ext self s) w = (.ok (t, ex || self.should_filter_by_size md.size), w3) := by
  unfold probe
  rw [runM_bind_ok hnow]
  simp only [hn]
  rw [runM_bind_ok hmd, runM_bind_ok hex]
  rfl

theorem probe_run_noname (ext : Ext W) (self : SyncEngine) (s : Rs.Path) {w w1 : W} {t : Rs.Opaque}
    (hnow : runM (ext.std_time_Instant_now ()) w = (.ok t, w1))
    (hn : Rs.path_file_name s = none) :
    runM (probe ext self s) w = (.ok (t, false), w1) := by
  unfold probe
  rw [runM_bind_ok hnow]
  simp only [hn]
  rfl

theorem probe_ok_inv (ext : Ext W) (self : SyncEngine) (s : Rs.Path) {w wf : W} {t : Rs.Opaque} {flt : Bool}
    (h : runM (probe ext self s) w = (.ok (t, flt), wf)) :
    ∃ w1, runM (ext.std_time_Instant_now ()) w = (.ok t, w1) ∧
      ((Rs.path_file_name s = none ∧ flt = false ∧ wf = w1) ∨
       ∃ name md w2 ex, Rs.path_file_name s = some name ∧ runM (ext.path_metadata s) w1 = (.ok md, w2) ∧
         runM (ext.should_exclude self name false) w2 = (.ok ex, wf) ∧
         flt = (ex || self.should_filter_by_size md.size)) := by
  unfold probe at h
  obtain ⟨t', w1, hnow, h⟩ := runM_bind_eq_ok h
  cases hn : Rs.path_file_name s with
  | none =>
    simp only [hn] at h
    cases h
    exact ⟨_, hnow, .inl ⟨rfl, rfl, rfl⟩⟩
  | some name =>
    simp only [hn] at h
    obtain ⟨md, w2, hmd, h⟩ := runM_bind_eq_ok h
    obtain ⟨ex, w3, hex, h⟩ := runM_bind_eq_ok h
    cases h
    exact ⟨w1, hnow, .inr ⟨name, md, w2, ex, rfl, hmd, hex, rfl⟩⟩

theorem transferStep_run (ext : Ext W) (self : SyncEngine) (s d : Rs.Path) {w w1 w2 : W} {de : Bool}
    {md : Rs.Metadata} {name : Rs.Str}
    (hde : runM (ext.t_exists self.transport d) w = (.ok de, w1))
    (hmd : runM (ext.path_metadata s) w1 = (.ok md, w2))
    (hn : Rs.path_file_name s = some name) :
    runM (transferStep ext self s d) w =
      if de = true then
        runM (ext.transferrer_update (transferrerOf self) (entryOf s name md) d >>= fun r => pure (updateStats r)) w2
      else
        runM (ext.transferrer_create (transferrerOf self) (entryOf s name md) d >>= fun r => pure (createStats r)) w2 := by
  unfold transferStep
  rw [runM_bind_ok hde, runM_bind_ok hmd, hn, liftE_ok_or_else_some, pure_bind]
  cases de <;> rfl

/-- a successful transfer step, taken apart: ONE call of `update` (destination exists) or of `create` -/
theorem transferStep_ok_inv (ext : Ext W) (self : SyncEngine) (s d : Rs.Path) {w wf : W} {base : SyncStats}
    (h : runM (transferStep ext self s d) w = (.ok base, wf)) :
    ∃ de w1 md w2 name, runM (ext.t_exists self.transport d) w = (.ok de, w1) ∧
      runM (ext.path_metadata s) w1 = (.ok md, w2) ∧ Rs.path_file_name s = some name ∧
      ((de = true ∧ ∃ r, runM (ext.transferrer_update (transferrerOf self) (entryOf s name md) d) w2 = (.ok r, wf) ∧
          base = updateStats r) ∨
       (de = false ∧ ∃ r, runM (ext.transferrer_create (transferrerOf self) (entryOf s name md) d) w2 = (.ok r, wf) ∧
          base = createStats r)) := by
  unfold transferStep at h
  obtain ⟨de, w1, hde, h⟩ := runM_bind_eq_ok h
  obtain ⟨md, w2, hmd, h⟩ := runM_bind_eq_ok h
  cases hn : Rs.path_file_name s with
  | none =>
    rw [hn] at h
    obtain ⟨_, _, h', _⟩ := runM_bind_eq_ok h
    cases h'
  | some name =>
    rw [hn, liftE_ok_or_else_some, pure_bind] at h
    refine ⟨de, w1, md, w2, name, hde, hmd, rfl, ?_⟩
    cases de
    · simp only [Bool.false_eq_true, if_false] at h
      obtain ⟨r, w3, hr, h⟩ := runM_bind_eq_ok h
      cases h
      exact .inr ⟨rfl, r, hr, rfl⟩
    · simp only [if_true] at h
      obtain ⟨r, w3, hr, h⟩ := runM_bind_eq_ok h
      cases h
      exact .inl ⟨rfl, r, hr, rfl⟩

theorem spec_ok_inv (ext : Ext W) (self : SyncEngine) (s d : Rs.Path) {w wf : W} {st : SyncStats}
    (h : runM (singleSpec ext self s d) w = (.ok st, wf)) :
    ∃ t flt w1, runM (probe ext self s) w = (.ok (t, flt), w1) ∧
      ((flt = true ∧ ∃ el, runM (ext.instant_elapsed t) w1 = (.ok el, wf) ∧ st = { stats0 with duration := el }) ∨
       (flt = false ∧ ∃ base w2 el, runM (transferStep ext self s d) w1 = (.ok base, w2) ∧
          runM (ext.instant_elapsed t) (runM (verifyPhase ext self s d base) w2).2 = (.ok el, wf) ∧
          ∃ st', (runM (verifyPhase ext self s d base) w2).1 = .ok st' ∧ st = { st' with duration := el })) := by
  unfold singleSpec at h
  obtain ⟨⟨t, flt⟩, w1, hp, h⟩ := runM_bind_eq_ok h
  refine ⟨t, flt, w1, hp, ?_⟩
  cases flt
  · simp only [Bool.false_eq_true, if_false] at h
    unfold transferPhase at h
    obtain ⟨base, w2, hb, h⟩ := runM_bind_eq_ok h
    obtain ⟨st', w3, hv, h⟩ := runM_bind_eq_ok h
    rw [finish_run] at h
    rcases hel : runM (ext.instant_elapsed t) w3 with ⟨_ | el, w4⟩ <;> rw [hel] at h
    · cases h
    · cases h
      refine .inr ⟨rfl, base, w2, el, hb, ?_, st', ?_, rfl⟩
      · rw [hv]; exact hel
      · rw [hv]
  · simp only [if_true] at h
    rw [finish_run] at h
    rcases hel : runM (ext.instant_elapsed t) w1 with ⟨_ | el, w4⟩ <;> rw [hel] at h
    · cases h
    · cases h
      exact .inl ⟨rfl, el, rfl, rfl⟩

/-- the computation never changes the world, whatever it returns -/
def Quiet {α : Type} (x : Rs.M W α) : Prop := ∀ w, (runM x w).2 = w

theorem Quiet.capture {α : Type} {x : Rs.M W α} (hx : Quiet x) : Quiet (Rs.capture x) := Rs.Pres.capture hx

/-- every failure of the computation (error and world it leaves) is one that `P` admits -/
def FailsOnly {α : Type} (x : Rs.M W α) (P : Rs.Err → W → Prop) : Prop :=
  ∀ w e wf, runM x w = (.error e, wf) → P e wf

variable {α β : Type} {P : Rs.Err → W → Prop}

theorem FailsOnly.pure (a : α) : FailsOnly (pure a : Rs.M W α) P := fun _ _ _ h => by cases h
theorem FailsOnly.bind {x : Rs.M W α} {f : α → Rs.M W β} (hx : FailsOnly x P) (hf : ∀ a, FailsOnly (f a) P) :
    FailsOnly (x >>= f) P := by
  intro w e wf h
  rcases runM_bind_eq_error h with h | ⟨a, w', _, h⟩
  · exact hx _ _ _ h
  · exact hf a _ _ _ h
theorem FailsOnly.ite {c : Prop} [Decidable c] {x y : Rs.M W α} (hx : FailsOnly x P) (hy : FailsOnly y P) :
    FailsOnly (if c then x else y) P := by split <;> assumption
/-- a captured `Result` is a value: nothing fails -/
theorem FailsOnly.capture (x : Rs.M W α) : FailsOnly (Rs.capture x) P := fun _ _ _ h => by cases h

end
end SyModel.GenSingleFile
