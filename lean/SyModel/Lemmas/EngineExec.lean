/-
  The executors of the entry-level model, each described once: `mkdirAll` (when it completes: `mkdirAll_some` /
  `mkdirAll_none`; what it leaves: `mkdirAll_get`; over parents that allow it or exist already: `mkdirAll_parent`,
  `mkdirAll_parent_of_dirs`, `mkdirAll_fresh`; with the entry itself removed: `mkdirAll_parent_erase`), the four writers
  (`*_spec`; what `writeFile` reads of the metadata, `writeFile_congr`; `writeFile` after its own `mkdirAll` of the parents,
  `writeFile_after_mkdir`; rewriting or re-linking a node onto itself, `writeFile_rewrite`, `relinkFile_same`; `relinkFile`
  over a directory fails, `relinkFile_dir`; `linkFile` after the removal of the entry is `relinkFile` before it,
  `linkFile_erase_eq_relinkFile`), `perform` by arm (`perform_cases`, `performCU_cases`, `perform_delete_spec`), what a
  completed create/update leaves by payload (`performCU_file` / `_dir` / `_symlink` / `_nothing`), in the link map
  (`performCU_linkMap`), at its own path (`performCU_present`) and elsewhere (`performCU_frame`), and when a create/update
  completes (`performCU_necessary`, `performCU_of_fits`).  The vocabulary the file introduces for all of this and for its
  users: `performCU` (the create/update arm of `perform`), `FrameAt`, `Matches`, `Deleted`, and the conditions on the state
  before a task `AncOK`, `AncDirs`, `OwnOK`, `LinkFits`.  Used by the entry-level (`Lemmas/Engine*`), the step-level
  (`Lemmas/Steps*`) and the translated-code (`Lemmas/Gen*`) lemma files.
-/
import SyModel.Lemmas.Engine
import SyModel.Lemmas.EnginePath
import SyModel.Lemmas.EngineDirBase
namespace SyModel.Engine

/-- the step function folded by `mkdirAll` -/
def mkStep (acc : Option (Map DNode)) (q : Path) : Option (Map DNode) :=
  match acc with
  | none => none
  | some d =>
    if q = [] then some d else
    match d.get? q with
    | none => some (d.set q .dir)
    | some .dir => some d
    | some _ => none

theorem mkdirAll_eq (dst : Map DNode) (p : Path) :
    mkdirAll dst p = (ancestors p ++ [p]).foldl mkStep (some dst) := rfl

theorem foldl_mkStep_none (qs : List Path) : qs.foldl mkStep none = none := by
  induction qs with
  | nil => rfl
  | cons q qs ih => simpa [mkStep] using ih

theorem mkStep_some (d0 : Map DNode) (q : Path) :
    (mkStep (some d0) q = none ∧ q ≠ [] ∧ d0.get? q ≠ none ∧ d0.get? q ≠ some .dir) ∨
    (mkStep (some d0) q = some d0 ∧ (q = [] ∨ d0.get? q = some .dir)) ∨
    (mkStep (some d0) q = some (d0.set q .dir) ∧ q ≠ [] ∧ d0.get? q = none) := by
  by_cases hq : q = []
  · exact Or.inr (Or.inl ⟨by simp [mkStep, hq], Or.inl hq⟩)
  · cases hg : d0.get? q with
    | none => exact Or.inr (Or.inr ⟨by simp [mkStep, hq, hg], hq, rfl⟩)
    | some v =>
      cases v with
      | dir => exact Or.inr (Or.inl ⟨by simp [mkStep, hq, hg], Or.inr rfl⟩)
      | file m => exact Or.inl ⟨by simp [mkStep, hq, hg], hq, by simp, by simp⟩
      | symlink s => exact Or.inl ⟨by simp [mkStep, hq, hg], hq, by simp, by simp⟩

theorem foldl_mkStep_spec (qs : List Path) (d0 d : Map DNode) (h : qs.foldl mkStep (some d0) = some d) :
    (∀ x, d.get? x = d0.get? x ∨ (x ∈ qs ∧ x ≠ [] ∧ d0.get? x = none ∧ d.get? x = some .dir)) ∧
    (∀ x ∈ qs, x ≠ [] → d.get? x = some .dir) := by
  induction qs generalizing d0 with
  | nil =>
    simp only [List.foldl_nil, Option.some.injEq] at h
    subst h
    exact ⟨fun x => Or.inl rfl, fun x hx => by simp at hx⟩
  | cons q qs ih =>
    rw [List.foldl_cons] at h
    rcases mkStep_some d0 q with ⟨hs, _⟩ | ⟨hs, hq⟩ | ⟨hs, hq, hg⟩
    · rw [hs, foldl_mkStep_none] at h; cases h
    · rw [hs] at h
      obtain ⟨i1, i2⟩ := ih d0 h
      refine ⟨fun x => ?_, fun x hx hne => ?_⟩
      · rcases i1 x with h1 | ⟨a, b, c, e⟩
        · exact Or.inl h1
        · exact Or.inr ⟨List.mem_cons_of_mem _ a, b, c, e⟩
      · rcases List.mem_cons.1 hx with hx | hx
        · subst hx
          rcases hq with hq | hq
          · exact absurd hq hne
          · rcases i1 x with h1 | ⟨_, _, c, _⟩
            · rw [h1, hq]
            · rw [hq] at c; cases c
        · exact i2 x hx hne
    · rw [hs] at h
      obtain ⟨i1, i2⟩ := ih _ h
      have hqd : d.get? q = some .dir := by
        rcases i1 q with h1 | ⟨_, _, c, _⟩
        · rw [h1]; simp
        · simp at c
      refine ⟨fun x => ?_, fun x hx hne => ?_⟩
      · by_cases hx : x = q
        · subst hx
          exact Or.inr ⟨List.mem_cons_self .., hq, hg, hqd⟩
        · have hset : (d0.set q .dir).get? x = d0.get? x := Map.get?_set_ne _ _ _ _ (Ne.symm hx)
          rcases i1 x with h1 | ⟨a, b, c, e⟩
          · exact Or.inl (h1.trans hset)
          · exact Or.inr ⟨List.mem_cons_of_mem _ a, b, hset ▸ c, e⟩
      · rcases List.mem_cons.1 hx with hx | hx
        · rw [hx]; exact hqd
        · exact i2 x hx hne

theorem mkdirAll_frame {dst d : Map DNode} {p : Path} (h : mkdirAll dst p = some d) (x : Path) :
    d.get? x = dst.get? x ∨
      (x ≠ [] ∧ isPrefix x p = true ∧ dst.get? x = none ∧ d.get? x = some .dir) := by
  rw [mkdirAll_eq] at h
  rcases (foldl_mkStep_spec _ _ _ h).1 x with h1 | ⟨a, b, c, e⟩
  · exact Or.inl h1
  · refine Or.inr ⟨b, ?_, c, e⟩
    rcases mem_chain_self.1 a with ⟨_, hp⟩ | he
    · exact hp
    · rw [he]; exact isPrefix_refl p

theorem mkdirAll_dirs {dst d : Map DNode} {p : Path} (h : mkdirAll dst p = some d) (x : Path)
    (hx : x ≠ []) (hp : isPrefix x p = true) : d.get? x = some .dir := by
  rw [mkdirAll_eq] at h
  exact (foldl_mkStep_spec _ _ _ h).2 x (mem_chain_self.2 (Or.inl ⟨hx, hp⟩)) hx

theorem mkdirAll_pre {dst d : Map DNode} {p : Path} (h : mkdirAll dst p = some d) (x : Path)
    (hx : x ≠ []) (hp : isPrefix x p = true) : dst.get? x = none ∨ dst.get? x = some .dir := by
  have h1 := mkdirAll_dirs h x hx hp
  rcases mkdirAll_frame h x with h2 | ⟨_, _, c, _⟩
  · exact Or.inr (h2 ▸ h1)
  · exact Or.inl c

theorem foldl_mkStep_some (qs : List Path) (d0 : Map DNode)
    (h : ∀ x ∈ qs, x ≠ [] → d0.get? x = none ∨ d0.get? x = some .dir) :
    ∃ d, qs.foldl mkStep (some d0) = some d := by
  induction qs generalizing d0 with
  | nil => exact ⟨d0, rfl⟩
  | cons q qs ih =>
    rw [List.foldl_cons]
    rcases mkStep_some d0 q with ⟨_, hq, h1, h2⟩ | ⟨hs, _⟩ | ⟨hs, _, _⟩
    · rcases h q (List.mem_cons_self ..) hq with hg | hg
      · exact absurd hg h1
      · exact absurd hg h2
    · rw [hs]; exact ih d0 (fun x hx => h x (List.mem_cons_of_mem _ hx))
    · rw [hs]
      apply ih
      intro x hx hne
      rw [Map.get?_set]
      split
      · exact Or.inr rfl
      · exact h x (List.mem_cons_of_mem _ hx) hne

/-- the converse of `mkdirAll_pre`: that is all `mkdirAll` needs to succeed -/
theorem mkdirAll_some (dst : Map DNode) (p : Path)
    (h : ∀ x, x ≠ [] → isPrefix x p = true → dst.get? x = none ∨ dst.get? x = some .dir) :
    ∃ d, mkdirAll dst p = some d := by
  rw [mkdirAll_eq]
  apply foldl_mkStep_some
  intro x hx hne
  rcases mem_chain_self.1 hx with ⟨_, hp⟩ | he
  · exact h x hne hp
  · exact h x hne (he ▸ isPrefix_refl _)

theorem mkdirAll_get {dst d : Map DNode} {p : Path} (h : mkdirAll dst p = some d) (x : Path) :
    d.get? x = if x ≠ [] ∧ isPrefix x p = true then some .dir else dst.get? x := by
  split
  · rename_i hx
    exact mkdirAll_dirs h x hx.1 hx.2
  · rename_i hx
    exact (mkdirAll_frame h x).elim id fun ⟨a, b, _⟩ => absurd ⟨a, b⟩ hx

theorem mkdirAll_none {dst : Map DNode} {p : Path} (h : mkdirAll dst p = none) :
    ∃ x, x ≠ [] ∧ isPrefix x p = true ∧ dst.get? x ≠ none ∧ dst.get? x ≠ some .dir := by
  apply Classical.byContradiction
  intro hc
  simp only [not_exists, not_and] at hc
  obtain ⟨d, hd⟩ := mkdirAll_some dst p fun x hx hp =>
    Classical.byContradiction fun hn => hc x hx hp (fun h => hn (.inl h)) fun h => hn (.inr h)
  rw [hd] at h
  cases h

theorem mkdirAll_get?_of_present {dst d : Map DNode} {p x : Path} (h : mkdirAll dst p = some d)
    (hx : dst.get? x ≠ none) : d.get? x = dst.get? x := by
  rcases mkdirAll_frame h x with h1 | ⟨_, _, c, _⟩
  · exact h1
  · exact absurd c hx

theorem mkdirAll_get?_of_not_dir {dst d : Map DNode} {p x : Path} (h : mkdirAll dst p = some d)
    (hx : d.get? x ≠ some .dir) : d.get? x = dst.get? x := by
  rcases mkdirAll_frame h x with h1 | ⟨_, _, _, e⟩
  · exact h1
  · exact absurd e hx

theorem foldl_mkStep_of_dirs (qs : List Path) (d0 : Map DNode)
    (h : ∀ x ∈ qs, x ≠ [] → d0.get? x = some .dir) : qs.foldl mkStep (some d0) = some d0 := by
  induction qs with
  | nil => rfl
  | cons q qs ih =>
    rw [List.foldl_cons]
    have hs : mkStep (some d0) q = some d0 := by
      by_cases hq : q = []
      · simp [mkStep, hq]
      · simp [mkStep, hq, h q (List.mem_cons_self ..) hq]
    rw [hs]
    exact ih (fun x hx => h x (List.mem_cons_of_mem _ hx))

theorem mkdirAll_of_dirs (dst : Map DNode) (p : Path)
    (h : ∀ x, x ≠ [] → isPrefix x p = true → dst.get? x = some .dir) : mkdirAll dst p = some dst := by
  rw [mkdirAll_eq]
  apply foldl_mkStep_of_dirs
  intro x hx hne
  rcases mem_chain_self.1 hx with ⟨_, hp⟩ | he
  · exact h x hne hp
  · exact h x hne (he ▸ isPrefix_refl _)

theorem mkdirAll_idem {dst d : Map DNode} {p : Path} (h : mkdirAll dst p = some d) : mkdirAll d p = some d :=
  mkdirAll_of_dirs d p (fun x hx hp => mkdirAll_dirs h x hx hp)

/-- every non-root strict ancestor of `p` is absent or a directory: exactly what `mkdirAll s (parentOf p)` needs
    (`mkdirAll_parent`, `ancOK_of_parent`) -/
def AncOK (s : Map DNode) (p : Path) : Prop :=
  ∀ x, x ≠ [] → isPrefix x p = true → x ≠ p → s.get? x = none ∨ s.get? x = some .dir

/-- every non-root strict ancestor of `p` is a directory (`AncOK` without "or absent"; `GClosed d` of Lemmas/EngineClosed says
    this of every `p` present in `d`) -/
def AncDirs (s : Map DNode) (p : Path) : Prop :=
  ∀ x, x ≠ [] → isPrefix x p = true → x ≠ p → s.get? x = some .dir

theorem get?_of_parent {s d : Map DNode} {p : Path} (h : mkdirAll s (parentOf p) = some d) :
    d.get? p = s.get? p := by
  rw [mkdirAll_get h, if_neg fun hc => parentOf_ne hc.1 (isPrefix_antisymm (parentOf_isPrefix p) hc.2)]

theorem mkdirAll_parent {s : Map DNode} {p : Path} (h : AncOK s p) :
    ∃ d, mkdirAll s (parentOf p) = some d ∧ d.get? p = s.get? p ∧
      (∀ q, s.get? q ≠ none → d.get? q = s.get? q) := by
  obtain ⟨d, hd⟩ := mkdirAll_some s (parentOf p) (by
    intro x hx hpx
    exact h x hx (isPrefix_parentOf_strict hx hpx).1 (isPrefix_parentOf_strict hx hpx).2)
  exact ⟨d, hd, get?_of_parent hd, fun q hq => mkdirAll_get?_of_present hd hq⟩

theorem ancOK_of_parent {s d : Map DNode} {p : Path} (h : mkdirAll s (parentOf p) = some d) : AncOK s p :=
  fun x hx hpx hne => mkdirAll_pre h x hx (isPrefix_parentOf hpx hne)

theorem mkdirAll_parent_of_dirs {dst : Map DNode} {p : Path}
    (hanc : AncDirs dst p) :
    mkdirAll dst (parentOf p) = some dst := by
  apply mkdirAll_of_dirs
  intro x hx hpx
  exact hanc x hx (isPrefix_parentOf_strict hx hpx).1 (isPrefix_parentOf_strict hx hpx).2

theorem mkdirAll_fresh {d : Map DNode} {k : Path} (hk : k ≠ [])
    (hdirs : AncDirs d k) (hk0 : d.get? k = none) :
    mkdirAll d k = some (d.set k .dir) := by
  have hanc : (ancestors k).foldl mkStep (some d) = some d :=
    foldl_mkStep_of_dirs _ _ (fun x hx hne => by
      obtain ⟨h1, h2, h3⟩ := mem_ancestors.1 hx
      exact hdirs x h1 h2 h3)
  rw [mkdirAll_eq, List.foldl_append, hanc]
  simp [mkStep, hk, hk0]

theorem mkStep_erase (acc : Option (Map DNode)) (q k : Path) (h : q ≠ k) :
    mkStep (acc.map (·.erase k)) q = (mkStep acc q).map (·.erase k) := by
  cases acc with
  | none => rfl
  | some d =>
    simp only [mkStep, Option.map_some]
    by_cases hq : q = []
    · simp [hq]
    · simp only [hq, ↓reduceIte, Map.get?_erase_ne d k q (Ne.symm h)]
      cases hg : d.get? q with
      | none => simp [Map.set_erase_comm d q k .dir h]
      | some n => cases n <;> simp

theorem foldl_mkStep_erase (qs : List Path) (k : Path) (hq : ∀ q ∈ qs, q ≠ k) :
    ∀ acc : Option (Map DNode), qs.foldl mkStep (acc.map (·.erase k)) = (qs.foldl mkStep acc).map (·.erase k) := by
  induction qs with
  | nil => intro acc; rfl
  | cons q qs ih =>
    intro acc
    simp only [List.foldl_cons]
    rw [mkStep_erase acc q k (hq q (by simp)), ih (fun x hx => hq x (List.mem_cons_of_mem _ hx))]

theorem mkdirAll_parent_erase (dst : Map DNode) (k : Path) (hk : k ≠ []) :
    mkdirAll (dst.erase k) (parentOf k) = (mkdirAll dst (parentOf k)).map (·.erase k) := by
  rw [mkdirAll_eq, mkdirAll_eq]
  exact foldl_mkStep_erase _ k (fun q hq he => (mem_chain_parentOf (he ▸ hq) hk).2 rfl) (some dst)

/-- `d1` differs from `d0` only at `r` and at absent strict ancestors of `r`, which became
    directories -/
def FrameAt (d0 d1 : Map DNode) (r : Path) : Prop :=
  ∀ x, x ≠ r → d1.get? x = d0.get? x ∨
    (d0.get? x = none ∧ d1.get? x = some .dir ∧ isPrefix x r = true ∧ x ≠ [])

theorem FrameAt.rfl' (d : Map DNode) (r : Path) : FrameAt d d r := fun _ _ => Or.inl rfl

theorem frameAt_mkdir {d0 d : Map DNode} {r : Path} (h : mkdirAll d0 r = some d) : FrameAt d0 d r := by
  intro x _
  rcases mkdirAll_frame h x with h1 | ⟨a, b, c, e⟩
  · exact Or.inl h1
  · exact Or.inr ⟨c, e, b, a⟩

theorem frameAt_set_mkdir {d0 d : Map DNode} {r : Path} (v : DNode)
    (h : mkdirAll d0 (parentOf r) = some d) : FrameAt d0 (d.set r v) r := by
  intro x hx
  rw [Map.get?_set_ne _ _ _ _ (Ne.symm hx)]
  rcases mkdirAll_frame h x with h1 | ⟨a, b, c, e⟩
  · exact Or.inl h1
  · exact Or.inr ⟨c, e, isPrefix_trans b (parentOf_isPrefix r), a⟩

/-- destination file data equals the source's (what a transfer establishes) -/
def Matches (cfg : Cfg) (d m : FileMeta) : Prop :=
  d.content = m.content ∧ d.size = m.size ∧ d.mtime = m.mtime ∧
    d.xattrs = (if cfg.xattrs then m.xattrs else [])

theorem writeFile_spec {cfg : Cfg} {w w' : World} {p : Path} {m : FileMeta}
    (h : writeFile cfg w p m = some w') :
    ∃ d node, mkdirAll w.dst (parentOf p) = some d ∧ d.get? p ≠ some .dir ∧
      w'.dst = d.set p (.file node) ∧ Matches cfg node m ∧ w'.linkMap = w.linkMap ∧
      (∀ o, d.get? p = some (.file o) → node.ino = o.ino) := by
  unfold writeFile at h
  cases hm : mkdirAll w.dst (parentOf p) with
  | none => simp [hm] at h
  | some d =>
    simp only [hm] at h
    split at h
    · cases h
    · rename_i hnd
      simp only [Option.some.injEq] at h
      subst h
      exact ⟨d, _, rfl, fun hd => hnd hd, rfl, ⟨rfl, rfl, rfl, rfl⟩, rfl, fun o ho => by simp only [ho]⟩

/-- `writeFile` reads content, size, mtime — and the xattrs only with `-X` -/
theorem writeFile_congr (c : Cfg) (w : World) (k : Path) (m1 m2 : FileMeta) (h1 : m1.content = m2.content)
    (h2 : m1.size = m2.size) (h3 : m1.mtime = m2.mtime) (h4 : c.xattrs = true → m1.xattrs = m2.xattrs) :
    writeFile c w k m1 = writeFile c w k m2 := by
  unfold writeFile
  cases hx : c.xattrs
  · simp [h1, h2, h3]
  · simp [h1, h2, h3, h4 hx]

theorem FileMeta.eq_of_matches {cfg : Cfg} {d m : FileMeta} (h : Matches cfg d m) :
    ({ content := m.content, size := m.size, mtime := m.mtime,
       xattrs := if cfg.xattrs then m.xattrs else [], ino := d.ino } : FileMeta) = d := by
  obtain ⟨a, b, c, e⟩ := h
  cases d
  simp only at a b c e
  simp [a, b, c, e]

theorem writeFile_rewrite {cfg : Cfg} {w : World} {p : Path} {m d : FileMeta}
    (hg : w.dst.get? p = some (.file d))
    (hanc : AncDirs w.dst p)
    (hm : Matches cfg d m) :
    ∃ w', writeFile cfg w p m = some w' ∧ (∀ q, w'.dst.get? q = w.dst.get? q) ∧ w'.linkMap = w.linkMap := by
  have hmk := mkdirAll_parent_of_dirs hanc
  unfold writeFile
  simp only [hmk, hg]
  refine ⟨_, rfl, fun q => ?_, rfl⟩
  simp only [FileMeta.eq_of_matches hm, Map.get?_set]
  split
  · rename_i h; subst h; exact hg.symm
  · rfl

theorem writeFile_after_mkdir (c : Cfg) (w : World) (k : Path) (m : FileMeta) (d : Map DNode)
    (h : mkdirAll w.dst (parentOf k) = some d) : writeFile c { w with dst := d } k m = writeFile c w k m := by
  unfold writeFile
  simp only [h, mkdirAll_idem h]

theorem writeSymlink_spec {w w' : World} {p : Path} {text : String}
    (h : writeSymlink w p text = some w') :
    ∃ d, mkdirAll w.dst (parentOf p) = some d ∧ d.get? p ≠ some .dir ∧
      w'.dst = d.set p (.symlink text) ∧ w'.linkMap = w.linkMap := by
  unfold writeSymlink at h
  cases hm : mkdirAll w.dst (parentOf p) with
  | none => simp [hm] at h
  | some d =>
    simp only [hm] at h
    split at h
    · cases h
    · rename_i hnd
      simp only [Option.some.injEq] at h
      subst h
      exact ⟨d, rfl, fun hd => hnd hd, rfl, rfl⟩

theorem linkFile_spec {w w' : World} {p first : Path} (h : linkFile w p first = some w') :
    ∃ d fm, mkdirAll w.dst (parentOf p) = some d ∧ d.get? p = none ∧ d.get? first = some (.file fm) ∧
      w'.dst = d.set p (.file fm) ∧ w'.linkMap = w.linkMap := by
  unfold linkFile at h
  cases hm : mkdirAll w.dst (parentOf p) with
  | none => simp [hm] at h
  | some d =>
    simp only [hm] at h
    split at h
    · rename_i fm hp hf
      simp only [Option.some.injEq] at h
      subst h
      exact ⟨d, fm, rfl, hp, hf, rfl, rfl⟩
    · cases h

theorem relinkFile_spec {w w' : World} {p first : Path} (h : relinkFile w p first = some w') :
    ∃ d fm, mkdirAll w.dst (parentOf p) = some d ∧ d.get? p ≠ some .dir ∧ d.get? first = some (.file fm) ∧
      w'.dst = d.set p (.file fm) ∧ w'.linkMap = w.linkMap := by
  unfold relinkFile at h
  cases hm : mkdirAll w.dst (parentOf p) with
  | none => simp [hm] at h
  | some d =>
    simp only [hm] at h
    split at h
    · cases h
    · rename_i fm hf hnd
      simp only [Option.some.injEq] at h
      subst h
      exact ⟨d, fm, rfl, fun hd => hnd hd, hf, rfl, rfl⟩
    · cases h

theorem relinkFile_same {w : World} {p first : Path} {d : FileMeta}
    (hg : w.dst.get? p = some (.file d))
    (hanc : AncDirs w.dst p)
    (hf : w.dst.get? first = some (.file d)) :
    ∃ w', relinkFile w p first = some w' ∧ (∀ q, w'.dst.get? q = w.dst.get? q) ∧ w'.linkMap = w.linkMap := by
  have hmk := mkdirAll_parent_of_dirs hanc
  unfold relinkFile
  simp only [hmk, hg, hf]
  refine ⟨_, rfl, fun q => ?_, rfl⟩
  simp only [Map.get?_set]
  split
  · rename_i h; subst h; exact hg.symm
  · rfl

theorem relinkFile_dir {w : World} {k first : Path} (h : w.dst.get? k = some .dir) :
    relinkFile w k first = none := by
  unfold relinkFile
  cases hm : mkdirAll w.dst (parentOf k) with
  | none => rfl
  | some d =>
    simp only [(get?_of_parent hm).trans h]

/-- `create_hardlink` after the removal of a file or link at `k` is the model's `relinkFile` before it -/
theorem linkFile_erase_eq_relinkFile (w : World) {k first : Path} (hk : k ≠ []) (hne : first ≠ k) {n : DNode}
    (hn : w.dst.get? k = some n) (hnd : n ≠ .dir) :
    linkFile { w with dst := w.dst.erase k } k first = relinkFile w k first := by
  unfold linkFile relinkFile
  simp only [mkdirAll_parent_erase w.dst k hk]
  cases hm : mkdirAll w.dst (parentOf k) with
  | none => rfl
  | some d =>
    simp only [Option.map_some, Map.get?_erase_same, Map.get?_erase_ne d k first (Ne.symm hne),
      (get?_of_parent hm).trans hn, Map.set_erase_eq]
    cases n with
    | dir => exact absurd rfl hnd
    | _ =>
      cases d.get? first with
      | none => rfl
      | some nf => cases nf <;> rfl

theorem perform_skip {cfg : Cfg} {w : World} {t : Task} (h : t.act = .skip) : perform cfg w t = some w := by
  unfold perform; simp [h]

theorem perform_delete {cfg : Cfg} {w : World} {t : Task} (h : t.act = .delete) :
    perform cfg w t =
      if cfg.dryRun then some w else
        match w.dst.get? t.rel with
        | some .dir => some { w with dst := w.dst.eraseSubtree t.rel }
        | some _ => some { w with dst := w.dst.erase t.rel }
        | none => some w := by
  unfold perform; simp only [h]; rfl

/-- a deletion never fails in the model (an absent path counts as deleted) -/
theorem perform_delete_ne_none (cfg : Cfg) (w : World) (t : Task) (h : t.act = .delete) : perform cfg w t ≠ none := by
  rw [perform_delete h]
  split
  · simp
  · split <;> simp

/-- the last arm of `perform` with `act := t.act`; `perform_cu` is proved by `rfl` in each arm, so it breaks as soon as the two drift -/
def performCU (cfg : Cfg) (w : World) (t : Task) : Option World :=
  match t.payload with
  | .nothing => some w
  | .dir => (mkdirAll (dirBase t.act w.dst t.rel) t.rel).map fun d => { w with dst := d }
  | .symlink text => writeSymlink w t.rel text
  | .file m nlink =>
    if (t.act = .create || t.act = .update) && cfg.hardlinks && decide (1 < nlink) then
      match w.linkMap.find? (·.1 == m.ino) with
      | some (_, first, _) => if t.act = .create then linkFile w t.rel first else relinkFile w t.rel first
      | none =>
        (writeFile cfg w t.rel m).map fun w' =>
          let ino := match w'.dst.get? t.rel with | some (.file f) => f.ino | _ => 0
          { w' with linkMap := (m.ino, t.rel, ino) :: w'.linkMap }
    else writeFile cfg w t.rel m

theorem perform_cu {cfg : Cfg} {w : World} {t : Task} (h1 : t.act ≠ .skip) (h2 : t.act ≠ .delete)
    (hd : cfg.dryRun = false) : perform cfg w t = performCU cfg w t := by
  unfold perform performCU
  cases ha : t.act with
  | skip => exact absurd ha h1
  | delete => exact absurd ha h2
  | create => rw [hd]; rfl
  | update => rw [hd]; rfl

theorem Act.create_or_update {a : Act} (hs : a ≠ .skip) (hd : a ≠ .delete) : a = .create ∨ a = .update := by
  cases a with
  | create => exact Or.inl rfl
  | update => exact Or.inr rfl
  | skip => exact absurd rfl hs
  | delete => exact absurd rfl hd

theorem perform_cases {cfg : Cfg} {w w' : World} {t : Task} (h : perform cfg w t = some w') :
    w' = w ∨ (cfg.dryRun = false ∧ t.act = .delete) ∨
      (cfg.dryRun = false ∧ t.act ≠ .skip ∧ t.act ≠ .delete ∧ performCU cfg w t = some w') := by
  by_cases hdry : cfg.dryRun = true
  · rw [perform_dry cfg hdry] at h
    exact Or.inl (Option.some.inj h).symm
  · simp only [Bool.not_eq_true] at hdry
    by_cases hs : t.act = .skip
    · rw [perform_skip hs] at h
      exact Or.inl (Option.some.inj h).symm
    · by_cases hd : t.act = .delete
      · exact Or.inr (Or.inl ⟨hdry, hd⟩)
      · exact Or.inr (Or.inr ⟨hdry, hs, hd, perform_cu hs hd hdry ▸ h⟩)

/-- which executor a completed file task went through: a plain write; the first member of a link group (`-H`), written
    and registered; a later member, linked on creation or re-linked on update to the registered first path -/
theorem performCU_file_cases {cfg : Cfg} {w w' : World} {t : Task} {m : FileMeta} {n : Nat}
    (hp : t.payload = .file m n) (h : performCU cfg w t = some w') :
    (writeFile cfg w t.rel m = some w' ∧ ((t.act = .create ∨ t.act = .update) → ¬ (cfg.hardlinks = true ∧ 1 < n))) ∨
    (cfg.hardlinks = true ∧ 1 < n ∧
      ((w.linkMap.find? (·.1 == m.ino) = none ∧ ∃ w1, writeFile cfg w t.rel m = some w1 ∧
          w'.dst = w1.dst ∧ ∃ i, w'.linkMap = (m.ino, t.rel, i) :: w1.linkMap) ∨
        ∃ x, w.linkMap.find? (·.1 == m.ino) = some x ∧
          ((t.act = .create ∧ linkFile w t.rel x.2.1 = some w') ∨
            (t.act ≠ .create ∧ relinkFile w t.rel x.2.1 = some w')))) := by
  unfold performCU at h
  simp only [hp] at h
  by_cases hc : ((t.act = .create || t.act = .update) && cfg.hardlinks && decide (1 < n)) = true
  · rw [if_pos hc] at h
    simp only [Bool.and_eq_true, decide_eq_true_eq] at hc
    refine Or.inr ⟨hc.1.2, hc.2, ?_⟩
    cases hfind : w.linkMap.find? (·.1 == m.ino) with
    | none =>
      simp only [hfind] at h
      cases h1 : writeFile cfg w t.rel m with
      | none => simp [h1] at h
      | some w1 =>
        simp only [h1, Option.map_some, Option.some.injEq] at h
        subst h
        exact Or.inl ⟨rfl, w1, rfl, rfl, _, rfl⟩
    | some x =>
      simp only [hfind] at h
      refine Or.inr ⟨x, rfl, ?_⟩
      by_cases hcr : t.act = .create
      · rw [if_pos hcr] at h; exact Or.inl ⟨hcr, h⟩
      · rw [if_neg hcr] at h; exact Or.inr ⟨hcr, h⟩
  · rw [if_neg hc] at h
    refine Or.inl ⟨h, fun hact hh => hc ?_⟩
    simp only [Bool.and_eq_true, Bool.or_eq_true, decide_eq_true_eq]
    exact ⟨⟨hact, hh.1⟩, hh.2⟩

/-- how a create/update completes: nothing to transfer; a directory made (for an update after unlinking a link
    there); or one node that is not a directory written at the path, below the parents made on the way -/
theorem performCU_cases {cfg : Cfg} {w w' : World} {t : Task} (h : performCU cfg w t = some w') :
    (t.payload = .nothing ∧ w' = w) ∨
    (t.payload = .dir ∧ ∃ d, mkdirAll (dirBase t.act w.dst t.rel) t.rel = some d ∧ w' = { w with dst := d }) ∨
    (t.payload ≠ .nothing ∧ t.payload ≠ .dir ∧ ∃ d v, mkdirAll w.dst (parentOf t.rel) = some d ∧
      d.get? t.rel ≠ some .dir ∧ w'.dst = d.set t.rel v) := by
  cases hp : t.payload with
  | nothing =>
    unfold performCU at h
    simp only [hp, Option.some.injEq] at h
    exact Or.inl ⟨rfl, h.symm⟩
  | dir =>
    unfold performCU at h
    simp only [hp] at h
    cases hm : mkdirAll (dirBase t.act w.dst t.rel) t.rel with
    | none => simp [hm] at h
    | some d =>
      simp only [hm, Option.map_some, Option.some.injEq] at h
      exact Or.inr (Or.inl ⟨rfl, d, rfl, h.symm⟩)
  | symlink text =>
    unfold performCU at h
    simp only [hp] at h
    obtain ⟨d, hm, hnd, hd, _⟩ := writeSymlink_spec h
    exact Or.inr (Or.inr ⟨by simp, by simp, d, _, hm, hnd, hd⟩)
  | file m n =>
    refine Or.inr (Or.inr ⟨by simp, by simp, ?_⟩)
    rcases performCU_file_cases hp h with ⟨h1, _⟩ | ⟨_, _, ⟨_, w1, h1, hw, _⟩ | ⟨x, _, ⟨_, h1⟩ | ⟨_, h1⟩⟩⟩
    · obtain ⟨d, _, hm, hnd, hd, _⟩ := writeFile_spec h1
      exact ⟨d, _, hm, hnd, hd⟩
    · obtain ⟨d, _, hm, hnd, hd, _⟩ := writeFile_spec h1
      exact ⟨d, _, hm, hnd, hw ▸ hd⟩
    · obtain ⟨d, _, hm, hnone, _, hd, _⟩ := linkFile_spec h1
      exact ⟨d, _, hm, by rw [hnone]; simp, hd⟩
    · obtain ⟨d, _, hm, hnd, _, hd, _⟩ := relinkFile_spec h1
      exact ⟨d, _, hm, hnd, hd⟩

theorem set_mkdir_anc {d0 d : Map DNode} {p : Path} (v : DNode) (h : mkdirAll d0 (parentOf p) = some d)
    (x : Path) (hx : x ≠ []) (hp : isPrefix x p = true) (hne : x ≠ p) :
    (d.set p v).get? x = some .dir := by
  rw [Map.get?_set_ne _ _ _ _ (Ne.symm hne)]
  exact mkdirAll_dirs h x hx (isPrefix_parentOf hp hne)

/-- what a successful create/update with a file payload leaves behind: either a freshly written
    node with the source's data (possibly registering the link group), or a name of the registered
    first path of the group (hard link on creation, re-link on update) -/
theorem performCU_file {cfg : Cfg} {w w' : World} {t : Task} {m : FileMeta} {n : Nat}
    (hp : t.payload = .file m n) (h : performCU cfg w t = some w') :
    (∃ node, w'.dst.get? t.rel = some (.file node) ∧ Matches cfg node m ∧
        (∀ o, w.dst.get? t.rel = some (.file o) → node.ino = o.ino) ∧
        ((w'.linkMap = w.linkMap ∧ ((t.act = .create ∨ t.act = .update) → ¬ (cfg.hardlinks = true ∧ 1 < n))) ∨
          (∃ i, w'.linkMap = (m.ino, t.rel, i) :: w.linkMap) ∧ 1 < n ∧ cfg.hardlinks = true ∧
            w.linkMap.find? (·.1 == m.ino) = none)) ∨
    (∃ x fm, cfg.hardlinks = true ∧ 1 < n ∧ w.linkMap.find? (·.1 == m.ino) = some x ∧ x ∈ w.linkMap ∧
        x.1 = m.ino ∧ w.dst.get? x.2.1 = some (.file fm) ∧ w'.dst.get? t.rel = some (.file fm) ∧
        w'.linkMap = w.linkMap ∧ (t.act = .create → w.dst.get? t.rel = none)) := by
  have hwf : ∀ w1, writeFile cfg w t.rel m = some w1 →
      ∃ node, w1.dst.get? t.rel = some (.file node) ∧ Matches cfg node m ∧
        (∀ o, w.dst.get? t.rel = some (.file o) → node.ino = o.ino) ∧ w1.linkMap = w.linkMap := by
    intro w1 h1
    obtain ⟨d, node, hm, _, hd, hmat, hl, hino⟩ := writeFile_spec h1
    refine ⟨node, by rw [hd]; simp, hmat, fun o ho => hino o ?_, hl⟩
    rw [mkdirAll_get?_of_present hm (by rw [ho]; simp), ho]
  -- both linking variants write the node `fm` found at the registered first path
  have hln : ∀ x d fm, w.linkMap.find? (·.1 == m.ino) = some x → mkdirAll w.dst (parentOf t.rel) = some d →
      d.get? x.2.1 = some (.file fm) → w'.dst = d.set t.rel (.file fm) →
      x ∈ w.linkMap ∧ x.1 = m.ino ∧ w.dst.get? x.2.1 = some (.file fm) ∧ w'.dst.get? t.rel = some (.file fm) := by
    intro x d fm hfind hm hfirst hd
    refine ⟨List.mem_of_find?_eq_some hfind, by simpa using List.find?_some hfind, ?_, by rw [hd]; simp⟩
    rw [← mkdirAll_get?_of_not_dir hm (by rw [hfirst]; simp), hfirst]
  rcases performCU_file_cases hp h with ⟨h1, hno⟩ | ⟨hhl, hn, ⟨hfind, w1, h1, hw, i, hl⟩ | ⟨x, hfind, ⟨hcr, h1⟩ | ⟨hcr, h1⟩⟩⟩
  · obtain ⟨node, a, b, c, e⟩ := hwf w' h1
    exact Or.inl ⟨node, a, b, c, Or.inl ⟨e, hno⟩⟩
  · obtain ⟨node, a, b, c, e⟩ := hwf w1 h1
    exact Or.inl ⟨node, hw ▸ a, b, c, Or.inr ⟨⟨i, e ▸ hl⟩, hn, hhl, hfind⟩⟩
  · obtain ⟨d, fm, hm, hnone, hfirst, hd, hl⟩ := linkFile_spec h1
    obtain ⟨c1, c2, c3, c4⟩ := hln x d fm hfind hm hfirst hd
    refine Or.inr ⟨x, fm, hhl, hn, hfind, c1, c2, c3, c4, hl, fun _ => ?_⟩
    rw [← mkdirAll_get?_of_not_dir hm (by rw [hnone]; simp), hnone]
  · obtain ⟨d, fm, hm, _, hfirst, hd, hl⟩ := relinkFile_spec h1
    obtain ⟨c1, c2, c3, c4⟩ := hln x d fm hfind hm hfirst hd
    exact Or.inr ⟨x, fm, hhl, hn, hfind, c1, c2, c3, c4, hl, fun h => absurd h hcr⟩

theorem performCU_nothing {cfg : Cfg} {w w' : World} {t : Task} (hp : t.payload = .nothing)
    (h : performCU cfg w t = some w') : w' = w := by
  unfold performCU at h; simp only [hp, Option.some.injEq] at h; exact h.symm

theorem performCU_dir {cfg : Cfg} {w w' : World} {t : Task} (hp : t.payload = .dir)
    (h : performCU cfg w t = some w') :
    (t.rel ≠ [] → w'.dst.get? t.rel = some .dir) ∧ w'.linkMap = w.linkMap := by
  unfold performCU at h; simp only [hp] at h
  cases hm : mkdirAll (dirBase t.act w.dst t.rel) t.rel with
  | none => simp [hm] at h
  | some d =>
    simp only [hm, Option.map_some, Option.some.injEq] at h; subst h
    exact ⟨fun hne => mkdirAll_dirs hm _ hne (isPrefix_refl _), rfl⟩

/-- a directory task completes only where nothing or a directory was — or, for an update (the replacement of a
    destination link standing where the source has a directory, sy commit 862af11), a symlink -/
theorem performCU_dir_pre {cfg : Cfg} {w w' : World} {t : Task} (hp : t.payload = .dir)
    (h : performCU cfg w t = some w') (hne : t.rel ≠ []) :
    w.dst.get? t.rel = none ∨ w.dst.get? t.rel = some .dir ∨
      (t.act = .update ∧ ∃ s, w.dst.get? t.rel = some (.symlink s)) := by
  unfold performCU at h; simp only [hp] at h
  cases hm : mkdirAll (dirBase t.act w.dst t.rel) t.rel with
  | none => simp [hm] at h
  | some d =>
    rcases dirBase_get?_self t.act w.dst t.rel with he | ⟨hu, hs, _⟩
    · rcases mkdirAll_pre hm t.rel hne (isPrefix_refl _) with h1 | h1
      · exact Or.inl (he ▸ h1)
      · exact Or.inr (Or.inl (he ▸ h1))
    · exact Or.inr (Or.inr ⟨hu, hs⟩)

theorem performCU_symlink {cfg : Cfg} {w w' : World} {t : Task} {text : String}
    (hp : t.payload = .symlink text) (h : performCU cfg w t = some w') :
    w'.dst.get? t.rel = some (.symlink text) ∧ w'.linkMap = w.linkMap := by
  unfold performCU at h; simp only [hp] at h
  obtain ⟨d, _, _, hd, hl⟩ := writeSymlink_spec h
  exact ⟨by rw [hd]; simp, hl⟩

theorem performCU_linkMap {cfg : Cfg} {w w' : World} {t : Task} (h : performCU cfg w t = some w') :
    w'.linkMap = w.linkMap ∨
      ∃ m n node i, t.payload = .file m n ∧ 1 < n ∧ w'.linkMap = (m.ino, t.rel, i) :: w.linkMap ∧
        w.linkMap.find? (·.1 == m.ino) = none ∧ w'.dst.get? t.rel = some (.file node) ∧ Matches cfg node m := by
  cases hpl : t.payload with
  | nothing => rw [performCU_nothing hpl h]; exact Or.inl rfl
  | dir => exact Or.inl (performCU_dir hpl h).2
  | symlink text => exact Or.inl (performCU_symlink hpl h).2
  | file m n =>
    rcases performCU_file hpl h with ⟨node, hget, hmat, _, ⟨hl, _⟩ | ⟨⟨i, hl⟩, hn, _, hf⟩⟩ | ⟨_, _, _, _, _, _, _, _, _, hl, _⟩
    · exact Or.inl hl
    · exact Or.inr ⟨m, n, node, i, rfl, hn, hl, hf, hget, hmat⟩
    · exact Or.inl hl

theorem performCU_present {cfg : Cfg} {w w' : World} {t : Task} (h : performCU cfg w t = some w')
    (hp : t.payload ≠ .nothing) (hr : t.rel ≠ []) : w'.dst.get? t.rel ≠ none := by
  rcases performCU_cases h with ⟨hn, _⟩ | ⟨_, d, hm, rfl⟩ | ⟨_, _, d, v, _, _, hd⟩
  · exact absurd hn hp
  · rw [show _ = some DNode.dir from mkdirAll_dirs hm _ hr (isPrefix_refl _)]; simp
  · rw [hd]; simp

theorem performCU_frame {cfg : Cfg} {w w' : World} {t : Task} (h : performCU cfg w t = some w') :
    FrameAt w.dst w'.dst t.rel ∧
    (t.payload ≠ .nothing → ∀ x, x ≠ [] → isPrefix x t.rel = true → x ≠ t.rel → w'.dst.get? x = some .dir) := by
  rcases performCU_cases h with ⟨hp, rfl⟩ | ⟨_, d, hm, rfl⟩ | ⟨_, _, d, v, hm, _, hd⟩
  · exact ⟨FrameAt.rfl' _ _, fun hn => absurd hp hn⟩
  · refine ⟨fun x hx => ?_, fun _ x hx hpx _ => mkdirAll_dirs hm x hx hpx⟩
    have := frameAt_mkdir hm x hx
    rwa [dirBase_get?_ne _ _ _ _ hx] at this
  · rw [hd]
    exact ⟨frameAt_set_mkdir _ hm, fun _ x hx hpx hne => set_mkdir_anc _ hm x hx hpx hne⟩

/-- what a completed deletion at `r` does: `get` says it all (the node at `r` goes, and with a directory everything
    below it); the other clauses are what the callers use of it -/
structure Deleted (w w' : World) (r : Path) : Prop where
  linkMap : w'.linkMap = w.linkMap
  self : w'.dst.get? r = none
  frame : ∀ x, isPrefix r x = false → w'.dst.get? x = w.dst.get? x
  mono : ∀ x, w'.dst.get? x = none ∨ w'.dst.get? x = w.dst.get? x
  get : ∀ x, w'.dst.get? x = if isPrefix r x && (x == r || w.dst.get? r == some .dir) then none else w.dst.get? x

theorem perform_delete_spec {cfg : Cfg} {w w' : World} {t : Task} (ha : t.act = .delete)
    (hd : cfg.dryRun = false) (h : perform cfg w t = some w') : Deleted w w' t.rel := by
  rw [perform_delete ha] at h
  simp only [hd, Bool.false_eq_true, ↓reduceIte] at h
  suffices key : w'.linkMap = w.linkMap ∧ ∀ x, w'.dst.get? x =
      if isPrefix t.rel x && (x == t.rel || w.dst.get? t.rel == some .dir) then none else w.dst.get? x by
    obtain ⟨hl, hf⟩ := key
    refine ⟨hl, ?_, fun x hx => ?_, fun x => ?_, hf⟩
    · simp [hf, isPrefix_refl]
    · simp [hf, hx]
    · rw [hf]; split <;> simp
  cases hg : w.dst.get? t.rel with
  | none =>
    simp only [hg, Option.some.injEq] at h; subst h
    refine ⟨rfl, fun x => ?_⟩
    by_cases hx : x = t.rel
    · subst hx; simp [hg, isPrefix_refl]
    · simp [hx]
  | some v =>
    cases v with
    | dir =>
      simp only [hg, Option.some.injEq] at h; subst h
      refine ⟨rfl, fun x => ?_⟩
      simp only [Map.get?_eraseSubtree]
      by_cases hx : isPrefix t.rel x = true <;> simp [hx]
    | file _ | symlink _ =>
      simp only [hg, Option.some.injEq] at h; subst h
      refine ⟨rfl, fun x => ?_⟩
      simp only [Map.get?_erase]
      by_cases hx : t.rel = x
      · subst hx; simp [isPrefix_refl]
      · have : ¬ x = t.rel := fun h => hx h.symm
        simp [hx, this]

/-! ### when a create / update completes -/

/-- the node `o` at the task's own path admits the payload -/
def OwnOK (o : Option DNode) (t : Task) : Prop :=
  match t.payload with
  | .nothing => True
  | .dir => o = none ∨ o = some .dir ∨ (t.act = .update ∧ ∃ l, o = some (.symlink l))
  | _ => o ≠ some .dir

theorem performCU_necessary {cfg : Cfg} {w w' : World} {t : Task} (h : performCU cfg w t = some w')
    (hp : t.rel ≠ []) : t.payload = .nothing ∨ (AncOK w.dst t.rel ∧ OwnOK (w.dst.get? t.rel) t) := by
  rcases performCU_cases h with ⟨hn, _⟩ | ⟨hpl, d, hm, _⟩ | ⟨hn, hnd, d, v, hm, hown, _⟩
  · exact Or.inl hn
  · refine Or.inr ⟨fun x hx hpx hne => ?_, ?_⟩
    · have := mkdirAll_pre hm x hx hpx
      rwa [dirBase_get?_ne _ _ _ _ hne] at this
    · unfold OwnOK; rw [hpl]; exact performCU_dir_pre hpl h hp
  · refine Or.inr ⟨ancOK_of_parent hm, ?_⟩
    rw [get?_of_parent hm] at hown
    unfold OwnOK
    cases hpl : t.payload with
    | nothing => exact absurd hpl hn
    | dir => exact absurd hpl hnd
    | symlink _ => exact hown
    | file _ _ => exact hown

/-- `-H`: what a later member of a link group needs — a free name on creation, and a regular file at every registered
    first path -/
def LinkFits (cfg : Cfg) (w : World) (t : Task) : Prop :=
  ∀ m n, t.payload = .file m n → cfg.hardlinks = true →
    (t.act = .create → w.dst.get? t.rel = none) ∧ ∀ x ∈ w.linkMap, ∃ fm, w.dst.get? x.2.1 = some (.file fm)

/-- sufficient conditions for a create/update to complete (`performCU_necessary` is the converse for the first two;
    `GenEngineRunClean.perform_none_cause` is the contrapositive) -/
theorem performCU_of_fits {cfg : Cfg} {w : World} {t : Task} (ha : AncOK w.dst t.rel)
    (ho : OwnOK (w.dst.get? t.rel) t) (hl : LinkFits cfg w t) : ∃ w', performCU cfg w t = some w' := by
  obtain ⟨d, hd, hg, hkeep⟩ := mkdirAll_parent ha
  have write : ∀ m, w.dst.get? t.rel ≠ some .dir → ∃ w', writeFile cfg w t.rel m = some w' := by
    intro m hn
    unfold writeFile
    simp only [hd]
    split
    · rename_i hdir; exact absurd (hg ▸ hdir) hn
    · exact ⟨_, rfl⟩
  unfold performCU
  unfold OwnOK at ho
  cases hpl : t.payload with
  | nothing => exact ⟨w, rfl⟩
  | dir =>
    simp only [hpl] at ho ⊢
    obtain ⟨d', hd'⟩ := mkdirAll_some (dirBase t.act w.dst t.rel) t.rel (by
      intro x hx hpx
      by_cases he : x = t.rel
      · rw [he]
        rcases dirBase_get?_self t.act w.dst t.rel with hb | ⟨_, _, hb⟩
        · rw [hb]
          rcases ho with ho | ho | ⟨hu, l, hl⟩
          · exact Or.inl ho
          · exact Or.inr ho
          · left; rw [← hb]; simp [dirBase, hu, unlinkLink, hl, Map.get?_erase_same]
        · exact Or.inl hb
      · rw [dirBase_get?_ne _ _ _ _ he]; exact ha x hx hpx he)
    exact ⟨_, by rw [hd']; rfl⟩
  | symlink text =>
    simp only [hpl] at ho ⊢
    unfold writeSymlink
    simp only [hd]
    split
    · rename_i hdir; exact absurd (hg ▸ hdir) ho
    · exact ⟨_, rfl⟩
  | file m n =>
    simp only [hpl] at ho ⊢
    split
    · rename_i hc
      simp only [Bool.and_eq_true, decide_eq_true_eq] at hc
      obtain ⟨hcr, hlm⟩ := hl m n hpl hc.1.2
      split
      · rename_i i first j hfind
        obtain ⟨fm, hfm⟩ := hlm _ (List.mem_of_find?_eq_some hfind)
        simp only at hfm
        have h2 : d.get? first = some (.file fm) := by rw [hkeep first (by rw [hfm]; simp), hfm]
        by_cases hact : t.act = .create
        · rw [if_pos hact]
          unfold linkFile
          simp only [hd, show d.get? t.rel = none from hg.trans (hcr hact), h2]
          exact ⟨_, rfl⟩
        · have h1 : d.get? t.rel ≠ some .dir := by rw [hg]; exact ho
          rw [if_neg hact]
          unfold relinkFile
          simp only [hd, h2]
          rcases hgp : d.get? t.rel with _ | _ | _ | _
          · exact ⟨_, rfl⟩
          · exact ⟨_, rfl⟩
          · exact absurd hgp h1
          · exact ⟨_, rfl⟩
      · obtain ⟨w1, h1⟩ := write m ho
        exact ⟨_, by rw [h1]; rfl⟩
    · exact write m ho

end SyModel.Engine
