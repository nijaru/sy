/-
  Lemmas.GenLocalCopyFile — the translated `LocalTransport::copy_file`: its parent directory step (`ParentOK`, `parentW`,
  `wp_parent`), and the whole function run onto a name that is free or a symlink (`copy_file_fresh_run`) and over an
  existing regular file, whatever its link count (`CopyPre`, `copy_file_existing_run`).
-/
import SyModel.Lemmas.GenLocalCopyOps
set_option autoImplicit false
namespace SyModel.LocalCopy
open SyModel.Generated.Rs (wp_bind wp_capture wp_of_run run_eq_of_wp wp_bind_run wp_ite_self)
open SyModel SyModel.Generated SyModel.Generated.LocalCopy SyModel.Transfer
open SyModel.Data

/-- the directory `dst` lives in: the current directory, an existing directory, or a free name (then it is created) -/
def ParentOK (w : LWorld) (dst : Rs.Path) : Prop :=
  ∀ d, Rs.parent dst = some d → d = [] ∨ w.names d = none ∨ ((∃ nd, w.names d = some nd) ∧ w.stat d = some .dir)

/-- the `mkdir` performed for the parent, if any -/
def parentOps (w : LWorld) (dst : Rs.Path) : List Op :=
  match Rs.parent dst with
  | some d => if d = [] then [] else (match w.names d with | none => [.mkdir d] | some _ => [])
  | none => []

/-- the world after `create_dir_all(dest.parent())` -/
def parentW (w : LWorld) (dst : Rs.Path) : LWorld :=
  match Rs.parent dst with
  | some d => if d = [] then w else (match w.names d with
      | none => { w with names := upd w.names d (some .dir), log := w.log ++ [.mkdir d] }
      | some _ => w)
  | none => w

theorem copy_parent_eval (cfg : Cfg) (self : LocalTransport) (w : LWorld) (dst d : Rs.Path) (hnf : w.fault = none)
    (hp : ParentOK w dst) (hpar : Rs.parent dst = some d) :
    LocalTransport.create_dir_all (posix cfg) self d w = (.ok (), parentW w dst) := by
  unfold parentW
  have := hp d hpar
  simp only [hpar, LocalTransport.create_dir_all, posix_create_dir_all, prim_nf _ _ hnf, createDirAllAct]
  by_cases hd : d = []
  · simp [hd]
  · rcases this with h | h | ⟨⟨nd, h1⟩, h2⟩
    · exact absurd h hd
    · simp [hd, h, LWorld.logOp]
    · simp [hd, h1, h2]

theorem parentW_of_none (w : LWorld) (dst : Rs.Path) (h : Rs.parent dst = none) : parentW w dst = w := by
  unfold parentW; rw [h]

theorem parentW_names (w : LWorld) (dst p : Rs.Path) (h : w.names p ≠ none) : (parentW w dst).names p = w.names p := by
  unfold parentW
  split
  · split
    · rfl
    · split
      · rename_i d _ _ _ hd
        have : p ≠ d := by intro e; rw [e] at h; exact h hd
        simp [upd_ne, this]
      · rfl
  · rfl
@[simp] theorem parentW_fault (w : LWorld) (dst : Rs.Path) : (parentW w dst).fault = w.fault := by
  unfold parentW; repeat' split
  all_goals rfl
@[simp] theorem parentW_inodes (w : LWorld) (dst : Rs.Path) : (parentW w dst).inodes = w.inodes := by
  unfold parentW; repeat' split
  all_goals rfl
@[simp] theorem parentW_nextIno (w : LWorld) (dst : Rs.Path) : (parentW w dst).nextIno = w.nextIno := by
  unfold parentW; repeat' split
  all_goals rfl
@[simp] theorem parentW_guards (w : LWorld) (dst : Rs.Path) : (parentW w dst).guards = w.guards := by
  unfold parentW; repeat' split
  all_goals rfl
theorem parentW_log (w : LWorld) (dst : Rs.Path) : (parentW w dst).log = w.log ++ parentOps w dst := by
  unfold parentW parentOps; repeat' split
  all_goals simp_all

/-- what `fs::copy` leaves in the destination inode's attribute list before the strip -/
def copiedXattrs (cfg : Cfg) (xsrc xold : List Rs.Str) : List Rs.Str := if cfg.copyXattrs then xsrc ++ xold else xold

/-- hypotheses of the `copy_file` theorems: no fault; `src` a regular file (inode `is` = `ns`); `dst` an existing regular file
    (inode `id` = `nd`), a different inode; the parent usable -/
structure CopyPre (w : LWorld) (src dst : Rs.Path) (is id : Nat) (ns nd : Inode) : Prop where
  nf : w.fault = none
  hsrc : w.names src = some (.file is)
  hisrc : w.inodes is = some ns
  hdst : w.names dst = some (.file id)
  hidst : w.inodes id = some nd
  ne : is ≠ id
  fresh : is < w.nextIno ∧ id < w.nextIno
  parent : ParentOK w dst

theorem parentW_mk (nm : Rs.Path → Option Node) (ino : Nat → Option Inode) (ni : Nat) (hs : Nat → Option Handle) (nh : Nat)
    (g : List Rs.Path) (lg : List Op) (now : Nat) (F : Option Nat) (dst : Rs.Path) :
    parentW ⟨nm, ino, ni, hs, nh, g, lg, now, F⟩ dst =
      ⟨(parentW ⟨nm, ino, ni, hs, nh, g, lg, now, F⟩ dst).names, ino, ni, hs, nh, g,
        (parentW ⟨nm, ino, ni, hs, nh, g, lg, now, F⟩ dst).log, now, F⟩ := by
  unfold parentW; repeat' split
  all_goals rfl

/-- `if let Some(parent) = dest.parent() { create_dir_all(parent) }`, then `k` -/
theorem wp_parent {β : Type} (cfg : Cfg) (self : LocalTransport) (w : LWorld) (dst : Rs.Path) (k : Rs.M LWorld β)
    (Q : β → LWorld → Prop) (E : Rs.Err → LWorld → Prop) (hnf : w.fault = none) (hp : ParentOK w dst)
    (h : Rs.wp k Q E (parentW w dst)) :
    Rs.wp (match Rs.parent dst with
        | some parent => do
          let _ ← LocalTransport.create_dir_all (posix cfg) self parent
          k
        | _ => k) Q E w := by
  cases hpar : Rs.parent dst with
  | none => rw [parentW_of_none w dst hpar] at h; exact h
  | some d => exact wp_bind_run (copy_parent_eval cfg self w dst d hnf hp hpar) h

theorem parentW_root (w : LWorld) (dst : Rs.Path) (h : Rs.parent dst = some []) : parentW w dst = w := by
  simp [parentW, h]

/-- `copy_file` onto a name in the current directory that is free or a symlink (to anything), on a platform whose `fs::copy`
    brings no attributes along: the link is unlinked by `copy_file`'s own `remove_if_symlink`, a new inode is created at the name -/
theorem copy_file_fresh_run (cfg : Cfg) (self : LocalTransport) (nm : Rs.Path → Option Node) (ino : Nat → Option Inode) (ni : Nat)
    (hs : Nat → Option Handle) (nh : Nat) (g : List Rs.Path) (lg : List Op) (now : Nat) (src dst : Rs.Path) (is : Nat) (ns : Inode)
    (hsrc : nm src = some (.file is)) (hisrc : ino is = some ns) (hdst : nm dst = none ∨ ∃ t, nm dst = some (.symlink t))
    (hfresh : is < ni) (hpar : Rs.parent dst = some []) (hx : cfg.copyXattrs = false) :
    LocalTransport.copy_file (posix cfg) self src dst ⟨nm, ino, ni, hs, nh, g, lg, now, none⟩ =
      (.ok (TransferResult.new ns.bytes.length),
        ⟨upd (unlinkSym ⟨nm, ino, ni, hs, nh, g, lg, now, none⟩ dst).names dst (some (.file ni)),
         upd ino ni (some ⟨ns.bytes, ns.mtime, [], 1⟩), ni + 1, hs, nh, g,
         (unlinkSym ⟨nm, ino, ni, hs, nh, g, lg, now, none⟩ dst).log ++
           [.create dst ni, .write ni 0 ns.bytes, .utime dst ni ns.mtime], now, none⟩) := by
  have hsd : src ≠ dst := by intro e; rw [e] at hsrc; rcases hdst with h | ⟨t, h⟩ <;> rw [hsrc] at h <;> cases h
  have hisne : is ≠ ni := by omega
  have h0d := unlinkSym_names_self ⟨nm, ino, ni, hs, nh, g, lg, now, none⟩ dst hdst
  have h0s : (unlinkSym ⟨nm, ino, ni, hs, nh, g, lg, now, none⟩ dst).names src = some (.file is) :=
    (unlinkSym_names_ne _ _ _ hsd).trans hsrc
  refine run_eq_of_wp ?_
  unfold LocalTransport.copy_file
  refine wp_parent cfg self _ dst _ _ _ rfl (fun d hd => Or.inl (by rw [hpar] at hd; cases hd; rfl)) ?_
  rw [parentW_root _ dst hpar]
  refine wp_bind_run (remove_if_symlink_run cfg dst) ?_
  generalize (unlinkSym ⟨nm, ino, ni, hs, nh, g, lg, now, none⟩ dst).names = nm0 at *
  generalize (unlinkSym ⟨nm, ino, ni, hs, nh, g, lg, now, none⟩ dst).log = lg0 at *
  have hhl : hasHardLinks ⟨nm0, ino, ni, hs, nh, g, lg0, now, none⟩ dst = false := by
    simp [hasHardLinks, LWorld.inoOf, LWorld.stat, follow_free nm0 dst h0d, h0d]
  rw [wp_bind, wp_capture]
  refine wp_bind_run (fs_metadata_file cfg src is ns (by decide) h0s hisrc) ?_
  refine wp_bind_run (a := cfg.sparse) rfl ?_
  refine wp_ite_self ?_
  refine wp_bind_run (break_link_none cfg src dst hhl) ?_
  refine wp_bind_run (fs_copy_to_free cfg src dst is ns h0s hisrc h0d hisne) ?_
  refine wp_strip_mtime cfg dst ni _ _ (upd_same _ _ _) (upd_same _ _ _) ?_
  refine wp_of_run rfl ?_
  refine wp_bind_run (a := _) rfl ?_
  refine wp_of_run rfl ?_
  simp [hx, upd_upd, stripNames, List.append_assoc]

/-- **`copy_file` over an existing regular file**, whatever its link count: with other names of the inode (`1 < nlink`) the
    NAME is unlinked and a new inode written, so the other names keep the old inode, which only loses a link; without,
    the same inode is truncated and rewritten.  Either way no attribute is left and the mtime is the source's. -/
theorem copy_file_existing_run (cfg : Cfg) (self : LocalTransport) (w : LWorld) (src dst : Rs.Path) (is id : Nat) (ns nd : Inode)
    (h : CopyPre w src dst is id ns nd) :
    LocalTransport.copy_file (posix cfg) self src dst w = (.ok (TransferResult.new ns.bytes.length),
      if 1 < nd.nlink then
        { w with names := upd (upd (parentW w dst).names dst none) dst (some (.file w.nextIno)),
                 inodes := upd (upd w.inodes id (some { nd with nlink := nd.nlink - 1 })) w.nextIno (some ⟨ns.bytes, ns.mtime, [], 1⟩),
                 nextIno := w.nextIno + 1,
                 log := w.log ++ parentOps w dst ++ [.unlink dst, .create dst w.nextIno, .write w.nextIno 0 ns.bytes] ++
                   (stripNames (copiedXattrs cfg ns.xattrs []) (copiedXattrs cfg ns.xattrs [])).map (Op.xattrRemove w.nextIno) ++
                   [.utime dst w.nextIno ns.mtime] }
      else
        { w with names := (parentW w dst).names,
                 inodes := upd w.inodes id (some ⟨ns.bytes, ns.mtime, [], nd.nlink⟩),
                 log := w.log ++ parentOps w dst ++ [.truncate id, .write id 0 ns.bytes] ++
                   (stripNames (copiedXattrs cfg ns.xattrs nd.xattrs) (copiedXattrs cfg ns.xattrs nd.xattrs)).map (Op.xattrRemove id) ++
                   [.utime dst id ns.mtime] }) := by
  obtain ⟨hnf, hsrc, hisrc, hdst, hidst, hne, hfresh, hpar⟩ := h
  have h1src := (parentW_names w dst src (by rw [hsrc]; simp)).trans hsrc
  have h1dst := (parentW_names w dst dst (by rw [hdst]; simp)).trans hdst
  have h1log := parentW_log w dst
  refine run_eq_of_wp ?_
  unfold LocalTransport.copy_file
  refine wp_parent cfg self w dst _ _ _ hnf hpar ?_
  rcases w with ⟨nm, ino, ni, hs, nh, g, lg, now, F⟩
  simp only at hnf hisrc hidst hfresh h1src h1dst h1log
  subst hnf
  rw [parentW_mk]
  generalize (parentW ⟨nm, ino, ni, hs, nh, g, lg, now, none⟩ dst).names = nm1 at *
  generalize (parentW ⟨nm, ino, ni, hs, nh, g, lg, now, none⟩ dst).log = lg1 at *
  subst h1log
  refine wp_bind_run (remove_if_symlink_file cfg dst id nd (by decide) h1dst hidst) ?_
  rw [wp_bind, wp_capture]
  refine wp_bind_run (fs_metadata_file cfg src is ns (by decide) h1src hisrc) ?_
  refine wp_bind_run (a := cfg.sparse) rfl ?_
  refine wp_ite_self ?_
  by_cases hl : 1 < nd.nlink
  · have hsd : src ≠ dst := by intro e; rw [e, h1dst] at h1src; cases h1src; exact hne rfl
    rw [if_pos hl]
    refine wp_bind_run (break_link_shared cfg src dst id nd h1dst hidst hl) ?_
    refine wp_bind_run (fs_copy_to_free cfg src dst is ns ((upd_ne _ _ hsd).trans h1src)
      ((upd_ne _ _ hne).trans hisrc) (upd_same _ _ _) (by omega)) ?_
    refine wp_strip_mtime cfg dst ni _ _ (upd_same _ _ _) (upd_same _ _ _) ?_
    refine wp_of_run rfl ?_
    refine wp_bind_run (a := _) rfl ?_
    refine wp_of_run rfl ?_
    cases hx : cfg.copyXattrs <;> simp [upd_upd, copiedXattrs, hx, List.append_assoc]
  · have hhl : ∀ l, hasHardLinks ⟨nm1, ino, ni, hs, nh, g, l, now, none⟩ dst = false := fun l =>
      (hasHardLinks_file _ dst id nd h1dst hidst).trans (decide_eq_false hl)
    rw [if_neg hl]
    refine wp_bind_run (break_link_none cfg src dst (hhl _)) ?_
    refine wp_bind_run (fs_copy_over_file cfg src dst is id ns nd h1src hisrc h1dst hidst hne) ?_
    refine wp_strip_mtime cfg dst id _ _ h1dst (upd_same _ _ _) ?_
    refine wp_of_run rfl ?_
    refine wp_bind_run (a := _) rfl ?_
    refine wp_of_run rfl ?_
    simp [upd_upd, copiedXattrs, List.append_assoc]

end SyModel.LocalCopy
