/-
  Scenarios evaluated by the kernel on the GENERATED `transfer_link_member` itself (not on its normal form), run on
  `ltsExt`: along scripted poll schedules the generated poll and the model's `poll` give the same state, labels and outcome
  (`agreeAlong`), with the label sequences written out; and thread-level runs on `interleaveExt`, where other workers move
  between two operations of the run — these are covered by evaluation only.  (Namespace
  `SyModel.Lemmas.GenLinkMemberLts`, shared with the instance and the simulation.)
-/
import SyModel.Lemmas.GenLinkMemberLts
import SyModel.Lemmas.GenLinkMemberTrace
namespace SyModel.Lemmas.GenLinkMemberLts
open SyModel SyModel.Hardlink

/-- four names of source inode 7 to be created; the copy of worker 0, the attribute writers of worker 1 and the link of
    worker 3 fail -/
def demo : Cfg where
  variant := .repaired
  n := 4
  worker := fun w => { inode := 7, linked := true, yMkdir := 0, yCopy := 0, yLink := 0,
                       failMkdir := false, failCopy := w = 0, failMeta := w = 1, failLink := w = 3 }
  content := fun i => i + 100

/-- the state after a THREAD-level schedule of micro-steps (so that a worker can be found in the middle of its copy) -/
def after (cfg : Cfg) (micro : List Nat) : State := (runMicro cfg (init cfg) micro).1

/-- from the initial state, whole polls only: every owner runs to its end in one poll (no transport yields), so:
    0 claims, fails, releases, `Err(copy)`; 1 claims, fails in the attribute writers, releases; 2 claims and succeeds;
    3 finds `Completed(2)` and its link fails; finished futures answer `ready` again -/
theorem scen_owner_paths : agreeAlong demo 1 [7] (init demo) [0, 1, 2, 3, 0, 1, 2, 3] = true := by
  gen_run agreeAlong genPoll genCall
/-- the paths end as announced (the scenario is not about an empty run) -/
theorem scen_owner_paths_labels :
    (poll demo (init demo) 0).2 = ([.readNone, .claimOk, .opOk .mkdir, .opErr .copy, .remove, .notify], .ready (.err .copy)) ∧
    (poll demo (pollSched demo (init demo) [0, 1]) 2).2 =
      ([.readNone, .claimOk, .opOk .mkdir, .opOk .copy, .opOk .attrs, .complete, .notify], .ready .ok) ∧
    (poll demo (pollSched demo (init demo) [0, 1, 2]) 3).2 = ([.readCompleted 2, .opErr .link], .ready (.err .link)) := by
  decide

/-- worker 0 holds the claim and is in the middle of its copy (thread-level prefix `[0, 0]`): 1 and 2 register, re-check
    and BLOCK; polled again they are still pending -/
theorem scen_waiters_block : agreeAlong demo 1 [7] (after demo [0, 0]) [1, 2, 1, 2] = true := by
  gen_run agreeAlong genPoll genCall
theorem scen_waiters_block_labels :
    (poll demo (after demo [0, 0]) 1).2 = ([.readInProgress 0, .arm 0, .recheckSame], .pending) := by decide
/-- 1 and 2 are blocked, then 0 fails and releases (micro-steps): 1 is woken, goes round (`continue`), claims, fails,
    releases; 2 is woken, goes round, claims, succeeds; 3 links (its link fails) -/
theorem scen_wake_and_take_over :
    agreeAlong demo 1 [7] (after demo [0, 0, 1, 1, 1, 2, 2, 2, 0, 0, 0, 0]) [1, 2, 3, 1, 2] = true := by
  gen_run agreeAlong genPoll genCall
theorem scen_wake_and_take_over_labels :
    (poll demo (after demo [0, 0, 1, 1, 1, 2, 2, 2, 0, 0, 0, 0]) 1).2 =
      ([.wake, .readNone, .claimOk, .opOk .mkdir, .opOk .copy, .opErr .attrs, .remove, .notify], .ready (.err .attrs)) := by
  decide
/-- a woken waiter finds ANOTHER worker's claim (0 failed, 1 took over and is copying): it registers on the new Notify
    and blocks again -/
theorem scen_wake_then_block_again :
    agreeAlong demo 1 [7] (after demo [0, 0, 1, 1, 1, 2, 2, 2, 0, 0, 0, 0, 1, 1, 1]) [2, 3, 2] = true := by
  gen_run agreeAlong genPoll genCall
theorem scen_wake_then_block_again_labels :
    (poll demo (after demo [0, 0, 1, 1, 1, 2, 2, 2, 0, 0, 0, 0, 1, 1, 1]) 2).2 =
      ([.wake, .readInProgress 1, .arm 1, .recheckSame], .pending) := by decide
/-- a woken waiter finds `Completed` and links -/
theorem scen_wake_and_link :
    agreeAlong { demo with worker := fun w => { demo.worker w with failCopy := false } } 1 [7]
      (after { demo with worker := fun w => { demo.worker w with failCopy := false } }
        [0, 0, 1, 1, 1, 0, 0, 0, 0, 0]) [1, 2, 1] = true := by gen_run agreeAlong genPoll genCall

/-- three names of source inode 7 to be UPDATED; the destination has 0 and 1 as one inode, 2 as another file whose
    removal fails -/
def demoU : Cfg where
  variant := .repaired
  n := 3
  worker := fun w => { inode := 7, linked := true, action := .update, dst0 := some ⟨if w = 2 then 101 else 100, 1⟩,
                       yMkdir := 0, yCopy := 0, yLink := 0,
                       failMkdir := w = 2, failCopy := false, failMeta := false, failLink := false }
  content := fun i => i

/-- update: 0 claims and rewrites (`sync_file_with_delta`), 1 finds `Completed(0)`, another inode: remove + link;
    2: the removal fails -/
theorem scen_update : agreeAlong demoU 1 [7] (init demoU) [0, 1, 2, 0, 1, 2] = true := by gen_run agreeAlong genPoll genCall
theorem scen_update_labels :
    (poll demoU (pollSched demoU (init demoU) [0]) 1).2 =
      ([.readCompleted 0, .otherInode, .opOk .remove, .opOk .link], .ready .ok) ∧
    (poll demoU (pollSched demoU (init demoU) [0, 1]) 2).2 =
      ([.readCompleted 0, .otherInode, .opErr .remove], .ready (.err .remove)) := by decide
/-- a hand-made state: everybody at the top, `Completed(0)` recorded for inode 7, every path a name of inode 5 -/
def sameState : State where
  pc := fun _ => .start
  map := fun i => if i = 7 then some (.completed 0) else none
  calls := fun _ => 0
  dst := fun _ => some ⟨5, 1⟩
/-- update, the path already names the first path's inode: `same_inode` answers true, nothing else -/
theorem scen_update_same_inode : agreeAlong demoU 1 [7] sameState [1] = true := by gen_run agreeAlong genPoll genCall
theorem scen_update_same_inode_labels : (poll demoU sameState 1).2 = ([.readCompleted 0, .sameInode], .ready .ok) := by
  decide

/-- two names of source inode 7 to be created, nothing fails -/
def pair (v : Variant) : Cfg where
  variant := v
  n := 2
  worker := fun _ => { inode := 7, linked := true, yMkdir := 0, yCopy := 0, yLink := 0,
                       failMkdir := false, failCopy := false, failMeta := false, failLink := false }
  content := fun _ => 1

/-- THREAD-level, repaired: worker 0 claims before worker 1's first read and COMPLETES (copy, `Completed`, notify) between
    worker 1's registration and its re-check.  The re-check sees the change: NO await, round the loop, link.  The state is
    the one the LTS reaches by the micro-step schedule `[0,0, 1,1, 0,0,0,0,0, 1,1,1]`. -/
theorem scen_thread_recheck_sees_completion :
    threadPoll (pair .repaired) (interleaveExt (pair .repaired) (ltsExt (pair .repaired) 1 2)) 1 (init (pair .repaired))
        [[0, 0], [], [0, 0, 0, 0, 0]] =
      obs 2 [7] ((runMicro (pair .repaired) (init (pair .repaired)) [0, 0, 1, 1, 0, 0, 0, 0, 0, 1, 1, 1]).1,
        [.readInProgress 0, .arm 0, .recheckChanged, .readCompleted 0, .opOk .link], .ready .ok) := by gen_run threadPoll
/-- THREAD-level, repaired: the owner completes AFTER the re-check and before the await: the future was registered before
    the `notify_waiters()` call, so the await completes at once (`wake`): no lost wake-up -/
theorem scen_thread_completion_after_recheck :
    threadPoll (pair .repaired) (interleaveExt (pair .repaired) (ltsExt (pair .repaired) 1 2)) 1 (init (pair .repaired))
        [[0, 0], [], [], [0, 0, 0, 0, 0]] =
      obs 2 [7] ((runMicro (pair .repaired) (init (pair .repaired)) [0, 0, 1, 1, 1, 0, 0, 0, 0, 0, 1, 1, 1]).1,
        [.readInProgress 0, .arm 0, .recheckSame, .wake, .readCompleted 0, .opOk .link], .ready .ok) := by gen_run threadPoll
/-- THREAD-level, repaired: the claim is lost (worker 0 claims between worker 1's read of `None` and its claim): nothing
    inserted, round the loop, register, re-check, block -/
theorem scen_thread_claim_lost :
    threadPoll (pair .repaired) (interleaveExt (pair .repaired) (ltsExt (pair .repaired) 1 2)) 1 (init (pair .repaired))
        [[], [], [0, 0]] =
      obs 2 [7] ((runMicro (pair .repaired) (init (pair .repaired)) [1, 0, 0, 1, 1, 1, 1]).1,
        [.readNone, .claimLost, .readInProgress 0, .arm 0, .recheckSame], .pending) := by gen_run threadPoll
/-- the CLEAN code does not correspond to the pinned variant: on the pinned instance its re-check (which the pinned LTS
    does not have, after `arm`) desynchronises (`outOfFuel` is how `outcome` reports `desyncErr`).  The extra read of
    `ltsExtPinned` (a `map_get` at `sawInProgress`) is not reached: the run is the same on `ltsExt` itself -/
theorem scen_clean_is_not_pinned :
    (threadPoll (pair .pinned) (interleaveExt (pair .pinned) (ltsExtPinned (pair .pinned) 1 2)) 1 (init (pair .pinned))
        [[0, 0]]).out = .outOfFuel := by gen_run threadPoll

end SyModel.Lemmas.GenLinkMemberLts
