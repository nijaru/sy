/-
  Lemmas about the routing of `sync_file_with_delta` and about `estimate_change_ratio`
  (`SyModel.Transfer.BlockCompare`).
-/
import SyModel.Lemmas.TransferRebuild
namespace SyModel.Transfer
open SyModel SyModel.Compress

theorem fsCopy_bytes (src : Bytes) (now : Nat) : (fsCopy src now).1.bytes = src := by
  unfold fsCopy
  show writeAt (setLen [] 0) 0 src = src
  have h0 : setLen [] 0 = ([] : Bytes) := by simp [setLen, zeros]
  rw [h0]
  unfold writeAt
  cases src with
  | nil => rfl
  | cons x xs => simp [zeros]

theorem fsCopy_count (src : Bytes) (now : Nat) : (fsCopy src now).2 = src.length := rfl

theorem copySparseFile_bytes (src : Bytes) (seek : Option (List Region)) (now : Nat)
    (h : ∀ rs, seek = some rs → Covers src rs) : (copySparseFile src seek now).1.bytes = src := by
  unfold copySparseFile
  cases seek with
  | none => exact localBlocks_eq src
  | some rs => exact localSeek_eq src rs (h rs rfl)

theorem copySparseFile_count (src : Bytes) (seek : Option (List Region)) (now : Nat) :
    (copySparseFile src seek now).2 = src.length := by
  unfold copySparseFile; cases seek <;> rfl

theorem effDestSize_ge (cfg : Cfg) (d : Nat) : d ≤ effDestSize cfg d := by
  unfold effDestSize
  cases cfg.hookThreshold with
  | none => exact Nat.le_refl _
  | some t => simp only; split <;> omega

/-- under the hook, a destination of at least the hook threshold passes both gates. -/
theorem effDestSize_hook (cfg : Cfg) (t d : Nat) (h : cfg.hookThreshold = some t) (hd : t ≤ d) :
    DELTA_THRESHOLD ≤ effDestSize cfg d := by
  unfold effDestSize; rw [h]; simp only; rw [if_pos hd]; omega

theorem effDestSize_hook_below (cfg : Cfg) (t d : Nat) (h : cfg.hookThreshold = some t) (hd : d < t) :
    effDestSize cfg d = d := by
  unfold effDestSize; rw [h]; simp only; rw [if_neg (by omega)]

theorem effDestSize_none (cfg : Cfg) (d : Nat) (h : cfg.hookThreshold = none) : effDestSize cfg d = d := by
  unfold effDestSize; rw [h]

/-- `routeOf` on an existing destination, the dead 4 KiB gate left out: one size gate, then three flags -/
theorem routeOf_some (cfg : Cfg) (src d : Bytes) :
    routeOf cfg src (some d) =
      if effDestSize cfg d.length < DELTA_THRESHOLD then .belowThreshold
      else if cfg.srcSparse then .sparse
      else if !cfg.ratioFails && !(changeRatio cfg.blockSize src d).useDelta then .ratioFull
      else if cfg.useCow then .deltaCow
      else .deltaInPlace := by
  unfold routeOf
  simp only
  split
  · rfl
  · rename_i h
    rw [if_neg (fun h4 => h (Nat.lt_trans h4 (by decide)))]

theorem length_samplePositions (tb sc : Nat) : (samplePositions tb sc).length = sc := by
  simp [samplePositions]

theorem samplePositions_lt (tb sc : Nat) (h : 0 < tb) : ∀ p ∈ samplePositions tb sc, p < tb := by
  intro p hp
  simp only [samplePositions, List.mem_map, List.mem_range] at hp
  obtain ⟨i, _, rfl⟩ := hp
  split
  · have : min (i * (tb / (sc - 1))) (tb - 1) ≤ tb - 1 := Nat.min_le_right _ _
    omega
  · exact h

theorem samplePositions_head (tb sc : Nat) (h : 0 < sc) : (samplePositions tb sc).head? = some 0 := by
  unfold samplePositions
  cases sc with
  | zero => omega
  | succ n => simp [List.range_succ_eq_map]

theorem RatioResult.useDelta_iff (num den s c : Nat) :
    (RatioResult.mk' num den s c).useDelta = true ↔ 4 * num ≤ 3 * den := by
  simp only [RatioResult.mk', RATIO_DEN, RATIO_NUM, decide_eq_true_eq]; omega

/-- the answer of the sampler on every one of its five exits: a positive denominator, no more changed than sampled blocks,
    at most `SAMPLE_COUNT` samples -/
theorem changeRatioH_bounds [BEq H] (hash : Bytes → H) (bs : Nat) (src dst : Bytes) :
    0 < (changeRatioH hash bs src dst).den ∧
    (changeRatioH hash bs src dst).changed ≤ (changeRatioH hash bs src dst).sampled ∧
    (changeRatioH hash bs src dst).sampled ≤ SAMPLE_COUNT := by
  unfold changeRatioH
  simp only
  generalize absDiff src.length dst.length = diff
  by_cases h0 : dst.length = 0
  · rw [if_pos h0]; simp [RatioResult.mk']
  · rw [if_neg h0]
    by_cases h1 : SIZE_DIFF_DEN * diff > SIZE_DIFF_NUM * dst.length
    · rw [if_pos h1]
      by_cases h2 : diff ≥ dst.length
      · rw [if_pos h2]; simp [RatioResult.mk']
      · rw [if_neg h2]; simp only [RatioResult.mk']; omega
    · rw [if_neg h1]
      have hle : ((samplePositions ((dst.length + bs - 1) / bs) (min SAMPLE_COUNT ((dst.length + bs - 1) / bs))).filter
          (sampleChanged hash bs src dst)).length ≤ min SAMPLE_COUNT ((dst.length + bs - 1) / bs) := by
        have := List.length_filter_le (sampleChanged hash bs src dst)
          (samplePositions ((dst.length + bs - 1) / bs) (min SAMPLE_COUNT ((dst.length + bs - 1) / bs)))
        rw [length_samplePositions] at this
        exact this
      by_cases h2 : min SAMPLE_COUNT ((dst.length + bs - 1) / bs) > 0
      · rw [if_pos h2]; simp only [RatioResult.mk']; exact ⟨h2, hle, Nat.min_le_left _ _⟩
      · rw [if_neg h2]; simp only [RatioResult.mk']; exact ⟨Nat.one_pos, hle, Nat.min_le_left _ _⟩

/-- sizes that differ by more than half of the destination are decided without reading a block;
    delta is still chosen when the difference is at most three quarters. -/
theorem changeRatioH_size_gate [BEq H] (hash : Bytes → H) (bs : Nat) (src dst : Bytes)
    (hd : 0 < dst.length) (h : dst.length < 2 * absDiff src.length dst.length) :
    (changeRatioH hash bs src dst).sampled = 0 ∧
    ((changeRatioH hash bs src dst).useDelta = true ↔ 4 * absDiff src.length dst.length ≤ 3 * dst.length) := by
  unfold changeRatioH
  simp only
  generalize absDiff src.length dst.length = diff at h ⊢
  rw [if_neg (by omega), if_pos (by simp only [SIZE_DIFF_DEN, SIZE_DIFF_NUM]; omega)]
  by_cases h2 : diff ≥ dst.length
  · rw [if_pos h2]
    refine ⟨rfl, ?_⟩
    rw [RatioResult.useDelta_iff]; omega
  · rw [if_neg h2]
    refine ⟨rfl, ?_⟩
    rw [RatioResult.useDelta_iff]

/-- identical non-empty files are never routed to the full copy by the ratio gate.
    (An empty destination gives ratio 1.0: ratio.rs:103-107.) -/
theorem changeRatio_same (bs : Nat) (src : Bytes) (hne : 0 < src.length) :
    (changeRatio bs src src).useDelta = true := by
  unfold changeRatio changeRatioH
  simp only
  have hd : absDiff src.length src.length = 0 := by simp [absDiff]
  rw [hd, if_neg (by omega), if_neg (by simp)]
  have hf : ((samplePositions ((src.length + bs - 1) / bs) (min SAMPLE_COUNT ((src.length + bs - 1) / bs))).filter
      (sampleChanged (fun b => b) bs src src)).length = 0 := by
    rw [List.length_eq_zero_iff, List.filter_eq_nil_iff]
    intro p _; simp [sampleChanged]
  rw [hf]
  split <;> rw [RatioResult.useDelta_iff] <;> omega

end SyModel.Transfer
