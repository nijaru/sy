/-
  Lemmas.GenTransfer — the world the translated task executors of the one-way engine
  (`Generated/Code/Transfer.lean`: `Transferrer::{create, update, delete, create_directory, copy_file,
  handle_symlink}`, src/sync/transfer.rs) are run in, the INSTANCE of `Ext` that gives every transport operation the
  meaning the handwritten engine model (`Engine/Model.lean`) gives it, the abstraction maps, and the helper lemmas
  of `Props/GenTransfer.lean`.  `op`, `runM` and the `runM_*` equations defined here are also the run function of the
  units EngineTask, SingleFile, LocalFs and LinkMember (Lemmas and Props), which import this module for them.

  ## The world `XWorld`

    * `root`  — the text of the destination root; a destination path text `p` stands for the model key
                `keyOf root p` (`strip_prefix(root)` split at `/`; the root itself is the key `[]`);
    * `w`     — the model's own `Engine.World`: destination tree `dst : Map DNode`, `linkMap` (source inode ↦ first
                destination path, -H), `nextIno`, `bytes`;
    * `src`   — what a SOURCE path text resolves to when links are followed (`stat`): `dangling` (nothing), `dir`, or a
                regular file with its content id / size / mtime.  `fs::copy`, `fs::metadata`, `Path::exists`,
                `Path::is_dir` all follow links, so this is all the executors can see of the source;
    * `valId` — the id the model gives to an extended-attribute value (the model's `FileMeta.xattrs` are
                (name, value id) pairs, the scanned `FileEntry.xattrs` are (name, bytes) pairs).

  ## The instance `extOf cfg` (TRUSTED: this is where the modelling decisions are)

  Every operation is the model's own helper applied to `w`, at the key of its path argument.  An operation that fails
  returns `Err` and leaves the world as it was (one operation is atomic); a path text that is not below `root` fails.

    t_create_dir_all p            mkdirAll at the key                       (LocalTransport::create_dir_all)
    t_copy_file s d               `writeFile` WITHOUT xattrs of what `src s` holds; fails when `s` is not a regular
                                  file or when `writeFile` fails            (`LocalTransport::copy_file`: parents, remove a link at
                                  `d`, fs::copy, strip all xattrs, set mtime)
    t_sync_file_with_delta s d    the same final state                      (`LocalTransport::sync_file_with_delta`: content and
                                  mtime of `s`; every route strips the xattrs, sy commit 85373d1)
    write_xattrs e d              with `cfg.xattrs`: the attributes of the ENTRY `e` are set on the file node at `d`
                                  (`xattr::set` per attribute: others stay, same names are overwritten); never fails
                                  (failures are warnings, `Transferrer::write_xattrs`)
    write_acls, write_bsd_flags   no-ops (ACLs and flags are not in the model)
    t_remove p is_dir             is_dir: `remove_dir_all` (a directory with its subtree; a symlink itself; ENOTDIR on
                                  a regular file); else `remove_file` (a file or link; EISDIR on a directory); a missing
                                  path fails (NotFound — the ENGINE turns that into success, Delete arm of `SyncEngine::sync`)
    t_create_symlink t p          the model's `writeSymlink` of the text `t` (`LocalTransport::create_symlink`: parents, replace any
                                  non-directory, `symlink`; EEXIST on a directory)
    t_read_link p                 the text of the symlink node at the key, `None` for anything else; read-only
    path_exists p, path_is_dir p  read-only: `src p ≠ dangling`, `src p = dir`
    transfer_link_member e d i u  ONE atomic step (the hand-off itself is modelled for C13): a recorded first path
                                  for inode `i` ⇒ `linkFile` (`u = false`) / `relinkFile` (`u = true`); none recorded ⇒
                                  `writeFile` WITH the entry's xattrs and `d` recorded as the group's first path —
                                  exactly the three arms of the model's `perform`.
-/
import SyModel.Generated.Code.Transfer
import SyModel.Lemmas.EngineExec
import SyModel.Lemmas.RsLogic
import SyModel.Lemmas.PathText
namespace SyModel.Lemmas.GenTransfer
open SyModel SyModel.Engine SyModel.Generated SyModel.Generated.Transfer

/-! ### path texts ↔ component paths (the definitions as in `Lemmas/GenPlannerFx.lean`, repeated here so that the two
    units do not depend on each other; the lemmas are those of `Lemmas/PathText.lean`) -/

/-- a path text as the model's component path: the pieces between `/` -/
def compsOf (t : Rs.Path) : Engine.Path := (Rs.split t '/').map String.ofList

/-- a component path as text: components joined with `/` -/
def textOf : Engine.Path → Rs.Path
  | [] => []
  | [c] => c.toList
  | c :: d :: rest => c.toList ++ '/' :: textOf (d :: rest)

/-- keys a directory walk can produce: at least one component, none empty, none containing `/` -/
def CleanPath (k : Engine.Path) : Prop := k ≠ [] ∧ ∀ c ∈ k, c.toList ≠ [] ∧ '/' ∉ c.toList

instance (k : Engine.Path) : Decidable (CleanPath k) := by unfold CleanPath; infer_instance

theorem CleanPath.exists_snoc {k : Engine.Path} (h : CleanPath k) : ∃ ks c, k = ks ++ [c] :=
  ⟨k.dropLast, k.getLast h.1, (List.dropLast_concat_getLast h.1).symm⟩

open PathText (strip_prefix_join splitLastAt_none splitLastAt_last)

theorem textOf_eq : ∀ k, textOf k = PathText.textOf k
  | [] => rfl
  | [_] => rfl
  | c :: d :: rest => congrArg (c.toList ++ '/' :: ·) (textOf_eq (d :: rest))

theorem compsOf_textOf (k : Engine.Path) (h : CleanPath k) : compsOf (textOf k) = k := by
  rw [textOf_eq]
  exact PathText.compsOf_textOf k h

theorem textOf_compsOf (r : Rs.Str) : textOf (compsOf r) = r := by
  rw [textOf_eq]
  exact PathText.textOf_compsOf r

theorem textOf_ne_nil (k : Engine.Path) (h : CleanPath k) : textOf k ≠ [] := by
  rw [textOf_eq]
  exact PathText.textOf_ne_nil k h

/-! ### keys and destination paths; `Path::parent` of a destination path -/

/-- the model key of a destination path text (`strip_prefix(root)`, split at `/`); the root itself is `[]` -/
def keyOf (root p : Rs.Path) : Option Engine.Path :=
  match Rs.strip_prefix p root with
  | .ok r => some (if r = [] then [] else compsOf r)
  | .error _ => none

/-- the text of the destination path of key `k`: `dest_root.join(relative_path)` -/
def destOf (root : Rs.Path) (k : Engine.Path) : Rs.Path := Rs.join root (textOf k)

theorem keyOf_destOf (root : Rs.Path) (k : Engine.Path) (h : CleanPath k) : keyOf root (destOf root k) = some k := by
  simp [keyOf, destOf, strip_prefix_join, textOf_ne_nil k h, compsOf_textOf k h]

theorem keyOf_root (root : Rs.Path) : keyOf root root = some [] := by
  simp [keyOf, Rs.strip_prefix]

theorem textOf_concat (ks : Engine.Path) (c : String) (h : ks ≠ []) :
    textOf (ks ++ [c]) = textOf ks ++ '/' :: c.toList := by
  rw [textOf_eq, textOf_eq]
  exact PathText.textOf_append ks [c] h (List.cons_ne_nil _ _)

theorem parent_destOf_snoc (root : Rs.Path) (ks : Engine.Path) (c : String) (h : CleanPath (ks ++ [c])) :
    Rs.parent (destOf root (ks ++ [c])) = some (if ks = [] then root else destOf root ks) := by
  obtain ⟨hne, hc⟩ := h
  have hcc := hc c (by simp)
  by_cases hks : ks = []
  · subst hks
    by_cases hr : root = []
    · subst hr
      have : c.toList.isEmpty = false := by simpa using hcc.1
      simp [destOf, Rs.join, textOf, Rs.parent, splitLastAt_none _ hcc.2, this]
    · have : root.isEmpty = false := by simpa using hr
      simp [destOf, Rs.join, textOf, Rs.parent, this, splitLastAt_last _ _ hcc.2]
  · simp only [hks, ↓reduceIte]
    rw [destOf, textOf_concat ks c hks]
    by_cases hr : root = []
    · subst hr
      simp [Rs.join, Rs.parent, splitLastAt_last _ _ hcc.2, destOf]
    · have : root.isEmpty = false := by simpa using hr
      have e : root ++ '/' :: (textOf ks ++ '/' :: c.toList) = (root ++ '/' :: textOf ks) ++ '/' :: c.toList := by simp
      simp only [Rs.join, this, Bool.false_eq_true, ↓reduceIte, Rs.parent, e, splitLastAt_last _ _ hcc.2, destOf]

theorem parent_destOf_eq (root : Rs.Path) (k : Engine.Path) (h : CleanPath k) :
    Rs.parent (destOf root k) = some (if parentOf k = [] then root else destOf root (parentOf k)) := by
  obtain ⟨ks, c, rfl⟩ := h.exists_snoc
  rw [parent_destOf_snoc root ks c h]
  simp [parentOf]

theorem parent_destOf (root : Rs.Path) (k : Engine.Path) (h : CleanPath k) :
    ∃ pp, Rs.parent (destOf root k) = some pp ∧ keyOf root pp = some (parentOf k) := by
  obtain ⟨ks, c, rfl⟩ := h.exists_snoc
  refine ⟨_, parent_destOf_snoc root ks c h, ?_⟩
  have hpar : parentOf (ks ++ [c]) = ks := by simp [parentOf]
  rw [hpar]
  by_cases hks : ks = []
  · simp only [hks, ↓reduceIte, keyOf_root]
  · simp only [hks, ↓reduceIte]
    exact keyOf_destOf root ks ⟨hks, fun x hx => h.2 x (by simp [hx])⟩

/-! ### the world -/

/-- destination (the model's `World`) under a root text, and what source path texts resolve to (head of this file) -/
structure XWorld where
  root  : Rs.Path
  w     : World
  src   : Rs.Path → LinkTarget
  valId : List Nat → Nat

/-- scanned xattrs (name text, value bytes) ↦ the model's (name, value id) list -/
def absX (valId : List Nat → Nat) : Option (Rs.HashMap Rs.Str (List Nat)) → List (String × Nat)
  | none => []
  | some l => l.map fun nv => (String.ofList nv.1, valId nv.2)

/-- `xattr::set` for each attribute of `new`: same names are overwritten, the others stay -/
def mergeX (new old : List (String × Nat)) : List (String × Nat) :=
  new ++ old.filter fun o => !(new.any fun n => n.1 == o.1)

/-- `write_xattrs` on the node at `k` (a regular file; anything else is left alone) -/
def setXattrs (w : World) (k : Engine.Path) (xs : List (String × Nat)) : World :=
  match w.dst.get? k with
  | some (.file f) => { w with dst := w.dst.set k (.file { f with xattrs := mergeX xs f.xattrs }) }
  | _ => w

/-- the configuration `copy_file` runs with: it strips every attribute, whatever `-X` says -/
def stripX (cfg : Cfg) : Cfg := { cfg with xattrs := false }

/-- `create_dir_all` on the model's world (the `.dir` arm of `perform`) -/
def mkdirW (w : World) (k : Engine.Path) : Option World := (mkdirAll w.dst k).map fun d => { w with dst := d }

/-- `Transport::remove(path, is_dir)`: `remove_dir_all` / `remove_file` -/
def removeW (w : World) (k : Engine.Path) (isDir : Bool) : Option World :=
  match w.dst.get? k with
  | some .dir => if isDir then some { w with dst := w.dst.eraseSubtree k } else none
  | some (.file _) => if isDir then none else some { w with dst := w.dst.erase k }
  | some (.symlink _) => some { w with dst := w.dst.erase k }
  | none => none

/-- what `TransferResult::new(bytes)` holds -/
def xferResult (n : Nat) : TransferResult :=
  { bytes_written := n, delta_operations := none, literal_bytes := none, transferred_bytes := none,
    compression_used := false }

/-- the result of the link arms of `transfer_link_member` -/
def linkResult : TransferResult :=
  { bytes_written := 0, delta_operations := none, literal_bytes := none, transferred_bytes := some 0,
    compression_used := false }

/-- `copy_file` / `sync_file_with_delta`: the regular file `src s` written at `k`, xattrs stripped -/
def copyW (cfg : Cfg) (xw : XWorld) (s : Rs.Path) (k : Engine.Path) : Option (TransferResult × World) :=
  match xw.src s with
  | .file sm => (writeFile (stripX cfg) xw.w k sm).map fun w' => (xferResult sm.size, w')
  | _ => none

/-- `FileEntry ↦ FileMeta` for a regular-file entry: content, size and mtime of the file the world holds at
    `e.path` (what `fs::copy` + `set_file_mtime` transfer), the xattrs of the ENTRY (what `write_xattrs` writes),
    `inode` as the link-group id -/
def metaOf (xw : XWorld) (e : FileEntry) : FileMeta :=
  match xw.src e.path with
  | .file sm => { content := sm.content, size := sm.size, mtime := sm.mtime, xattrs := absX xw.valId e.xattrs,
                  ino := e.inode.getD 0 }
  | _ => { content := 0, size := 0, mtime := 0, xattrs := absX xw.valId e.xattrs, ino := e.inode.getD 0 }

/-- the inode of the regular file at `k` (0 when there is none): what the model records for a link group's first path -/
def inoAt (d : Map DNode) (k : Engine.Path) : Nat := match d.get? k with | some (.file f) => f.ino | _ => 0

/-- `transfer_link_member` as one step: the three hard-link arms of the model's `perform` -/
def linkMemberW (cfg : Cfg) (xw : XWorld) (e : FileEntry) (k : Engine.Path) (inode : Nat) (upd : Bool) :
    Option (Option TransferResult × World) :=
  match xw.w.linkMap.find? (·.1 == inode) with
  | some (_, first, _) =>
    (if upd then relinkFile xw.w k first else linkFile xw.w k first).map fun w' => (some linkResult, w')
  | none =>
    match xw.src e.path with
    | .file sm =>
      (writeFile cfg xw.w k (metaOf xw e)).map fun w' =>
        (some (xferResult sm.size), { w' with linkMap := (inode, k, inoAt w'.dst k) :: w'.linkMap })
    | _ => none

/-- a world operation given as a function -/
def op {W α : Type} (f : W → Except Rs.Err α × W) : Rs.M W α := ExceptT.mk (fun w => (f w : Id _))

/-- how a model step ends as an operation: `some` = `Ok` in the new world, `none` = `Err`, world unchanged -/
def XWorld.outcome {α : Type} (xw : XWorld) (r : Option (α × World)) : Except Rs.Err α × XWorld :=
  match r with
  | some (a, w') => (.ok a, { xw with w := w' })
  | none => (.error .io, xw)

/-- an operation on the destination path text `p`: the model step `f` at its key (a path outside the root fails) -/
def XWorld.at {α : Type} (xw : XWorld) (p : Rs.Path) (f : Engine.Path → Option (α × World)) :
    Except Rs.Err α × XWorld :=
  match keyOf xw.root p with
  | some k => xw.outcome (f k)
  | none => (.error .io, xw)

/-- `Path::exists` on a source path (follows links) -/
def XWorld.srcExists (xw : XWorld) (p : Rs.Path) : Bool := match xw.src p with | .dangling => false | _ => true
/-- `Path::is_dir` on a source path (follows links) -/
def XWorld.srcIsDir (xw : XWorld) (p : Rs.Path) : Bool := match xw.src p with | .dir => true | _ => false

/-- `write_xattrs` with `-X`: the entry's attributes on the node at the key of `p` -/
def XWorld.writeX (xw : XWorld) (e : FileEntry) (p : Rs.Path) : XWorld :=
  match keyOf xw.root p with
  | some k => { xw with w := setXattrs xw.w k (absX xw.valId e.xattrs) }
  | none => xw

def extOf (cfg : Cfg) : Ext XWorld where
  t_create_dir_all _ p := op fun xw => xw.at p fun k => (mkdirW xw.w k).map fun w' => ((), w')
  t_copy_file _ s d := op fun xw => xw.at d fun k => copyW cfg xw s k
  t_sync_file_with_delta _ s d := op fun xw => xw.at d fun k => copyW cfg xw s k
  t_remove _ p isDir := op fun xw => xw.at p fun k => (removeW xw.w k isDir).map fun w' => ((), w')
  t_create_symlink _ t p := op fun xw => xw.at p fun k => (writeSymlink xw.w k (String.ofList t)).map fun w' => ((), w')
  t_read_link _ p := op fun xw => xw.at p fun k =>
    some ((match xw.w.dst.get? k with | some (.symlink t) => some t.toList | _ => none), xw.w)
  path_exists p := op fun xw => (.ok (xw.srcExists p), xw)
  path_is_dir p := op fun xw => (.ok (xw.srcIsDir p), xw)
  write_xattrs _ e p := op fun xw => (.ok (), if cfg.xattrs then xw.writeX e p else xw)
  write_acls _ _ _ := pure ()
  write_bsd_flags _ _ _ := pure ()
  transfer_link_member _ e d inode upd := op fun xw => xw.at d fun k => linkMemberW cfg xw e k inode upd

section fields
variable (cfg : Cfg) (o : Rs.Opaque) (self : Transferrer) (e : FileEntry) (p s d : Rs.Path)
@[simp] theorem extOf_t_create_dir_all :
    (extOf cfg).t_create_dir_all o p = op fun xw => xw.at p fun k => (mkdirW xw.w k).map fun w' => ((), w') := rfl
@[simp] theorem extOf_t_copy_file : (extOf cfg).t_copy_file o s d = op fun xw => xw.at d fun k => copyW cfg xw s k := rfl
@[simp] theorem extOf_t_sync_file_with_delta :
    (extOf cfg).t_sync_file_with_delta o s d = op fun xw => xw.at d fun k => copyW cfg xw s k := rfl
@[simp] theorem extOf_t_remove (isDir : Bool) :
    (extOf cfg).t_remove o p isDir = op fun xw => xw.at p fun k => (removeW xw.w k isDir).map fun w' => ((), w') := rfl
@[simp] theorem extOf_t_create_symlink (t : Rs.Path) :
    (extOf cfg).t_create_symlink o t p =
      op fun xw => xw.at p fun k => (writeSymlink xw.w k (String.ofList t)).map fun w' => ((), w') := rfl
@[simp] theorem extOf_t_read_link : (extOf cfg).t_read_link o p = op fun xw => xw.at p fun k =>
    some ((match xw.w.dst.get? k with | some (.symlink t) => some t.toList | _ => none), xw.w) := rfl
@[simp] theorem extOf_path_exists : (extOf cfg).path_exists p = op fun xw => (.ok (xw.srcExists p), xw) := rfl
@[simp] theorem extOf_path_is_dir : (extOf cfg).path_is_dir p = op fun xw => (.ok (xw.srcIsDir p), xw) := rfl
@[simp] theorem extOf_write_xattrs :
    (extOf cfg).write_xattrs self e p = op fun xw => (.ok (), if cfg.xattrs then xw.writeX e p else xw) := rfl
@[simp] theorem extOf_write_acls : (extOf cfg).write_acls self e p = pure () := rfl
@[simp] theorem extOf_write_bsd_flags : (extOf cfg).write_bsd_flags self e p = pure () := rfl
@[simp] theorem extOf_transfer_link_member (inode : Nat) (upd : Bool) :
    (extOf cfg).transfer_link_member self e d inode upd =
      op fun xw => xw.at d fun k => linkMemberW cfg xw e k inode upd := rfl
end fields

/-! ### running `Rs.M` -/

/-- run a translated computation from a world: its result and the world after it -/
def runM {W α : Type} (x : Rs.M W α) (w : W) : Except Rs.Err α × W := x.run.run w

@[simp] theorem runM_op {W α : Type} (f : W → Except Rs.Err α × W) (w : W) : runM (op f) w = f w := rfl
@[simp] theorem runM_pure {W α : Type} (a : α) (w : W) : runM (pure a : Rs.M W α) w = (.ok a, w) := rfl
@[simp] theorem runM_throw {W α : Type} (e : Rs.Err) (w : W) : runM (throw e : Rs.M W α) w = (.error e, w) := rfl

theorem runM_bind {W α β : Type} (x : Rs.M W α) (k : α → Rs.M W β) (w : W) :
    runM (x >>= k) w = match runM x w with
      | (.ok a, w') => runM (k a) w'
      | (.error e, w') => (.error e, w') := Rs.run_bind x k w

theorem runM_bind_ok {W α β : Type} {x : Rs.M W α} {f : α → Rs.M W β} {w w' : W} {a : α}
    (h : runM x w = (.ok a, w')) : runM (x >>= f) w = runM (f a) w' := Rs.run_bind_ok h

theorem runM_bind_error {W α β : Type} {x : Rs.M W α} {f : α → Rs.M W β} {w w' : W} {e : Rs.Err}
    (h : runM x w = (.error e, w')) : runM (x >>= f) w = (.error e, w') := Rs.run_bind_error h

theorem runM_bind_eq_ok {W α β : Type} {x : Rs.M W α} {f : α → Rs.M W β} {w wf : W} {b : β}
    (h : runM (x >>= f) w = (.ok b, wf)) : ∃ a w', runM x w = (.ok a, w') ∧ runM (f a) w' = (.ok b, wf) :=
  Rs.run_bind_eq_ok h

theorem runM_bind_eq_error {W α β : Type} {x : Rs.M W α} {f : α → Rs.M W β} {w wf : W} {e : Rs.Err}
    (h : runM (x >>= f) w = (.error e, wf)) :
    runM x w = (.error e, wf) ∨ ∃ a w', runM x w = (.ok a, w') ∧ runM (f a) w' = (.error e, wf) :=
  Rs.run_bind_eq_error h

theorem runM_capture_eq {W α : Type} (x : Rs.M W α) (w : W) :
    runM (Rs.capture x) w = ((.ok (runM x w).1 : Except Rs.Err (Except Rs.Err α)), (runM x w).2) :=
  Rs.run_capture x w

theorem runM_map {W α β : Type} (f : α → β) (x : Rs.M W α) (w : W) :
    runM (f <$> x) w = match runM x w with
      | (.ok a, w') => (.ok (f a), w')
      | (.error e, w') => (.error e, w') := Rs.run_map f x w

/-! ### the operations at a destination key -/

@[simp] theorem outcome_some {α : Type} (xw : XWorld) (a : α) (w' : World) :
    xw.outcome (some (a, w')) = (.ok a, { xw with w := w' }) := rfl
@[simp] theorem outcome_none {α : Type} (xw : XWorld) : xw.outcome (none : Option (α × World)) = (.error .io, xw) := rfl

/-- `r` / `hr`: so that it also rewrites `destOf xw.root k` in a world `{ xw with w := w' }`, whose root is `xw.root`
    only after unfolding (`Lemmas/GenLinkMember`) -/
theorem at_destOf {α : Type} (xw : XWorld) (r : Rs.Path) (hr : xw.root = r) (k : Engine.Path) (hk : CleanPath k)
    (f : Engine.Path → Option (α × World)) :
    xw.at (destOf r k) f = xw.outcome (f k) := by
  subst hr
  simp only [XWorld.at, keyOf_destOf xw.root k hk]

theorem at_key {α : Type} (xw : XWorld) (p : Rs.Path) (k : Engine.Path) (hk : keyOf xw.root p = some k)
    (f : Engine.Path → Option (α × World)) :
    xw.at p f = xw.outcome (f k) := by
  simp only [XWorld.at, hk]

theorem create_directory_run (cfg : Cfg) (self : Transferrer) (xw : XWorld) (k : Engine.Path) (hk : CleanPath k) :
    runM (self.create_directory (extOf cfg) (destOf xw.root k)) xw =
      match mkdirW xw.w k with
      | some w' => (.ok (), { xw with w := w' })
      | none => (.error .io, xw) := by
  unfold Transferrer.create_directory
  simp only [extOf_t_create_dir_all, runM_bind, runM_op, at_destOf xw _ rfl k hk, runM_pure]
  cases mkdirW xw.w k <;> rfl

theorem copy_file_run (cfg : Cfg) (self : Transferrer) (xw : XWorld) (s : Rs.Path) (k : Engine.Path)
    (hk : CleanPath k) :
    runM (self.copy_file (extOf cfg) s (destOf xw.root k)) xw =
      match mkdirAll xw.w.dst (parentOf k) with
      | none => (.error .io, xw)
      | some d =>
        match xw.src s with
        | .file sm =>
          match writeFile (stripX cfg) xw.w k sm with
          | some w' => (.ok (xferResult sm.size), { xw with w := w' })
          | none => (.error .io, { xw with w := { xw.w with dst := d } })
        | _ => (.error .io, { xw with w := { xw.w with dst := d } }) := by
  obtain ⟨pp, hpp, hkey⟩ := parent_destOf xw.root k hk
  unfold Transferrer.copy_file
  simp only [hpp, extOf_t_create_dir_all, extOf_t_copy_file, runM_bind, runM_op, runM_pure]
  rw [at_key xw pp _ hkey]
  simp only [mkdirW]
  cases hm : mkdirAll xw.w.dst (parentOf k) with
  | none => rfl
  | some d =>
    simp only [Option.map_some, outcome_some]
    rw [at_destOf _ _ rfl k hk]
    simp only [copyW]
    cases hs : xw.src s with
    | dangling => rfl
    | dir => rfl
    | file sm =>
      simp only [writeFile_after_mkdir _ _ _ _ _ hm]
      cases writeFile (stripX cfg) xw.w k sm <;> rfl

/-! ### xattrs: `copy_file` strips, `write_xattrs` sets -/

/-- the model's `writeFile` with `-X` = `copy_file` (attributes stripped) followed by `write_xattrs` -/
theorem writeFile_split (cfg : Cfg) (w : World) (k : Engine.Path) (m : FileMeta) :
    writeFile cfg w k m =
      (writeFile (stripX cfg) w k m).map fun w2 => if cfg.xattrs then setXattrs w2 k m.xattrs else w2 := by
  unfold writeFile
  cases mkdirAll w.dst (parentOf k) with
  | none => rfl
  | some d =>
    cases hx : cfg.xattrs <;> cases hg : d.get? k with
    | none => simp [stripX, setXattrs, Map.set_set, mergeX, hg]
    | some n => cases n <;> simp [stripX, setXattrs, Map.set_set, mergeX, hg]

theorem setXattrs_linkMap (w : World) (k : Engine.Path) (xs : List (String × Nat)) :
    (setXattrs w k xs).linkMap = w.linkMap := by
  unfold setXattrs; split <;> rfl

theorem copyW_linkMap (cfg : Cfg) (xw : XWorld) (k : Engine.Path) {s : Rs.Path} {p : TransferResult × World}
    (h : copyW cfg xw s k = some p) : p.2.linkMap = xw.w.linkMap := by
  unfold copyW at h
  split at h
  · cases hw : writeFile (stripX cfg) xw.w k _ with
    | none => rw [hw] at h; cases h
    | some w2 =>
      rw [hw] at h; cases h
      obtain ⟨_, _, _, _, _, _, hl, _⟩ := writeFile_spec hw
      exact hl
  · cases h

theorem copyW_eq_none (cfg : Cfg) (xw : XWorld) (k : Engine.Path) {s : Rs.Path} (h : copyW cfg xw s k = none)
    (sm : FileMeta) (hs : xw.src s = .file sm) : writeFile (stripX cfg) xw.w k sm = none := by
  simp only [copyW, hs, Option.map_eq_none_iff] at h
  exact h

/-! ### abstraction maps -/

/-- `SymlinkMode ↦ LinkMode` -/
def absMode : SymlinkMode → LinkMode
  | .Preserve => .preserve
  | .Follow => .follow
  | .Skip => .skip

/-- the executor value and the model's configuration describe the same run (`Transferrer::new` is called with the
    engine's `dry_run`, `symlink_mode`, `preserve_hardlinks`, src/sync/mod.rs; `preserve_xattrs` is not a field of the
    translated struct: the instance `extOf cfg` reads `cfg.xattrs`) -/
structure Agrees (self : Transferrer) (cfg : Cfg) : Prop where
  dry : self.dry_run = cfg.dryRun
  hl  : self.preserve_hardlinks = cfg.hardlinks
  lm  : absMode self.symlink_mode = cfg.links

/-- what the follow arm of `handle_symlink` transfers for a link to the regular file `sm`: its content, size and
    mtime and NO xattrs (that arm calls `copy_file` only) -/
def followMeta (sm : FileMeta) : FileMeta := { sm with xattrs := [] }

/-- `FileEntry ↦ Payload` (what a create/update task for this entry transfers, after dereferencing in follow mode) -/
def absPayload (cfg : Cfg) (xw : XWorld) (e : FileEntry) : Payload :=
  if e.is_symlink then
    match cfg.links with
    | .skip => .nothing
    | .preserve => match e.symlink_target with | some t => .symlink (String.ofList t) | none => .nothing
    | .follow => match xw.src e.path with | .file sm => .file (followMeta sm) 1 | _ => .nothing
  else if e.is_dir then .dir
  else .file (metaOf xw e) e.nlink

/-- the model task an executor call stands for -/
def absTask (cfg : Cfg) (xw : XWorld) (a : Act) (e : FileEntry) (k : Engine.Path) : Task :=
  { act := a, rel := k, payload := absPayload cfg xw e }

/-- the scanner could read the link (`symlink_target = read_link().ok()`); irrelevant in skip mode -/
def Readable (cfg : Cfg) (e : FileEntry) : Prop :=
  e.is_symlink = true → cfg.links ≠ .skip → e.symlink_target.isSome = true

/-- a regular-file entry still names a regular file (it was just scanned) -/
def SrcFile (xw : XWorld) (e : FileEntry) : Prop :=
  e.is_symlink = false → e.is_dir = false → ∃ sm, xw.src e.path = .file sm

/-- a regular-file entry with several names carries its inode number (always on Unix: `Some(metadata.ino())`,
    src/sync/scanner.rs) -/
def HasInode (cfg : Cfg) (e : FileEntry) : Prop :=
  e.is_symlink = false → e.is_dir = false → cfg.hardlinks = true → 1 < e.nlink → e.inode.isSome = true

/-- what a FAILED executor call leaves: the world as it was, or with the parent directories of `k` created
    (`copy_file` calls `create_dir_all(parent)` before the transport's copy), or — `update` of a directory entry only —
    with the symlink at `k` removed -/
def Left (xw xw' : XWorld) (k : Engine.Path) : Prop :=
  xw' = xw ∨ (∃ d, mkdirAll xw.w.dst (parentOf k) = some d ∧ xw' = { xw with w := { xw.w with dst := d } }) ∨
    -- `update` of a directory entry (sy commit 862af11): the link at `k` was removed, then `create_dir_all` failed — which needs
    -- a non-directory ABOVE the link, impossible in a parent-closed destination (`Engine.dirBase_closed`)
    (∃ s, xw.w.dst.get? k = some (.symlink s) ∧ xw' = { xw with w := { xw.w with dst := xw.w.dst.erase k } })

/-- result and world of an executor call against the model's answer: `some w'` ⇒ `Ok` and the world is `w'`;
    `none` ⇒ `Err` and what is left is described by `Left`.  The value answered with `Ok` is left open (`∃ r`): the
    byte counts of a `TransferResult` are not compared with the model's `World.bytes`. -/
def Agree {α : Type} (xw : XWorld) (k : Engine.Path) (res : Except Rs.Err α × XWorld) (mod : Option World) : Prop :=
  match mod with
  | some w' => ∃ r, res = (.ok r, { xw with w := w' })
  | none => ∃ xw', res = (.error .io, xw') ∧ Left xw xw' k

theorem agree_some {α : Type} {xw : XWorld} {k : Engine.Path} {res : Except Rs.Err α × XWorld} {w' : World} (r : α)
    (h : res = (.ok r, { xw with w := w' })) : Agree xw k res (some w') := ⟨r, h⟩

theorem agree_none {α : Type} {xw : XWorld} {k : Engine.Path} {res : Except Rs.Err α × XWorld} (xw' : XWorld)
    (h : res = (.error .io, xw')) (hl : Left xw xw' k) : Agree (α := α) xw k res none := ⟨xw', h, hl⟩

/-! ### the model's `perform`, by arm

  `cuArm` is `Engine.performCU` (Lemmas/EngineExec) with the action as the Bool `upd`, the form the executors'
  `is_update` flag matches; `perform_cu` below is this module's, with `cuArm` on the right. -/

/-- the regular-file arm of the model's `perform` (create: `upd = false`, update: `upd = true`) -/
def fileArm (cfg : Cfg) (w : World) (k : Engine.Path) (m : FileMeta) (nlink : Nat) (upd : Bool) : Option World :=
  if cfg.hardlinks && decide (1 < nlink) then
    match w.linkMap.find? (·.1 == m.ino) with
    | some (_, first, _) => if upd then relinkFile w k first else linkFile w k first
    | none =>
      (writeFile cfg w k m).map fun w' => { w' with linkMap := (m.ino, k, inoAt w'.dst k) :: w'.linkMap }
  else writeFile cfg w k m

/-- the create/update arms of the model's `perform` outside a dry run, by payload -/
def cuArm (cfg : Cfg) (w : World) (k : Engine.Path) (upd : Bool) : Payload → Option World
  | .nothing => some w
  | .dir => mkdirW (if upd then { w with dst := unlinkLink w.dst k } else w) k
  | .symlink text => writeSymlink w k text
  | .file m nlink => fileArm cfg w k m nlink upd

theorem perform_cu (cfg : Cfg) (w : World) (k : Engine.Path) (pl : Payload) (upd : Bool) (h : cfg.dryRun = false) :
    perform cfg w ⟨if upd then .update else .create, k, pl⟩ = cuArm cfg w k upd pl := by
  cases pl with
  | file m n =>
    cases upd <;> simp only [perform, h, cuArm, fileArm, Bool.false_eq_true, ↓reduceIte]
    all_goals
      by_cases hc : (cfg.hardlinks && decide (1 < n)) = true
      · cases hf : w.linkMap.find? (·.1 == m.ino) with
        | some x => simp [hc]
        | none =>
          simp [hc]
          refine congrArg (fun f => Option.map f _) (funext fun w' => ?_)
          unfold inoAt
          cases w'.dst.get? k with
          | none => rfl
          | some n => cases n <;> rfl
      · simp [hc]
  | _ => cases upd <;> simp [perform, h, cuArm, mkdirW, dirBase]

theorem perform_create (cfg : Cfg) (w : World) (k : Engine.Path) (pl : Payload) (h : cfg.dryRun = false) :
    perform cfg w ⟨.create, k, pl⟩ = cuArm cfg w k false pl := perform_cu cfg w k pl false h

theorem perform_update (cfg : Cfg) (w : World) (k : Engine.Path) (pl : Payload) (h : cfg.dryRun = false) :
    perform cfg w ⟨.update, k, pl⟩ = cuArm cfg w k true pl := perform_cu cfg w k pl true h

/-! ### the executors, arm by arm -/

theorem copy_file_ok (cfg : Cfg) (self : Transferrer) (xw : XWorld) (s : Rs.Path) (k : Engine.Path)
    (hk : CleanPath k) (sm : FileMeta) (hs : xw.src s = .file sm) (w' : World)
    (hw : writeFile (stripX cfg) xw.w k sm = some w') :
    runM (self.copy_file (extOf cfg) s (destOf xw.root k)) xw = (.ok (xferResult sm.size), { xw with w := w' }) := by
  rw [copy_file_run cfg self xw s k hk]
  cases hm : mkdirAll xw.w.dst (parentOf k) with
  | none => unfold writeFile at hw; simp [hm] at hw
  | some d => simp only [hs, hw]

/-- a failed `copy_file` leaves the world as it was or with the parents of `k` created (never the third case of `Left`) -/
theorem copy_file_err_strong (cfg : Cfg) (self : Transferrer) (xw : XWorld) (s : Rs.Path) (k : Engine.Path)
    (hk : CleanPath k) (hw : ∀ sm, xw.src s = .file sm → writeFile (stripX cfg) xw.w k sm = none) :
    ∃ xw', runM (self.copy_file (extOf cfg) s (destOf xw.root k)) xw = (.error .io, xw') ∧
      (xw' = xw ∨ ∃ d, mkdirAll xw.w.dst (parentOf k) = some d ∧ xw' = { xw with w := { xw.w with dst := d } }) := by
  rw [copy_file_run cfg self xw s k hk]
  cases hm : mkdirAll xw.w.dst (parentOf k) with
  | none => exact ⟨xw, rfl, Or.inl rfl⟩
  | some d =>
    cases hs : xw.src s with
    | dangling => exact ⟨_, rfl, Or.inr ⟨d, rfl, rfl⟩⟩
    | dir => exact ⟨_, rfl, Or.inr ⟨d, rfl, rfl⟩⟩
    | file sm => simp only [hw sm hs]; exact ⟨_, rfl, Or.inr ⟨d, rfl, rfl⟩⟩

theorem copy_file_err (cfg : Cfg) (self : Transferrer) (xw : XWorld) (s : Rs.Path) (k : Engine.Path)
    (hk : CleanPath k) (hw : ∀ sm, xw.src s = .file sm → writeFile (stripX cfg) xw.w k sm = none) :
    ∃ xw', runM (self.copy_file (extOf cfg) s (destOf xw.root k)) xw = (.error .io, xw') ∧ Left xw xw' k := by
  obtain ⟨xw', h1, h2⟩ := copy_file_err_strong cfg self xw s k hk hw
  exact ⟨xw', h1, h2.elim Or.inl (fun h => Or.inr (Or.inl h))⟩

/-- the follow arm's payload written by the model = the stripped copy -/
theorem writeFile_followMeta (cfg : Cfg) (w : World) (k : Engine.Path) (sm : FileMeta) :
    writeFile cfg w k (followMeta sm) = writeFile (stripX cfg) w k sm := by
  unfold writeFile
  cases hx : cfg.xattrs <;> simp [followMeta, stripX]

theorem handle_symlink_agree (cfg : Cfg) (self : Transferrer) (ha : Agrees self cfg) (xw : XWorld) (e : FileEntry)
    (k : Engine.Path) (hk : CleanPath k) (hs : e.is_symlink = true) (hread : Readable cfg e) (upd : Bool) :
    Agree xw k (runM (self.handle_symlink (extOf cfg) e (destOf xw.root k)) xw)
      (cuArm cfg xw.w k upd (absPayload cfg xw e)) := by
  obtain ⟨hdry, hhl, hlm⟩ := ha
  unfold Transferrer.handle_symlink absPayload
  simp only [hs, ↓reduceIte]
  cases hm : self.symlink_mode with
  | Skip =>
    rw [hm] at hlm
    simp only [← hlm, absMode, cuArm]
    exact ⟨none, rfl⟩
  | Preserve =>
    rw [hm] at hlm
    have hr := hread hs (by rw [← hlm]; simp [absMode])
    simp only [← hlm, absMode]
    cases ht : e.symlink_target with
    | none => simp [ht] at hr
    | some t =>
      simp only [cuArm, extOf_t_create_symlink, runM_bind, runM_op, at_destOf xw _ rfl k hk]
      cases hw : writeSymlink xw.w k (String.ofList t) with
      | none => exact ⟨xw, rfl, Or.inl rfl⟩
      | some w' => exact ⟨none, rfl⟩
  | Follow =>
    rw [hm] at hlm
    have hr := hread hs (by rw [← hlm]; simp [absMode])
    simp only [← hlm, absMode, Rs.is_some, hr, ↓reduceIte, extOf_path_exists, extOf_path_is_dir, runM_bind, runM_op]
    cases hsrc : xw.src e.path with
    | dangling =>
      have hex : xw.srcExists e.path = false := by simp [XWorld.srcExists, hsrc]
      simp only [hex, Bool.not_false, ↓reduceIte, runM_pure, cuArm]
      exact ⟨none, rfl⟩
    | dir =>
      have hex : xw.srcExists e.path = true := by simp [XWorld.srcExists, hsrc]
      have hdir : xw.srcIsDir e.path = true := by simp [XWorld.srcIsDir, hsrc]
      simp only [hex, hdir, Bool.not_true, Bool.false_eq_true, ↓reduceIte, runM_pure, runM_bind, runM_op, cuArm]
      exact ⟨none, rfl⟩
    | file sm =>
      have hex : xw.srcExists e.path = true := by simp [XWorld.srcExists, hsrc]
      have hdir : xw.srcIsDir e.path = false := by simp [XWorld.srcIsDir, hsrc]
      simp only [hex, hdir, Bool.not_true, Bool.false_eq_true, ↓reduceIte, runM_bind, runM_op, cuArm, fileArm,
        Nat.lt_irrefl, decide_false, Bool.and_false, writeFile_followMeta]
      cases hwf : writeFile (stripX cfg) xw.w k sm with
      | some w' =>
        simp only [copy_file_ok cfg self xw e.path k hk sm hsrc w' hwf, runM_pure]
        exact ⟨_, rfl⟩
      | none =>
        obtain ⟨xw', h1, h2⟩ := copy_file_err cfg self xw e.path k hk
          (fun sm' hs' => by rw [hsrc] at hs'; cases hs'; exact hwf)
        simp only [h1]
        exact ⟨xw', rfl, h2⟩

theorem metaOf_xattrs (xw : XWorld) (e : FileEntry) : (metaOf xw e).xattrs = absX xw.valId e.xattrs := by
  unfold metaOf; split <;> rfl

theorem writeX_destOf (xw : XWorld) (e : FileEntry) (k : Engine.Path) (hk : CleanPath k) :
    xw.writeX e (destOf xw.root k) = { xw with w := setXattrs xw.w k (absX xw.valId e.xattrs) } := by
  simp only [XWorld.writeX, keyOf_destOf xw.root k hk]

/-- a transfer (`copy_file` or `sync_file_with_delta`: anything that runs as the stripped `writeFile`) followed by
    `write_xattrs`, `write_acls`, `write_bsd_flags` is the model's `writeFile` of the entry's meta -/
theorem transfer_then_attrs_agree (cfg : Cfg) (self : Transferrer) (xw : XWorld) (e : FileEntry) (k : Engine.Path)
    (hk : CleanPath k) (sm : FileMeta) (hsm : xw.src e.path = .file sm) (x : Rs.M XWorld TransferResult)
    (hok : ∀ w', writeFile (stripX cfg) xw.w k sm = some w' → runM x xw = (.ok (xferResult sm.size), { xw with w := w' }))
    (herr : writeFile (stripX cfg) xw.w k sm = none → ∃ xw', runM x xw = (.error .io, xw') ∧ Left xw xw' k) :
    Agree xw k
      (runM (x >>= fun r => (extOf cfg).write_xattrs self e (destOf xw.root k) >>= fun _ =>
        (extOf cfg).write_acls self e (destOf xw.root k) >>= fun _ =>
        (extOf cfg).write_bsd_flags self e (destOf xw.root k) >>= fun _ => pure (some r)) xw)
      (writeFile cfg xw.w k (metaOf xw e)) := by
  have hcg : writeFile (stripX cfg) xw.w k (metaOf xw e) = writeFile (stripX cfg) xw.w k sm :=
    writeFile_congr _ _ _ _ _ (by simp [metaOf, hsm]) (by simp [metaOf, hsm]) (by simp [metaOf, hsm])
      (by simp [stripX])
  rw [writeFile_split, hcg, metaOf_xattrs]
  cases hwf : writeFile (stripX cfg) xw.w k sm with
  | none =>
    obtain ⟨xw', h1, h2⟩ := herr hwf
    simp only [runM_bind, h1, Option.map_none]
    exact ⟨xw', rfl, h2⟩
  | some w2 =>
    simp only [runM_bind, hok w2 hwf, extOf_write_xattrs, extOf_write_acls, extOf_write_bsd_flags, runM_op, runM_pure,
      Option.map_some]
    cases hx : cfg.xattrs with
    | false => exact ⟨_, rfl⟩
    | true =>
      simp only [↓reduceIte]
      rw [writeX_destOf { xw with w := w2 } e k hk]
      exact ⟨_, rfl⟩

/-- DRY RUN: `create` and `update` answer `Ok(None)` and call nothing, on any instance -/
theorem dry_run_calls_nothing {W : Type} (ext : Ext W) (self : Transferrer) (e : FileEntry) (d : Rs.Path) (w : W)
    (hdry : self.dry_run = true) :
    runM (self.create ext e d) w = (.ok none, w) ∧ runM (self.update ext e d) w = (.ok none, w) := by
  unfold Transferrer.create Transferrer.update
  simp only [hdry, ↓reduceIte]
  constructor <;> split <;> rfl

/-- a member of a link group (with -H, several names) carries the inode number the model files it under -/
theorem inode_of_member {cfg : Cfg} {xw : XWorld} {e : FileEntry} (hino : HasInode cfg e) (hs : e.is_symlink = false)
    (hdir : e.is_dir = false) {sm : FileMeta} (hsm : xw.src e.path = .file sm)
    (hc : (cfg.hardlinks && decide (1 < e.nlink)) = true) : e.inode = some (metaOf xw e).ino := by
  simp only [Bool.and_eq_true, decide_eq_true_eq] at hc
  obtain ⟨i, hi⟩ := Option.isSome_iff_exists.1 (hino hs hdir hc.1 hc.2)
  simp [metaOf, hsm, hi]

/-- the hard-link hand-off on the instance is the link-group branch of `fileArm` (`upd`: re-link instead of link) -/
theorem link_member_agree (cfg : Cfg) (self : Transferrer) (xw : XWorld) (e : FileEntry) (k : Engine.Path)
    (hk : CleanPath k) (sm : FileMeta) (hsm : xw.src e.path = .file sm) (upd : Bool) :
    Agree xw k (runM ((extOf cfg).transfer_link_member self e (destOf xw.root k) (metaOf xw e).ino upd) xw)
      (match xw.w.linkMap.find? (·.1 == (metaOf xw e).ino) with
       | some (_, first, _) => if upd then relinkFile xw.w k first else linkFile xw.w k first
       | none => (writeFile cfg xw.w k (metaOf xw e)).map fun w' =>
           { w' with linkMap := ((metaOf xw e).ino, k, inoAt w'.dst k) :: w'.linkMap }) := by
  simp only [extOf_transfer_link_member, runM_op, at_destOf xw _ rfl k hk, linkMemberW, hsm]
  cases xw.w.linkMap.find? (·.1 == (metaOf xw e).ino) with
  | some x =>
    obtain ⟨a, first, b⟩ := x
    simp only []
    cases (if upd = true then relinkFile xw.w k first else linkFile xw.w k first) with
    | none => exact ⟨xw, rfl, Or.inl rfl⟩
    | some w' => exact ⟨_, rfl⟩
  | none =>
    simp only []
    cases writeFile cfg xw.w k (metaOf xw e) with
    | none => exact ⟨xw, rfl, Or.inl rfl⟩
    | some w' => exact ⟨_, rfl⟩

theorem create_agree (cfg : Cfg) (self : Transferrer) (ha : Agrees self cfg) (xw : XWorld) (e : FileEntry)
    (k : Engine.Path) (hk : CleanPath k) (hread : Readable cfg e) (hsrc : SrcFile xw e) (hino : HasInode cfg e) :
    Agree xw k (runM (self.create (extOf cfg) e (destOf xw.root k)) xw)
      (perform cfg xw.w (absTask cfg xw .create e k)) := by
  have ⟨hdry, hhl, hlm⟩ := ha
  cases hd : cfg.dryRun with
  | true =>
    rw [perform_dry cfg hd, (dry_run_calls_nothing _ self e _ xw (hdry.trans hd)).1]
    exact ⟨none, rfl⟩
  | false =>
    rw [hd] at hdry
    unfold absTask
    rw [perform_create cfg _ _ _ hd]
    unfold Transferrer.create
    simp only [hdry, Bool.false_eq_true, ↓reduceIte]
    cases hs : e.is_symlink with
    | true =>
      simp only [↓reduceIte]
      exact handle_symlink_agree cfg self ha xw e k hk hs hread false
    | false =>
      simp only [Bool.false_eq_true, ↓reduceIte]
      cases hdir : e.is_dir with
      | true =>
        simp only [↓reduceIte, runM_bind, create_directory_run cfg self xw k hk, absPayload, hs, hdir, cuArm,
          Bool.false_eq_true]
        cases mkdirW xw.w k with
        | none => exact ⟨xw, rfl, Or.inl rfl⟩
        | some w' => exact ⟨none, rfl⟩
      | false =>
        obtain ⟨sm, hsm⟩ := hsrc hs hdir
        simp only [Bool.false_eq_true, ↓reduceIte, absPayload, hs, hdir, cuArm, fileArm]
        have hnl : decide (e.nlink > 1) = decide (1 < e.nlink) := rfl
        by_cases hc : (cfg.hardlinks && decide (1 < e.nlink)) = true
        · -- a member of a link group with -H: the hand-off
          simp only [hhl, hnl, hc, ↓reduceIte, inode_of_member hino hs hdir hsm hc]
          exact link_member_agree cfg self xw e k hk sm hsm false
        · -- the plain copy
          simp only [hhl, hnl, hc, Bool.false_eq_true, ↓reduceIte]
          exact transfer_then_attrs_agree cfg self xw e k hk sm hsm _
            (fun w' hw => copy_file_ok cfg self xw e.path k hk sm hsm w' hw)
            (fun hw => copy_file_err cfg self xw e.path k hk (fun sm' hs' => by rw [hsm] at hs'; cases hs'; exact hw))

/-- the entry is not a plain directory.  No bridge needs this: `update` of a plain directory entry is covered by
    `update_dir_agree`, every other kind by `update_agree`. -/
def NotPlainDir (e : FileEntry) : Prop := e.is_symlink = false → e.is_dir = false

theorem read_link_run (cfg : Cfg) (o : Rs.Opaque) (xw : XWorld) (k : Engine.Path) (hk : CleanPath k) :
    runM ((extOf cfg).t_read_link o (destOf xw.root k)) xw =
      (.ok (match xw.w.dst.get? k with | some (.symlink t) => some t.toList | _ => none), xw) := by
  rw [extOf_t_read_link, runM_op, at_destOf xw _ rfl k hk]
  rfl

/-- BRIDGE, `update` of a plain directory entry (fix 862af11: `read_link` probe, `remove(path, false)` of a link,
    `create_dir_all`) = the `.dir` arm of the model's `perform` under `.update`, for EVERY node at the key: nothing or a
    directory (`create_dir_all` alone), a regular file (the probe answers "no link", `create_dir_all` fails: EEXIST), a
    symlink (unlinked as itself, then the directory is created) -/
theorem update_dir_agree (cfg : Cfg) (self : Transferrer) (ha : Agrees self cfg) (xw : XWorld) (e : FileEntry)
    (k : Engine.Path) (hk : CleanPath k) (hs : e.is_symlink = false) (hdir : e.is_dir = true) :
    Agree xw k (runM (self.update (extOf cfg) e (destOf xw.root k)) xw)
      (perform cfg xw.w (absTask cfg xw .update e k)) := by
  obtain ⟨hdry, hhl, hlm⟩ := ha
  cases hd : cfg.dryRun with
  | true =>
    rw [perform_dry cfg hd, (dry_run_calls_nothing _ self e _ xw (hdry.trans hd)).2]
    exact ⟨none, rfl⟩
  | false =>
    rw [hd] at hdry
    unfold absTask
    rw [perform_update cfg _ _ _ hd]
    unfold Transferrer.update
    simp only [hdry, hs, hdir, Bool.false_eq_true, ↓reduceIte, Bool.not_true, Bool.false_and, runM_bind,
      runM_capture_eq, read_link_run cfg _ xw k hk, absPayload, cuArm]
    by_cases hl : ∃ t, xw.w.dst.get? k = some (.symlink t)
    · obtain ⟨t, hg⟩ := hl
      have hu : unlinkLink xw.w.dst k = xw.w.dst.erase k := unlinkLink_of_link _ _ t hg
      have hrm : runM ((extOf cfg).t_remove self.transport (destOf xw.root k) false) xw =
          (.ok (), { xw with w := { xw.w with dst := xw.w.dst.erase k } }) := by
        simp only [extOf_t_remove, runM_op, at_destOf xw _ rfl k hk, removeW, hg, Option.map_some, outcome_some]
      simp only [hg, runM_bind, runM_pure, hrm, hu]
      have hcd := create_directory_run cfg self { xw with w := { xw.w with dst := xw.w.dst.erase k } } k hk
      simp only [] at hcd
      rw [hcd]
      cases hmk : mkdirW { xw.w with dst := xw.w.dst.erase k } k with
      | none => exact ⟨_, rfl, Or.inr (Or.inr ⟨t, hg, rfl⟩)⟩
      | some w' => exact ⟨none, rfl⟩
    · -- no link at the key: the probe answers `None`, `create_dir_all` alone runs
      have hnl : ∀ t, xw.w.dst.get? k ≠ some (.symlink t) := fun t ht => hl ⟨t, ht⟩
      have hprobe : (match xw.w.dst.get? k with | some (.symlink t) => some t.toList | _ => none) = none := by
        split
        · exact absurd ‹_› (hnl _)
        · rfl
      simp only [runM_bind, runM_pure, create_directory_run cfg self xw k hk, unlinkLink_of_not_link _ _ hnl]
      cases mkdirW xw.w k with
      | none => exact ⟨xw, rfl, Or.inl rfl⟩
      | some w' => exact ⟨none, rfl⟩

theorem update_agree (cfg : Cfg) (self : Transferrer) (ha : Agrees self cfg) (xw : XWorld) (e : FileEntry)
    (k : Engine.Path) (hk : CleanPath k) (hread : Readable cfg e) (hsrc : SrcFile xw e) (hino : HasInode cfg e) :
    Agree xw k (runM (self.update (extOf cfg) e (destOf xw.root k)) xw)
      (perform cfg xw.w (absTask cfg xw .update e k)) := by
  have ⟨hdry, hhl, hlm⟩ := ha
  cases hd : cfg.dryRun with
  | true =>
    rw [perform_dry cfg hd, (dry_run_calls_nothing _ self e _ xw (hdry.trans hd)).2]
    exact ⟨none, rfl⟩
  | false =>
    rw [hd] at hdry
    cases hs : e.is_symlink with
    | true =>
      unfold absTask
      rw [perform_update cfg _ _ _ hd]
      unfold Transferrer.update
      simp only [hdry, hs, Bool.false_eq_true, ↓reduceIte]
      exact handle_symlink_agree cfg self ha xw e k hk hs hread true
    | false =>
      cases hdir : e.is_dir with
      | true => exact update_dir_agree cfg self ha xw e k hk hs hdir
      | false =>
        unfold absTask
        rw [perform_update cfg _ _ _ hd]
        unfold Transferrer.update
        obtain ⟨sm, hsm⟩ := hsrc hs hdir
        simp only [hdry, Bool.false_eq_true, ↓reduceIte, absPayload, hs, hdir, cuArm, fileArm, Bool.not_false,
          Bool.true_and]
        have hnl : decide (e.nlink > 1) = decide (1 < e.nlink) := rfl
        by_cases hc : (cfg.hardlinks && decide (1 < e.nlink)) = true
        · simp only [hhl, hnl, hc, ↓reduceIte, inode_of_member hino hs hdir hsm hc, bind_pure]
          exact link_member_agree cfg self xw e k hk sm hsm true
        · simp only [hhl, hnl, hc, Bool.false_eq_true, ↓reduceIte]
          refine transfer_then_attrs_agree cfg self xw e k hk sm hsm _ (fun w' hw => ?_) (fun hw => ?_)
          · simp only [extOf_t_sync_file_with_delta, runM_op, at_destOf xw _ rfl k hk, copyW, hsm, hw, Option.map_some,
              outcome_some]
          · refine ⟨xw, ?_, Or.inl rfl⟩
            simp only [extOf_t_sync_file_with_delta, runM_op, at_destOf xw _ rfl k hk, copyW, hsm, hw, Option.map_none,
              outcome_none]

/-- the flag `Transport::remove` is given describes the node (the engine computes it from the destination path right
    before the call: `task.dest_path.is_dir()` in the Delete arm of `SyncEngine::sync`; a link is removed as itself under either flag) -/
def FlagOK (w : World) (k : Engine.Path) (isDir : Bool) : Prop :=
  (w.dst.get? k = some .dir → isDir = true) ∧ (∀ m, w.dst.get? k = some (.file m) → isDir = false)

theorem delete_run (cfg : Cfg) (self : Transferrer) (xw : XWorld) (k : Engine.Path) (hk : CleanPath k) (isDir : Bool) :
    runM (self.delete (extOf cfg) (destOf xw.root k) isDir) xw =
      if self.dry_run then (.ok (), xw) else xw.outcome ((removeW xw.w k isDir).map fun w' => ((), w')) := by
  unfold Transferrer.delete
  cases self.dry_run with
  | true => rfl
  | false =>
    simp only [Bool.false_eq_true, ↓reduceIte, extOf_t_remove, runM_bind, runM_op, at_destOf xw _ rfl k hk, runM_pure]
    cases removeW xw.w k isDir <;> rfl

/-! ### reading `Agree` -/

theorem Agree.ok_iff {α : Type} {xw : XWorld} {k : Engine.Path} {res : Except Rs.Err α × XWorld} {m : Option World}
    (h : Agree xw k res m) : (∃ r xw', res = (.ok r, xw')) ↔ m.isSome = true := by
  cases m with
  | none =>
    obtain ⟨xw', h1, _⟩ := h
    simp [h1]
  | some w' =>
    obtain ⟨r, h1⟩ := h
    simp only [Option.isSome_some, iff_true]
    exact ⟨r, _, h1⟩

theorem Agree.err_iff {α : Type} {xw : XWorld} {k : Engine.Path} {res : Except Rs.Err α × XWorld} {m : Option World}
    (h : Agree xw k res m) : (∃ er xw', res = (.error er, xw')) ↔ m = none := by
  cases m with
  | none =>
    obtain ⟨xw', h1, _⟩ := h
    simp only [iff_true]
    exact ⟨_, _, h1⟩
  | some w' =>
    obtain ⟨r, h1⟩ := h
    simp [h1]

theorem Agree.world {α : Type} {xw xw' : XWorld} {k : Engine.Path} {res : Except Rs.Err α × XWorld} {m : Option World}
    {r : α} (h : Agree xw k res m) (hr : res = (.ok r, xw')) : m = some xw'.w ∧ xw' = { xw with w := xw'.w } := by
  cases m with
  | none =>
    obtain ⟨_, h1, _⟩ := h
    rw [h1] at hr; cases hr
  | some w' =>
    obtain ⟨r', h1⟩ := h
    rw [h1] at hr
    cases hr
    exact ⟨rfl, rfl⟩

theorem Agree.left {α : Type} {xw xw' : XWorld} {k : Engine.Path} {res : Except Rs.Err α × XWorld} {m : Option World}
    {er : Rs.Err} (h : Agree xw k res m) (hr : res = (.error er, xw')) : m = none ∧ er = .io ∧ Left xw xw' k := by
  cases m with
  | none =>
    obtain ⟨x, h1, h2⟩ := h
    rw [h1] at hr
    cases hr
    exact ⟨rfl, rfl, h2⟩
  | some w' =>
    obtain ⟨r', h1⟩ := h
    rw [h1] at hr; cases hr

end SyModel.Lemmas.GenTransfer
