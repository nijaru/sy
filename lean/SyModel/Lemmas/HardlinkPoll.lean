/-
  Lemmas for C13: the `poll` macro-step.  It performs micro-steps of one worker only, its fuel (the variant
  plus one) is never what stops it, and it is determined by three equations (`poll_done`, `poll_blocked`,
  `poll_step`).  The equations are what `Lemmas/GenLinkMemberSim` matches a run of the translated function
  against.
-/
import SyModel.Lemmas.HardlinkMeasure
namespace SyModel.Hardlink

theorem pollN_spec (cfg : Cfg) (w fuel : Nat) (s : State) (acc : List Label) :
    (∃ k, Exec cfg s (List.replicate k w) (pollN cfg fuel s w acc).1) ∧
    (measure cfg s < fuel → (pollN cfg fuel s w acc).2.2 ≠ .outOfFuel) := by
  fun_induction pollN cfg fuel s w acc with
  | case1 s => exact ⟨⟨0, Exec.nil s⟩, fun h => absurd h (Nat.not_lt_zero _)⟩
  | case2 _ s | case3 _ s => exact ⟨⟨0, Exec.nil s⟩, fun _ => by simp⟩
  | case4 _ _ _ _ _ s' hs => exact ⟨⟨1, Exec.cons hs (Exec.nil s')⟩, fun _ => by simp⟩
  | case5 _ _ _ _ _ _ hs _ _ ih =>
    obtain ⟨⟨k, hk⟩, hf⟩ := ih
    have := step_measure_lt hs
    exact ⟨⟨k + 1, List.replicate_succ ▸ Exec.cons hs hk⟩, fun hm => hf (by omega)⟩

/-- what `pollN` has accumulated goes in front of what it logs from here on.  `poll_step` needs this and
    `pollN_fuel`: the recursive call inside `pollN` runs with the old fuel and a non-empty accumulator,
    `poll cfg s'` with fresh fuel and `[]` -/
theorem pollN_acc (cfg : Cfg) (w fuel : Nat) : ∀ (s : State) (acc : List Label),
    pollN cfg fuel s w acc =
      ((pollN cfg fuel s w []).1, acc.reverse ++ (pollN cfg fuel s w []).2.1, (pollN cfg fuel s w []).2.2) := by
  induction fuel with
  | zero => intro s acc; simp [pollN]
  | succ fuel ih =>
    intro s acc
    unfold pollN
    split
    · simp
    · cases step cfg s w with
      | none => simp
      | some p =>
        simp only
        split
        · simp
        · rw [ih p.2 (p.1 :: acc), ih p.2 [p.1]]
          simp

theorem pollN_fuel (cfg : Cfg) (w f : Nat) : ∀ (f' : Nat) (s : State), measure cfg s < f → measure cfg s < f' →
    pollN cfg f s w [] = pollN cfg f' s w [] := by
  induction f with
  | zero => intro _ _ h; exact absurd h (Nat.not_lt_zero _)
  | succ f ih =>
    intro f' s h h'
    obtain ⟨f', rfl⟩ : ∃ k, f' = k + 1 := ⟨f' - 1, by omega⟩
    unfold pollN
    split
    · rfl
    · cases hs : step cfg s w with
      | none => rfl
      | some p =>
        simp only
        split
        · rfl
        · have hm := step_measure_lt (l := p.1) (s' := p.2) hs
          rw [pollN_acc cfg w f, pollN_acc cfg w f', ih f' p.2 (by omega) (by omega)]

section PollEquations
variable {cfg : Cfg} {s s' : State} {w : Nat}

theorem poll_done {r : Res} (h : s.pc w = .done r) : poll cfg s w = (s, [], .ready r) := by
  unfold poll pollN
  split
  · rename_i r' hpc; rw [h] at hpc; cases hpc; rfl
  · rename_i hne; exact absurd h (hne r)

theorem poll_blocked (hnd : (s.pc w).isDone = false) (hs : step cfg s w = none) : poll cfg s w = (s, [], .pending) := by
  unfold poll pollN
  split
  · rename_i r hpc; rw [hpc] at hnd; cases hnd
  · simp [hs]

theorem poll_step {l : Label} (hs : step cfg s w = some (l, s')) :
    poll cfg s w =
      if l.isYield then (s', [l], .pending)
      else ((poll cfg s' w).1, l :: (poll cfg s' w).2.1, (poll cfg s' w).2.2) := by
  have hm := step_measure_lt hs
  unfold poll
  conv => lhs; unfold pollN
  split
  · rename_i r hpc
    have hnd := done_not_enabled hs
    rw [hpc] at hnd
    cases hnd
  · simp only [hs]
    split
    · rfl
    · rw [pollN_acc, pollN_fuel cfg w (measure cfg s) (measure cfg s' + 1) s' hm (Nat.lt_succ_self _)]
      rfl

end PollEquations

theorem poll_exec (cfg : Cfg) (s : State) (w : Nat) : ∃ k, Exec cfg s (List.replicate k w) (poll cfg s w).1 :=
  (pollN_spec cfg w _ s []).1

theorem poll_same_or_less (cfg : Cfg) (s : State) (w : Nat) :
    (poll cfg s w).1 = s ∨ measure cfg (poll cfg s w).1 < measure cfg s := by
  obtain ⟨k, hk⟩ := poll_exec cfg s w
  generalize (poll cfg s w).1 = s' at hk ⊢
  cases k with
  | zero => left; cases hk; rfl
  | succ k => right; have := exec_measure hk; simp at this; omega

theorem poll_measure_le (cfg : Cfg) (s : State) (w : Nat) : measure cfg (poll cfg s w).1 ≤ measure cfg s := by
  rcases poll_same_or_less cfg s w with h | h
  · rw [h]; exact Nat.le_refl _
  · omega

theorem poll_enabled_less {cfg : Cfg} {s : State} {w : Nat} (h : enabled cfg s w = true) :
    measure cfg (poll cfg s w).1 < measure cfg s := by
  unfold enabled at h
  cases hs : step cfg s w with
  | none => rw [hs] at h; cases h
  | some p =>
    have hlt := step_measure_lt (l := p.1) (s' := p.2) hs
    rw [poll_step (l := p.1) (s' := p.2) hs]
    split
    · exact hlt
    · exact Nat.lt_of_le_of_lt (poll_measure_le cfg p.2 w) hlt

theorem poll_nil_not_enabled {cfg : Cfg} {s : State} {w : Nat} (h : (poll cfg s w).2.1 = []) :
    enabled cfg s w = false := by
  unfold enabled
  cases hs : step cfg s w with
  | none => rfl
  | some p =>
    rw [poll_step (l := p.1) (s' := p.2) hs] at h
    split at h <;> cases h

theorem pollN_ready_pc (cfg : Cfg) (w : Nat) (r : Res) (fuel : Nat) (s : State) (acc : List Label) :
    (pollN cfg fuel s w acc).2.2 = .ready r → (pollN cfg fuel s w acc).1.pc w = .done r := by
  fun_induction pollN cfg fuel s w acc with
  | case2 _ _ _ _ _ hpc => intro h; cases h; exact hpc
  | case5 _ _ _ _ _ _ _ _ _ ih => exact ih
  | _ => simp

theorem poll_ready_pc {cfg : Cfg} {s : State} {w : Nat} {r : Res} (h : (poll cfg s w).2.2 = .ready r) :
    (poll cfg s w).1.pc w = .done r := pollN_ready_pc cfg w r _ s [] h

end SyModel.Hardlink
