/-
  Lemmas.GenLocalCopyInPlace — the temp+rename (in-place rebuild) route of the translated `sync_file_with_delta`, run ONCE
  for every fault countdown that is not due before `File::create(working file)` (`sync_inplace_run`): at every fallible
  call `wp_bind_prim` meets the due case — the world so far satisfies `Frame`, and `fail_exit` says that such a world
  leaves, after `scope_exit`, exactly the name space and the inodes the call started with — and runs on otherwise; the
  block loop is run against its model by `wp_block_loop`.  The run without a fault
  (`Props.GenLocalCopy.sync_inplace_eval`) and the fault theorem `sync_inplace_wp` are read off it.
-/
import SyModel.Lemmas.GenLocalCopyOps
set_option autoImplicit false
namespace SyModel.LocalCopy
open SyModel.Generated.Rs (wp_bind wp_capture wp_of_run wp_of_fail wp_bind_run wp_bind_fail wp_ite_neg wp_mono)
open SyModel SyModel.Generated SyModel.Generated.LocalCopy SyModel.Transfer
open SyModel.Data

/-- what every world DURING the route (before the rename) has in common with the world `w` the call started in:
    all names except the working-file path, all inodes that existed; the working-file path is free or names a NEW inode;
    the guard for it is armed (or it was never created and the path is free) -/
structure Frame (w : LWorld) (tmp : Rs.Path) (W : LWorld) : Prop where
  names : ∀ p, p ≠ tmp → W.names p = w.names p
  inodes : ∀ i, i < w.nextIno → W.inodes i = w.inodes i
  tmpn : W.names tmp = none ∨ ∃ j, w.nextIno ≤ j ∧ W.names tmp = some (.file j)
  guards : W.guards = [tmp] ∨ (W.guards = [] ∧ W.names tmp = none)

/-- the state after a FAILED call: every name refers to what it referred to before (in particular the destination to its
    OLD inode, the working-file path to nothing), every inode that existed is unchanged (bytes, mtime, xattrs, link
    count), no guard is left armed, and the injected fault has been used up (the failure is the injected one) -/
structure FailPost (w W' : LWorld) : Prop where
  names : ∀ p, W'.names p = w.names p
  inodes : ∀ i, i < w.nextIno → W'.inodes i = w.inodes i
  guards : W'.guards = []
  spent : W'.fault = none

theorem exitW_nil (W : LWorld) (h : W.guards = []) : exitW W = W := by
  rcases W with ⟨nm, ino, ni, hs, nh, g, l, now, F⟩
  simp only at h; subst h; rfl

theorem exitW_one (W : LWorld) (p : Rs.Path) (h : W.guards = [p]) : exitW W = dropGuard { W with guards := [] } p := by
  unfold exitW; rw [h]; rfl

/-- **the RAII guard**: from a world of the route in which no fault is pending any more, `scope_exit` leads to `FailPost` -/
theorem fail_exit (w W : LWorld) (tmp : Rs.Path) (hfree : w.names tmp = none) (hF : Frame w tmp W) (hnf : W.fault = none) :
    FailPost w (exitW W) := by
  obtain ⟨hn, hi, ht, hg⟩ := hF
  rcases hg with hg | ⟨hg, ht0⟩
  · rw [exitW_one W tmp hg]
    rcases ht with ht | ⟨j, hj, ht⟩
    · have hst : ({ W with guards := [] } : LWorld).stat tmp = none := stat_of_none _ _ ht
      simp only [dropGuard, hst, Option.isSome_none, Bool.false_eq_true, if_false]
      refine ⟨?_, hi, rfl, hnf⟩
      intro p; by_cases hp : p = tmp
      · subst hp; simp [ht, hfree]
      · exact hn p hp
    · have hst : ({ W with guards := [] } : LWorld).stat tmp = some (.file j) := stat_of_file _ _ j ht
      simp only [dropGuard, hst, Option.isSome_some, if_true]
      rw [prim_nf _ _ (by exact hnf)]
      simp only [removeFileAct, ht]
      refine ⟨?_, ?_, ?_, ?_⟩
      · intro p; by_cases hp : p = tmp
        · subst hp; simp [hfree]
        · simp [upd_ne, hp, hn p hp]
      · intro i hi'
        have hij : i ≠ j := by omega
        simp only [logOp_inodes]
        unfold LWorld.decLink
        split
        · simp [upd_ne, hij, hi i hi']
        · exact hi i hi'
      · simp
      · simp [hnf]
  · rw [exitW_nil W hg]
    refine ⟨?_, hi, hg, hnf⟩
    intro p; by_cases hp : p = tmp
    · subst hp; simp [ht0, hfree]
    · exact hn p hp

/-- what the worlds of the block loop have in common under a pending fault: the frame, the armed guard, the working file
    (a new inode under the working-file path), the three descriptors.  No proof uses it: `sync_inplace_run` runs the loop
    against its model (`wp_block_loop`), which says more. -/
structure LoopInv (w : LWorld) (tmp : Rs.Path) (is id it hs hd ht : Nat) (W : LWorld) : Prop where
  frame : Frame w tmp W
  guards : W.guards = [tmp]
  tmpname : W.names tmp = some (.file it)
  itfresh : w.nextIno ≤ it
  hsrc : ∃ p, W.handles hs = some ⟨is, p, false⟩
  hdst : ∃ p, W.handles hd = some ⟨id, p, false⟩
  htmp : ∃ p, W.handles ht = some ⟨it, p, true⟩
  itn : ∃ n, W.inodes it = some n
  pending : W.fault ≠ none

/-- the state after a SUCCESSFUL call of the route: `dst` names the working file's inode `it`, the working-file path is
    free, all other names and all other old inodes are untouched, the old destination inode lost one link, no guard is
    armed — and the fault is STILL PENDING: it has not fired (so: if it fires, the call fails) -/
structure OkPost (w : LWorld) (dst tmp : Rs.Path) (id it : Nat) (W' : LWorld) : Prop where
  dstname : W'.names dst = some (.file it)
  tmpname : W'.names tmp = none
  names : ∀ p, p ≠ dst → p ≠ tmp → W'.names p = w.names p
  inodes : ∀ i, i < w.nextIno → i ≠ id → W'.inodes i = w.inodes i
  oldino : W'.inodes id = (w.inodes id).map (fun n => { n with nlink := n.nlink - 1 })
  guards : W'.guards = []
  pending : W'.fault ≠ none

/-- hypotheses of the fault theorems: as `UpdPre`, without any assumption about the fault, the working-file path free -/
structure UpdPreF (w : LWorld) (src dst : Rs.Path) (is id : Nat) (S D : Bytes) (ms md : Nat) (xs xd : List Rs.Str) (ls ld : Nat) : Prop where
  hsrc : w.names src = some (.file is)
  hisrc : w.inodes is = some ⟨ofU8 S, ms, xs, ls⟩
  hdst : w.names dst = some (.file id)
  hidst : w.inodes id = some ⟨ofU8 D, md, xd, ld⟩
  ne : is ≠ id
  hfree : w.names (dst ++ TEMP_SUFFIX) = none
  fresh : is < w.nextIno ∧ id < w.nextIno
  noguards : w.guards = []

/-- **The in-place rebuild route under every countdown that is not due before `File::create(working file)`** (none, or
    `k + 7`), run once: the call fails only by the injected fault, and then `FailPost` holds (when the working-file path
    was free); otherwise it ends in the world the model's loop describes, the countdown pending iff it was.  The fault is
    met inside `wp_bind_prim`: at every fallible call the world so far satisfies `Frame`. -/
theorem sync_inplace_run (cfg : Cfg) (self : LocalTransport) {nm : Rs.Path → Option Node} {ino : Nat → Option Inode} {ni : Nat}
    {hs : Nat → Option Handle} {nh : Nat} {lg : List Op} {now : Nat} (F : Option Nat) (src dst : Rs.Path) (is id : Nat) (S D : Bytes)
    (ms md : Nat) (xs xd : List Rs.Str) (ls ld : Nat)
    (hsrc : nm src = some (.file is)) (hisrc : ino is = some ⟨ofU8 S, ms, xs, ls⟩) (hdst : nm dst = some (.file id))
    (hidst : ino id = some ⟨ofU8 D, md, xd, ld⟩) (hne : is ≠ id)
    (htmp : nm (dst ++ TEMP_SUFFIX) = none ∨ ∃ t, nm (dst ++ TEMP_SUFFIX) = some (.symlink t)) (hfresh : is < ni ∧ id < ni)
    (hF : F = none ∨ ∃ k, F = some (k + 7))
    (hbig : 10485760 ≤ D.length) (hsp : cfg.sparse = false) (hr : cfg.ratio ≠ some false)
    (hcow : (cfg.cow && cfg.sameFs && !decide (1 < ld)) = false) (hv : cfg.verifyOnWrite = false) :
    Rs.wp (LocalTransport.sync_file_with_delta (posix cfg) self src dst)
      (fun v W' =>
        v = TransferResult.with_delta (inPlaceGo (fun _ => 65536) S D 0 (ipInit S)).offset
          (inPlaceGo (fun _ => 65536) S D 0 (ipInit S)).changed (inPlaceGo (fun _ => 65536) S D 0 (ipInit S)).literal ∧
        TempDone ⟨nm, ino, ni, hs, nh, [], lg, now, F⟩ dst is id ⟨ofU8 S, ms, xs, ls⟩ ⟨ofU8 D, md, xd, ld⟩
          (inPlaceGo (fun _ => 65536) S D 0 (ipInit S)).temp
          ([Op.create (dst ++ TEMP_SUFFIX) ni, Op.setLen ni S.length] ++
            (wsOf (inPlaceGo (fun _ => 65536) S D 0 (ipInit S))).map (fun x => Op.write ni x.1 x.2) ++
            [Op.utime (dst ++ TEMP_SUFFIX) ni ms, Op.rename (dst ++ TEMP_SUFFIX) dst]) W' ∧
        (W'.fault = none ↔ F = none))
      (fun _ W' => F ≠ none ∧ (nm (dst ++ TEMP_SUFFIX) = none → FailPost ⟨nm, ino, ni, hs, nh, [], lg, now, F⟩ W'))
      ⟨nm, ino, ni, hs, nh, [], lg, now, F⟩ := by
  have hts : dst ++ TEMP_SUFFIX ≠ src := by intro e; rw [e, hsrc] at htmp; rcases htmp with h | ⟨t, h⟩ <;> cases h
  have htd : dst ++ TEMP_SUFFIX ≠ dst := by intro e; rw [e, hdst] at htmp; rcases htmp with h | ⟨t, h⟩ <;> cases h
  have hisne : is ≠ ni := by omega
  have hidne : id ≠ ni := by omega
  -- a countdown that is due was pending at the start
  have hdue : ∀ {F1 : Option Nat}, (F1 = none ↔ F = none) → F1 = some 0 → F ≠ none :=
    fun h h0 hn => by rw [h.mpr hn] at h0; cases h0
  -- the failure exit: `scope_exit` from a world that satisfies `Frame`
  have hfail : ∀ {F1 : Option Nat} {Q : TransferResult → LWorld → Prop} W, (F1 = none ↔ F = none) → F1 = some 0 →
      Frame ⟨nm, ino, ni, hs, nh, [], lg, now, F⟩ (dst ++ TEMP_SUFFIX) W → W.fault = none →
      Rs.wp ((posix cfg).scope_exit () >>= fun _ => Rs.liftE (Except.error Rs.Err.io)) Q
        (fun _ W' => F ≠ none ∧ (nm (dst ++ TEMP_SUFFIX) = none → FailPost ⟨nm, ino, ni, hs, nh, [], lg, now, F⟩ W')) W :=
    fun W h h0 hFr hnf => wp_bind_run (a := ()) (w' := exitW W) rfl (wp_of_fail (e := .io) (w' := exitW W) rfl
      ⟨hdue h h0, fun hfree => fail_exit _ W _ hfree hFr hnf⟩)
  unfold LocalTransport.sync_file_with_delta
  refine sync_head_wp cfg self src dst hsrc hisrc hdst hidst (by simpa [List.length_map] using hbig) hsp hF
    (fun h => absurd h hr) (fun _ => ⟨htmp, ?_⟩)
  intro nm0 h0t h0n
  generalize hlg : (unlinkSym ⟨nm, ino, ni, hs, nh, [], lg, now, F⟩ (dst ++ TEMP_SUFFIX)).log = lg0
  have h7 : dec (dec (dec (dec (dec (dec (dec F)))))) = none ↔ F = none := by simp only [dec_eq_none]
  generalize dec (dec (dec (dec (dec (dec (dec F)))))) = F7 at h7 ⊢
  have h0src : nm0 src = some (.file is) := (h0n src hts.symm).trans hsrc
  have h0dst : nm0 dst = some (.file id) := (h0n dst htd.symm).trans hdst
  refine wp_ite_neg (by rw [hcow]; decide) ?_
  -- the frame facts of a world whose names and inodes differ from the start only at the working file and at new inodes
  have hN : ∀ x p, p ≠ dst ++ TEMP_SUFFIX → upd nm0 (dst ++ TEMP_SUFFIX) x p = nm p := fun x p hp => (upd_ne _ _ hp).trans (h0n p hp)
  have hI : ∀ (f : Nat → Option Inode) x, (∀ i, i < ni → f i = ino i) → ∀ i, i < ni → upd f ni x i = ino i :=
    fun f x h i hi => (upd_ne _ _ (Nat.ne_of_lt hi)).trans (h i hi)
  have hT : upd nm0 (dst ++ TEMP_SUFFIX) (some (.file ni)) (dst ++ TEMP_SUFFIX) = none ∨
      ∃ j, ni ≤ j ∧ upd nm0 (dst ++ TEMP_SUFFIX) (some (.file ni)) (dst ++ TEMP_SUFFIX) = some (.file j) :=
    Or.inr ⟨ni, Nat.le_refl _, upd_same _ _ _⟩
  refine wp_bind_prim (fun hF => file_create_free cfg _ h0t hF)
    (fun h0 => hfail _ h7 h0 ⟨h0n, fun _ _ => rfl, Or.inl h0t, Or.inl rfl⟩ rfl) ?_
  refine wp_bind_prim (fun hF => set_len_run cfg _ _ _ _ _ (upd_same _ _ _) (upd_same _ _ _) hF)
    (fun h0 => hfail _ (dec_eq_none.trans h7) h0 ⟨hN _, hI _ _ (fun _ _ => rfl), hT, Or.inl rfl⟩ rfl) ?_
  have h9 := dec_eq_none.trans (dec_eq_none.trans h7)
  generalize dec (dec F7) = F9 at h9 ⊢
  have hFr : ∀ (ino' : Nat → Option Inode) hs' nh' lg', (∀ i, i < ni → ino' i = ino i) →
      Frame ⟨nm, ino, ni, hs, nh, [], lg, now, F⟩ (dst ++ TEMP_SUFFIX)
        ⟨upd nm0 (dst ++ TEMP_SUFFIX) (some (.file ni)), ino', ni + 1, hs', nh', [dst ++ TEMP_SUFFIX], lg', now, none⟩ :=
    fun _ _ _ _ h => ⟨hN _, h, hT, Or.inl rfl⟩
  refine wp_bind_prim (fun hF => file_open_run cfg src is ((hN _ src hts.symm).trans hsrc) hF)
    (fun h0 => hfail _ h9 h0 (hFr _ _ _ _ (hI _ _ (hI _ _ (fun _ _ => rfl)))) rfl) ?_
  refine wp_bind_prim (fun hF => file_open_run cfg dst id ((hN _ dst htd.symm).trans hdst) hF)
    (fun h0 => hfail _ (dec_eq_none.trans h9) h0 (hFr _ _ _ _ (hI _ _ (hI _ _ (fun _ _ => rfl)))) rfl) ?_
  refine wp_bind_prim (fun hF => oo_open_run cfg _ _ ni (upd_same _ _ _) hF)
    (fun h0 => hfail _ (dec_eq_none.trans (dec_eq_none.trans h9)) h0 (hFr _ _ _ _ (hI _ _ (hI _ _ (fun _ _ => rfl)))) rfl) ?_
  have h12 := dec_eq_none.trans (dec_eq_none.trans (dec_eq_none.trans h9))
  generalize dec (dec (dec F9)) = F12 at h12 ⊢
  simp only [Std.Legacy.Range.forIn_eq_forIn_range', Std.Legacy.Range.size, Nat.sub_zero, Nat.add_one_sub_one, Nat.div_one]
  refine wp_block_loop (nm := upd nm0 (dst ++ TEMP_SUFFIX) (some (.file ni))) (ino := upd ino ni (some ⟨setLenN [] S.length, now, [], 1⟩))
    (ni := ni + 1) (hs := upd hs nh (some ⟨ni, 0, true⟩)) (nh := nh + 1) (g := [dst ++ TEMP_SUFFIX])
    (lg := lg0 ++ [.create (dst ++ TEMP_SUFFIX) ni, .setLen ni S.length]) (now := now) (F := F12)
    is id ni [] 65536 S D (inPlaceGo fun _ => 65536) stepInPlace (inPlaceGo_unfold _) (stepW_offset _)
    _ _ _ _ _ _ _ (ipInit S) 0 0 _ ?hW List.length_replicate List.length_replicate ?hfuel ?hf ?_
  case hfuel => simp [Rs.len, List.length_map]
  case hW =>
    simp [loopW, wsOf, ← ofU8_setLen, Nat.add_assoc, Rs.len, List.length_map, Rs.oo_write]
  case hf =>
    intro x sbuf dbuf st dpos tpos F' hF' hsb hdb
    have hIl : ∀ x i, i < ni → upd (upd ino ni (some ⟨setLenN [] S.length, now, [], 1⟩)) ni x i = ino i :=
      fun x => hI _ x (hI _ _ (fun _ _ => rfl))
    have hSl : ∀ v, upd ino ni v is = some ⟨ofU8 S, ms, xs, ls⟩ := fun _ => (upd_ne _ _ hisne).trans hisrc
    have hDl : ∀ v, upd ino ni v id = some ⟨ofU8 D, md, xd, ld⟩ := fun _ => (upd_ne _ _ hidne).trans hidst
    refine wp_bind_prim (fun hF => loopW_read_src cfg _ is id ni [] _ _ _ _ _ hF S ms xs ls 65536 _ sbuf
      (hSl _) hisne hsb rfl)
      (fun h0 => hfail _ (hF'.trans h12) h0 (hFr _ _ _ _ (hIl _)) rfl) ?_
    by_cases hnil : (S.drop st.offset).take 65536 = []
    · simp only [hnil, List.length_nil, beq_self_eq_true, if_true]
      exact wp_of_run rfl ⟨tpos, _, dec F', rfl, dec_eq_none.trans hF', by simp [tick]⟩
    · have hk : ¬ ((((S.drop st.offset).take 65536).length == 0) = true) := by
        simp only [beq_iff_eq, List.length_eq_zero_iff]; exact hnil
      simp only [hk]
      have h1 := dec_eq_none.trans hF'
      refine wp_bind_prim (fun hF => loopW_read_dst cfg _ is id ni [] _ _ _ _ _ hF D md xd ld 65536 _ dbuf
        (hDl _) hidne hdb rfl) (fun h0 => hfail _ (h1.trans h12) h0 (hFr _ _ _ _ (hIl _)) rfl) ?_
      refine wp_bind_prim (fun hF => loopW_seek_tmp cfg _ is id ni [] _ _ _ _ _ hF _ _ rfl)
        (fun h0 => hfail _ ((dec_eq_none.trans h1).trans h12) h0 (hFr _ _ _ _ (hIl _)) rfl) ?_
      simp only [slice_ofU8]
      refine wp_bind_prim (fun hF => loopW_write_tmp cfg _ is id ni [] _ _ _ _ _ _ _ hF hnil rfl)
        (fun h0 => hfail _ ((dec_eq_none.trans (dec_eq_none.trans h1)).trans h12) h0 (hFr _ _ _ _ (hIl _)) rfl) ?_
      refine wp_bind_run (a := cfg.verifyOnWrite) rfl ?_
      rw [if_neg (by simp [hv]), ofU8_beq]
      simp only [hnil, if_false]
      refine wp_mono ?_ (fun r W' h => ⟨st.offset + ((S.drop st.offset).take 65536).length, _, dec (dec (dec (dec F'))), rfl,
        dec_eq_none.trans (dec_eq_none.trans (dec_eq_none.trans h1)), h⟩) (fun _ _ h => h)
      -- whether the blocks match or not, counters and write log are those of `stepInPlace`
      unfold stepInPlace stepW Blk.differs
      simp only [wsOf]
      cases ((List.take 65536 (List.drop st.offset S)).length == (List.take 65536 (List.drop dpos D)).length &&
        List.take 65536 (List.drop st.offset S) == List.take 65536 (List.drop dpos D)) <;>
      exact wp_of_run rfl (by simp [tick, Rs.cast])
  rintro r sbuf' dbuf' dpos' tpos' F' hF' rfl
  have hIl : ∀ x y i, i < ni → upd (upd ino ni x) ni y i = ino i := fun x y => hI _ y (hI _ x (fun _ _ => rfl))
  refine wp_bind_run (a := ()) rfl ?_
  refine wp_bind_run rfl ?_
  refine wp_bind_run (a := 0) rfl ?_
  refine wp_bind_prim (fun hF => set_mtime_run cfg _ ni _ _ (upd_same _ _ _) (upd_same _ _ _) hF)
    (fun h0 => hfail _ (hF'.trans h12) h0 (hFr _ _ _ _ (hIl _ _)) rfl) ?_
  refine wp_bind_prim (fun hF => rename_over_file cfg _ _ _ id _ (upd_same _ _ _) ((upd_ne _ _ htd.symm).trans h0dst)
    ((upd_ne _ _ hidne).trans ((upd_ne _ _ hidne).trans ((upd_ne _ _ hidne).trans hidst))) hF)
    (fun h0 => hfail _ ((dec_eq_none.trans hF').trans h12) h0 (hFr _ _ _ _ (hI _ _ (hIl _ _))) rfl) ?_
  refine wp_bind_run (a := ()) rfl ?_
  refine wp_of_run rfl ?_
  refine wp_bind_run (a := ()) rfl ?_
  refine wp_bind_run (a := _) rfl ?_
  refine wp_of_run rfl ?_
  have hin : ni ≠ id := hidne.symm
  refine ⟨rfl, ⟨(upd_ne _ _ htd.symm).trans (upd_same _ _ _), upd_same _ _ _, ?_, (upd_ne _ _ hin).trans (upd_same _ _ _), ?_,
    upd_same _ _ _, ?_, ?_, rfl⟩, (dec_eq_none.trans (dec_eq_none.trans hF')).trans h12⟩
  · exact fun p h1 h2 => (upd_ne _ _ h2).trans ((upd_ne _ _ h1).trans ((upd_ne _ _ h2).trans (h0n p h2)))
  · exact (upd_ne _ _ hne).trans ((upd_ne _ _ hisne).trans ((upd_ne _ _ hisne).trans ((upd_ne _ _ hisne).trans hisrc)))
  · exact fun i h1 h2 => (upd_ne _ _ h2).trans ((upd_ne _ _ h1).trans ((upd_ne _ _ h1).trans (upd_ne _ _ h1)))
  · show lg0 ++ _ ++ _ ++ _ ++ _ = _
    rw [hlg]
    simp only [List.append_assoc, List.cons_append, List.nil_append]
    rfl

/-- **the temp+rename route under a fault at any operation from `File::create(working file)` on** (the 8th fallible
    call of the route; countdown `k + 7`): either the call fails and `FailPost` holds, or it succeeds, `OkPost` holds and
    the fault is still pending -/
theorem sync_inplace_wp (cfg : Cfg) (self : LocalTransport) (w : LWorld) (src dst : Rs.Path) (is id : Nat) (S D : Bytes)
    (ms md : Nat) (xs xd : List Rs.Str) (ls ld : Nat) (k : Nat) (h : UpdPreF w src dst is id S D ms md xs xd ls ld)
    (hF : w.fault = some (k + 7))
    (hbig : 10485760 ≤ D.length) (hsp : cfg.sparse = false) (hr : cfg.ratio ≠ some false)
    (hcow : (cfg.cow && cfg.sameFs && !decide (1 < ld)) = false) (hv : cfg.verifyOnWrite = false) :
    Rs.wp (LocalTransport.sync_file_with_delta (posix cfg) self src dst)
      (fun _ W' => OkPost w dst (dst ++ TEMP_SUFFIX) id w.nextIno W') (fun _ W' => FailPost w W') w := by
  obtain ⟨hsrc, hisrc, hdst, hidst, hne, hfree, hfresh, hng⟩ := h
  rcases w with ⟨nm, ino, ni, hs, nh, g, lg, now, F⟩
  simp only at hsrc hisrc hdst hidst hfree hfresh hng hF
  subst hF hng
  refine wp_mono (sync_inplace_run cfg self (some (k + 7)) src dst is id S D ms md xs xd ls ld hsrc hisrc hdst hidst hne
    (Or.inl hfree) hfresh (Or.inr ⟨k, rfl⟩) hbig hsp hr hcow hv) ?_ (fun _ _ h => h.2 hfree)
  rintro v W' ⟨_, hd, h11⟩
  exact ⟨hd.dstname, hd.tmpname, hd.names, fun i hi hne' => hd.inodes i (Nat.ne_of_lt hi) hne',
    hd.oldino.trans (by show _ = Option.map _ (ino id); rw [hidst]; rfl), hd.guards, fun h => by cases h11.mp h⟩

/-- a fault due at `metadata(source)`, `metadata(dest)` or the closure's `fs::metadata(source)` (countdown 2, 3, 4): the call
    fails and nothing has changed.  Run by hand, because `sync_head_wp` assumes that none of its seven calls is hit. -/
theorem sync_inplace_fault_early (cfg : Cfg) (self : LocalTransport) (w : LWorld) (src dst : Rs.Path) (is id : Nat) (S D : Bytes)
    (ms md : Nat) (xs xd : List Rs.Str) (ls ld : Nat) (k : Nat) (h : UpdPreF w src dst is id S D ms md xs xd ls ld)
    (hF : w.fault = some k) (hk : k = 2 ∨ k = 3 ∨ k = 4) (hbig : 10485760 ≤ D.length) :
    Rs.wp (LocalTransport.sync_file_with_delta (posix cfg) self src dst)
      (fun _ _ => False) (fun _ W' => FailPost w W') w := by
  obtain ⟨hsrc, hisrc, hdst, hidst, hne, hfree, hfresh, hng⟩ := h
  rcases w with ⟨nm, ino, ni, hs, nh, g, lg, now, F⟩
  simp only at hsrc hisrc hdst hidst hfree hfresh hng hF
  subst hF hng
  obtain ⟨j, rfl, hj⟩ : ∃ j, k = j + 2 ∧ j ≤ 2 := ⟨k - 2, by omega, by omega⟩
  have hpost : FailPost ⟨nm, ino, ni, hs, nh, [], lg, now, some (j + 2)⟩ ⟨nm, ino, ni, hs, nh, [], lg, now, none⟩ :=
    ⟨fun _ => rfl, fun _ _ => rfl, rfl, rfl⟩
  unfold LocalTransport.sync_file_with_delta
  refine wp_bind_run (remove_if_symlink_file cfg dst id _ (by intro h; cases h) hdst hidst) ?_
  refine wp_bind_run (exists_file cfg self dst id (by intro h; cases h) hdst) ?_
  refine wp_ite_neg (by decide) ?_
  -- `metadata(source)`
  rcases j with _ | j
  · exact wp_bind_fail (e := .io) (w' := ⟨nm, ino, ni, hs, nh, [], lg, now, none⟩) rfl hpost
  refine wp_bind_run (fs_metadata_file cfg src is _ (by intro h; cases h) hsrc hisrc) ?_
  -- `metadata(dest)`
  rcases j with _ | j
  · exact wp_bind_fail (e := .io) (w' := ⟨nm, ino, ni, hs, nh, [], lg, now, none⟩) rfl hpost
  obtain rfl : j = 0 := by omega
  refine wp_bind_run (fs_metadata_file cfg dst id _ (by decide) hdst hidst) ?_
  refine wp_ite_neg (by simp [Rs.len, List.length_map]; omega) ?_
  refine wp_ite_neg (by simp [Rs.len, List.length_map]; omega) ?_
  -- `fs::metadata(source)` inside the closure: the error leaves through `scope_exit`
  rw [wp_bind, wp_capture]
  refine wp_bind_run (a := {}) rfl ?_
  refine wp_bind_fail (e := .io) (w' := ⟨nm, ino, ni, hs, nh, [], lg, now, none⟩) rfl ?_
  refine wp_bind_run (a := ()) (w' := ⟨nm, ino, ni, hs, nh, [], lg, now, none⟩) rfl ?_
  exact wp_of_fail (e := .io) (w' := ⟨nm, ino, ni, hs, nh, [], lg, now, none⟩) rfl hpost

end SyModel.LocalCopy
