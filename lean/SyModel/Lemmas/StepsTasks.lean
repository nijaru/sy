/-
  SyModel.Lemmas.StepsTasks — temp names, the shape of the step list of a task (`stepsOfH`), what its steps
  touch, and the independence of the tasks of a plan.
-/
import SyModel.Lemmas.StepsNode
namespace SyModel.Engine

theorem tempOf_concat (sfx : String) (p : Path) (a : String) : tempOf sfx (p ++ [a]) = p ++ [a ++ sfx] := by
  induction p with
  | nil => rfl
  | cons b p ih =>
    cases p with
    | nil => rfl
    | cons c p =>
      show b :: tempOf sfx (c :: p ++ [a]) = _
      rw [ih]
      rfl

theorem string_append_right_cancel {a b s : String} (h : a ++ s = b ++ s) : a = b := by
  have := congrArg String.toList h
  simp [String.toList_append] at this
  exact String.toList_inj.mp this

theorem tempOf_inj (sfx : String) {p q : Path} (h : tempOf sfx p = tempOf sfx q) : p = q := by
  rcases path_cases p with rfl | ⟨p, a, rfl⟩ <;> rcases path_cases q with rfl | ⟨q, b, rfl⟩
  · rfl
  · rw [tempOf_concat] at h; simp [tempOf] at h
  · rw [tempOf_concat] at h; simp [tempOf] at h
  · rw [tempOf_concat, tempOf_concat] at h
    obtain ⟨h1, h2⟩ := List.append_inj' h rfl
    rw [h1, string_append_right_cancel (List.singleton_inj.mp h2)]

theorem tempOf_ne (sfx : String) (hs : sfx ≠ "") {p : Path} (hp : p ≠ []) : tempOf sfx p ≠ p := by
  rcases path_cases p with rfl | ⟨p, a, rfl⟩
  · exact absurd rfl hp
  · rw [tempOf_concat]
    intro h
    have := congrArg String.toList (List.singleton_inj.mp (List.append_inj' h rfl).2)
    simp [String.toList_append] at this
    exact hs (String.toList_inj.mp (by simpa using this))

theorem isPrefix_tempOf {sfx : String} {d p : Path} (h : isPrefix d (tempOf sfx p) = true) :
    d = tempOf sfx p ∨ isPrefix d p = true := by
  rcases path_cases p with rfl | ⟨p, a, rfl⟩
  · exact .inl (isPrefix_nil_right h)
  · rw [tempOf_concat] at h ⊢
    rw [isPrefix_iff, List.prefix_concat_iff] at h
    exact h.imp id fun h => (isPrefix_iff _ _).2 (h.trans (List.prefix_append _ _))

section shape
variable {cfg : Cfg} {thr ch : Nat} {sfx : String} {h : Hint} {old : Option DNode} {t : Task}

def Task.writes (t : Task) : Prop := t.act = .create ∨ t.act = .update

instance (t : Task) : Decidable t.writes := by unfold Task.writes; exact inferInstance

theorem Task.writes.ne_delete (hw : t.writes) : t.act ≠ .delete := by
  rcases hw with h | h <;> rw [h] <;> simp

theorem Task.writes.ne_skip (hw : t.writes) : t.act ≠ .skip := by
  rcases hw with h | h <;> rw [h] <;> simp

theorem Task.act_cases (t : Task) : t.writes ∨ t.act = .skip ∨ t.act = .delete := by
  unfold Task.writes
  cases t.act <;> simp

theorem stepsOfH_dry (hdry : cfg.dryRun = true) : stepsOfH cfg thr ch sfx h old t = [] := by
  unfold stepsOfH
  rw [if_pos hdry]

theorem stepsOfH_skip (hs : t.act = .skip) : stepsOfH cfg thr ch sfx h old t = [] := by
  unfold stepsOfH
  simp [hs]

theorem stepsOfH_delete (hdry : cfg.dryRun = false) (hd : t.act = .delete) :
    stepsOfH cfg thr ch sfx h old t = match old with
      | some .dir => [Step.removeTree t.rel]
      | some _ => [Step.unlink t.rel]
      | none => [] := by
  unfold stepsOfH
  simp only [hdry, hd, Bool.false_eq_true, ↓reduceIte]
  rfl

theorem stepsOfH_write (hdry : cfg.dryRun = false) (hw : t.writes) :
    stepsOfH cfg thr ch sfx h old t = match t.payload with
      | .nothing => []
      | .dir => (if t.act = .update then [Step.unlinkIfSymlink t.rel] else []) ++ dirSteps t.rel
      | .symlink text => symlinkSteps old t.rel text
      | .file m _ =>
        if t.act = .create ∨ h.route = .followed then fullCopySteps t.rel m ch h
        else [Step.unlinkIfSymlink t.rel] ++ updateSteps thr ch sfx h old t.rel m := by
  unfold stepsOfH
  rcases hw with ha | ha <;> cases t.payload <;> simp [hdry, ha]

/-- does the task go through temp + rename? -/
def usesDelta (cfg : Cfg) (thr : Nat) (h : Hint) (old : Option DNode) (t : Task) : Bool :=
  !cfg.dryRun && t.act == .update &&
    match t.payload, old with
    | .file _ _, some (.file d) => h.route == .delta && !decide (d.size < thr)
    | _, _ => false

theorem usesDelta_iff : usesDelta cfg thr h old t = true ↔
    cfg.dryRun = false ∧ t.act = .update ∧ h.route = .delta ∧
      ∃ m n d, t.payload = .file m n ∧ old = some (.file d) ∧ thr ≤ d.size := by
  unfold usesDelta
  simp only [Bool.and_eq_true, Bool.not_eq_true', beq_iff_eq]
  constructor
  · rintro ⟨⟨hdry, hact⟩, hm⟩
    split at hm
    · rename_i m n d hp
      simp only [Bool.and_eq_true, beq_iff_eq, Bool.not_eq_true', decide_eq_false_iff_not, Nat.not_lt] at hm
      exact ⟨hdry, hact, hm.1, m, n, d, hp, rfl, hm.2⟩
    · cases hm
  · rintro ⟨hdry, hact, hr, m, n, d, hp, rfl, hsz⟩
    rw [hp]
    simp [hdry, hact, hr, hsz]

theorem updateSteps_cases (thr ch : Nat) (sfx : String) (h : Hint) (old : Option DNode) (p : Path) (m : FileMeta) :
    (¬ (h.route = .delta ∧ ∃ d, old = some (.file d) ∧ thr ≤ d.size) ∧
      updateSteps thr ch sfx h old p m = fullCopySteps p m ch h) ∨
    ∃ d, old = some (.file d) ∧ thr ≤ d.size ∧
      ((h.route = .delta ∧ updateSteps thr ch sfx h old p m = deltaSteps sfx p m) ∨
        (h.route ≠ .delta ∧ Writer (h.route = .sparseBlocks) p m h.now (updateSteps thr ch sfx h old p m))) := by
  cases old with
  | none => exact .inl ⟨fun hc => by simp at hc, rfl⟩
  | some v =>
    cases v with
    | dir => exact .inl ⟨fun hc => by simp at hc, rfl⟩
    | symlink s => exact .inl ⟨fun hc => by simp at hc, rfl⟩
    | file d =>
      by_cases hsz : d.size < thr
      · refine .inl ⟨fun hc => ?_, by simp [updateSteps, hsz]⟩
        obtain ⟨_, d', hd, hle⟩ := hc
        cases hd
        omega
      · have hle := Nat.le_of_not_lt hsz
        cases hr : h.route with
        | delta => exact .inr ⟨d, rfl, hle, .inl ⟨rfl, by simp [updateSteps, hsz, hr]⟩⟩
        | full =>
          simp only [updateSteps, hsz, hr, ↓reduceIte]
          exact .inr ⟨d, rfl, hle, .inr ⟨nofun, (writer_writeSteps ch).breakLink _⟩⟩
        | sparseSeek =>
          simp only [updateSteps, hsz, hr, ↓reduceIte]
          exact .inr ⟨d, rfl, hle, .inr ⟨nofun, writer_sparseSeekSteps ch⟩⟩
        | sparseBlocks =>
          simp only [updateSteps, hsz, hr, ↓reduceIte]
          exact .inr ⟨d, rfl, hle, .inr ⟨nofun, writer_sparseBlocksSteps trivial ch⟩⟩
        -- unreachable from `stepsOfH`, which sends a followed link to `fullCopySteps` before `updateSteps`
        | followed => exact .inl ⟨fun hc => (nomatch hc.1), by simp [updateSteps, hsz, hr]⟩

theorem file_task_shape (ch : Nat) (sfx : String) (h : Hint) (old : Option DNode) {m : FileMeta} {n : Nat}
    (hp : t.payload = .file m n) (hdry : cfg.dryRun = false) (hw : t.writes) :
    (∃ T, Writer (h.route = .sparseBlocks) t.rel m h.now T ∧ usesDelta cfg thr h old t = false ∧
      ((∃ b : Bool, stepsOfH cfg thr ch sfx h old t =
          (if b then [Step.unlinkIfSymlink t.rel] else []) ++ (mkdirChain t.rel ++ T)) ∨
       ((∃ d, old = some (.file d)) ∧ stepsOfH cfg thr ch sfx h old t = T))) ∨
    (usesDelta cfg thr h old t = true ∧ t.act = .update ∧ ∃ d, old = some (.file d) ∧ thr ≤ d.size ∧
      stepsOfH cfg thr ch sfx h old t = [Step.unlinkIfSymlink t.rel] ++ deltaSteps sfx t.rel m) := by
  rw [stepsOfH_write hdry hw, hp]
  simp only
  split
  · rename_i hcf
    refine .inl ⟨_, writer_fullTail ch h, Bool.eq_false_iff.mpr fun hu => ?_, .inl ⟨false, fullCopySteps_eq ..⟩⟩
    obtain ⟨_, hact, hr, _⟩ := usesDelta_iff.mp hu
    rcases hcf with hc | hf
    · rw [hact] at hc; cases hc
    · rw [hr] at hf; cases hf
  · rename_i hcf
    have hact : t.act = .update := hw.resolve_left fun hc => hcf (.inl hc)
    rcases updateSteps_cases thr ch sfx h old t.rel m with
      ⟨hnd, he⟩ | ⟨d, rfl, hsz, ⟨hr, he⟩ | ⟨hr, hT⟩⟩
    · refine .inl ⟨_, writer_fullTail ch h, Bool.eq_false_iff.mpr fun hu => ?_,
        .inl ⟨true, by rw [he, fullCopySteps_eq]; rfl⟩⟩
      obtain ⟨_, _, hr, _, _, d, _, ho, hsz⟩ := usesDelta_iff.mp hu
      exact hnd ⟨hr, d, ho, hsz⟩
    · exact .inr ⟨usesDelta_iff.mpr ⟨hdry, hact, hr, m, n, d, hp, rfl, hsz⟩, hact, d, rfl, hsz, by rw [he]⟩
    · refine .inl ⟨_, hT.unlinkIfSymlink, Bool.eq_false_iff.mpr fun hu => ?_, .inr ⟨⟨d, rfl⟩, rfl⟩⟩
      exact hr (usesDelta_iff.mp hu).2.2.1

theorem stepsOfH_delta (ch : Nat) (sfx : String) (hu : usesDelta cfg thr h old t = true) :
    ∃ m n d, t.payload = .file m n ∧ t.act = .update ∧ old = some (.file d) ∧ thr ≤ d.size ∧
      stepsOfH cfg thr ch sfx h old t = [Step.unlinkIfSymlink t.rel] ++ deltaSteps sfx t.rel m := by
  obtain ⟨hdry, hact, _, m, n, _, hp, _⟩ := usesDelta_iff.mp hu
  rcases file_task_shape ch sfx h old hp hdry (.inr hact) with
    ⟨_, _, hf, _⟩ | ⟨_, _, d, ho, hsz, hL⟩
  · rw [hu] at hf; cases hf
  · exact ⟨m, n, d, hp, hact, ho, hsz, hL⟩

theorem mem_dirSteps {p : Path} {s : Step} (hs : s ∈ dirSteps p) :
    ∃ q, s = .mkdir q ∧ (q ∈ ancestors p ∨ q = p) := by
  unfold dirSteps at hs
  split at hs
  · cases hs
  · rcases List.mem_append.mp hs with hs | hs
    · obtain ⟨q, hq, rfl⟩ := mem_mkdirChain hs
      exact ⟨q, rfl, .inl hq⟩
    · exact ⟨p, List.mem_singleton.mp hs, .inr rfl⟩

theorem symlinkSteps_class {p : Path} {text : String} {s : Step} (hs : s ∈ symlinkSteps old p text) :
    (∃ q ∈ ancestors p, s = .mkdir q) ∨ (At p s ∧ s.isCreateTemp = false) := by
  unfold symlinkSteps at hs
  simp only [List.mem_append, List.mem_singleton] at hs
  rcases hs with (hs | hs) | rfl
  · exact .inl (mem_mkdirChain hs)
  · split at hs
    · cases hs
    · cases hs
    · rw [List.mem_singleton.mp hs]
      exact .inr ⟨⟨rfl, rfl, rfl⟩, rfl⟩
  · exact .inr ⟨⟨rfl, rfl, rfl⟩, rfl⟩

/-- A step of the second kind (a single-path step at the task's path) at the path of a directory task occurs only in
    an update — the `unlinkIfSymlink` of fix 862af11; `stepsOfH_class` turns this into
    `t.act = .create → t.payload ≠ .dir`, the premise under which `PlanOK.tree` forbids a task to lie above another. -/
theorem stepsOfH_cases {s : Step} (hs : s ∈ stepsOfH cfg thr ch sfx h old t) :
    (t.writes ∧ ∃ q, s = .mkdir q ∧ (q ∈ ancestors t.rel ∨ (q = t.rel ∧ t.payload = .dir))) ∨
    (t.writes ∧ At t.rel s ∧ s.isCreateTemp = false ∧ (t.payload = .dir → t.act = .update)) ∨
    (usesDelta cfg thr h old t = true ∧ ∃ m, s ∈ deltaSteps sfx t.rel m) ∨
    (t.act = .delete ∧ s.isDeletion = true ∧ ∀ x, s.touches x = true → isPrefix t.rel x = true) := by
  cases hdry : cfg.dryRun with
  | true => rw [stepsOfH_dry hdry] at hs; cases hs
  | false =>
  rcases t.act_cases with hw | hk | hd
  · have uis : At t.rel (Step.unlinkIfSymlink t.rel) ∧ (Step.unlinkIfSymlink t.rel).isCreateTemp = false :=
      ⟨⟨rfl, rfl, rfl⟩, rfl⟩
    by_cases hpd : t.payload = .dir
    · rw [stepsOfH_write hdry hw, hpd] at hs
      rcases List.mem_append.mp hs with hs | hs
      · split at hs
        · rename_i hact
          obtain rfl := List.mem_singleton.mp hs
          exact .inr (.inl ⟨hw, uis.1, uis.2, fun _ => hact⟩)
        · cases hs
      · obtain ⟨q, rfl, hq⟩ := mem_dirSteps hs
        exact .inl ⟨hw, q, rfl, hq.imp id fun hq => ⟨hq, hpd⟩⟩
    cases hu : usesDelta cfg thr h old t with
    | true =>
      obtain ⟨m, _, _, _, _, _, _, hL⟩ := stepsOfH_delta ch sfx hu
      rw [hL, List.singleton_append, List.mem_cons] at hs
      rcases hs with rfl | hs
      · exact .inr (.inl ⟨hw, uis.1, uis.2, fun hc => absurd hc hpd⟩)
      · exact .inr (.inr (.inl ⟨rfl, m, hs⟩))
    | false =>
      -- what is left: a `mkdir` of the parent chain, or a clean step at the path
      refine Or.elim (a := ∃ q ∈ ancestors t.rel, s = .mkdir q) (b := At t.rel s ∧ s.isCreateTemp = false) ?_
        (fun ⟨q, hq, e⟩ => .inl ⟨hw, q, e, .inl hq⟩)
        fun hat => .inr (.inl ⟨hw, hat.1, hat.2, fun hc => absurd hc hpd⟩)
      cases hp : t.payload with
      | nothing => rw [stepsOfH_write hdry hw, hp] at hs; cases hs
      | dir => exact absurd hp hpd
      | symlink text =>
        rw [stepsOfH_write hdry hw, hp] at hs
        exact symlinkSteps_class hs
      | file m n =>
        rcases file_task_shape ch sfx h old hp hdry hw with
          ⟨T, hT, _, ⟨b, hL⟩ | ⟨_, hL⟩⟩ | ⟨hu', _⟩
        · rw [hL] at hs
          rcases List.mem_append.mp hs with hs | hs
          · cases b
            · cases hs
            · obtain rfl := List.mem_singleton.mp hs
              exact .inr uis
          · exact (List.mem_append.mp hs).imp mem_mkdirChain (hT.steps s)
        · rw [hL] at hs
          exact .inr (hT.steps s hs)
        · rw [hu] at hu'; cases hu'
  · rw [stepsOfH_skip hk] at hs; cases hs
  · rw [stepsOfH_delete hdry hd] at hs
    refine .inr (.inr (.inr ⟨hd, ?_⟩))
    split at hs
    · rw [List.mem_singleton.mp hs]
      exact ⟨rfl, fun x hx => hx⟩
    · rw [List.mem_singleton.mp hs]
      refine ⟨rfl, fun x hx => ?_⟩
      rw [Step.touches, beq_iff_eq] at hx
      rw [hx]
      exact isPrefix_refl _
    · cases hs

theorem stepsOfH_old_irrel {cfg : Cfg} {thr ch : Nat} {sfx : String} {h : Hint} {t : Task}
    (ht : t.act = .skip ∨ (t.payload = .dir ∧ t.act ≠ .delete)) (old old' : Option DNode) :
    stepsOfH cfg thr ch sfx h old t = stepsOfH cfg thr ch sfx h old' t := by
  rcases ht with hs | ⟨hp, hd⟩
  · rw [stepsOfH_skip hs, stepsOfH_skip hs]
  · unfold stepsOfH
    cases hact : t.act with
    | delete => exact absurd hact hd
    | skip => simp
    | create => simp [hp]
    | update => simp [hp]

def Payload.isFile : Payload → Bool
  | .file _ _ => true
  | _ => false

/-- a task that may go through temp + rename -/
def Task.mayDelta (t : Task) : Prop := t.act = .update ∧ t.payload.isFile = true

instance (t : Task) : Decidable t.mayDelta := by unfold Task.mayDelta; exact inferInstance

theorem usesDelta_mayDelta (hu : usesDelta cfg thr h old t = true) : t.mayDelta := by
  obtain ⟨_, hact, _, m, n, _, hp, _⟩ := usesDelta_iff.mp hu
  exact ⟨hact, by rw [hp]; rfl⟩

theorem stepsOfH_inplace (hu : usesDelta cfg thr h old t = false) (hnd : t.act ≠ .delete) {s : Step}
    (hs : s ∈ stepsOfH cfg thr ch sfx h old t) :
    (∃ q, s = .mkdir q ∧ isPrefix q t.rel = true) ∨ (At t.rel s ∧ s.isCreateTemp = false) := by
  rcases stepsOfH_cases hs with ⟨_, q, rfl, hq⟩ | ⟨_, hat, hct, _⟩ | ⟨hu', _⟩ | ⟨hd, _⟩
  · exact .inl ⟨q, rfl, hq.elim ancestors_prefix fun hq => hq.1 ▸ isPrefix_refl _⟩
  · exact .inr ⟨hat, hct⟩
  · rw [hu] at hu'; cases hu'
  · exact absurd hd hnd

end shape

/-- the paths a task may touch apart from `mkdir`s of its ancestor chain -/
def InFoot (sfx : String) (t : Task) (x : Path) : Prop :=
  x = t.rel ∨
  (x = tempOf sfx t.rel ∧ t.mayDelta) ∨
  (t.act = .delete ∧ isPrefix t.rel x = true)

-- `InFoot` unfolded; no lemma uses it.
theorem InFoot.mayDelta {sfx : String} {t : Task} {x : Path} (h : InFoot sfx t x) :
    x = t.rel ∨ (x = tempOf sfx t.rel ∧ t.mayDelta) ∨ (t.act = .delete ∧ isPrefix t.rel x = true) := h

theorem stepsOfH_class {cfg : Cfg} {thr ch : Nat} {sfx : String} {h : Hint} {old : Option DNode}
    {t : Task} {s : Step} (hs : s ∈ stepsOfH cfg thr ch sfx h old t) :
    (∃ q, s = .mkdir q ∧ t.writes ∧ isPrefix q t.rel = true) ∨
    ((∀ x, s.touches x = true → InFoot sfx t x) ∧ s.isMkdir = false ∧
      (t.act = .delete → s.isDeletion = true) ∧ (t.act = .create → t.payload ≠ .dir)) := by
  rcases stepsOfH_cases hs with ⟨hw, q, rfl, hq⟩ | ⟨hw, hat, _, hpd⟩ | ⟨hu, m, hm⟩ | ⟨hd, hdel, hx⟩
  · exact .inl ⟨q, rfl, hw, hq.elim ancestors_prefix fun hq => hq.1 ▸ isPrefix_refl _⟩
  · refine .inr ⟨fun x hx => .inl (hat.touches hx), hat.2.2, fun hd => absurd hd hw.ne_delete, fun hc hp => ?_⟩
    rw [hpd hp] at hc
    cases hc
  · have hmd := usesDelta_mayDelta hu
    have hcr : t.act = .create → t.payload ≠ .dir := fun hc => by rw [hmd.1] at hc; cases hc
    have hnd : t.act = .delete → False := fun hc => by rw [hmd.1] at hc; cases hc
    simp only [deltaSteps, List.mem_cons, List.not_mem_nil, or_false] at hm
    rcases hm with rfl | rfl
    · refine .inr ⟨fun x hx => .inr (.inl ⟨?_, hmd⟩), rfl, fun hc => (hnd hc).elim, hcr⟩
      simpa [Step.touches] using hx
    · refine .inr ⟨fun x hx => ?_, rfl, fun hc => (hnd hc).elim, hcr⟩
      simp only [Step.touches, Bool.or_eq_true, beq_iff_eq] at hx
      exact hx.elim (fun hx => .inr (.inl ⟨hx, hmd⟩)) .inl
  · refine .inr ⟨fun x hx' => .inr (.inr ⟨hd, hx x hx'⟩), ?_, fun _ => hdel, fun hc => ?_⟩
    · cases s <;> first | rfl | exact Bool.noConfusion hdel
    · rw [hd] at hc
      cases hc

/-- the tasks of a run are laid out like a plan over a tree -/
structure PlanOK (tasks : List Task) : Prop where
  /-- one task per relative path -/
  uniq : tasks.Pairwise (fun a b => a.rel ≠ b.rel)
  /-- a path that is written as a file or a link is not a proper prefix of another planned path
      (in a scanned tree only directories have entries below them) — nor is the path of a directory
      that REPLACES a destination link (`update` with a directory payload, fix 862af11): the engine
      completes those replacements before any other task starts (src/sync/mod.rs, `deletions_first`
      barrier), so a replaced link with planned entries below it is not part of the FREE
      interleaving this structure describes -/
  tree : ∀ t1 ∈ tasks, ∀ t2 ∈ tasks, t1.rel ≠ t2.rel → (t2.payload = .dir → t2.act = .update) →
    t2.act ≠ .delete → t2.act ≠ .skip → isPrefix t2.rel t1.rel = false
  /-- delete tasks target paths that are not above (or equal to) any path written in this run
      (`plan_deletions` only lists entries absent from the scan, and the scan contains the
      parents of everything it contains) -/
  delClear : ∀ d ∈ tasks, d.act = .delete → ∀ t ∈ tasks, t.act ≠ .delete → t.act ≠ .skip →
    isPrefix d.rel t.rel = false

/-- the temp path of every task that may use one is not a planned path nor an ancestor of one,
    and nothing exists there (injectivity of the naming is a theorem: `tempOf_inj`) -/
structure TempFresh (sfx : String) (tasks : List Task) (w : SWorld) : Prop where
  notPlanned : ∀ t ∈ tasks, t.mayDelta → ∀ t' ∈ tasks, isPrefix (tempOf sfx t.rel) t'.rel = false
  notExisting : ∀ t ∈ tasks, t.mayDelta → w (tempOf sfx t.rel) = none

section plan
variable {sfx : String} {tasks : List Task} {w : SWorld}

theorem PlanOK.same_or_ne (hok : PlanOK tasks) {a b : Task} (ha : a ∈ tasks) (hb : b ∈ tasks) :
    a = b ∨ a.rel ≠ b.rel :=
  List.Pairwise.forall_of_forall_of_flip (R := fun a b => a = b ∨ a.rel ≠ b.rel) (fun _ _ => .inl rfl)
    (hok.uniq.imp .inr) (hok.uniq.imp fun h => .inr (Ne.symm h)) ha hb

theorem TempFresh.ne (hf : TempFresh sfx tasks w) {t : Task} (ht : t ∈ tasks) (hm : t.mayDelta) :
    tempOf sfx t.rel ≠ t.rel := by
  intro he
  have := hf.notPlanned t ht hm t ht
  rw [he, isPrefix_refl] at this
  cases this

theorem foot_del_disjoint (hok : PlanOK tasks) (hf : TempFresh sfx tasks w) {a b : Task} (ha : a ∈ tasks)
    (hb : b ∈ tasks) (haw : a.writes) (hbd : b.act = .delete) {x : Path}
    (hxa : x = a.rel ∨ (x = tempOf sfx a.rel ∧ a.mayDelta)) (hbx : isPrefix b.rel x = true) : False := by
  have hclear := hok.delClear b hb hbd a ha haw.ne_delete haw.ne_skip
  rcases hxa with rfl | ⟨rfl, hm⟩
  · rw [hclear] at hbx; cases hbx
  · rcases isPrefix_tempOf hbx with he | hp
    · have := hf.notPlanned a ha hm b hb
      rw [← he, isPrefix_refl] at this; cases this
    · rw [hclear] at hp; cases hp

theorem foot_disjoint (hok : PlanOK tasks) (hf : TempFresh sfx tasks w) {t1 t2 : Task} (h1 : t1 ∈ tasks)
    (h2 : t2 ∈ tasks) (hne : t1.rel ≠ t2.rel) (hs1 : t1.act ≠ .skip) (hs2 : t2.act ≠ .skip)
    (hdel : ¬ (t1.act = .delete ∧ t2.act = .delete)) {x : Path}
    (hx1 : InFoot sfx t1 x) (hx2 : InFoot sfx t2 x) : False := by
  have hw : ∀ {a b : Task}, a.act ≠ .skip → b.act = .delete → ¬ (a.act = .delete ∧ b.act = .delete) → a.writes :=
    fun {a b} hsa hbd hdd => a.act_cases.resolve_right fun h => h.elim hsa fun h => hdd ⟨h, hbd⟩
  rcases hx1 with rfl | ⟨rfl, hm1⟩ | hd1
  · rcases hx2 with he | ⟨he, hm2⟩ | hd2
    · exact hne he
    · have := hf.notPlanned t2 h2 hm2 t1 h1
      rw [← he, isPrefix_refl] at this; cases this
    · exact foot_del_disjoint hok hf h1 h2 (hw hs1 hd2.1 hdel) hd2.1 (.inl rfl) hd2.2
  · rcases hx2 with he | ⟨he, hm2⟩ | hd2
    · have := hf.notPlanned t1 h1 hm1 t2 h2
      rw [he, isPrefix_refl] at this; cases this
    · exact hne (tempOf_inj sfx he)
    · exact foot_del_disjoint hok hf h1 h2 (hw hs1 hd2.1 hdel) hd2.1 (.inr ⟨rfl, hm1⟩) hd2.2
  · have hw2 : t2.writes := hw hs2 hd1.1 fun hc => hdel ⟨hc.2, hc.1⟩
    rcases hx2 with he | ⟨he, hm2⟩ | hd2
    · exact foot_del_disjoint hok hf h2 h1 hw2 hd1.1 (.inl he) hd1.2
    · exact foot_del_disjoint hok hf h2 h1 hw2 hd1.1 (.inr ⟨he, hm2⟩) hd1.2
    · exact hdel ⟨hd1.1, hd2.1⟩

variable {cfg : Cfg} {thr ch : Nat}

theorem mkdir_foot_disjoint (hok : PlanOK tasks) (hf : TempFresh sfx tasks w) {a b : Task} (ha : a ∈ tasks)
    (hb : b ∈ tasks) (hab : a.rel ≠ b.rel) (haw : a.writes) {q : Path} (hq : isPrefix q a.rel = true)
    {hb' : Hint} {ob : Option DNode} {s : Step} (hs : s ∈ stepsOfH cfg thr ch sfx hb' ob b)
    (hfoot : ∀ x, s.touches x = true → InFoot sfx b x) (hcr : b.act = .create → b.payload ≠ .dir) (x : Path) :
    ¬ ((Step.mkdir q).touches x = true ∧ s.touches x = true) := by
  intro ⟨hx1, hx2⟩
  rw [Step.touches, beq_iff_eq] at hx1
  subst hx1
  rcases hfoot x hx2 with he | ⟨he, hm⟩ | ⟨hbd, hbx⟩
  · rcases b.act_cases with hbw | hbk | hbd
    · have hbp : b.payload = .dir → b.act = .update := fun hp => hbw.resolve_left fun hc => hcr hc hp
      have := hok.tree a ha b hb hab hbp hbw.ne_delete hbw.ne_skip
      rw [← he, hq] at this; cases this
    · rw [stepsOfH_skip hbk] at hs; cases hs
    · have := hok.delClear b hb hbd a ha haw.ne_delete haw.ne_skip
      rw [← he, hq] at this; cases this
  · have := hf.notPlanned b hb hm a ha
    rw [← he, hq] at this; cases this
  · have := hok.delClear b hb hbd a ha haw.ne_delete haw.ne_skip
    rw [isPrefix_trans hbx hq] at this; cases this

theorem tasks_indep (hok : PlanOK tasks) (hf : TempFresh sfx tasks w) {t1 t2 : Task} (h1 : t1 ∈ tasks)
    (h2 : t2 ∈ tasks) (hne : t1.rel ≠ t2.rel) (hh1 hh2 : Hint) (o1 o2 : Option DNode) :
    IndepLists (stepsOfH cfg thr ch sfx hh1 o1 t1) (stepsOfH cfg thr ch sfx hh2 o2 t2) := by
  intro s1 hs1 s2 hs2
  have hk1 : t1.act ≠ .skip := by intro h; rw [stepsOfH_skip h] at hs1; cases hs1
  have hk2 : t2.act ≠ .skip := by intro h; rw [stepsOfH_skip h] at hs2; cases hs2
  rcases stepsOfH_class hs1 with ⟨q1, rfl, hw1, hp1⟩ | ⟨hf1, _, hdl1, hcr1⟩
  · rcases stepsOfH_class hs2 with ⟨q2, rfl, _, _⟩ | ⟨hf2, _, _, hcr2⟩
    · by_cases hqq : q1 = q2
      · exact .inr (.inl ⟨q1, rfl, hqq ▸ rfl⟩)
      · refine .inl fun x ⟨hx1, hx2⟩ => hqq ?_
        rw [Step.touches, beq_iff_eq] at hx1 hx2
        exact hx1 ▸ hx2
    · exact .inl (mkdir_foot_disjoint hok hf h1 h2 hne hw1 hp1 hs2 hf2 hcr2)
  · rcases stepsOfH_class hs2 with ⟨q2, rfl, hw2, hp2⟩ | ⟨hf2, _, hdl2, _⟩
    · exact .inl fun x hx => mkdir_foot_disjoint hok hf h2 h1 (Ne.symm hne) hw2 hp2 hs1 hf1 hcr1 x hx.symm
    · by_cases hdd : t1.act = .delete ∧ t2.act = .delete
      · exact .inr (.inr ⟨hdl1 hdd.1, hdl2 hdd.2⟩)
      · exact .inl fun x ⟨hx1, hx2⟩ => foot_disjoint hok hf h1 h2 hne hk1 hk2 hdd (hf1 x hx1) (hf2 x hx2)

theorem taskLists_indep (cfg : Cfg) (thr ch : Nat) (hok : PlanOK tasks) (hf : TempFresh sfx tasks w) (hint : Task → Hint)
    (dst : Map DNode) : PairwiseIndep (taskLists cfg thr ch sfx hint dst tasks) := by
  unfold PairwiseIndep taskLists
  rw [List.pairwise_map]
  have hu : tasks.Pairwise (fun a b => a ∈ tasks ∧ b ∈ tasks ∧ a.rel ≠ b.rel) :=
    List.Pairwise.imp_of_mem (fun {a b} ha hb hab => ⟨ha, hb, hab⟩) hok.uniq
  exact (hu.filter _).imp fun {a b} ⟨ha, hb, hab⟩ => tasks_indep hok hf ha hb hab _ _ _ _

end plan

end SyModel.Engine
