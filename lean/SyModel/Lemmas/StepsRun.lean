/-
  SyModel.Lemmas.StepsRun — semaphore runs are interleavings; the temp + rename section in closed form
  (`deltaSteps_apply`); working files of completed runs.
-/
import SyModel.Lemmas.StepsTasks
namespace SyModel.Engine

theorem SemRun.interleaving {j : Nat} {c : List Slot} {σ : List Step} (h : SemRun j c σ) :
    Interleaving (c.map (·.rest)) σ := by
  induction h with
  | done h => exact .done (by intro l hl; obtain ⟨s, hs, rfl⟩ := List.mem_map.mp hl; exact h s hs)
  | acquire h1 h2 _ _ ih => subst h1; subst h2; simpa using ih
  | @exec c c' pre post l s σ h1 h2 _ ih =>
    subst h1; subst h2
    exact .pick (pre := pre.map (·.rest)) (post := post.map (·.rest)) (l := l) (by simp) rfl
      (by simpa using ih)

theorem initSlots_rests (ls : List (List Step)) : (initSlots ls).map (·.rest) = ls := by
  simp [initSlots, Function.comp_def]

theorem running_done_init (d : List Slot) (hd : ∀ s ∈ d, s.rest = []) (ls : List (List Step)) :
    running (d ++ initSlots ls) = 0 := by
  unfold running
  rw [List.length_eq_zero_iff, List.filter_eq_nil_iff]
  intro s hs
  rcases List.mem_append.mp hs with h | h
  · simp [hd s h]
  · simp only [initSlots, List.mem_map] at h
    obtain ⟨l, _, rfl⟩ := h
    simp

/-- every worker count `j ≥ 1` admits the task-by-task run (the scheduler model is not vacuous) -/
theorem sem_sequential {j : Nat} (hj : 1 ≤ j) (ls : List (List Step)) (d : List Slot)
    (hd : ∀ s ∈ d, s.rest = []) : SemRun j (d ++ initSlots ls) ls.flatten := by
  induction ls generalizing d with
  | nil => exact .done (by simpa [initSlots] using hd)
  | cons l ls ih =>
    have hrun : running (d ++ initSlots (l :: ls)) < j := by
      rw [running_done_init d hd]; omega
    refine .acquire (pre := d) (post := initSlots ls) (l := l) (by simp [initSlots]) rfl hrun ?_
    clear hrun
    induction l with
    | nil =>
      have := ih (d ++ [⟨true, []⟩]) (by
        intro s hs; rcases List.mem_append.mp hs with h | h
        · exact hd s h
        · simp at h; subst h; rfl)
      simpa using this
    | cons s l ihl =>
      exact .exec (pre := d) (post := initSlots ls) (l := l) rfl rfl (by simpa using ihl)

theorem nodeFn_no_new_temp (s : Step) (hs : s.isCreateTemp = false) (n : Option SNode)
    (hn : ∀ c, n ≠ some (.temp c)) : ∀ c, s.nodeFn n ≠ some (.temp c) := by
  intro c
  -- only `createTemp`'s arm builds a `.temp`: every other arm returns its argument or another constructor
  unfold Step.nodeFn
  split <;> first | exact hn c | (split <;> first | exact hn c | simp | skip) | skip
  all_goals first | exact Bool.noConfusion hs | (split <;> simp) | skip

theorem apply_no_new_temp (s : Step) (x : Path) (hs : s.isCreateTemp = false ∨ s.touches x = false)
    (w : SWorld) (hw : ∀ c, w x ≠ some (.temp c)) : ∀ c, s.apply w x ≠ some (.temp c) := by
  rcases hs with hs | hs
  · by_cases hsg : s.single = true
    · rw [apply_single s hsg]
      intro c; rw [upd_apply]; split
      · rename_i hx; subst hx; exact nodeFn_no_new_temp s hs _ hw c
      · exact hw c
    · cases s <;> simp [Step.single] at hsg
      case rename q p cc sz mt =>
        intro c; rw [apply_rename]; split
        · simp only [upd_apply]; split
          · simp
          · split
            · simp
            · exact hw c
        · exact hw c
      case removeTree p =>
        intro c; rw [apply_removeTree]; simp only
        split
        · simp
        · exact hw c
  · rw [apply_frame s w x hs]; exact hw

theorem applyAll_no_new_temp (l : List Step) (x : Path)
    (hl : ∀ s ∈ l, s.isCreateTemp = false ∨ s.touches x = false)
    (w : SWorld) (hw : ∀ c, w x ≠ some (.temp c)) : ∀ c, applyAll l w x ≠ some (.temp c) := by
  induction l generalizing w with
  | nil => exact hw
  | cons s l ih =>
    exact ih (fun t ht => hl t (by simp [ht])) _ (apply_no_new_temp s x (hl s (by simp)) w hw)

theorem createTemp_apply (q : Path) (c : Nat) (w : SWorld) :
    (Step.createTemp q c).apply w = upd w q (if w q = some .dir then some .dir else some (.temp c)) := by
  rw [apply_single _ rfl, Step.path, nodeFn_createTemp]

/-- the temp + rename section in closed form, on every world: nothing happens when a directory sits at the temp
    path; otherwise the new file is at `p` and the temp path is empty, whatever was there before (a left-over temp of
    an interrupted run is truncated, rewritten and renamed away) -/
theorem deltaSteps_apply (sfx : String) (p : Path) (m : FileMeta) (w : SWorld) :
    applyAll (deltaSteps sfx p m) w =
      if w (tempOf sfx p) = some .dir then w else upd (upd w p (some (fileNode m))) (tempOf sfx p) none := by
  simp only [deltaSteps, applyAll_cons, applyAll_nil, apply_rename, createTemp_apply, upd_same]
  by_cases hd : w (tempOf sfx p) = some .dir
  · rw [if_pos hd, if_pos hd, if_neg (by simp), ← hd, upd_self]
  · rw [if_neg hd, if_neg hd, if_pos rfl]
    funext x
    simp only [upd_apply, fileNode]
    by_cases hx : x = tempOf sfx p <;> simp [hx]

theorem deltaSteps_no_temp (sfx : String) (p : Path) (m : FileMeta) (w : SWorld) (x : Path)
    (hw : x = tempOf sfx p ∨ ∀ c, w x ≠ some (.temp c)) :
    ∀ c, applyAll (deltaSteps sfx p m) w x ≠ some (.temp c) := by
  intro c
  rw [deltaSteps_apply]
  split
  · rename_i hd
    rcases hw with rfl | hw
    · rw [hd]; simp
    · exact hw c
  · simp only [upd_apply, fileNode]
    split
    · simp
    · rename_i hx
      split
      · simp
      · exact hw.resolve_left hx c

theorem unlinkIfSymlink_file {p : Path} {w : SWorld} {c l mt : Nat} (hwp : w p = some (.file c l mt)) :
    (Step.unlinkIfSymlink p).apply w = w := by
  rw [apply_single _ rfl, Step.path, hwp]
  show upd w p (some (.file c l mt)) = w
  rw [← hwp, upd_self]

theorem delta_all {sfx : String} {p : Path} {m d : FileMeta} {w : SWorld}
    (hwp : w p = some (.file d.content d.size d.mtime)) :
    applyAll ([Step.unlinkIfSymlink p] ++ deltaSteps sfx p m) w = applyAll (deltaSteps sfx p m) w := by
  rw [List.singleton_append, applyAll_cons, unlinkIfSymlink_file hwp]

-- no step of the list creates a working file, as a Boolean; for the list of a task this is stated step by step
-- (`stepsOfH_no_createTemp`), and nothing but `noCT_nil` refers to `noCT`.
def noCT (l : List Step) : Bool := l.all fun s => !s.isCreateTemp

@[simp] theorem noCT_nil : noCT [] = true := rfl

theorem deletion_not_createTemp {s : Step} (h : s.isDeletion = true) : s.isCreateTemp = false := by
  cases s <;> first | rfl | exact Bool.noConfusion h

section task
variable {cfg : Cfg} {thr ch : Nat} {sfx : String} {h : Hint} {old : Option DNode} {t : Task}

theorem stepsOfH_no_createTemp (hu : usesDelta cfg thr h old t = false) {s : Step}
    (hs : s ∈ stepsOfH cfg thr ch sfx h old t) : s.isCreateTemp = false := by
  rcases stepsOfH_cases hs with ⟨_, q, rfl, _⟩ | ⟨_, _, hct, _⟩ | ⟨hu', _⟩ | ⟨_, hd, _⟩
  · rfl
  · exact hct
  · rw [hu] at hu'; cases hu'
  · exact deletion_not_createTemp hd

theorem createTemp_mem {x : Path} {c : Nat} (hs : Step.createTemp x c ∈ stepsOfH cfg thr ch sfx h old t) :
    usesDelta cfg thr h old t = true ∧ x = tempOf sfx t.rel := by
  cases hu : usesDelta cfg thr h old t with
  | false => exact Bool.noConfusion (stepsOfH_no_createTemp hu hs)
  | true =>
    obtain ⟨m, _, _, _, _, _, _, hL⟩ := stepsOfH_delta ch sfx hu
    rw [hL] at hs
    simp only [deltaSteps, List.mem_append, List.mem_cons, List.not_mem_nil, or_false, reduceCtorEq,
      false_or, Step.createTemp.injEq] at hs
    exact ⟨rfl, hs.1⟩

theorem task_no_temp (w : SWorld) (x : Path)
    (hw : (∀ c, w x ≠ some (.temp c)) ∨ (usesDelta cfg thr h old t = true ∧ x = tempOf sfx t.rel)) :
    ∀ c, applyAll (stepsOfH cfg thr ch sfx h old t) w x ≠ some (.temp c) := by
  cases hu : usesDelta cfg thr h old t with
  | false =>
    refine applyAll_no_new_temp _ x (fun s hs => .inl (stepsOfH_no_createTemp hu hs)) w (hw.resolve_right ?_)
    intro hc
    rw [hu] at hc
    cases hc.1
  | true =>
    obtain ⟨m, _, _, _, _, _, _, hL⟩ := stepsOfH_delta ch sfx hu
    rw [hL, applyAll_append]
    refine deltaSteps_no_temp _ _ _ _ _ (hw.symm.imp (·.2) fun hw => ?_)
    exact applyAll_no_new_temp _ x (fun s hs => .inl (by rw [List.mem_singleton.mp hs]; rfl)) w hw

end task

theorem mem_taskLists {cfg : Cfg} {thr ch : Nat} {sfx : String} {hint : Task → Hint} {dst : Map DNode}
    {tasks : List Task} {L : List Step} :
    L ∈ taskLists cfg thr ch sfx hint dst tasks ↔
      ∃ t ∈ tasks, isLinkTask cfg t = false ∧ L = stepsOfH cfg thr ch sfx (hint t) (dst.get? t.rel) t := by
  simp only [taskLists, List.mem_map, List.mem_filter, Bool.not_eq_true']
  exact ⟨fun ⟨t, ht, hL⟩ => ⟨t, ht.1, ht.2, hL.symm⟩, fun ⟨t, ht, hl, hL⟩ => ⟨t, ⟨ht, hl⟩, hL.symm⟩⟩

theorem lists_no_temp {ls : List (List Step)} (hind : PairwiseIndep ls) {σ : List Step} (hσ : Interleaving ls σ)
    (w : SWorld) (x : Path)
    (hclean : ∀ L ∈ ls, ((∀ c, w x ≠ some (.temp c)) ∨ ∃ c, Step.createTemp x c ∈ L) →
      ∀ c, applyAll L w x ≠ some (.temp c))
    (hw : (∀ c, w x ≠ some (.temp c)) ∨ ∃ L ∈ ls, ∃ c, Step.createTemp x c ∈ L) :
    ∀ c, applyAll σ w x ≠ some (.temp c) := by
  have hN := hσ.toShuffleN
  -- paths at which no step of the run creates a working file
  have hclass : (∀ l ∈ ls, ∀ s ∈ l, s.touches x = true → s.isCreateTemp = false) →
      ∀ c, applyAll σ w x ≠ some (.temp c) := by
    intro hnc
    rcases hw with hw | ⟨Lt, hLt, c, hct⟩
    · refine applyAll_no_new_temp _ x (fun s hs => ?_) w hw
      obtain ⟨l, hl, hsl⟩ := (hN.mem_iff s).mp hs
      cases htx : s.touches x with
      | false => exact .inr rfl
      | true => exact .inl (hnc l hl s hsl htx)
    · exact Bool.noConfusion (hnc Lt hLt _ hct (by simp [Step.touches]))
  rcases touch_classes hind x with ⟨pre, L, post, rfl, hothers⟩ | hM | hD
  · rw [shuffle_owned hind hN x hothers]
    refine hclean L (by simp) (hw.imp id fun ⟨Lt, hLt, c, hct⟩ => ⟨c, ?_⟩)
    -- the list that creates the working file at `x` is not among the others
    rw [List.mem_append, List.mem_cons, or_left_comm, ← List.mem_append] at hLt
    rcases hLt with rfl | hLt
    · exact hct
    · have := hothers Lt hLt _ hct
      simp [Step.touches] at this
  · exact hclass fun l hl s hs hx => by rw [hM l hl s hs hx]; rfl
  · exact hclass fun l hl s hs hx => deletion_not_createTemp (hD l hl s hs hx)

theorem run_no_temp {cfg : Cfg} {thr ch : Nat} {sfx : String} {hint : Task → Hint} {dst : Map DNode}
    {tasks : List Task} (hind : PairwiseIndep (taskLists cfg thr ch sfx hint dst tasks))
    {σ : List Step} (hσ : Interleaving (taskLists cfg thr ch sfx hint dst tasks) σ) (w : SWorld)
    (x : Path)
    (hw : (∀ c, w x ≠ some (.temp c)) ∨
      ∃ t ∈ tasks, isLinkTask cfg t = false ∧ usesDelta cfg thr (hint t) (dst.get? t.rel) t = true ∧
        x = tempOf sfx t.rel) :
    ∀ c, applyAll σ w x ≠ some (.temp c) := by
  refine lists_no_temp hind hσ w x (fun L hL hw' => ?_) (hw.imp id fun ⟨t, ht, hl, hu, hx⟩ => ?_)
  · obtain ⟨t', _, _, rfl⟩ := mem_taskLists.mp hL
    exact task_no_temp w x (hw'.imp id fun ⟨c, hct⟩ => createTemp_mem hct)
  · obtain ⟨m, _, _, _, _, _, _, hL⟩ := stepsOfH_delta ch sfx hu
    exact ⟨_, mem_taskLists.mpr ⟨t, ht, hl, rfl⟩, m.content, by rw [hL, hx]; simp [deltaSteps]⟩

section temp
variable {cfg : Cfg} {thr ch : Nat} {sfx : String} {tasks : List Task} {w : SWorld}

theorem temp_path_owned (hok : PlanOK tasks) (hf : TempFresh sfx tasks w) {t t' : Task} (ht : t ∈ tasks)
    (hm : t.mayDelta) (ht' : t' ∈ tasks) (hne : t'.rel ≠ t.rel) (hh : Hint) (o : Option DNode) :
    ∀ s ∈ stepsOfH cfg thr ch sfx hh o t', s.touches (tempOf sfx t.rel) = false := by
  refine fun s hs => Bool.eq_false_iff.mpr fun htx => ?_
  have hk : t'.act ≠ .skip := by intro h; rw [stepsOfH_skip h] at hs; cases hs
  rcases stepsOfH_class hs with ⟨q, rfl, _, hp⟩ | ⟨hfoot, _, _⟩
  · rw [Step.touches, beq_iff_eq] at htx
    have := hf.notPlanned t ht hm t' ht'
    rw [htx, hp] at this; cases this
  · have htk : t.act ≠ .skip := by rw [hm.1]; simp
    exact foot_disjoint hok hf ht' ht hne hk htk (fun h => by rw [hm.1] at h; cases h.2)
      (hfoot _ htx) (.inr (.inl ⟨rfl, hm⟩))

theorem temp_path_self (hf : TempFresh sfx tasks w) {t : Task} (ht : t ∈ tasks) (hm : t.mayDelta) (hh : Hint)
    (o : Option DNode) (hu : usesDelta cfg thr hh o t = false) :
    ∀ s ∈ stepsOfH cfg thr ch sfx hh o t, s.touches (tempOf sfx t.rel) = false := by
  refine fun s hs => Bool.eq_false_iff.mpr fun htx => ?_
  rcases stepsOfH_inplace hu (by rw [hm.1]; simp) hs with ⟨q, rfl, hp⟩ | ⟨hat, _⟩
  · rw [Step.touches, beq_iff_eq] at htx
    have := hf.notPlanned t ht hm t ht
    rw [htx, hp] at this; cases this
  · exact hf.ne ht hm (hat.touches htx)

end temp

theorem temp_path_final_none {cfg : Cfg} {thr ch : Nat} {sfx : String} {hint : Task → Hint}
    {dst : Map DNode} {tasks : List Task} {w : SWorld} (hok : PlanOK tasks)
    (hf : TempFresh sfx tasks w) {σ : List Step}
    (hσ : Interleaving (taskLists cfg thr ch sfx hint dst tasks) σ) {t : Task} (ht : t ∈ tasks)
    (hm : t.mayDelta) : applyAll σ w (tempOf sfx t.rel) = none := by
  have hind := taskLists_indep cfg thr ch hok hf hint dst
  have hN := hσ.toShuffleN
  have hw0 := hf.notExisting t ht hm
  by_cases hrun : isLinkTask cfg t = false ∧ usesDelta cfg thr (hint t) (dst.get? t.rel) t = true
  · -- the task runs its temp + rename section: create the working file, rename it away
    obtain ⟨hnl, hu⟩ := hrun
    obtain ⟨m, _, _, _, _, _, _, hL⟩ := stepsOfH_delta ch sfx hu
    obtain ⟨pre, post, hls⟩ := List.append_of_mem (mem_taskLists.mpr ⟨t, ht, hnl, rfl⟩)
    rw [hls] at hN hind
    have hct : Step.createTemp (tempOf sfx t.rel) m.content ∈
        stepsOfH cfg thr ch sfx (hint t) (dst.get? t.rel) t := by rw [hL]; simp [deltaSteps]
    rw [shuffle_owned hind hN _ (exclusive_of_step hind hct (by simp [Step.touches]) rfl rfl), hL]
    rw [List.singleton_append, applyAll_cons, deltaSteps_apply,
      apply_frame _ w _ (show (Step.unlinkIfSymlink t.rel).touches _ = false by simp [Step.touches, hf.ne ht hm]),
      hw0, if_neg (by simp), upd_same]
  · -- otherwise (an update of a member of a source hard-link group, `-H`, is not in the free interleaving)
    -- no step of the run touches the temp path
    rw [applyAll_frame σ w _ ?_]
    · exact hw0
    · intro s hs
      obtain ⟨L, hL, hsL⟩ := (hN.mem_iff s).mp hs
      obtain ⟨t', ht', hnl', rfl⟩ := mem_taskLists.mp hL
      rcases hok.same_or_ne ht' ht with rfl | hne
      · have hu := Bool.eq_false_iff.mpr fun hu => hrun ⟨hnl', hu⟩
        exact temp_path_self hf ht hm _ _ hu s hsL
      · exact temp_path_owned hok hf ht hm ht' hne _ _ s hsL

end SyModel.Engine
