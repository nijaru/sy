/-
  Lemmas.GenLocalCopyCow — the translated `sync_file_with_delta` run on the COW route (`use_cow_strategy`: reflinks supported,
  same file system, destination without hard links): `fs::copy(dest, temp)`, the xattr strip of the clone, the selective
  block loop (`wp_block_loop` at `cowGo`), `set_len(bytes_written)`, mtime, rename.
-/
import SyModel.Lemmas.GenLocalCopyFile
set_option autoImplicit false
namespace SyModel.LocalCopy
open SyModel.Generated.Rs (wp_of_run run_of_wp wp_bind_run wp_ite_pos wp_mono)
open SyModel SyModel.Generated SyModel.Generated.LocalCopy SyModel.Transfer
open SyModel.Data

/-- without a fault the call returns the model's counters (`rebuildCowLoop`) and leaves `TempDone` with the clone's log -/
theorem sync_cow_run (cfg : Cfg) (self : LocalTransport) (w : LWorld) (src dst : Rs.Path) (is id : Nat) (S D : Bytes)
    (ms md : Nat) (xs xd : List Rs.Str) (ls ld : Nat) (h : UpdPre w src dst is id S D ms md xs xd ls ld)
    (hbig : 10485760 ≤ D.length) (hsp : cfg.sparse = false) (hr : cfg.ratio ≠ some false)
    (hcow : (cfg.cow && cfg.sameFs && !decide (1 < ld)) = true) (hv : cfg.verifyOnWrite = false) :
    ∃ w', LocalTransport.sync_file_with_delta (posix cfg) self src dst w =
      (.ok (TransferResult.with_delta (rebuildCowLoop LOCAL_BLOCK_SIZE S D).offset
          (rebuildCowLoop LOCAL_BLOCK_SIZE S D).changed (rebuildCowLoop LOCAL_BLOCK_SIZE S D).literal), w') ∧
      TempDone w dst is id ⟨ofU8 S, ms, xs, ls⟩ ⟨ofU8 D, md, xd, ld⟩ (rebuildCowLoop LOCAL_BLOCK_SIZE S D).temp
        ([Op.create (dst ++ TEMP_SUFFIX) w.nextIno, Op.write w.nextIno 0 (ofU8 D)] ++
          (stripNames (copiedXattrs cfg xd []) (copiedXattrs cfg xd [])).map (Op.xattrRemove w.nextIno) ++
          (wsOf (rebuildCowLoop LOCAL_BLOCK_SIZE S D)).map (fun x => Op.write w.nextIno x.1 x.2) ++
          [Op.setLen w.nextIno (rebuildCowLoop LOCAL_BLOCK_SIZE S D).offset,
           Op.utime (dst ++ TEMP_SUFFIX) w.nextIno ms, Op.rename (dst ++ TEMP_SUFFIX) dst]) w' ∧
      w'.fault = none := by
  obtain ⟨hnf, hsrc, hisrc, hdst, hidst, hne, htmp, hfresh, hng⟩ := h
  have hts := htmp.ne hsrc
  have htd := htmp.ne hdst
  rcases w with ⟨nm, ino, ni, hs, nh, g, lg, now, F⟩
  simp only [TempOK] at hnf hsrc hisrc hdst hidst hfresh hng htmp
  subst hnf hng
  have hisne : is ≠ ni := by omega
  have hidne : id ≠ ni := by omega
  unfold rebuildCowLoop rebuildCowK
  dsimp only
  rw [← cowGo_eq_model]
  refine run_of_wp ?_
  unfold LocalTransport.sync_file_with_delta
  refine sync_head_wp cfg self src dst hsrc hisrc hdst hidst (by simpa [List.length_map] using hbig) hsp (Or.inl rfl)
    (fun h => absurd h hr) (fun _ => ⟨htmp, ?_⟩)
  intro nm0 h0t h0n
  generalize hlg : (unlinkSym ⟨nm, ino, ni, hs, nh, [], lg, now, none⟩ (dst ++ TEMP_SUFFIX)).log = lg0
  have h0src : nm0 src = some (.file is) := (h0n src hts.symm).trans hsrc
  have h0dst : nm0 dst = some (.file id) := (h0n dst htd.symm).trans hdst
  refine wp_ite_pos hcow ?_
  refine wp_bind_run (fs_copy_to_free cfg dst _ id _ h0dst hidst h0t hidne) ?_
  refine wp_bind_run (xattr_list_file cfg _ ni _ (upd_same _ _ _) (upd_same _ _ _)) ?_
  refine wp_bind_run (strip_listed cfg _ ni _ (upd_same _ _ _) (upd_same _ _ _)) ?_
  refine wp_bind_run (file_open_run cfg src is ((upd_ne _ _ hts.symm).trans h0src)) ?_
  refine wp_bind_run (file_open_run cfg dst id ((upd_ne _ _ htd.symm).trans h0dst)) ?_
  refine wp_bind_run (oo_open_run cfg _ _ ni (upd_same _ _ _)) ?_
  simp only [Std.Legacy.Range.forIn_eq_forIn_range', Std.Legacy.Range.size, Nat.sub_zero, Nat.add_one_sub_one, Nat.div_one]
  refine wp_block_loop (nm := upd nm0 (dst ++ TEMP_SUFFIX) (some (.file ni)))
    (ino := upd (upd ino ni (some ⟨ofU8 D, now, if cfg.copyXattrs then xd else [], 1⟩)) ni (some ⟨ofU8 D, now, [], 1⟩))
    (ni := ni + 1) (hs := hs) (nh := nh) (g := [dst ++ TEMP_SUFFIX])
    (lg := lg0 ++ [.create (dst ++ TEMP_SUFFIX) ni, .write ni 0 (ofU8 D)] ++
        (stripNames (if cfg.copyXattrs then xd else []) (if cfg.copyXattrs then xd else [])).map (Op.xattrRemove ni))
    (now := now) (F := none)
    is id ni [] 65536 S D (cowGo fun _ => 65536) stepCow (cowGo_unfold _) (stepW_offset _)
    _ _ _ _ _ _ _ (cowInit D) 0 0 _ ?hW List.length_replicate List.length_replicate ?hfuel ?hf ?_
  case hfuel => simp [Rs.len, List.length_map]
  case hW => simp [loopW, wsOf, Rs.oo_write]
  case hf =>
    intro x sbuf dbuf st dpos tpos F' hF' hsb hdb
    obtain rfl : F' = none := hF'.mpr rfl
    refine wp_mono ?_ (fun r W' h => ⟨if (((S.drop st.offset).take 65536).length == ((D.drop dpos).take 65536).length &&
      (S.drop st.offset).take 65536 == (D.drop dpos).take 65536) then tpos else st.offset + ((S.drop st.offset).take 65536).length,
      _, none, rfl, Iff.rfl, h⟩) (fun _ _ h => h)
    refine wp_bind_run (loopW_read_src cfg _ is id ni [] _ _ _ _ _ (by intro h; cases h) S ms xs ls 65536 _ sbuf
      ((upd_ne _ _ hisne).trans ((upd_ne _ _ hisne).trans hisrc)) hisne hsb rfl) ?_
    by_cases hnil : (S.drop st.offset).take 65536 = []
    · simp only [hnil, List.length_nil, beq_self_eq_true, if_true]
      exact wp_of_run rfl (by simp [tick])
    · have hk : ¬ ((((S.drop st.offset).take 65536).length == 0) = true) := by
        simp only [beq_iff_eq, List.length_eq_zero_iff]; exact hnil
      simp only [hk, hnil, if_false]
      refine wp_bind_run (loopW_read_dst cfg _ is id ni [] _ _ _ _ _ (by intro h; cases h) D md xd ld 65536 _ dbuf
        ((upd_ne _ _ hidne).trans ((upd_ne _ _ hidne).trans hidst)) hidne hdb rfl) ?_
      -- a matching block is skipped, a differing one is written: both ways the state is `stepCow` on the block
      unfold stepCow stepW Blk.differs
      simp only [slice_ofU8, ofU8_beq]
      cases ((List.take 65536 (List.drop st.offset S)).length == (List.take 65536 (List.drop dpos D)).length &&
        List.take 65536 (List.drop st.offset S) == List.take 65536 (List.drop dpos D))
      · simp only [Bool.not_false, if_true]
        refine wp_bind_run (loopW_seek_tmp cfg _ is id ni [] _ _ _ _ _ (by intro h; cases h) _ _ rfl) ?_
        refine wp_bind_run (loopW_write_tmp cfg _ is id ni [] _ _ _ _ _ _ _ (by intro h; cases h) hnil rfl) ?_
        refine wp_bind_run (a := cfg.verifyOnWrite) rfl ?_
        rw [if_neg (by simp [hv])]
        exact wp_of_run rfl (by simp [tick, wsOf, Rs.cast])
      · exact wp_of_run rfl (by simp [tick, Rs.cast, wsOf])
  rintro r sbuf' dbuf' dpos' tpos' F' hF' rfl
  obtain rfl : F' = none := hF'.mpr rfl
  refine wp_bind_run (set_len_run cfg _ ni _ _ _ (upd_same _ _ _) (upd_same _ _ _)) ?_
  refine wp_bind_run (a := ()) rfl ?_
  refine wp_bind_run rfl ?_
  refine wp_bind_run (a := 0) rfl ?_
  refine wp_bind_run (set_mtime_run cfg _ ni _ _ (upd_same _ _ _) (upd_same _ _ _)) ?_
  refine wp_bind_run (rename_over_file cfg _ _ _ id _ (upd_same _ _ _) ((upd_ne _ _ htd.symm).trans h0dst)
    ((upd_ne _ _ hidne).trans ((upd_ne _ _ hidne).trans ((upd_ne _ _ hidne).trans ((upd_ne _ _ hidne).trans
      ((upd_ne _ _ hidne).trans hidst)))))) ?_
  refine wp_bind_run (a := ()) rfl ?_
  refine wp_of_run rfl ?_
  refine wp_bind_run (a := ()) rfl ?_
  refine wp_bind_run (a := _) rfl ?_
  refine wp_of_run rfl ?_
  have hin : ni ≠ id := hidne.symm
  refine ⟨rfl, ⟨(upd_ne _ _ htd.symm).trans (upd_same _ _ _), upd_same _ _ _, ?_, ?_, ?_,
    upd_same _ _ _, ?_, ?_, rfl⟩, rfl⟩
  · exact fun p h1 h2 => (upd_ne _ _ h2).trans ((upd_ne _ _ h1).trans ((upd_ne _ _ h2).trans (h0n p h2)))
  · refine ((upd_ne _ _ hin).trans (upd_same _ _ _)).trans ?_
    simp only [ofU8_setLen]
    rfl
  · exact (upd_ne _ _ hne).trans ((upd_ne _ _ hisne).trans ((upd_ne _ _ hisne).trans ((upd_ne _ _ hisne).trans
      ((upd_ne _ _ hisne).trans ((upd_ne _ _ hisne).trans hisrc)))))
  · exact fun i h1 h2 => (upd_ne _ _ h2).trans ((upd_ne _ _ h1).trans ((upd_ne _ _ h1).trans ((upd_ne _ _ h1).trans
      ((upd_ne _ _ h1).trans (upd_ne _ _ h1)))))
  · show lg0 ++ _ ++ _ ++ _ ++ _ ++ _ ++ _ = _
    rw [hlg]
    simp only [List.append_assoc, List.cons_append, List.nil_append, copiedXattrs, List.append_nil]
    rfl
end SyModel.LocalCopy
