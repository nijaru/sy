/-
  Running translated effectful code: `Rs.M W α = ExceptT Rs.Err (StateM W) α` unfolds to
  `W → Except Rs.Err α × W`, so a computation is applied to a world directly (`x w`); the bridge modules'
  `runM x w := x.run.run w` is that application.  The equations of `pure`, `throw`, `>>=`, `<$>`, `capture`,
  `liftE` are stated here once, for every world type; the bridge modules instantiate them (`rw` and `simp` match the
  name `runM`).  Also here: `pure_bind_rfl`, `ite_bind`,
  `run_bind_congr`, `capture_liftE`, and `forIn_pure_foldl` (in any lawful monad a loop of pure yields is a fold).
  Declared in the Prelude's namespace `SyModel.Generated.Rs`; nothing here is trusted.
-/
import SyModel.Generated.Prelude
namespace SyModel.Generated.Rs
variable {W α β : Type}

theorem run_pure (a : α) (w : W) : (pure a : M W α) w = (.ok a, w) := rfl
theorem run_throw (e : Err) (w : W) : (throw e : M W α) w = (.error e, w) := rfl
theorem run_liftE_ok (a : α) (w : W) : (liftE (.ok a) : M W α) w = (.ok a, w) := rfl
theorem run_liftE_error (e : Err) (w : W) : (liftE (.error e) : M W α) w = (.error e, w) := rfl
theorem run_capture (x : M W α) (w : W) : capture x w = (.ok (x w).1, (x w).2) := rfl

theorem run_bind (x : M W α) (f : α → M W β) (w : W) :
    (x >>= f) w = match x w with
      | (.ok a, w') => f a w'
      | (.error e, w') => (.error e, w') := by
  show (ExceptT.bind x f) w = _
  simp only [ExceptT.bind, ExceptT.mk]
  show (StateT.bind x _) w = _
  simp only [StateT.bind]
  rcases x w with ⟨r, w'⟩
  cases r <;> rfl

theorem run_bind_ok {x : M W α} {f : α → M W β} {w w' : W} {a : α} (h : x w = (.ok a, w')) :
    (x >>= f) w = f a w' := by
  rw [run_bind, h]

theorem run_bind_error {x : M W α} {f : α → M W β} {w w' : W} {e : Err} (h : x w = (.error e, w')) :
    (x >>= f) w = (.error e, w') := by
  rw [run_bind, h]

theorem run_map (g : α → β) (x : M W α) (w : W) :
    (g <$> x) w = match x w with
      | (.ok a, w') => (.ok (g a), w')
      | (.error e, w') => (.error e, w') := by
  rw [map_eq_pure_bind, run_bind]
  rcases x w with ⟨r, w'⟩
  cases r <;> rfl

/-- the left unit law holds by computation (so `dsimp only` can remove the `pure v >>= f` the translation leaves) -/
theorem pure_bind_rfl (a : α) (f : α → M W β) : (pure a >>= f) = f a := rfl

theorem ite_bind (c : Prop) [Decidable c] (a b : M W α) (g : α → M W β) :
    (if c then a else b) >>= g = if c then a >>= g else b >>= g := by
  split <;> rfl

theorem run_bind_congr (x : M W α) (f g : α → M W β) (w : W)
    (h : ∀ a w', x w = (.ok a, w') → f a w' = g a w') : (x >>= f) w = (x >>= g) w := by
  rw [run_bind, run_bind]
  cases hx : x w with
  | mk r w' =>
    cases r with
    | error e => rfl
    | ok a => exact h a w' hx

/-- `let r: io::Result<_> = …; r` — keeping a `Result` as a value and returning it is the computation itself -/
theorem capture_liftE (x : M W α) : (capture x >>= liftE) = x := by
  funext w
  rw [run_bind, run_capture]
  rcases h : x w with ⟨r, w'⟩
  cases r <;> rfl

/-- in any monad: a `for` loop over a list whose body never breaks and whose every iteration is the pure step `g` is the
    left fold of `g`. The body `f` is found by unification with the generated definition; `hstep` is where the
    generated body is compared with `g`. -/
theorem forIn_pure_foldl {m : Type → Type} [Monad m] [LawfulMonad m] {σ γ : Type} (g : σ → γ → σ)
    (f : γ → σ → m (ForInStep σ)) (hstep : ∀ c s, f c s = pure (.yield (g s c))) (cs : List γ) (s0 : σ) :
    forIn cs s0 f = pure (cs.foldl g s0) :=
  (funext fun c => funext (hstep c) : f = fun c s => pure (.yield (g s c))) ▸
    List.forIn_pure_yield_eq_foldl (fun c s => g s c) s0

end SyModel.Generated.Rs
