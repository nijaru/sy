/-
  Loops with `break` whose body ignores the index: `for _ in [0:n]` is `n` rounds (`iterM`) of an effectful step; a pure
  step is the special case `iter`.  The translated `while` / `loop`s with fuel run this way, the fuel as `n`: delta
  generators, sparse copy, hard-link hand-off, watch loop, scanner (`Lemmas/GenSparseCopy`, `GenLinkMember`, `GenWatch` and
  `GenScanner` use `forIn_range_M` / `forIn_range_of_loop` as the delta units do).  Not the two block loops of
  `sync_file_with_delta`: they are `for` loops over the list of block indices (`wp_block_loop`, Lemmas/GenLocalCopyOps).
  The declarations are in the namespaces `SyModel.GenDelta` and `SyModel.GenDeltaStream`.  `iterM` exists in three more
  copies (`SparseCopy.iterM`, `Lemmas.GenLinkMember.loopN`, `Props.GenWatch.loopN`, the last two with the fuel first), each
  reaching `forIn_range_of_loop` with its two equations by `rfl`; `GenScanner.iter` is its own function (out of fuel is an
  error there), tied to `iterM` by `GenScanner.iterM_post`.
-/
set_option autoImplicit false

namespace SyModel.GenDelta
variable {σ : Type}

/-- `fuel` rounds of a pure loop body with `break`: what `for _ in [0:fuel]` computes when the body is
    `pure ∘ step` -/
def iter (step : σ → ForInStep σ) : Nat → σ → σ
  | 0, s => s
  | k + 1, s => match step s with
    | .done s' => s'
    | .yield s' => iter step k s'

end SyModel.GenDelta

namespace SyModel.GenDeltaStream
open SyModel.GenDelta
variable {m : Type → Type} [Monad m] {α σ : Type}

/-- `fuel` rounds of a loop body with `break` that lives in the monad: what `for _ in [0:fuel]` computes when the
    body is `step` (it may perform effects) -/
def iterM (step : σ → m (ForInStep σ)) : Nat → σ → m σ
  | 0, s => pure s
  | k + 1, s => step s >>= fun r => match r with
    | .done s' => pure s'
    | .yield s' => iterM step k s'

theorem forIn_list_const_M (l : List α) (s : σ) (f : α → σ → m (ForInStep σ)) (step : σ → m (ForInStep σ))
    (h : ∀ a s, f a s = step s) : forIn l s f = iterM step l.length s := by
  induction l generalizing s with
  | nil => rfl
  | cons a l ih =>
    rw [List.forIn_cons, h]
    simp only [List.length_cons, iterM]
    refine bind_congr fun r => ?_
    cases r with
    | done s' => rfl
    | yield s' => exact ih s'

theorem forIn_range_M (n : Nat) (s : σ) (f : Nat → σ → m (ForInStep σ)) (step : σ → m (ForInStep σ))
    (h : ∀ a s, f a s = step s) : forIn [0:n] s f = iterM step n s := by
  rw [Std.Legacy.Range.forIn_eq_forIn_range', forIn_list_const_M _ _ _ step h]
  simp [Std.Legacy.Range.size]

/-- any `L` that satisfies the two equations of `iterM` is what `for _ in [0:n]` computes: a loop function defined
    elsewhere in the same way gets its range lemma from this one, its two equations holding by `rfl` -/
theorem forIn_range_of_loop (step : σ → m (ForInStep σ)) (L : Nat → σ → m σ) (h0 : ∀ s, L 0 s = pure s)
    (hs : ∀ n s, L (n + 1) s = step s >>= fun r => match r with
      | .done s' => pure s'
      | .yield s' => L n s')
    (f : Nat → σ → m (ForInStep σ)) (hf : ∀ a s, f a s = step s) (n : Nat) (s : σ) : forIn [0:n] s f = L n s := by
  rw [forIn_range_M n s f step hf]
  induction n generalizing s with
  | zero => exact (h0 s).symm
  | succ k ih =>
    rw [hs, iterM]
    refine bind_congr fun r => ?_
    cases r with
    | done s' => rfl
    | yield s' => exact ih s'

end SyModel.GenDeltaStream

-- reopened so that `iterM_pure` takes `[LawfulMonad m]` before `{σ}`, the order in which its users pass them
namespace SyModel.GenDeltaStream
open SyModel.GenDelta
variable {m : Type → Type} [Monad m] [LawfulMonad m] {σ : Type}

theorem iterM_pure (step : σ → ForInStep σ) (n : Nat) (s : σ) :
    iterM (m := m) (fun s => pure (step s)) n s = pure (iter step n s) := by
  induction n generalizing s with
  | zero => rfl
  | succ k ih =>
    simp only [iterM, iter, pure_bind]
    cases step s with
    | done s' => rfl
    | yield s' => exact ih s'

end SyModel.GenDeltaStream

namespace SyModel.GenDelta
variable {m : Type → Type} [Monad m] [LawfulMonad m] {σ : Type}

theorem forIn_range_pure (n : Nat) (s : σ) (f : Nat → σ → m (ForInStep σ)) (step : σ → ForInStep σ)
    (h : ∀ a s, f a s = pure (step s)) : forIn [0:n] s f = pure (iter step n s) := by
  rw [GenDeltaStream.forIn_range_M n s f (fun s => pure (step s)) h, GenDeltaStream.iterM_pure]

theorem iter_done (step : σ → ForInStep σ) (s : σ) (h : step s = .done s) (k : Nat) : iter step k s = s := by
  cases k with
  | zero => rfl
  | succ k => simp only [iter, h]

end SyModel.GenDelta
