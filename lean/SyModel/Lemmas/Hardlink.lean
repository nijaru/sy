/-
  Lemmas for C13: the inductive invariants of the hard-link hand-off
  (`SyModel.Hardlink.Protocol`) and their preservation by every micro-step.
  `Inv`  — protocol bookkeeping (both variants, no assumption on the destination);
  `InvR` — what needs the repaired protocol (nobody waits on a worker that cannot move);
  `InvD` — the destination name space (needs `Cfg.DstOk`: old inode ids ≥ n, one content per inode,
           an update has a destination file; nothing about which names share an inode).
  The invariants read a worker's pc through a few classes (`Pc.holdsClaim ⊇ Pc.copied`,
  `Pc.copied ⊆ Pc.rootPc ⊆ Pc.pastCopy`, …) and a few constructors (`notifyOk`, `done`, `waiting`, `armed`), so
  `next` is analysed once, in `next_ok`: what a step does to those, to the entry of the worker's inode
  and to its destination file (`Effect.Ok`).  Preservation is proved from `Effect.Ok` alone, clause by
  clause.  `Pc.notifying`, `Pc.errPath`, `Pc.errish`, `Pc.updateOnly`, `InvR` and `Effect.Ok` are proof-side: no
  statement outside this file and `HardlinkProps` mentions them; the other pc classes, `WorkerCfg.clean`, `Cfg.DstOk`,
  `Inv` and `InvD` are what statements elsewhere are written in.  The last section analyses `next` again, one pc at
  a time and independently of `Effect.Ok`; no proof uses it.
-/
import SyModel.Lemmas.HardlinkStep
namespace SyModel.Hardlink

/-! ### pc classes -/

/-- between a successful claim and the release of the claim (entry is `InProgress(self)`). -/
def Pc.holdsClaim : Pc → Bool
  | .mkdirOp _ | .copyOp _ | .syncOp _ | .metaOp | .complete | .cleanup _ => true
  | _ => false

/-- entry already changed, `notify_waiters()` still to be called. -/
def Pc.notifying : Pc → Bool
  | .notifyOk | .failNotify _ => true
  | _ => false

/-- pcs a worker outside the hard-link branch can be at. -/
def Pc.plainOk : Pc → Bool
  | .start | .mkdirOp _ | .copyOp _ | .syncOp _ | .metaOp | .done _ => true
  | _ => false

/-- the `Notify` a worker is about to wait / waiting on. -/
def Pc.waitsOn : Pc → Option Nat
  | .sawInProgress g | .armed g _ | .waiting g _ => some g
  | _ => none

/-- the first path a non-owner is about to link its own path to. -/
def Pc.linksTo : Pc → Option Nat
  | .linkOp p _ | .sameOp p | .removeOp p _ => some p
  | _ => none

/-- the worker's own copy is in place (between the copy and the insertion of `Completed`). -/
def Pc.copied : Pc → Bool
  | .metaOp | .complete => true
  | _ => false

/-- the worker's copy operation (`copy_file` / `sync_file_with_delta`) is behind it, or it has
    returned (with or without one). -/
def Pc.pastCopy : Pc → Bool
  | .metaOp | .complete | .notifyOk | .cleanup _ | .failNotify _ | .done _ => true
  | _ => false

/-- an updated path still names its pre-run file or its rewrite (it is removed only just before it
    is re-linked). -/
def Pc.beforeRelink : Pc → Bool
  | .linkOp _ _ | .done _ => false
  | _ => true

/-- the worker's own copy / rewrite is in place and it has not failed since: owners (and ordinary
    files) from the end of their copy operation to their successful return. -/
def Pc.rootPc : Pc → Bool
  | .metaOp | .complete | .notifyOk | .done .ok => true
  | _ => false

/-- after its operation `op` failed, a claim-holding worker only cleans up, notifies and returns. -/
def Pc.errPath (op : Op) : Pc → Bool
  | .cleanup o | .failNotify o | .done (.err o) => o == op
  | _ => false

/-- pcs that only a failed operation leads to. -/
def Pc.errish : Pc → Bool
  | .cleanup _ | .failNotify _ | .done (.err _) => true
  | _ => false

/-- pcs that only the worker of an update reaches. -/
def Pc.updateOnly : Pc → Bool
  | .removeOp _ _ | .sameOp _ | .syncOp _ => true
  | _ => false

def WorkerCfg.clean (c : WorkerCfg) : Bool :=
  !c.failMkdir && !c.failCopy && !c.failMeta && !c.failLink

theorem Pc.holdsClaim_not_done (pc : Pc) (h : pc.holdsClaim = true) : pc.isDone = false := by
  cases pc <;> simp_all [Pc.holdsClaim, Pc.isDone]

theorem Pc.copied_holdsClaim (pc : Pc) (h : pc.copied = true) : pc.holdsClaim = true := by
  cases pc <;> first | rfl | cases h

theorem Pc.copied_linksTo (pc : Pc) (h : pc.copied = true) : pc.linksTo = none := by
  cases pc <;> first | rfl | cases h

/-! ### the invariants -/

/-- Protocol bookkeeping; holds for both variants. -/
structure Inv (cfg : Cfg) (s : State) : Prop where
  /-- workers outside the hard-link branch never touch the map -/
  plain : ∀ v, (cfg.worker v).linked = false → (s.pc v).plainOk = true
  /-- a worker holding a claim is the one recorded in the map -/
  claimMap : ∀ v, (cfg.worker v).linked = true → (s.pc v).holdsClaim = true →
    s.map (cfg.worker v).inode = some (.inProgress v)
  /-- an `InProgress` entry names a worker of that inode that holds the claim — or, in the pinned
      code only, one that has already returned an error -/
  mapClaim : ∀ i g, s.map i = some (.inProgress g) →
    g < cfg.n ∧ (cfg.worker g).linked = true ∧ (cfg.worker g).inode = i ∧
      ((s.pc g).holdsClaim = true ∨ (cfg.variant = .pinned ∧ ∃ op, s.pc g = .done (.err op)))
  /-- a `Notify` is signalled only by its creator's last step -/
  notified : ∀ g, s.calls g = 0 ∨ (s.pc g).isDone = true
  /-- a `Completed` entry names a finished (or notifying) owner -/
  mapDone : ∀ i p, s.map i = some (.completed p) →
    p < cfg.n ∧ (cfg.worker p).linked = true ∧ (cfg.worker p).inode = i ∧
      (s.pc p = .notifyOk ∨ s.pc p = .done .ok)
  /-- a non-owner links to the recorded first path of its own inode -/
  linking : ∀ v p, (s.pc v).linksTo = some p →
    (cfg.worker v).linked = true ∧ s.map (cfg.worker v).inode = some (.completed p)
  /-- an owner about to signal success has recorded its own path -/
  notifyOkMap : ∀ v, s.pc v = .notifyOk →
    (cfg.worker v).linked = true ∧ s.map (cfg.worker v).inode = some (.completed v)

/-- Clauses that need the repaired protocol. -/
structure InvR (cfg : Cfg) (s : State) : Prop where
  /-- whoever waits (or is about to wait) on worker `g`'s `Notify`: as long as `g` has not
      signalled it, `g` is still on its owner path — and owner paths never block -/
  waits : ∀ v g, (s.pc v).waitsOn = some g →
    g < cfg.n ∧ (cfg.worker g).linked = true ∧
      (s.calls g = 0 → (s.pc g).holdsClaim = true ∨ (s.pc g).notifying = true)
  /-- a future that is awaited was created before its `Notify` was signalled -/
  snapWaiting : ∀ v g snap, s.pc v = .waiting g snap → snap = 0
  snapArmed : ∀ v g snap, s.pc v = .armed g snap → snap ≤ s.calls g

/-- The pre-run destination is a real name space: inode ids of existing files do not collide with
    the ids of inodes created in the run and names of one inode show one content. Nothing is assumed
    about *which* names share an inode: links between names of different source files (the source
    was regrouped since the last `-H` sync) are allowed. -/
structure Cfg.DstOk (cfg : Cfg) : Prop where
  oldInodes : ∀ q f, q < cfg.n → (cfg.worker q).dst0 = some f → cfg.n ≤ f.ino
  inoContent : ∀ q r fq fr, q < cfg.n → r < cfg.n → (cfg.worker q).dst0 = some fq →
    (cfg.worker r).dst0 = some fr → fq.ino = fr.ino → fq.content = fr.content
  /-- the planner issues an update only for an existing destination file -/
  updateHasDst : ∀ q, q < cfg.n → (cfg.worker q).action = .update → (cfg.worker q).dst0.isSome = true

/-- The destination name space (`(s.dst q).map File.ino` = the inode a path names, if it exists). -/
structure InvD (cfg : Cfg) (s : State) : Prop where
  /-- every name of the inode that a *root* names — a path whose own copy / rewrite is in place:
      an ordinary file, or the recorded first path of its group — belongs to the root's source
      inode -/
  refines : ∀ p r i, (s.pc p).rootPc = true →
    (((cfg.worker p).linked = false ∧ (cfg.worker p).action ≠ .skip) ∨ (s.pc p).copied = true ∨
      s.map (cfg.worker p).inode = some (.completed p)) →
    (s.dst p).map File.ino = some i → (s.dst r).map File.ino = some i →
    (cfg.worker p).inode = (cfg.worker r).inode
  /-- names of one inode show one content -/
  inoContent : ∀ q r i, (s.dst q).map File.ino = some i → (s.dst r).map File.ino = some i →
    (s.dst q).map File.content = (s.dst r).map File.content
  /-- an inode created in the run was created by a worker of the same source inode, whose copy
      operation is behind it -/
  freshOwner : ∀ q i, (s.dst q).map File.ino = some i → i < cfg.n →
    (cfg.worker q).inode = (cfg.worker i).inode ∧ (s.pc i).pastCopy = true
  /-- the recorded first path exists and has the source's content -/
  doneDst : ∀ i p, s.map i = some (.completed p) → (s.dst p).map File.content = some (cfg.content i)
  /-- after its copy operation the worker's own destination has the source's content -/
  copied : ∀ v, (s.pc v).copied = true →
    (s.dst v).map File.content = some (cfg.content (cfg.worker v).inode)
  /-- result `ok` of a hard-link candidate that was transferred: a first path is recorded … -/
  okLinkedMap : ∀ v, (cfg.worker v).linked = true → (cfg.worker v).action ≠ .skip →
    s.pc v = .done .ok → ∃ p, s.map (cfg.worker v).inode = some (.completed p)
  /-- … its path names the inode of that first path and has the source's content -/
  okLinkedDst : ∀ v p, (cfg.worker v).linked = true → (cfg.worker v).action ≠ .skip →
    s.pc v = .done .ok → s.map (cfg.worker v).inode = some (.completed p) →
      (s.dst v).map File.ino = (s.dst p).map File.ino ∧
      (s.dst v).map File.content = some (cfg.content (cfg.worker v).inode)
  /-- result `ok` of an ordinary file that was transferred -/
  okPlain : ∀ v, (cfg.worker v).linked = false → (cfg.worker v).action ≠ .skip → s.pc v = .done .ok →
    (s.dst v).map File.content = some (cfg.content (cfg.worker v).inode)
  /-- paths outside the run do not exist -/
  outside : ∀ v, cfg.n ≤ v → s.dst v = none
  /-- nobody but the updating worker itself removes the path it updates -/
  updDst : ∀ v, v < cfg.n → (cfg.worker v).action = .update → (s.pc v).beforeRelink = true →
    (s.dst v).isSome = true

/-! ### `writeThrough` and `sharedIno` -/

theorem wt_ino (d : Nat → Option File) (w c v : Nat) :
    (writeThrough d w c v).map File.ino = (d v).map File.ino := by
  unfold writeThrough
  cases d w <;> cases d v <;> simp
  split <;> simp

theorem wt_content (d : Nat → Option File) (w c v : Nat) :
    (writeThrough d w c v).map File.content =
      if (d v).isSome = true ∧ (d v).map File.ino = (d w).map File.ino then some c
      else (d v).map File.content := by
  unfold writeThrough
  cases hw : d w <;> cases hv : d v <;> simp
  split <;> simp_all

theorem isSome_of_ino (o : Option File) (i : Nat) (h : o.map File.ino = some i) : o.isSome = true := by
  cases o <;> simp_all

theorem wt_isSome (d : Nat → Option File) (w c v : Nat) :
    (writeThrough d w c v).isSome = (d v).isSome := by
  unfold writeThrough
  cases hw : d w <;> cases hv : d v <;> simp
  split <;> simp

theorem wt_none (d : Nat → Option File) (w c v : Nat) : writeThrough d w c v = none ↔ d v = none := by
  unfold writeThrough
  cases hw : d w <;> cases hv : d v <;> simp
  split <;> simp

theorem sharedIno_false {n : Nat} {dst : Nat → Option File} {w i : Nat} (h : sharedIno n dst w i = false)
    (q : Nat) (hq : q < n) (hne : q ≠ w) : (dst q).map File.ino ≠ some i := by
  unfold sharedIno at h
  simp only [List.any_eq_false, List.mem_range] at h
  have := h q hq
  cases hd : dst q with
  | none => simp
  | some f =>
    rw [hd] at this
    simp only [Option.map_some, ne_eq, Option.some.injEq]
    intro he
    apply this
    simp [hne, he]

theorem unshared {cfg : Cfg} {s : State} {w : Nat} (hout : ∀ v, cfg.n ≤ v → s.dst v = none) {fw : File}
    (hsh : sharedIno cfg.n s.dst w fw.ino = false) (r : Nat) (hr : r ≠ w) :
    (s.dst r).map File.ino ≠ some fw.ino := by
  by_cases hlt : r < cfg.n
  · exact sharedIno_false hsh r hlt hr
  · rw [hout r (by omega)]; exact fun h => by cases h

theorem writeThrough_unshared {d : Nat → Option File} {w c : Nat} {fw : File} (hfw : d w = some fw)
    (hsh : ∀ r, r ≠ w → (d r).map File.ino ≠ some fw.ino) :
    writeThrough d w c = fun v => if v = w then some ⟨fw.ino, c⟩ else d v := by
  funext v
  unfold writeThrough
  rw [hfw]
  by_cases hv : v = w
  · subst hv; simp only [hfw, ↓reduceIte]
  · have := hsh v hv
    cases hdv : d v with
    | none => simp only [hv, ↓reduceIte]
    | some fv =>
      rw [hdv] at this
      simp only [hv, ↓reduceIte]
      exact if_neg fun h => this (congrArg some h)

/-! ### the initial state -/

theorem inv_init (cfg : Cfg) : Inv cfg (init cfg) := by
  constructor
  · intro v _; simp only [init]; split <;> rfl
  · intro v _ h; simp only [init] at h; split at h <;> simp [Pc.holdsClaim] at h
  · intro i g h; simp [init] at h
  · intro g; left; rfl
  · intro i p h; simp [init] at h
  · intro v p h; simp only [init] at h; split at h <;> simp [Pc.linksTo] at h
  · intro v h; simp only [init] at h; split at h <;> cases h

theorem invR_init (cfg : Cfg) : InvR cfg (init cfg) := by
  constructor
  · intro v g h; simp only [init] at h; split at h <;> simp [Pc.waitsOn] at h
  · intro v g snap h; simp only [init] at h; split at h <;> cases h
  · intro v g snap h; simp only [init] at h; split at h <;> cases h

theorem invD_init (cfg : Cfg) (h : cfg.DstOk) : InvD cfg (init cfg) := by
  obtain ⟨h1, h2, h4⟩ := h
  have key : ∀ q i, ((init cfg).dst q).map File.ino = some i →
      q < cfg.n ∧ ∃ f, (cfg.worker q).dst0 = some f ∧ f.ino = i := by
    intro q i hq
    simp only [init] at hq
    split at hq
    · refine ⟨‹_›, ?_⟩
      cases hf : (cfg.worker q).dst0 with
      | none => simp [hf] at hq
      | some f => simp [hf] at hq; exact ⟨f, rfl, hq⟩
    · simp at hq
  have dst_eq : ∀ q, q < cfg.n → (init cfg).dst q = (cfg.worker q).dst0 := by
    intro q hq; simp [init, hq]
  -- at the start only skipped paths have returned
  have notOk : ∀ v, (cfg.worker v).action ≠ .skip → (init cfg).pc v ≠ .done .ok := by
    intro v hs hp
    simp only [init] at hp
    split at hp
    · exact hs ‹_›
    · cases hp
  constructor
  · intro p r i hroot hor _ _
    simp only [init] at hroot hor
    split at hroot
    · rename_i hskip
      simp only [hskip, ↓reduceIte, Pc.copied, Bool.false_eq_true, reduceCtorEq, false_or] at hor
      rcases hor with ⟨_, hact⟩ | hm
      · exact absurd rfl hact
      · cases hm
    · simp [Pc.rootPc] at hroot
  · intro q r i hq hr
    obtain ⟨hq', fq, hfq, hiq⟩ := key q i hq
    obtain ⟨hr', fr, hfr, hir⟩ := key r i hr
    rw [dst_eq q hq', dst_eq r hr', hfq, hfr]
    simp [h2 q r fq fr hq' hr' hfq hfr (by rw [hiq, hir])]
  · intro q i hq hlt
    obtain ⟨hq', f, hf, hi⟩ := key q i hq
    have := h1 q f hq' hf
    omega
  · intro i p hm; simp [init] at hm
  · intro v hv
    simp only [init] at hv
    split at hv <;> simp [Pc.copied] at hv
  · exact fun v _ hs hp => (notOk v hs hp).elim
  · exact fun v p _ hs hp => (notOk v hs hp).elim
  · exact fun v _ hs hp => (notOk v hs hp).elim
  · intro v hv
    simp only [init]
    rw [if_neg (by omega)]
  · intro v hv hu _
    rw [dst_eq v hv]
    exact h4 v hv hu

/-! ### what a micro-step is, as far as the invariants can see -/

/-- A micro-step of worker `w` from (`pc`, `entry`, `calls`, `dst`), described by what the proofs about
    the protocol read: the classes of the pc before and after, how the entry of `w`'s inode changes, and
    the shape of a destination change.  Every enabled step has it (`next_ok`); the preservation of the
    invariants, the error path of a failing owner and the clean-run argument use nothing else about
    `next`. -/
structure Effect.Ok (cfg : Cfg) (w : Nat) (pc : Pc) (entry : Option Entry) (calls : Nat → Nat)
    (dst : Nat → Option File) (l : Label) (e : Effect) : Prop where
  notDone : pc.isDone = false
  plain : (cfg.worker w).linked = false → pc.plainOk = true → e.pc.plainOk = true
  /-- only a hard-link candidate touches the map, and only to claim a free inode or while it holds
      the claim -/
  mapLinked : e.map.isSome = true → pc.plainOk = false
  mapFrom : e.map.isSome = true → entry = none ∨ pc.holdsClaim = true
  mapTo : ∀ m, e.map = some m →
    (m = some (.inProgress w) ∧ e.pc.holdsClaim = true) ∨ (m = some (.completed w) ∧ e.pc = .notifyOk) ∨
      m = none
  claim : e.pc.holdsClaim = true →
    e.map = some (some (.inProgress w)) ∨ (e.map = none ∧ pc.holdsClaim = true) ∨
      (cfg.worker w).linked = false
  keepClaim : pc.holdsClaim = true → e.map = none → e.pc.holdsClaim = true ∨
    (cfg.worker w).linked = false ∨ (cfg.variant = .pinned ∧ ∃ op, e.pc = .done (.err op))
  notify : e.notify = true → e.pc.isDone = true
  fromNotifyOk : pc = .notifyOk → e.pc = .done .ok
  links : ∀ p, e.pc.linksTo = some p →
    e.map = none ∧ (pc.linksTo = some p ∨ ((cfg.worker w).linked = true ∧ entry = some (.completed p)))
  toNotifyOk : e.pc = .notifyOk → e.map = some (some (.completed w))
  waits : ∀ g, e.pc.waitsOn = some g → pc.waitsOn = some g ∨ entry = some (.inProgress g)
  owner : cfg.variant = .repaired → (cfg.worker w).linked = true →
    pc.holdsClaim = true ∨ pc.notifying = true → e.notify = false →
    e.pc.holdsClaim = true ∨ e.pc.notifying = true
  toWaiting : cfg.variant = .repaired → ∀ g snap, e.pc = .waiting g snap →
    pc = .waiting g snap ∨ (pc = .armed g snap ∧ entry = some (.inProgress g))
  toArmed : ∀ g snap, e.pc = .armed g snap → snap ≤ calls g
  /-- a failed operation enters the error path (at once the return of that error, except for a claim holder of
      the repaired protocol, who releases the claim first), which only leads to the return of that error;
      without failures nobody gets there -/
  opErr : ∀ op, l = .opErr op → e.pc.errPath op = true
  errPath : ∀ op, pc.errPath op = true → e.pc.errPath op = true
  errish : (cfg.worker w).clean = true → (∀ p k, pc = .removeOp p k → (dst w).isSome = true) →
    pc.errish = false → e.pc.errish = false
  updateOnly : e.pc.updateOnly = true → pc.updateOnly = true ∨ (cfg.worker w).action = .update
  pastCopy : pc.pastCopy = true → e.pc.pastCopy = true
  relink : e.pc.beforeRelink = true → pc.beforeRelink = true
  completes : e.map = some (some (.completed w)) → pc.copied = true
  keepRoot : e.dst = .keep → e.pc.rootPc = true → pc.rootPc = true ∨ pc.linksTo.isSome = true
  keepCopied : e.dst = .keep → e.pc.copied = true → pc.copied = true
  /-- the three ways to return `ok` without touching the destination: the owner after its signal, an
      ordinary file after its attributes, an updated member that already names the first path's inode -/
  keepDone : e.dst = .keep → e.pc = .done .ok →
    pc = .notifyOk ∨ (pc = .metaOp ∧ (cfg.worker w).linked = false) ∨
      ∃ p fp fw, pc = .sameOp p ∧ dst p = some fp ∧ dst w = some fw ∧ fp.ino = fw.ino
  /-- the destination changes in four ways only: a link to the recorded first path, the removal of
      an updated member before its re-link, a copy to a fresh inode, a write through the own inode
      when no other path names it -/
  change : e.dst = .keep ∨
    (∃ p, pc = .linkOp p 0 ∧ e = { pc := .done .ok, dst := .set (dst p) }) ∨
    (∃ p, pc = .removeOp p 0 ∧ dst w ≠ none ∧
      e = { pc := .linkOp p (cfg.worker w).yLink, dst := .set none }) ∨
    (pc.pastCopy = false ∧
      (e = { pc := .metaOp, dst := .set (some ⟨w, cfg.content (cfg.worker w).inode⟩) } ∨
        ∃ fw, dst w = some fw ∧ sharedIno cfg.n dst w fw.ino = false ∧
          e = { pc := .metaOp, dst := .through (cfg.content (cfg.worker w).inode) }))

section
-- as local simp lemmas, not as arguments of the `simp` below: the simp set is then built once, not once
-- for each of the ≈ 1000 goals
attribute [local simp] Pc.isDone Pc.plainOk Pc.holdsClaim Pc.linksTo Pc.waitsOn Pc.notifying Pc.pastCopy
  Pc.beforeRelink Pc.copied Pc.rootPc Pc.errPath Pc.errish Pc.updateOnly WorkerCfg.clean

/-- unfold `next` at a pc whose constructor (and yield counter) is known, and check every field of
    `Effect.Ok` on each branch: all are facts about the pc classes of two constructors -/
local macro "next_ok_at" h:ident : tactic => `(tactic| (
  simp only [next, failPc] at $h:ident
  (repeat' split at $h:ident) <;> cases $h:ident <;> constructor <;>
    simp [*]))

theorem next_ok {cfg : Cfg} {w : Nat} {pc : Pc} {entry : Option Entry} {calls : Nat → Nat}
    {dst : Nat → Option File} {l : Label} {e : Effect}
    (h : next cfg w (cfg.worker w) pc entry calls dst = some (l, e)) :
    e.Ok cfg w pc entry calls dst l := by
  cases pc
  case linkOp p k => cases k <;> next_ok_at h
  case removeOp p k =>
    cases k <;> next_ok_at h
    -- `errish`: the removal of a clean worker fails only where there is no file, which the hypothesis excludes
    · intros
      cases hw : dst w <;> simp_all
    -- `change`: the successful removal found a file
    · simp_all
  case mkdirOp k => cases k <;> next_ok_at h
  case copyOp k => cases k <;> next_ok_at h
  case syncOp k =>
    cases k <;> next_ok_at h
    -- `change`: the write-through branch is the one where no other path names the inode
    simp_all
  all_goals next_ok_at h

end

section
variable {cfg : Cfg} {s : State} {w : Nat} {l : Label} {e : Effect}

theorem Inv.linked_of_not_plain (hi : Inv cfg s) {v : Nat} (h : (s.pc v).plainOk = false) :
    (cfg.worker v).linked = true := by
  cases hl : (cfg.worker v).linked
  · rw [hi.plain v hl] at h; cases h
  · rfl

theorem Effect.Ok.own (ok : e.Ok cfg w (s.pc w) (s.map (cfg.worker w).inode) s.calls s.dst l)
    (hi : Inv cfg s) (hm : e.map.isSome = true) :
    s.map (cfg.worker w).inode = none ∨ s.map (cfg.worker w).inode = some (.inProgress w) :=
  (ok.mapFrom hm).imp id (hi.claimMap w (hi.linked_of_not_plain (ok.mapLinked hm)))

theorem Effect.Ok.map_stable (ok : e.Ok cfg w (s.pc w) (s.map (cfg.worker w).inode) s.calls s.dst l)
    (hi : Inv cfg s) {j : Nat} {x : Entry} (hx : s.map j = some x) (hne : x ≠ .inProgress w) :
    (s.apply w (cfg.worker w).inode e).map j = some x := by
  by_cases hj : j = (cfg.worker w).inode
  · subst hj
    rw [apply_map_self, Effect.entryAfter]
    cases hm : e.map with
    | none => exact hx
    | some m =>
      rcases ok.own hi (by rw [hm]; rfl) with h | h <;> rw [hx] at h <;> cases h
      exact absurd rfl hne
  · rw [apply_map_other _ _ _ _ _ hj]; exact hx

theorem Effect.Ok.map_new (ok : e.Ok cfg w (s.pc w) (s.map (cfg.worker w).inode) s.calls s.dst l)
    (hi : Inv cfg s) {j : Nat} {x : Entry} (hx : (s.apply w (cfg.worker w).inode e).map j = some x) :
    s.map j = some x ∨ (j = (cfg.worker w).inode ∧ (cfg.worker w).linked = true ∧
      ((x = .inProgress w ∧ e.pc.holdsClaim = true) ∨
        (x = .completed w ∧ e.pc = .notifyOk ∧ (s.pc w).copied = true ∧
          s.map j = some (.inProgress w)))) := by
  by_cases hj : j = (cfg.worker w).inode
  · subst hj
    rw [apply_map_self, Effect.entryAfter] at hx
    cases hm : e.map with
    | none => rw [hm] at hx; exact .inl hx
    | some m =>
      rw [hm] at hx
      have hl := hi.linked_of_not_plain (ok.mapLinked (by rw [hm]; rfl))
      rcases ok.mapTo m hm with ⟨rfl, h⟩ | ⟨rfl, h⟩ | rfl
      · cases hx; exact .inr ⟨rfl, hl, .inl ⟨rfl, h⟩⟩
      · cases hx
        have hc := ok.completes hm
        exact .inr ⟨rfl, hl, .inr ⟨rfl, h, hc, hi.claimMap w hl (Pc.copied_holdsClaim _ hc)⟩⟩
      · cases hx
  · rw [apply_map_other _ _ _ _ _ hj] at hx; exact .inl hx

theorem Inv.apply (hi : Inv cfg s) (hw : w < cfg.n)
    (ok : e.Ok cfg w (s.pc w) (s.map (cfg.worker w).inode) s.calls s.dst l) :
    Inv cfg (s.apply w (cfg.worker w).inode e) := by
  have hnd : ∀ r, s.pc w ≠ .done r := fun r h => by have := ok.notDone; rw [h] at this; cases this
  constructor
  · intro v hv
    by_cases hvw : v = w
    · subst hvw; rw [apply_pc_self]; exact ok.plain hv (hi.plain v hv)
    · rw [apply_pc_other hvw]; exact hi.plain v hv
  · intro v hl hc
    by_cases hvw : v = w
    · subst hvw
      rw [apply_pc_self] at hc
      rw [apply_map_self, Effect.entryAfter]
      rcases ok.claim hc with hm | ⟨hm, hc0⟩ | hnl
      · rw [hm]
      · rw [hm]; exact hi.claimMap v hl hc0
      · rw [hl] at hnl; cases hnl
    · rw [apply_pc_other hvw] at hc
      exact ok.map_stable hi (hi.claimMap v hl hc) (fun h => hvw (Entry.inProgress.inj h))
  · intro i g hm
    rcases ok.map_new hi hm with hold | ⟨rfl, hl, ⟨hx, hc⟩ | ⟨hx, _⟩⟩
    · obtain ⟨hg, hgl, hgi, hgc⟩ := hi.mapClaim i g hold
      refine ⟨hg, hgl, hgi, ?_⟩
      by_cases hgw : g = w
      · subst hgw
        rw [apply_pc_self]
        have hc0 : (s.pc g).holdsClaim = true := hgc.resolve_right fun ⟨_, op, h⟩ => hnd _ h
        subst hgi
        rw [apply_map_self, Effect.entryAfter] at hm
        cases hmap : e.map with
        | none =>
          rcases ok.keepClaim hc0 hmap with h | h | h
          · exact .inl h
          · rw [hgl] at h; cases h
          · exact .inr h
        | some m =>
          rw [hmap] at hm
          rcases ok.mapTo m hmap with ⟨_, h⟩ | ⟨rfl, _⟩ | rfl
          · exact .inl h
          · cases hm
          · cases hm
      · rw [apply_pc_other hgw]; exact hgc
    · cases hx; exact ⟨hw, hl, rfl, .inl (by rw [apply_pc_self]; exact hc)⟩
    · cases hx
  · intro g
    rw [apply_calls]
    by_cases hgw : g = w
    · subst hgw
      rw [apply_pc_self]
      cases hn : e.notify
      · refine .inl ?_
        simp only [Effect.callsAfter, hn]
        exact (hi.notified g).resolve_right (by rw [ok.notDone]; exact Bool.false_ne_true)
      · exact .inr (ok.notify hn)
    · rw [apply_pc_other hgw, Effect.callsAfter_other _ _ hgw]; exact hi.notified g
  · intro i p hm
    rcases ok.map_new hi hm with hold | ⟨rfl, hl, ⟨hx, _⟩ | ⟨hx, hpc, _⟩⟩
    · obtain ⟨hp, hpl, hpi, hpp⟩ := hi.mapDone i p hold
      refine ⟨hp, hpl, hpi, ?_⟩
      by_cases hpw : p = w
      · subst hpw
        rw [apply_pc_self]
        exact .inr (ok.fromNotifyOk (hpp.resolve_right (hnd _)))
      · rw [apply_pc_other hpw]; exact hpp
    · cases hx
    · cases hx; exact ⟨hw, hl, rfl, .inl (by rw [apply_pc_self]; exact hpc)⟩
  · intro v p hlk
    by_cases hvw : v = w
    · subst hvw
      rw [apply_pc_self] at hlk
      obtain ⟨hm, hor⟩ := ok.links p hlk
      rw [apply_map_self, Effect.entryAfter, hm]
      exact hor.elim (hi.linking v p) id
    · rw [apply_pc_other hvw] at hlk
      obtain ⟨h1, h2⟩ := hi.linking v p hlk
      exact ⟨h1, ok.map_stable hi h2 (fun h => by cases h)⟩
  · intro v hv
    by_cases hvw : v = w
    · subst hvw
      rw [apply_pc_self] at hv
      have hm := ok.toNotifyOk hv
      refine ⟨hi.linked_of_not_plain (ok.mapLinked (by rw [hm]; rfl)), ?_⟩
      rw [apply_map_self, Effect.entryAfter, hm]
    · rw [apply_pc_other hvw] at hv
      obtain ⟨h1, h2⟩ := hi.notifyOkMap v hv
      exact ⟨h1, ok.map_stable hi h2 (fun h => by cases h)⟩

theorem Inv.claimed (hv : cfg.variant = .repaired) (hi : Inv cfg s) {i g : Nat}
    (h : s.map i = some (.inProgress g)) : (s.pc g).holdsClaim = true :=
  (hi.mapClaim _ _ h).2.2.2.resolve_right fun ⟨hp, _⟩ => by rw [hv] at hp; cases hp

theorem InvR.apply (hv : cfg.variant = .repaired) (hi : Inv cfg s) (hr : InvR cfg s)
    (ok : e.Ok cfg w (s.pc w) (s.map (cfg.worker w).inode) s.calls s.dst l) :
    InvR cfg (s.apply w (cfg.worker w).inode e) := by
  constructor
  · intro v g hwt
    have old : g < cfg.n ∧ (cfg.worker g).linked = true ∧
        (s.calls g = 0 → (s.pc g).holdsClaim = true ∨ (s.pc g).notifying = true) := by
      by_cases hvw : v = w
      · subst hvw
        rw [apply_pc_self] at hwt
        rcases ok.waits g hwt with h | h
        · exact hr.waits v g h
        · obtain ⟨hg, hgl, _⟩ := hi.mapClaim _ g h
          exact ⟨hg, hgl, fun _ => .inl (hi.claimed hv h)⟩
      · rw [apply_pc_other hvw] at hwt; exact hr.waits v g hwt
    obtain ⟨hg, hgl, hold⟩ := old
    refine ⟨hg, hgl, fun hc => ?_⟩
    rw [apply_calls] at hc
    by_cases hgw : g = w
    · subst hgw
      rw [apply_pc_self]
      cases hn : e.notify
      · simp only [Effect.callsAfter, hn] at hc
        exact ok.owner hv hgl (hold hc) hn
      · simp [Effect.callsAfter, hn] at hc
    · rw [apply_pc_other hgw]
      rw [Effect.callsAfter_other _ _ hgw] at hc
      exact hold hc
  · intro v g snap hp
    by_cases hvw : v = w
    · subst hvw
      rw [apply_pc_self] at hp
      rcases ok.toWaiting hv g snap hp with h | ⟨h, he⟩
      · exact hr.snapWaiting v g snap h
      · -- the owner has not returned, so its `Notify` was never signalled
        have := hr.snapArmed v g snap h
        have := (hi.notified g).resolve_right
          (by rw [Pc.holdsClaim_not_done _ (hi.claimed hv he)]; exact Bool.false_ne_true)
        omega
    · rw [apply_pc_other hvw] at hp; exact hr.snapWaiting v g snap hp
  · intro v g snap hp
    rw [apply_calls]
    refine Nat.le_trans ?_ (e.le_callsAfter s.calls w g)
    by_cases hvw : v = w
    · subst hvw; rw [apply_pc_self] at hp; exact ok.toArmed g snap hp
    · rw [apply_pc_other hvw] at hp; exact hr.snapArmed v g snap hp

/-- `InvD` across a step that leaves the destination alone: the name space is the old one, so every
    clause reduces to how the acting worker's pc class and its inode's entry moved. -/
theorem InvD.keep (hi : Inv cfg s) (hd : InvD cfg s)
    (ok : e.Ok cfg w (s.pc w) (s.map (cfg.worker w).inode) s.calls s.dst l) (hk : e.dst = .keep) :
    InvD cfg (s.apply w (cfg.worker w).inode e) := by
  have hdst : (s.apply w (cfg.worker w).inode e).dst = s.dst := by simp only [State.apply, hk]
  have completed : ∀ {j p}, (s.apply w (cfg.worker w).inode e).map j = some (.completed p) →
      s.map j = some (.completed p) ∨ (p = w ∧ j = (cfg.worker w).inode ∧ (s.pc w).copied = true ∧
        s.map j = some (.inProgress w)) := by
    intro j p h
    rcases ok.map_new hi h with h | ⟨hj, _, ⟨hx, _⟩ | ⟨hx, _, hc⟩⟩
    · exact .inl h
    · cases hx
    · cases hx; exact .inr ⟨rfl, hj, hc⟩
  -- the ways the acting worker returns `ok` here: the entry it leaves behind and its own file
  have doneOk : e.pc = .done .ok → (cfg.worker w).linked = true →
      ∃ p, s.map (cfg.worker w).inode = some (.completed p) ∧
        (s.dst w).map File.ino = (s.dst p).map File.ino ∧
        (s.dst w).map File.content = some (cfg.content (cfg.worker w).inode) := by
    intro hp hl
    rcases ok.keepDone hk hp with h | ⟨_, h⟩ | ⟨p, fp, fw, h, hfp, hfw, hino⟩
    · obtain ⟨_, hm⟩ := hi.notifyOkMap w h
      exact ⟨w, hm, rfl, hd.doneDst _ w hm⟩
    · rw [hl] at h; cases h
    · obtain ⟨_, hm⟩ := hi.linking w p (by rw [h]; rfl)
      have hi' : (s.dst w).map File.ino = (s.dst p).map File.ino := by rw [hfp, hfw, Option.map_some, Option.map_some, hino]
      refine ⟨p, hm, hi', ?_⟩
      rw [hd.inoContent w p fw.ino (by rw [hfw]; rfl) (by rw [hfp, Option.map_some, hino]), hd.doneDst _ p hm]
  constructor
  · intro p r i hroot hcond hp hr
    rw [hdst] at hp hr
    by_cases hpw : p = w
    · subst hpw
      rw [apply_pc_self] at hroot hcond
      rcases ok.keepRoot hk hroot with h0 | hlk
      · refine hd.refines p r i h0 ?_ hp hr
        rcases hcond with h | h | h
        · exact .inl h
        · exact .inr (.inl (ok.keepCopied hk h))
        · exact (completed h).elim (.inr ∘ .inr) fun ⟨_, _, hc, _⟩ => .inr (.inl hc)
      · -- a member that returns `ok` is no root: it is linked, has no copy of its own, and the
        -- recorded first path is another worker's
        obtain ⟨p', hp'⟩ := Option.isSome_iff_exists.1 hlk
        obtain ⟨hl, hm⟩ := hi.linking p p' hp'
        have hpp' : p' ≠ p := fun h => by
          subst h
          rcases (hi.mapDone _ _ hm).2.2.2 with h | h <;> rw [h] at hp' <;> cases hp'
        rcases hcond with ⟨h, _⟩ | h | h
        · rw [hl] at h; cases h
        · rw [Pc.copied_linksTo _ (ok.keepCopied hk h)] at hp'; cases hp'
        · rw [ok.map_stable hi hm (fun h => by cases h)] at h
          exact absurd (Entry.completed.inj (Option.some.inj h)) hpp'
    · rw [apply_pc_other hpw] at hroot hcond
      refine hd.refines p r i hroot (hcond.imp_right (.imp_right fun h => ?_)) hp hr
      exact (completed h).elim id fun ⟨h, _⟩ => absurd h hpw
  · intro q r i hq hr
    rw [hdst] at hq hr ⊢
    exact hd.inoContent q r i hq hr
  · intro q i hq hlt
    rw [hdst] at hq
    obtain ⟨h1, h2⟩ := hd.freshOwner q i hq hlt
    refine ⟨h1, ?_⟩
    by_cases hiw : i = w
    · subst hiw; rw [apply_pc_self]; exact ok.pastCopy h2
    · rw [apply_pc_other hiw]; exact h2
  · intro i p hm
    rw [hdst]
    rcases completed hm with h | ⟨rfl, rfl, hc, _⟩
    · exact hd.doneDst i p h
    · exact hd.copied p hc
  · intro v hv
    rw [hdst]
    by_cases hvw : v = w
    · subst hvw; rw [apply_pc_self] at hv; exact hd.copied v (ok.keepCopied hk hv)
    · rw [apply_pc_other hvw] at hv; exact hd.copied v hv
  · intro v hl hs hp
    by_cases hvw : v = w
    · subst hvw
      rw [apply_pc_self] at hp
      obtain ⟨p, hm, _⟩ := doneOk hp hl
      exact ⟨p, ok.map_stable hi hm (fun h => by cases h)⟩
    · rw [apply_pc_other hvw] at hp
      obtain ⟨p, hm⟩ := hd.okLinkedMap v hl hs hp
      exact ⟨p, ok.map_stable hi hm (fun h => by cases h)⟩
  · intro v p hl hs hp hm
    rw [hdst]
    by_cases hvw : v = w
    · subst hvw
      rw [apply_pc_self] at hp
      obtain ⟨p', hm', hino, hc⟩ := doneOk hp hl
      rw [ok.map_stable hi hm' (fun h => by cases h)] at hm
      cases hm
      exact ⟨hino, hc⟩
    · rw [apply_pc_other hvw] at hp
      rcases completed hm with h | ⟨_, _, _, hown⟩
      · exact hd.okLinkedDst v p hl hs hp h
      · -- the owner held the claim until now, so nobody of its group had returned `ok`
        obtain ⟨p', hm'⟩ := hd.okLinkedMap v hl hs hp
        rw [hm'] at hown; cases hown
  · intro v hl hs hp
    rw [hdst]
    by_cases hvw : v = w
    · subst hvw
      rw [apply_pc_self] at hp
      rcases ok.keepDone hk hp with h | ⟨h, _⟩ | ⟨p, _, _, h, _⟩
      · rw [(hi.notifyOkMap v h).1] at hl; cases hl
      · exact hd.copied v (by rw [h]; rfl)
      · rw [(hi.linking v p (by rw [h]; rfl)).1] at hl; cases hl
    · rw [apply_pc_other hvw] at hp; exact hd.okPlain v hl hs hp
  · intro v hv
    rw [hdst]; exact hd.outside v hv
  · intro v hv hu hb
    rw [hdst]
    by_cases hvw : v = w
    · subst hvw; rw [apply_pc_self] at hb; exact hd.updDst v hv hu (ok.relink hb)
    · rw [apply_pc_other hvw] at hb; exact hd.updDst v hv hu hb

/-- `InvD` across a step that only moves the acting worker's pc and replaces its own destination
    file by `d`: what must be known about `d` for each clause that can see it (`d = none` occurs for
    the removal before a re-link only).  Instances not mentioning `w` carry over unchanged. -/
theorem InvD.setOwn {pc1 : Pc} {d : Option File} (hi : Inv cfg s) (hd : InvD cfg s) (hw : w < cfg.n)
    (hpc : (s.pc w).pastCopy = false)
    (hroot : pc1.rootPc = true → ((cfg.worker w).linked = false ∨ pc1.copied = true) →
      ∀ r, r ≠ w → (s.dst r).map File.ino ≠ d.map File.ino ∨ d = none)
    (hnames : ∀ r, r ≠ w → ∀ i, (s.dst r).map File.ino = some i → d.map File.ino = some i →
      ∃ p, p ≠ w ∧ s.map (cfg.worker w).inode = some (.completed p) ∧ s.dst p = d)
    (hfresh : ∀ i, d.map File.ino = some i → i < cfg.n →
      (cfg.worker w).inode = (cfg.worker i).inode ∧
        ((i = w ∧ pc1.pastCopy = true) ∨ (s.pc i).pastCopy = true))
    (hcopied : pc1.copied = true → d.map File.content = some (cfg.content (cfg.worker w).inode))
    (hdone : pc1 = .done .ok → (cfg.worker w).linked = true ∧
      ∃ p, p ≠ w ∧ s.map (cfg.worker w).inode = some (.completed p) ∧ s.dst p = d)
    (hupd : (cfg.worker w).action = .update → pc1.beforeRelink = true → d.isSome = true) :
    InvD cfg (s.apply w (cfg.worker w).inode { pc := pc1, dst := .set d }) := by
  have dself : (s.apply w (cfg.worker w).inode { pc := pc1, dst := .set d }).dst w = d := by
    simp only [State.apply, ↓reduceIte]
  have dother : ∀ {v}, v ≠ w →
      (s.apply w (cfg.worker w).inode { pc := pc1, dst := .set d }).dst v = s.dst v :=
    fun h => by simp only [State.apply, h, ↓reduceIte]
  have hmap : (s.apply w (cfg.worker w).inode { pc := pc1, dst := .set d }).map = s.map := rfl
  have notRec : ∀ {i}, s.map i ≠ some (.completed w) := fun h => by
    rcases (hi.mapDone _ w h).2.2.2 with h | h <;> rw [h] at hpc <;> cases hpc
  have alias : ∀ {p}, p ≠ w → s.map (cfg.worker w).inode = some (.completed p) → s.dst p = d →
      (cfg.worker p).inode = (cfg.worker w).inode ∧
      d.map File.content = some (cfg.content (cfg.worker w).inode) := fun _ hm hdp =>
    ⟨(hi.mapDone _ _ hm).2.2.1, hdp ▸ hd.doneDst _ _ hm⟩
  constructor
  · intro p r i hrt hcond hp hr
    rw [hmap] at hcond
    by_cases hpw : p = w
    · subst hpw
      by_cases hrw : r = p
      · rw [hrw]
      · rw [apply_pc_self] at hrt hcond
        rw [dself] at hp
        rw [dother hrw] at hr
        rcases or_assoc.2 hcond with h | h
        · rcases hroot hrt (h.imp And.left id) r hrw with h | h
          · rw [hp, hr] at h; exact absurd rfl h
          · rw [h] at hp; cases hp
        · exact absurd h notRec
    · rw [apply_pc_other hpw] at hrt hcond
      rw [dother hpw] at hp
      by_cases hrw : r = w
      · subst hrw
        rw [dself] at hr
        obtain ⟨p', hp', hm, hdp⟩ := hnames p hpw i hp hr
        rw [← hdp] at hr
        rw [hd.refines p p' i hrt hcond hp hr, (alias hp' hm hdp).1]
      · rw [dother hrw] at hr; exact hd.refines p r i hrt hcond hp hr
  · -- names of the new file's inode are aliases of the first path, whose content it has
    have own : ∀ r i, r ≠ w → (s.dst r).map File.ino = some i → d.map File.ino = some i →
        (s.dst r).map File.content = d.map File.content := by
      intro r i hrw hr hdi
      obtain ⟨p', _, _, hdp⟩ := hnames r hrw i hr hdi
      rw [← hdp] at hdi ⊢
      exact hd.inoContent r p' i hr hdi
    intro q r i hq hr
    by_cases hqw : q = w <;> by_cases hrw : r = w
    · rw [hqw, hrw]
    · subst hqw; rw [dself] at hq ⊢; rw [dother hrw] at hr ⊢; exact (own r i hrw hr hq).symm
    · subst hrw; rw [dself] at hr ⊢; rw [dother hqw] at hq ⊢; exact own q i hqw hq hr
    · rw [dother hqw] at hq ⊢; rw [dother hrw] at hr ⊢; exact hd.inoContent q r i hq hr
  · intro q i hq hlt
    have hpi : ∀ {i}, (s.pc i).pastCopy = true →
        ((s.apply w (cfg.worker w).inode { pc := pc1, dst := .set d }).pc i).pastCopy = true := by
      intro i h
      by_cases hiw : i = w
      · subst hiw; rw [hpc] at h; cases h
      · rw [apply_pc_other hiw]; exact h
    by_cases hqw : q = w
    · subst hqw
      rw [dself] at hq
      obtain ⟨h1, h2⟩ := hfresh i hq hlt
      refine ⟨h1, h2.elim (fun ⟨h, h'⟩ => ?_) hpi⟩
      subst h
      rw [apply_pc_self]
      exact h'
    · rw [dother hqw] at hq
      obtain ⟨h1, h2⟩ := hd.freshOwner q i hq hlt
      exact ⟨h1, hpi h2⟩
  · intro i p hm
    rw [hmap] at hm
    have hpw : p ≠ w := fun h => notRec (h ▸ hm)
    rw [dother hpw]; exact hd.doneDst i p hm
  · intro v hv
    by_cases hvw : v = w
    · subst hvw; rw [apply_pc_self] at hv; rw [dself]; exact hcopied hv
    · rw [apply_pc_other hvw] at hv; rw [dother hvw]; exact hd.copied v hv
  · intro v hl hs hp
    by_cases hvw : v = w
    · subst hvw
      rw [apply_pc_self] at hp
      obtain ⟨_, p, _, hm, _⟩ := hdone hp
      exact ⟨p, hm⟩
    · rw [apply_pc_other hvw] at hp; exact hd.okLinkedMap v hl hs hp
  · intro v p hl hs hp hm
    rw [hmap] at hm
    have hpw : p ≠ w := fun h => notRec (h ▸ hm)
    rw [dother hpw]
    by_cases hvw : v = w
    · subst hvw
      rw [apply_pc_self] at hp
      obtain ⟨_, p', hp', hm', hdp⟩ := hdone hp
      rw [hm'] at hm; cases hm
      rw [dself, hdp]
      exact ⟨rfl, (alias hp' hm' hdp).2⟩
    · rw [apply_pc_other hvw] at hp; rw [dother hvw]; exact hd.okLinkedDst v p hl hs hp hm
  · intro v hl hs hp
    by_cases hvw : v = w
    · subst hvw
      rw [apply_pc_self] at hp
      rw [(hdone hp).1] at hl; cases hl
    · rw [apply_pc_other hvw] at hp; rw [dother hvw]; exact hd.okPlain v hl hs hp
  · intro v hv
    rw [dother (fun h => by omega)]; exact hd.outside v hv
  · intro v hv hu hb
    by_cases hvw : v = w
    · subst hvw; rw [apply_pc_self] at hb; rw [dself]; exact hupd hu hb
    · rw [apply_pc_other hvw] at hb; rw [dother hvw]; exact hd.updDst v hv hu hb

/-- the acting worker's copy lands in an inode `j` that no other path names: a fresh one (`j = w`)
    or the one its own path already names -/
theorem InvD.copy {j : Nat} (hi : Inv cfg s) (hd : InvD cfg s) (hw : w < cfg.n)
    (hpc : (s.pc w).pastCopy = false) (hj : ∀ r, r ≠ w → (s.dst r).map File.ino ≠ some j)
    (hjw : j = w ∨ (s.dst w).map File.ino = some j) :
    InvD cfg (s.apply w (cfg.worker w).inode
      { pc := .metaOp, dst := .set (some ⟨j, cfg.content (cfg.worker w).inode⟩) }) := by
  refine hd.setOwn hi hw hpc (fun _ _ r hr => .inl (hj r hr)) (fun r hr i h h' => ?_) (fun i h hlt => ?_)
    (fun _ => rfl) (fun h => by cases h) (fun _ _ => rfl)
  · cases h'; exact absurd h (hj r hr)
  · cases h
    rcases hjw with rfl | h
    · exact ⟨rfl, .inl ⟨rfl, rfl⟩⟩
    · exact (hd.freshOwner w _ h hlt).imp_right .inr

theorem InvD.apply (hi : Inv cfg s) (hd : InvD cfg s) (hw : w < cfg.n)
    (ok : e.Ok cfg w (s.pc w) (s.map (cfg.worker w).inode) s.calls s.dst l) :
    InvD cfg (s.apply w (cfg.worker w).inode e) := by
  rcases ok.change with hk | ⟨p, hpc, rfl⟩ | ⟨p, hpc, hne, rfl⟩ | ⟨hpc, rfl | ⟨fw, hfw, hsh, rfl⟩⟩
  · exact hd.keep hi ok hk
  · obtain ⟨hl, hm⟩ := hi.linking w p (by rw [hpc]; rfl)
    have hpw : p ≠ w := fun h => by
      subst h
      rcases (hi.mapDone _ _ hm).2.2.2 with h | h <;> rw [h] at hpc <;> cases hpc
    refine hd.setOwn hi hw (by rw [hpc]; rfl) (fun _ h => ?_) (fun _ _ _ _ _ => ⟨p, hpw, hm, rfl⟩)
      (fun i h hlt => ?_) (fun h => by cases h) (fun _ => ⟨hl, p, hpw, hm, rfl⟩) (fun _ h => by cases h)
    · rcases h with h | h
      · rw [hl] at h; cases h
      · cases h
    · obtain ⟨h1, h2⟩ := hd.freshOwner p i h hlt
      exact ⟨(hi.mapDone _ _ hm).2.2.1 ▸ h1, .inr h2⟩
  · exact hd.setOwn hi hw (by rw [hpc]; rfl) (fun h => by cases h) (fun _ _ _ _ h => by cases h)
      (fun _ h => by cases h) (fun h => by cases h) (fun h => by cases h) (fun _ h => by cases h)
  · -- nobody names inode `w` yet: a name of it would put worker `w` past its copy
    refine hd.copy hi hw hpc (fun r _ h => ?_) (.inl rfl)
    rw [(hd.freshOwner r w h hw).2] at hpc; cases hpc
  · have hu := unshared hd.outside hsh
    have : s.apply w (cfg.worker w).inode { pc := .metaOp, dst := .through (cfg.content (cfg.worker w).inode) }
        = s.apply w (cfg.worker w).inode
            { pc := .metaOp, dst := .set (some ⟨fw.ino, cfg.content (cfg.worker w).inode⟩) } := by
      simp only [State.apply, writeThrough_unshared hfw hu]
    rw [this]
    exact hd.copy hi hw hpc hu (.inr (by rw [hfw]; rfl))

end

theorem inv_step {cfg : Cfg} {s s' : State} {w : Nat} {l : Label} (hi : Inv cfg s)
    (h : step cfg s w = some (l, s')) : Inv cfg s' := by
  obtain ⟨hw, e, hnext, rfl⟩ := step_eq_some h
  exact hi.apply hw (next_ok hnext)

theorem invR_step {cfg : Cfg} {s s' : State} {w : Nat} {l : Label} (hv : cfg.variant = .repaired) (hi : Inv cfg s) (hr : InvR cfg s)
    (h : step cfg s w = some (l, s')) : InvR cfg s' := by
  obtain ⟨_, e, hnext, rfl⟩ := step_eq_some h
  exact hr.apply hv hi (next_ok hnext)

theorem invD_step {cfg : Cfg} {s s' : State} {w : Nat} {l : Label} (hi : Inv cfg s) (hd : InvD cfg s)
    (h : step cfg s w = some (l, s')) : InvD cfg s' := by
  obtain ⟨hw, e, hnext, rfl⟩ := step_eq_some h
  exact hd.apply hi hw (next_ok hnext)

theorem inv_reachable {cfg : Cfg} {s : State} (h : Reachable cfg s) : Inv cfg s :=
  h.induct (inv_init cfg) fun _ => inv_step

theorem invR_reachable {cfg : Cfg} {s : State} (hv : cfg.variant = .repaired) (h : Reachable cfg s) :
    InvR cfg s :=
  h.induct (invR_init cfg) fun hr => invR_step hv (inv_reachable hr)

theorem invD_reachable {cfg : Cfg} {s : State} (hok : cfg.DstOk) (h : Reachable cfg s) :
    InvD cfg s :=
  h.induct (invD_init cfg hok) fun hr => invD_step (inv_reachable hr)

/-! ### one program counter at a time

Tactics that check the preservation of an invariant directly on the branches of `next` at one concrete
pc (`hpc : s.pc w = …`, `hnext : next … = some (l, e)`), clause by clause with `grind`, independently of
`Effect.Ok`: for trying out a change of `next` or of a clause on a single pc.  No proof uses them.  They are slow:
`invD_case` at `syncOp 0`, the pc of the write-through, needs `set_option maxHeartbeats 1600000`. -/

/-- the clauses of `Inv` for a state of the form `s.apply w i e` with concrete `e`. -/
macro "inv_clauses" : tactic => `(tactic| (
  constructor
  · intro v; simp only [State.apply]; grind [Pc.plainOk]
  · intro v; simp only [State.apply]; grind [Pc.holdsClaim]
  · intro i g; simp only [State.apply]; grind [Pc.holdsClaim]
  · intro g; simp only [State.apply]; grind [Pc.isDone]
  · intro i p; simp only [State.apply]; grind
  · intro v p; simp only [State.apply]; grind [Pc.linksTo]
  · intro v; simp only [State.apply]; grind))

/-- destructure the invariant and specialise the pc-class clauses to the acting worker. -/
macro "inv_pre" hi:ident hpc:ident w:ident : tactic => `(tactic| (
  obtain ⟨h1, h2, h3, h4, h5, h6, h7⟩ := $hi
  have hw7 := h7 $w
  have hw1 := h1 $w
  have hw2 := h2 $w
  have hw6 := h6 $w
  simp only [$hpc:ident, Pc.plainOk, Pc.holdsClaim, Pc.linksTo] at hw1 hw2 hw6 hw7))

/-- split the definition of `next` at a fixed pc into its branches and prove every clause. -/
macro "inv_case" hi:ident hpc:ident w:ident hnext:ident : tactic => `(tactic| (
  inv_pre $hi $hpc $w
  simp only [next, failPc] at $hnext:ident
  (repeat' split at $hnext:ident) <;> (cases $hnext:ident <;> inv_clauses)))

macro "invR_clauses" : tactic => `(tactic| (
  constructor
  · intro v g; simp only [State.apply]; grind [Pc.waitsOn, Pc.holdsClaim, Pc.notifying]
  · intro v g snap; simp only [State.apply]; grind [Pc.holdsClaim, Pc.isDone, Pc.holdsClaim_not_done]
  · intro v g snap; simp only [State.apply]; grind))

macro "invR_case" hi:ident hr:ident hpc:ident w:ident hnext:ident : tactic => `(tactic| (
  inv_pre $hi $hpc $w
  obtain ⟨r1, r2, r3⟩ := $hr
  have hr1 := r1 $w
  simp only [$hpc:ident, Pc.waitsOn] at hr1
  simp only [next, failPc] at $hnext:ident
  (repeat' split at $hnext:ident) <;> (cases $hnext:ident <;> invR_clauses)))

set_option hygiene false in
/-- the clauses of `InvD`; every clause keeps only the hypotheses it needs. -/
macro "invD_clauses" : tactic => `(tactic| (
  constructor
  · intro q r i; clear h1 h2 h3 h4 hw1 hw2 d2 d4 d5 d6 d6' d7 hd5 d9
    simp only [State.apply, wt_ino, wt_content, apply_ite (Option.map File.ino), apply_ite (Option.map File.content), Option.map_some, Option.map_none]; grind [Pc.rootPc, Pc.copied, Pc.pastCopy, sharedIno_false, isSome_of_ino, Option.isSome_some, Option.isSome_none]
  · intro q r i; clear h1 h2 h3 h4 h5 h6 h7 hw1 hw2 hw6 hw7 d4 d5 d6 d6' d7 hd5 d9
    simp only [State.apply, wt_ino, wt_content, apply_ite (Option.map File.ino), apply_ite (Option.map File.content), Option.map_some, Option.map_none]; grind [sharedIno_false, Pc.pastCopy, isSome_of_ino, Option.isSome_some, Option.isSome_none]
  · intro q i; clear h1 h2 h3 h4 h7 hw1 hw2 hw7 d2 d4 d5 d6 d6' d7 hd5 d9
    simp only [State.apply, wt_ino, wt_content, apply_ite (Option.map File.ino), apply_ite (Option.map File.content), Option.map_some, Option.map_none]; grind [sharedIno_false, Pc.pastCopy, isSome_of_ino, Option.isSome_some, Option.isSome_none]
  · intro i p; clear h1 h2 h3 h4 hw1 d2 d3 d6 d6' d7 hd3 d9
    simp only [State.apply, wt_ino, wt_content, apply_ite (Option.map File.ino), apply_ite (Option.map File.content), Option.map_some, Option.map_none]; grind [sharedIno_false, Pc.holdsClaim, isSome_of_ino, Option.isSome_some, Option.isSome_none]
  · intro v; clear h1 h2 h3 h4 h7 hw1 hw2 hw7 d2 d3 d4 d6 d6' d7 hd3 d9
    simp only [State.apply, wt_ino, wt_content, apply_ite (Option.map File.ino), apply_ite (Option.map File.content), Option.map_some, Option.map_none]; grind [sharedIno_false, Pc.copied, isSome_of_ino, Option.isSome_some, Option.isSome_none]
  · intro v; clear h1 h2 h3 h4 d1 d2 d3 d4 d5 d6' d7 hd3 hd5 d9
    simp only [State.apply, wt_ino, wt_content, apply_ite (Option.map File.ino), apply_ite (Option.map File.content), Option.map_some, Option.map_none]; grind [sharedIno_false, isSome_of_ino, Option.isSome_some, Option.isSome_none]
  · intro v p; clear h1 h2 h3 h4 d3 d5 d7 hd3 hd5 d9
    simp only [State.apply, wt_ino, wt_content, apply_ite (Option.map File.ino), apply_ite (Option.map File.content), Option.map_some, Option.map_none]; grind [sharedIno_false, isSome_of_ino, Option.isSome_some, Option.isSome_none]
  · intro v; clear h2 h3 h4 hw2 d2 d3 d4 d6 d6' hd3 d9
    simp only [State.apply, wt_ino, wt_content, apply_ite (Option.map File.ino), apply_ite (Option.map File.content), Option.map_some, Option.map_none]; grind [sharedIno_false, Pc.plainOk, isSome_of_ino, Option.isSome_some, Option.isSome_none]
  · intro v; clear h1 h2 h3 h4 h5 h6 h7 hw1 hw2 hw6 hw7 d1 d2 d3 d4 d5 d6 d6' d7 hd3 hd5 d9
    simp only [State.apply, wt_ino, wt_content, apply_ite (Option.map File.ino), apply_ite (Option.map File.content), Option.map_some, Option.map_none]; grind [sharedIno_false, wt_none]
  · intro v; clear h1 h2 h3 h4 h5 h6 h7 hw1 hw2 hw6 hw7 d1 d2 d3 d4 d5 d6 d6' d7 hd3 hd5
    simp only [State.apply, wt_isSome, apply_ite Option.isSome, Option.isSome_some, Option.isSome_none]; grind [sharedIno_false, Pc.beforeRelink]))

set_option hygiene false in
macro "invD_case" hi:ident hd:ident hpc:ident w:ident hnext:ident : tactic => `(tactic| (
  obtain ⟨h1, h2, h3, h4, h5, h6, h7⟩ := $hi
  have hw7 := h7 $w
  have hw1 := h1 $w
  have hw2 := h2 $w
  have hw6 := h6 $w
  simp only [$hpc:ident, Pc.plainOk, Pc.holdsClaim, Pc.linksTo] at hw1 hw2 hw6 hw7
  obtain ⟨d1, d2, d3, d4, d5, d6, d6', d7, d8, d9⟩ := $hd
  have hd5 := d5 $w
  have hd3 := d3 $w
  simp only [$hpc:ident, Pc.copied, Pc.pastCopy] at hd5
  simp only [next, failPc] at $hnext:ident
  (repeat' split at $hnext:ident) <;> (cases $hnext:ident <;> invD_clauses)))

end SyModel.Hardlink
