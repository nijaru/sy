/-
  The scan filter and scan order: with parents listed before their children, the selected directory above a
  selected entry comes earlier in the selected list (`selected_ancestor_before`), so the selected set is closed under
  ancestors; that everything below an unselected directory is then dropped is `C16Engine.excluded_dir_drops_subtree`
  (the `filter` closure of `SyncEngine::sync`, src/sync/mod.rs, relies on exactly this order).
-/
import SyModel.Lemmas.EngineWF
namespace SyModel.Engine

theorem scanFilterGo_not_under (cfg : Cfg) (scan : List SEntry) (ex : List Path) (e : SEntry)
    (h : e ∈ scanFilterGo cfg scan ex) : ∀ x ∈ ex, isPrefix x e.rel = false := by
  -- where the head `a` is kept it is not below an excluded directory
  have head : ∀ {a : SEntry} {l : List SEntry} {ex : List Path}, ¬ (ex.any fun d => isPrefix d a.rel) = true →
      e ∈ a :: l → (e ∈ l → ∀ x ∈ ex, isPrefix x e.rel = false) → ∀ x ∈ ex, isPrefix x e.rel = false := by
    intro a l ex hnu h ih x hx
    rcases List.mem_cons.1 h with h | h
    · rw [h, ← Bool.not_eq_true]
      exact fun hp => hnu (List.any_eq_true.2 ⟨x, hx, hp⟩)
    · exact ih h x hx
  fun_induction scanFilterGo cfg scan ex with
  | case1 => cases h
  | case2 _ _ _ _ ih => exact ih h
  | case3 ex a _ _ _ ih =>
    intro x hx
    apply ih h x
    split
    · exact List.mem_append_left _ hx
    · exact hx
  | case4 _ _ _ hnu _ _ ih => exact head hnu h ih
  | case5 _ _ _ _ _ _ _ ih => exact ih h
  | case6 _ _ _ hnu _ _ _ ih => exact head hnu h ih

theorem scanFilterGo_append (cfg : Cfg) (l1 l2 : List SEntry) (ex : List Path) :
    ∃ ex', scanFilterGo cfg (l1 ++ l2) ex = scanFilterGo cfg l1 ex ++ scanFilterGo cfg l2 ex' := by
  fun_induction scanFilterGo cfg l1 ex with
  | case1 ex => exact ⟨ex, rfl⟩
  | case2 _ _ _ hu ih =>
    obtain ⟨ex', h⟩ := ih
    exact ⟨ex', by rw [List.cons_append, scanFilterGo, if_pos hu, h]⟩
  | case3 _ _ _ hu hx ih =>
    obtain ⟨ex', h⟩ := ih
    exact ⟨ex', by rw [List.cons_append, scanFilterGo, if_neg hu, if_pos hx, h]⟩
  | case4 _ _ _ hu hx hd ih =>
    obtain ⟨ex', h⟩ := ih
    exact ⟨ex', by rw [List.cons_append, scanFilterGo, if_neg hu, if_neg hx, if_pos hd, h, List.cons_append]⟩
  | case5 _ _ _ hu hx hd hs ih =>
    obtain ⟨ex', h⟩ := ih
    exact ⟨ex', by rw [List.cons_append, scanFilterGo, if_neg hu, if_neg hx, if_neg hd, if_pos hs, h]⟩
  | case6 _ _ _ hu hx hd hs ih =>
    obtain ⟨ex', h⟩ := ih
    exact ⟨ex', by rw [List.cons_append, scanFilterGo, if_neg hu, if_neg hx, if_neg hd, if_neg hs, h, List.cons_append]⟩

theorem head_dir_selected (cfg : Cfg) (d : SEntry) (rest : List SEntry) (ex : List Path) (e : SEntry)
    (hd : d.isDir = true) (he : e ∈ scanFilterGo cfg (d :: rest) ex) (hp : isPrefix d.rel e.rel = true) :
    scanFilterGo cfg (d :: rest) ex = d :: scanFilterGo cfg rest ex := by
  by_cases hu : (ex.any fun x => isPrefix x d.rel) = true
  · rw [scanFilterGo, if_pos hu] at he
    obtain ⟨x, hx, hpx⟩ := List.any_eq_true.1 hu
    have := scanFilterGo_not_under cfg rest ex e he x hx
    rw [isPrefix_trans hpx hp] at this; cases this
  · by_cases hexc : d.excluded = true
    · rw [scanFilterGo, if_neg hu, if_pos hexc, if_pos hd] at he
      have := scanFilterGo_not_under cfg rest _ e he d.rel (by simp)
      rw [hp] at this; cases this
    · rw [scanFilterGo, if_neg hu, if_neg hexc, if_pos hd]

/-- **parents first ⇒ the selected directory above a selected entry comes EARLIER in the selected list** (the filter
    keeps the scan's order) -/
theorem selected_ancestor_before {cfg : Cfg} {scan : List SEntry} (hu : UniqueRels scan)
    (hpf : ParentsFirst scan) {e : SEntry} (he : e ∈ scanFilter cfg scan) {a : Path} (ha : a ∈ ancestors e.rel) :
    ∃ d A B, scanFilter cfg scan = A ++ d :: B ∧ d.rel = a ∧ d.kind = .dir ∧ e ∈ B := by
  obtain ⟨n, hn, hget⟩ := List.getElem_of_mem (mem_of_mem_scanFilter he)
  obtain ⟨d, hdt, hdr, hdk⟩ := hpf n hn a (by rw [hget]; exact ha)
  obtain ⟨l1, l1', hl1⟩ := List.append_of_mem hdt
  have hscan : scan = l1 ++ d :: (l1' ++ scan.drop n) := by
    conv => lhs; rw [← List.take_append_drop n scan, hl1]
    simp
  have hedrop : e ∈ l1' ++ scan.drop n := by
    rw [← hget]; exact List.mem_append_right _ (List.mem_drop_iff_getElem.2 ⟨0, by simpa using hn, by simp⟩)
  -- `e` comes after `d` in the scan, and no path occurs twice: `e` is not in `l1` and is not `d`
  have hpw := hu
  unfold UniqueRels at hpw
  rw [hscan, List.pairwise_append] at hpw
  obtain ⟨_, hpw2, hcross⟩ := hpw
  have hed : d.rel ≠ e.rel := (List.pairwise_cons.1 hpw2).1 e hedrop
  unfold scanFilter at he ⊢
  obtain ⟨ex', happ⟩ := scanFilterGo_append cfg l1 (d :: (l1' ++ scan.drop n)) []
  rw [hscan, happ] at he ⊢
  rcases List.mem_append.1 he with h | h
  · exact absurd rfl (hcross e ((scanFilterGo_sublist cfg l1 []).subset h) e (List.mem_cons_of_mem _ hedrop))
  · have hhead := head_dir_selected cfg d _ _ e (by simp [SEntry.isDir, hdk]) h (hdr ▸ ancestors_prefix ha)
    rw [hhead] at h ⊢
    refine ⟨d, _, _, rfl, hdr, hdk, ?_⟩
    rcases List.mem_cons.1 h with h | h
    · exact absurd (h ▸ rfl) hed.symm
    · exact h

theorem selected_ancestors_selected {cfg : Cfg} {scan : List SEntry} (hu : UniqueRels scan)
    (hpf : ParentsFirst scan) {e : SEntry} (he : e ∈ scanFilter cfg scan) {a : Path} (ha : a ∈ ancestors e.rel) :
    ∃ d ∈ scanFilter cfg scan, d.rel = a ∧ d.kind = .dir := by
  obtain ⟨d, A, B, hs, hr, hk, _⟩ := selected_ancestor_before hu hpf he ha
  exact ⟨d, by rw [hs]; simp, hr, hk⟩

end SyModel.Engine
