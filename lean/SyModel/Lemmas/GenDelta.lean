/-
  Lemmas.GenDelta — the world in which the translated delta generators
  (`SyModel/Generated/Code/Delta.lean`: `generate_delta` and `generate_delta_streaming` of
  src/delta/generator.rs) are run, the instance of their `Ext` record, the NORMAL FORM of `generate_delta` (the
  loop body as the pure step function `memStep`), the checksum map as `find?` on the checksum list, the instance
  field by field, and that the fuel of the translated `while` is enough.  That `memStep` on the instance is
  `SyModel.Delta.sbody`, the round the two generators of the handwritten model share, and the loops are in
  Lemmas/GenDeltaStream.lean.

  THE FIRST PART (`upd` … `inst`, and the abstraction maps `absBlock` … `absOp`) IS TRUSTED: the bridge theorems of
  `Props/GenDelta.lean` are statements about `generate_delta (inst strong)`, so a wrong operation here misrepresents
  the operating system or the two checksum libraries.  Everything after it is proved.
-/
import SyModel.Generated.Code.Delta
import SyModel.Lemmas.Delta
import SyModel.Lemmas.RsLoops
import SyModel.Lemmas.ByteData
import SyModel.Lemmas.RsMap
set_option autoImplicit false
namespace SyModel.GenDelta
open SyModel SyModel.Generated SyModel.Generated.Delta

/-! ## the world of one generator call (trusted) -/

def upd {κ ν : Type} [DecidableEq κ] (f : κ → ν) (k : κ) (v : ν) : κ → ν := fun x => if x = k then v else f x

/-- What a delta generator can see: regular files (path text ↦ content, bytes as `UInt8`) and the open read
    handles `1 … opened` (handle ↦ path and file position).  Nothing in this unit writes. -/
structure DWorld where
  files  : Rs.Path → Option Bytes
  opened : Nat
  handle : Nat → Option (Rs.Path × Nat)

/-- bytes as the translated code carries them (`Vec<u8>` is `List Nat` there) -/
def ofU8 (l : Bytes) : List Nat := l.map UInt8.toNat
def toU8 (l : List Nat) : Bytes := l.map Nat.toUInt8

/-- the content behind a handle, the path and the position: the handle must be open and the file must still exist -/
def DWorld.source (w : DWorld) (h : Nat) : Option (Bytes × Rs.Path × Nat) :=
  match w.handle h with
  | some (p, pos) => (w.files p).map fun c => (c, p, pos)
  | none => none

def DWorld.setPos (w : DWorld) (h : Nat) (p : Rs.Path) (pos : Nat) : DWorld :=
  { w with handle := upd w.handle h (some (p, pos)) }

/-- `File::open(p)` (read only): ENOENT on a missing file, nothing changes then; otherwise a fresh handle at position 0 -/
def openOp (p : Rs.Path) : Rs.M DWorld Nat := fun w =>
  match w.files p with
  | none => (.error .io, w)
  | some _ => (.ok (w.opened + 1), { w with opened := w.opened + 1, handle := upd w.handle (w.opened + 1) (some (p, 0)) })

/-- `read_to_end(&mut buf)`: appends everything from the position to the end of the file; the position moves to
    the end -/
def readToEndOp (h : Nat) (buf : List Nat) : Rs.M DWorld (List Nat) := fun w =>
  match w.source h with
  | none => (.error .io, w)
  | some (c, p, pos) => (.ok (buf ++ ofU8 (c.drop pos)), w.setPos h p (max pos c.length))

/-- `read(&mut buf)`: FULL reads — `min(buf.len(), remaining)` bytes are delivered at the front of the buffer (the
    rest of the buffer keeps its old bytes) and the position advances by that amount.  POSIX allows short reads;
    on a regular file the kernel does not make them (DESIGN §6 C04 "Assumed").  Answers `(bytes_read, buffer)`. -/
def readOp (h : Nat) (buf : List Nat) : Rs.M DWorld (Nat × List Nat) := fun w =>
  match w.source h with
  | none => (.error .io, w)
  | some (c, p, pos) =>
    let n := min buf.length (c.length - pos)
    (.ok (n, ofU8 ((c.drop pos).take n) ++ buf.drop n), w.setPos h p (pos + n))

/-- `file.metadata()` (fstat): the length of the file; the world does not change -/
def metadataOp (h : Nat) : Rs.M DWorld Rs.Metadata := fun w =>
  match w.source h with
  | none => (.error .io, w)
  | some (c, _, _) => (.ok { dir := false, mtime := 0, size := c.length }, w)

/-- THE INSTANCE.  `strong` is xxh3-64 as an arbitrary function of the bytes (a parameter: nothing is assumed
    about it here; the reconstruction corollaries assume `NoCollision` on the two files).
    * the Adler fields are the Nat model `SyModel.Delta.Adler` (proved equal to the `u32` code of
      src/delta/rolling.rs in `Props/GenRolling`); a `RollSt ⟨a, b, n⟩` is the model state `⟨a, b⟩` of a hasher
      created with `Adler32::new(n)`; `update_block` resets and feeds the block, `roll` is `Adler.roll n`;
    * a streaming xxh3 hasher is the list of bytes fed so far; `digest` hashes that list;
    * `File::open`, `read_to_end`, `read`, `metadata` as documented above; `seek` is not called by the two
      translated functions (it is in `Ext` for other users of the handle type). -/
def inst (strong : Bytes → Nat) : Ext DWorld where
  Adler32_new n := ⟨1, 0, n⟩
  Adler32_hash l := Delta.hashBytes (toU8 l)
  adler_update_block s l := ⟨(Delta.Adler.ofBlock (toU8 l)).a, (Delta.Adler.ofBlock (toU8 l)).b, s.block_size⟩
  adler_roll s o n :=
    ⟨(Delta.Adler.roll s.block_size ⟨s.a, s.b⟩ o.toUInt8 n.toUInt8).a,
     (Delta.Adler.roll s.block_size ⟨s.a, s.b⟩ o.toUInt8 n.toUInt8).b, s.block_size⟩
  adler_digest s := Delta.Adler.digest ⟨s.a, s.b⟩
  xxh3_update h l := h ++ l
  xxh3_digest h := strong (toU8 h)
  File_open p := openOp p
  h_read_to_end h buf := readToEndOp h buf
  h_read h buf := readOp h buf
  h_seek _ _ := throw .other
  h_metadata h := metadataOp h

/-- code checksum ↦ model checksum (`index` is not used by the generators) -/
def absBlock (c : BlockChecksum) : Delta.Block Nat := ⟨c.offset, c.size, c.weak, c.strong⟩
/-- model checksum ↦ code checksum (`index = offset / block_size`, src/delta/checksum.rs) -/
def repBlock (bs : Nat) (c : Delta.Block Nat) : BlockChecksum := ⟨c.offset / bs, c.offset, c.size, c.weak, c.strong⟩
def repOp : Delta.Op → DeltaOp
  | .copy o s => .Copy o s
  | .data d => .Data (ofU8 d)
def absOp : DeltaOp → Delta.Op
  | .Copy o s => .copy o s
  | .Data d => .data (toU8 d)

/-! ## proved -/

/-- ops that apply cleanly only copy ranges inside `old` (the `Copy`s among the code ops are the `copy`s among their
    abstraction) -/
theorem copies_of_apply {old new : Bytes} {ops : List DeltaOp} (h : Delta.applyOps old (ops.map absOp) = some new) :
    ∀ off sz, DeltaOp.Copy off sz ∈ ops → sz = 0 ∨ off + sz ≤ old.length :=
  fun off sz hm => Delta.copies_in_range_of_apply old _ new h off sz (List.mem_map_of_mem (f := absOp) hm)

@[simp] theorem upd_eq : @upd = @Data.upd := rfl

/-! ### normal form of `generate_delta` (any `Ext`) -/

/-- loop state of `generate_delta`, in the order of the translation's tuple: `ops, literal_buffer, pos, rolling` -/
abbrev MemSt := List DeltaOp × List Nat × Nat × RollSt

/-- `if !literal_buffer.is_empty() { ops.push(Data(literal_buffer)) }` -/
def flushG (ops : List DeltaOp) (lit : List Nat) : List DeltaOp :=
  if (!Rs.is_empty lit) = true then ops ++ [DeltaOp.Data lit] else ops

/-- the three totalised accessors of the Prelude the generators use.  Every function of the normal forms takes them as
    a parameter `A : Acc` (the `…A` versions); the translated code is the case `Acc.rs`, and "no access is out of
    range" is stated as "the result is the same for every `A` with `A.InRange`" (`*_inRange` in
    Lemmas/GenDeltaStream.lean, `generate_delta_accesses_in_range` in Props/GenDelta.lean) -/
structure Acc where
  slice : List Nat → Nat → Nat → List Nat
  slice_from : List Nat → Nat → List Nat
  index : List Nat → Nat → Nat

def Acc.rs : Acc := ⟨Rs.slice, Rs.slice_from, Rs.index⟩

/-- accessors that agree with the Prelude's totalised `Rs.slice` / `Rs.slice_from` / `Rs.index` wherever Rust does
    not panic (`lo ≤ hi ≤ len`, `lo ≤ len`, `i < len`) and are ARBITRARY elsewhere -/
structure Acc.InRange (A : Acc) : Prop where
  slice : ∀ l lo hi, lo ≤ hi → hi ≤ l.length → A.slice l lo hi = Rs.slice l lo hi
  slice_from : ∀ l lo, lo ≤ l.length → A.slice_from l lo = Rs.slice_from l lo
  index : ∀ l i, i < l.length → A.index l i = Rs.index l i

/-- a slice taken under the test `hi ≤ len` (the way the generators take the next window) is the Prelude's -/
theorem Acc.InRange.ite_slice {A : Acc} (hA : A.InRange) {α : Type} (l : List Nat) (lo hi : Nat) (hlo : lo ≤ hi)
    (f : List Nat → α) (b : α) :
    (if decide (hi ≤ Rs.len l) = true then f (A.slice l lo hi) else b) =
      if decide (hi ≤ Rs.len l) = true then f (Rs.slice l lo hi) else b :=
  ite_congr rfl (fun h => by rw [hA.slice l lo hi hlo (by simpa [Rs.len] using h)]) fun _ => rfl

/-- the `if !found_match { … }` block (generator.rs:355-366) -/
def litStep {W : Type} (A : Acc) (ext : Ext W) (data : List Nat) (bs : Nat) (ops : List DeltaOp) (lit : List Nat)
    (pos : Nat) (rolling : RollSt) : MemSt :=
  if (decide (pos + 1 > 0) && decide (pos + 1 + bs - 1 < Rs.len data)) = true then
    (ops, lit ++ [A.index data pos], pos + 1,
      ext.adler_roll rolling (A.index data (pos + 1 - 1)) (A.index data (pos + 1 + bs - 1)))
  else (ops, lit ++ [A.index data pos], pos + 1, rolling)

/-- the literal step with its arithmetic done (`pos + 1 - 1`, `pos + 1 + bs - 1`; the test `pos + 1 > 0` is true) -/
theorem litStep_eq {W : Type} (A : Acc) (ext : Ext W) (data : List Nat) (bs : Nat) (ops : List DeltaOp) (lit : List Nat)
    (pos : Nat) (rolling : RollSt) :
    litStep A ext data bs ops lit pos rolling =
      (ops, lit ++ [A.index data pos], pos + 1,
        if decide (pos + bs < Rs.len data) = true then
          ext.adler_roll rolling (A.index data pos) (A.index data (pos + bs)) else rolling) := by
  have e2 : pos + 1 + bs - 1 = pos + bs := by omega
  simp only [litStep, Nat.add_sub_cancel, e2, Nat.succ_pos, gt_iff_lt, decide_true, Bool.true_and]
  split <;> rfl

/-- one round of `while pos < source_data.len()` (generator.rs:280-367) as a pure function of the loop state -/
def memStepA {W : Type} (A : Acc) (ext : Ext W) (cmap : Rs.HashMap Nat (List BlockChecksum)) (data : List Nat)
    (bs : Nat) : MemSt → ForInStep MemSt
  | (ops, lit, pos, rolling) =>
    if (!decide (pos < Rs.len data)) = true then .done (ops, lit, pos, rolling)
    else if decide (Rs.len data - pos ≥ bs) = true then
      match Rs.get cmap (ext.adler_digest rolling) with
      | some cands =>
        match cands.find? (fun c => c.strong ==
            ext.xxh3_digest (ext.xxh3_update Rs.xxh3_new (A.slice data pos (pos + bs)))) with
        | some c =>
          .yield (flushG ops lit ++ [DeltaOp.Copy c.offset c.size], [], pos + bs,
            if decide (pos + bs + bs ≤ Rs.len data) = true then
              ext.adler_update_block rolling (A.slice data (pos + bs) (pos + bs + bs)) else rolling)
        | none => .yield (litStep A ext data bs ops lit pos rolling)
      | none => .yield (litStep A ext data bs ops lit pos rolling)
    else
      match Rs.get cmap (ext.Adler32_hash (A.slice_from data pos)) with
      | some cands =>
        match cands.find? (fun c => c.size == Rs.len (A.slice_from data pos) &&
            c.strong == ext.xxh3_digest (ext.xxh3_update Rs.xxh3_new (A.slice_from data pos))) with
        | some c =>
          .yield (flushG ops lit ++ [DeltaOp.Copy c.offset c.size], [], pos + Rs.len (A.slice_from data pos), rolling)
        | none => .yield (litStep A ext data bs ops lit pos rolling)
      | none => .yield (litStep A ext data bs ops lit pos rolling)

def memStep {W : Type} (ext : Ext W) (cmap : Rs.HashMap Nat (List BlockChecksum)) (data : List Nat) (bs : Nat) :
    MemSt → ForInStep MemSt := memStepA Acc.rs ext cmap data bs

/-- the `HashMap<u32, Vec<&BlockChecksum>>` built by the first loop -/
def buildMap (cs : List BlockChecksum) : Rs.HashMap Nat (List BlockChecksum) :=
  cs.foldl (fun m c => Rs.entry_push m c.weak c) []

/-- everything `generate_delta` does after `read_to_end` -/
def memResultA {W : Type} (A : Acc) (ext : Ext W) (cs : List BlockChecksum) (bs : Nat) (data : List Nat) : Delta :=
  if Rs.is_empty data = true then { ops := [], source_size := 0, block_size := bs }
  else
    let r0 := if decide (Rs.len data ≥ bs) = true then
        ext.adler_update_block (ext.Adler32_new bs) (A.slice data 0 bs) else ext.Adler32_new bs
    let s := iter (memStepA A ext (buildMap cs) data bs) (Rs.len data) ([], [], 0, r0)
    { ops := flushG s.1 s.2.1, source_size := Rs.len data, block_size := bs }

def memResult {W : Type} (ext : Ext W) (cs : List BlockChecksum) (bs : Nat) (data : List Nat) : Delta :=
  memResultA Acc.rs ext cs bs data

/-- the scan `for checksum in candidates { if q { flush; ops.push(Copy{..}); …; break } }` over a loop state
    `(ops, literal_buffer, t)` is `find?`: a hit flushes the literals (`flushG`, the buffer is empty afterwards
    either way), pushes the copy and makes `t' c t` of the rest of the state -/
theorem forIn_scan {m : Type → Type} [Monad m] [LawfulMonad m] {τ : Type} (l : List BlockChecksum)
    (q : BlockChecksum → Bool) (t' : BlockChecksum → τ → τ)
    (f : BlockChecksum → List DeltaOp × List Nat × τ → m (ForInStep (List DeltaOp × List Nat × τ)))
    (hf : ∀ c ops lit t, f c (ops, lit, t) =
      if q c = true then
        if (!Rs.is_empty lit) = true then
          pure (.done (ops ++ [DeltaOp.Data lit] ++ [DeltaOp.Copy c.offset c.size], [], t' c t))
        else pure (.done (ops ++ [DeltaOp.Copy c.offset c.size], lit, t' c t))
      else pure (.yield (ops, lit, t)))
    (ops : List DeltaOp) (lit : List Nat) (t : τ) :
    forIn l (ops, lit, t) f = pure (match l.find? q with
      | some c => (flushG ops lit ++ [DeltaOp.Copy c.offset c.size], [], t' c t)
      | none => (ops, lit, t)) := by
  induction l with
  | nil => rfl
  | cons c l ih =>
    rw [List.forIn_cons, hf, List.find?_cons]
    cases q c with
    | true => cases lit <;> exact pure_bind _ _
    | false => exact (pure_bind _ _).trans ih

/-- the join point of a round of `generate_delta` when no block matched (`found_match = false`): the literal step,
    whose two branches differ in the rolling state only -/
theorem join_not_found {m : Type → Type} [Monad m] {σ : Type} (c : Prop) [Decidable c] (a b z : σ) :
    (if (!false) = true then (if c then (pure (.yield a) : m (ForInStep σ)) else pure (.yield b))
      else pure (.yield z)) = pure (.yield (if c then a else b)) := by
  rw [if_pos Bool.not_false]
  split <;> rfl

/-- NORMAL FORM of the translated `generate_delta`, for every `Ext`: open, read everything, then the pure
    function `memResult` (a `for` loop of `len` rounds over the pure step `memStep`, then the final flush). -/
theorem generate_delta_nf {W : Type} (ext : Ext W) (p : Rs.Path) (cs : List BlockChecksum) (bs : Nat) :
    generate_delta ext p cs bs =
      (ext.File_open p >>= fun h => ext.h_read_to_end h [] >>= fun data => pure (memResult ext cs bs data)) := by
  unfold generate_delta
  show forIn cs [] _ >>= _ = _
  rw [List.forIn_pure_yield_eq_foldl, pure_bind]
  refine bind_congr fun h => bind_congr fun data => ?_
  unfold memResult memResultA
  rw [apply_ite pure]
  refine ite_congr rfl (fun _ => rfl) fun _ => ?_
  -- `loop` is the join point after `if len ≥ block_size { rolling.update_block(..) }`: both branches run it, from
  -- two initial rolling states.  Join points are kept as local functions, so that their bodies are looked at once
  extract_lets +onlyGivenNames -underBinder ops lit pos rolling loop
  refine (apply_ite (loop ()) _ _ _).symm.trans ?_
  show forIn _ _ _ >>= _ = _
  rw [forIn_range_pure _ _ _ (memStepA Acc.rs ext (buildMap cs) data bs) ?body, pure_bind]
  case body =>
    intro x s
    extract_lets +onlyGivenNames -underBinder ops s1 lit s2 pos rolling
    show _ = pure (memStepA Acc.rs ext (buildMap cs) data bs (ops, lit, pos, rolling))
    clear_value ops lit pos rolling
    by_cases h0 : (!decide (pos < Rs.len data)) = true
    · rw [if_pos h0, memStepA, if_pos h0]
    · rw [if_neg h0, memStepA, if_neg h0]
      -- `join` is the join point `if !found_match { … }` all four exits of the match attempt arrive at
      extract_lets +onlyGivenNames -underBinder found remaining join
      have hjoin : ∀ o l p r, join () o l p r false = pure (.yield (litStep Acc.rs ext data bs o l p r)) :=
        fun _ _ _ _ => join_not_found _ _ _ _
      have hjoin' : ∀ o l p r, join () o l p r true = pure (.yield (o, l, p, r)) := fun _ _ _ _ => rfl
      clear_value join
      simp only [found, remaining, buildMap, Acc.rs]
      by_cases hfull : decide (Rs.len data - pos ≥ bs) = true
      · rw [if_pos hfull, if_pos hfull]
        cases hget : Rs.get (List.foldl (fun b a => Rs.entry_push b a.weak a) [] cs) (ext.adler_digest rolling) with
        | none => exact hjoin _ _ _ _
        | some cands =>
          dsimp only
          rw [forIn_scan cands
            (fun c => c.strong == ext.xxh3_digest (ext.xxh3_update Rs.xxh3_new (Rs.slice data pos (pos + bs))))
            (fun c t => (t.1 + bs,
              (if decide (t.1 + bs + bs ≤ Rs.len data) = true then
                ext.adler_update_block t.2.1 (Rs.slice data (t.1 + bs) (t.1 + bs + bs)) else t.2.1), true))
            _ ?hf, pure_bind]
          case hf =>
            intro c ops lit t
            by_cases h2 : decide (t.1 + bs + bs ≤ Rs.len data) = true <;> simp only [h2, if_true] <;> rfl
          cases cands.find? _ with
          | none => exact hjoin _ _ _ _
          | some c => exact hjoin' _ _ _ _
      · rw [if_neg hfull, if_neg hfull]
        cases hget : Rs.get (List.foldl (fun b a => Rs.entry_push b a.weak a) [] cs)
            (ext.Adler32_hash (Rs.slice_from data pos)) with
        | none => exact hjoin _ _ _ _
        | some cands =>
          dsimp only
          rw [forIn_scan cands
            (fun c => c.size == Rs.len (Rs.slice_from data pos) &&
              c.strong == ext.xxh3_digest (ext.xxh3_update Rs.xxh3_new (Rs.slice_from data pos)))
            (fun c t => (t.1 + Rs.len (Rs.slice_from data pos), true)) _ (fun _ _ _ _ => rfl), pure_bind]
          cases cands.find? _ with
          | none => exact hjoin _ _ _ _
          | some c => exact hjoin' _ _ _ _
  exact (apply_ite (fun o => pure (⟨o, _, _⟩ : Delta)) _ _ _).symm

/-! ### the checksum map: buckets keep insertion order -/

theorem get_nil (k : Nat) : Rs.get ([] : Rs.HashMap Nat (List BlockChecksum)) k = none := rfl

theorem get_foldl_push (cs : List BlockChecksum) (m : Rs.HashMap Nat (List BlockChecksum)) (k : Nat) :
    Rs.get (cs.foldl (fun m c => Rs.entry_push m c.weak c) m) k =
      if cs.filter (fun c => c.weak == k) = [] then Rs.get m k
      else some ((Rs.get m k).getD [] ++ cs.filter (fun c => c.weak == k)) := by
  induction cs generalizing m with
  | nil => simp
  | cons c cs ih =>
    rw [List.foldl_cons, ih, Rs.get_entry_push]
    by_cases hc : c.weak = k
    · simp [hc]
    · simp [hc]

theorem get_buildMap (cs : List BlockChecksum) (k : Nat) :
    Rs.get (buildMap cs) k =
      if cs.filter (fun c => c.weak == k) = [] then none else some (cs.filter (fun c => c.weak == k)) := by
  rw [buildMap, get_foldl_push]; simp [get_nil]

/-- `checksum_map.get(&weak)` followed by the `for checksum in candidates { if q { …; break } }` scan is `find?` on
    the whole checksum list with the weak hash added to the test: either there is no bucket and
    no element passes, or the scan of the bucket finds what the scan of the whole list finds -/
theorem scan_buildMap (cs : List BlockChecksum) (k : Nat) (q : BlockChecksum → Bool) :
    (Rs.get (buildMap cs) k = none ∧ cs.find? (fun c => c.weak == k && q c) = none) ∨
    (∃ cands, Rs.get (buildMap cs) k = some cands ∧ cands.find? q = cs.find? (fun c => c.weak == k && q c)) := by
  rw [get_buildMap]
  by_cases hf : cs.filter (fun c => c.weak == k) = []
  · left
    refine ⟨by simp only [hf, if_true], ?_⟩
    rw [List.find?_eq_none]
    intro c hc
    have := List.filter_eq_nil_iff.mp hf c hc
    simp [this]
  · right
    refine ⟨cs.filter (fun c => c.weak == k), by simp only [hf, if_false], ?_⟩
    rw [List.find?_filter]
    simp only [Bool.decide_and, Bool.decide_eq_true]

/-! ### bytes and the Prelude's accessors -/

@[simp] theorem toU8_ofU8 (b : Bytes) : toU8 (ofU8 b) = b := Data.toU8_ofU8 b

@[simp] theorem len_ofU8 (l : Bytes) : Rs.len (ofU8 l) = l.length := by simp [Rs.len, ofU8]
@[simp] theorem length_ofU8 (l : Bytes) : (ofU8 l).length = l.length := by simp [ofU8]
theorem ofU8_append (a b : Bytes) : ofU8 (a ++ b) = ofU8 a ++ ofU8 b := by simp [ofU8]
@[simp] theorem ofU8_nil : ofU8 [] = [] := rfl
theorem ofU8_eq_nil (l : Bytes) : ofU8 l = [] ↔ l = [] := by simp [ofU8]
@[simp] theorem slice_ofU8 (l : Bytes) (lo hi : Nat) : Rs.slice (ofU8 l) lo hi = ofU8 ((l.drop lo).take (hi - lo)) := by
  simp [Rs.slice, ofU8, List.map_drop, List.map_take]
@[simp] theorem slice_from_ofU8 (l : Bytes) (lo : Nat) : Rs.slice_from (ofU8 l) lo = ofU8 (l.drop lo) := by
  simp [Rs.slice_from, ofU8, List.map_drop]
theorem slice_ofU8_append (t : Bytes) (r : List Nat) : Rs.slice (ofU8 t ++ r) 0 t.length = ofU8 t :=
  length_ofU8 t ▸ Data.slice_append_left (ofU8 t) r
theorem index_of_drop (l : Bytes) (i : Nat) (y : UInt8) (r : Bytes) (h : l.drop i = y :: r) :
    Rs.index (ofU8 l) i = y.toNat := by
  have : l[i]? = some y := by rw [← List.head?_drop, h]; rfl
  simp [Rs.index, ofU8, this]

/-! ### the instance, field by field -/

/-- model rolling state ↦ code rolling state of a hasher created with `Adler32::new(bs)` -/
def rollOf (bs : Nat) (a : Delta.Adler) : RollSt := ⟨a.a, a.b, bs⟩

variable (strong : Bytes → Nat)

@[simp] theorem inst_new (bs : Nat) : (inst strong).Adler32_new bs = rollOf bs Delta.Adler.init := rfl
@[simp] theorem inst_digest (bs : Nat) (a : Delta.Adler) : (inst strong).adler_digest (rollOf bs a) = a.digest := rfl
@[simp] theorem inst_update (bs : Nat) (a : Delta.Adler) (l : List Nat) :
    (inst strong).adler_update_block (rollOf bs a) l = rollOf bs (Delta.Adler.ofBlock (toU8 l)) := rfl
@[simp] theorem inst_roll (bs : Nat) (a : Delta.Adler) (o n : Nat) :
    (inst strong).adler_roll (rollOf bs a) o n = rollOf bs (Delta.Adler.roll bs a o.toUInt8 n.toUInt8) := rfl
@[simp] theorem inst_hash (l : List Nat) : (inst strong).Adler32_hash l = Delta.hashBytes (toU8 l) := rfl
@[simp] theorem inst_strong (l : List Nat) :
    (inst strong).xxh3_digest ((inst strong).xxh3_update Rs.xxh3_new l) = strong (toU8 l) := by
  simp [inst, Rs.xxh3_new]

/-! ### the file operations of the instance -/

theorem open_inst {w : DWorld} {p : Rs.Path} {c : Bytes} (hfile : w.files p = some c) :
    (inst strong).File_open p w =
      (.ok (w.opened + 1), DWorld.setPos { w with opened := w.opened + 1 } (w.opened + 1) p 0) := by
  simp [inst, openOp, hfile, DWorld.setPos]

theorem open_inst_none {w : DWorld} {p : Rs.Path} (hfile : w.files p = none) :
    (inst strong).File_open p w = (.error .io, w) := by
  simp [inst, openOp, hfile]

theorem source_setPos {w : DWorld} {p : Rs.Path} {c : Bytes} (hfile : w.files p = some c) (h pos : Nat) :
    (w.setPos h p pos).source h = some (c, p, pos) := by
  simp [DWorld.source, DWorld.setPos, hfile]

theorem setPos_setPos (w : DWorld) (h : Nat) (p : Rs.Path) (pos pos' : Nat) :
    (w.setPos h p pos).setPos h p pos' = w.setPos h p pos' := by
  simp [DWorld.setPos]

theorem read_to_end_inst {w : DWorld} {p : Rs.Path} {c : Bytes} (hfile : w.files p = some c) (h pos : Nat)
    (buf : List Nat) :
    (inst strong).h_read_to_end h buf (w.setPos h p pos) =
      (.ok (buf ++ ofU8 (c.drop pos)), w.setPos h p (max pos c.length)) := by
  show readToEndOp h buf _ = _
  rw [readToEndOp, source_setPos hfile]
  exact congrArg (Prod.mk _) (setPos_setPos w h p pos _)

theorem metadata_inst {w : DWorld} {p : Rs.Path} {c : Bytes} (hfile : w.files p = some c) (h pos : Nat) :
    (inst strong).h_metadata h (w.setPos h p pos) =
      (.ok { dir := false, mtime := 0, size := c.length }, w.setPos h p pos) := by
  show metadataOp h _ = _
  rw [metadataOp, source_setPos hfile]

/-! ### the fuel of the translated `while` is enough -/

theorem memStepA_done {W : Type} (A : Acc) (ext : Ext W) (cmap : Rs.HashMap Nat (List BlockChecksum)) (data : List Nat)
    (bs : Nat) (s : MemSt) (h : data.length ≤ s.2.2.1) : memStepA A ext cmap data bs s = .done s := by
  rcases s with ⟨ops, lit, pos, rolling⟩
  have : (!decide (pos < Rs.len data)) = true := by simp [Rs.len]; exact h
  simp only [memStepA, this, if_true]

theorem memStep_done {W : Type} (ext : Ext W) (cmap : Rs.HashMap Nat (List BlockChecksum)) (data : List Nat)
    (bs : Nat) (s : MemSt) (h : data.length ≤ s.2.2.1) : memStep ext cmap data bs s = .done s :=
  memStepA_done Acc.rs ext cmap data bs s h

section fuel
variable {W : Type} (ext : Ext W) (cmap : Rs.HashMap Nat (List BlockChecksum)) (data : List Nat) (bs : Nat)

/-- (`s.2.2.1` is `pos`) -/
theorem memStep_progress (hbs : 0 < bs) (s : MemSt) :
    (data.length ≤ s.2.2.1 ∧ memStep ext cmap data bs s = .done s) ∨
      ∃ s', memStep ext cmap data bs s = .yield s' ∧ s.2.2.1 < s'.2.2.1 ∧ s'.2.2.1 ≤ data.length := by
  rcases s with ⟨ops, lit, pos, rolling⟩
  rw [memStep, memStepA]
  by_cases h0 : (!decide (pos < Rs.len data)) = true
  · rw [if_pos h0]
    exact .inl ⟨by simpa [Rs.len] using h0, rfl⟩
  · rw [if_neg h0]
    have hpos : pos < data.length := by simpa [Rs.len] using h0
    have hlit : ∃ s', ForInStep.yield (litStep Acc.rs ext data bs ops lit pos rolling) = .yield s' ∧
        pos < s'.2.2.1 ∧ s'.2.2.1 ≤ data.length :=
      ⟨_, rfl, by rw [litStep_eq]; exact Nat.lt_succ_self _, by rw [litStep_eq]; exact hpos⟩
    right
    by_cases hfull : decide (Rs.len data - pos ≥ bs) = true
    · rw [if_pos hfull]
      have hle : pos + bs ≤ data.length := by
        have : bs ≤ data.length - pos := by simpa [Rs.len] using hfull
        omega
      cases Rs.get cmap (ext.adler_digest rolling) with
      | none => exact hlit
      | some cands =>
        dsimp only
        cases cands.find? _ with
        | none => exact hlit
        | some c => exact ⟨_, rfl, Nat.lt_add_of_pos_right hbs, hle⟩
    · rw [if_neg hfull]
      have hrest : pos + Rs.len (Acc.rs.slice_from data pos) = data.length := by
        show pos + (data.drop pos).length = _
        rw [List.length_drop]
        omega
      cases Rs.get cmap (ext.Adler32_hash (Acc.rs.slice_from data pos)) with
      | none => exact hlit
      | some cands =>
        dsimp only
        cases cands.find? _ with
        | none => exact hlit
        | some c => exact ⟨_, rfl, hrest ▸ hpos, Nat.le_of_eq hrest⟩

/-- FUEL: the translation runs the `while` as `for _ in [0:len]` with `break`.  `len - pos` rounds are enough
    for the loop to stop by itself: the final state has `pos = len` (the `while` condition is false) and more fuel
    changes nothing — so the bounded loop is the Rust `while`. -/
theorem fuel_sufficient (hbs : 0 < bs) (fuel : Nat) (s : MemSt) (hpos : s.2.2.1 ≤ data.length)
    (hf : data.length - s.2.2.1 ≤ fuel) :
    (iter (memStep ext cmap data bs) fuel s).2.2.1 = data.length ∧
      ∀ extra, iter (memStep ext cmap data bs) (fuel + extra) s = iter (memStep ext cmap data bs) fuel s := by
  induction fuel generalizing s with
  | zero =>
    have hd := memStep_done ext cmap data bs s (by omega)
    exact ⟨by simp only [iter]; omega, fun extra => by rw [iter_done _ _ hd]; rfl⟩
  | succ k ih =>
    rcases memStep_progress ext cmap data bs hbs s with ⟨hlen, hstep⟩ | ⟨s', hstep, h1, h2⟩
    · refine ⟨by simp only [iter, hstep]; omega, fun extra => ?_⟩
      rw [iter_done _ _ hstep, iter_done _ _ hstep]
    · obtain ⟨i1, i2⟩ := ih s' h2 (by omega)
      refine ⟨by simpa only [iter, hstep] using i1, fun extra => ?_⟩
      have : k + 1 + extra = (k + extra) + 1 := by omega
      rw [this]
      simpa only [iter, hstep] using i2 extra
end fuel

end SyModel.GenDelta
