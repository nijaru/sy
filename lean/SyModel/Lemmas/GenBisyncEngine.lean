/-
  Helper lemmas and model-side definitions of `SyModel.Props.GenBisyncEngine` that do not mention the world
  instance `modelExt`:
    * running a computation of the effect monad `Rs.M W = ExceptT Rs.Err (StateM W)` from a world (`runM`) and the
      equations of `pure`, `>>=`, `<$>`, `throw`, `Rs.capture`, `Rs.liftE`, `for … in … do` (`runM_forIn_rec`) under it;
      `op` (a world operation given as a function); `Pres` (computations that leave the world alone: it unfolds to
      `Rs.Pres` of `Lemmas/RsLogic`, whose rules apply to it as they stand);
    * root texts: `Rs.join` and stripping a root text from a joined path (`stripRoot`);
    * `Rs.get` is the model's first-match `lookup` (the Prelude's hash sets and maps themselves: `Lemmas/RsMap`);
    * which actions succeed when the model's executor runs a list and what they copy (`stepOk`, `mBytes`, `okActions`,
      `okBytes`, `okActions_all`).
  `changesIn`, `syncIn` (the model's sync with its iteration orders exposed) and their lemmas are in `Lemmas/BisyncSync`.
  Declared in the namespace of the Props module, whose statements name them.
-/
import SyModel.Lemmas.RsLogic
import SyModel.Lemmas.BisyncSync
import SyModel.Lemmas.PathText

namespace SyModel.Props.GenBisyncEngine
open SyModel
open SyModel.Generated (Rs.M Rs.Err Rs.Path)

/-- run a translated effectful computation from world `w`: the result (`Ok`/`Err`) and the world it leaves -/
def runM {W α : Type} (x : Rs.M W α) (w : W) : Except Rs.Err α × W := x.run.run w

/-- a world operation given as a function (how the instance defines the externs) -/
def op {W α : Type} (f : W → Except Rs.Err α × W) : Rs.M W α := ExceptT.mk (fun w => (f w : Id _))

@[simp] theorem runM_op {W α} (f : W → Except Rs.Err α × W) (w : W) : runM (op f) w = f w := rfl

@[simp] theorem runM_pure {W α} (a : α) (w : W) : runM (pure a : Rs.M W α) w = (.ok a, w) := rfl

@[simp] theorem runM_throw {W α} (e : Rs.Err) (w : W) : runM (throw e : Rs.M W α) w = (.error e, w) := rfl

theorem runM_bind {W α β} (x : Rs.M W α) (f : α → Rs.M W β) (w : W) :
    runM (x >>= f) w = match runM x w with
      | (.ok a, w') => runM (f a) w'
      | (.error e, w') => (.error e, w') :=
  Generated.Rs.run_bind x f w

theorem runM_map {W α β} (x : Rs.M W α) (f : α → β) (w : W) :
    runM (f <$> x) w = match runM x w with
      | (.ok a, w') => (.ok (f a), w')
      | (.error e, w') => (.error e, w') :=
  Generated.Rs.run_map f x w

theorem runM_bind_ok {W α β} {x : Rs.M W α} {f : α → Rs.M W β} {w w' : W} {a : α}
    (h : runM x w = (.ok a, w')) : runM (x >>= f) w = runM (f a) w' :=
  Generated.Rs.run_bind_ok h

theorem runM_bind_error {W α β} {x : Rs.M W α} {f : α → Rs.M W β} {w w' : W} {e : Rs.Err}
    (h : runM x w = (.error e, w')) : runM (x >>= f) w = (.error e, w') :=
  Generated.Rs.run_bind_error h

@[simp] theorem runM_capture {W α} (x : Rs.M W α) (w : W) :
    runM (Generated.Rs.capture x) w = (.ok (runM x w).1, (runM x w).2) := rfl

@[simp] theorem runM_liftE_ok {W α} (a : α) (w : W) :
    runM (Generated.Rs.liftE (.ok a) : Rs.M W α) w = (.ok a, w) := rfl

@[simp] theorem runM_liftE_error {W α} (e : Rs.Err) (w : W) :
    runM (Generated.Rs.liftE (.error e) : Rs.M W α) w = (.error e, w) := rfl

/-- a computation that leaves every world as it found it (whatever it answers) -/
def Pres {W α : Type} (x : Rs.M W α) : Prop := ∀ w, (runM x w).2 = w

/-- `Rs.run_forIn_rec` under `runM` (this unit rewrites with it), without the world invariant, which no loop of the unit
    needs -/
theorem runM_forIn_rec {W σ α : Type} (P : α → Prop) (F : List α → σ × W → σ × W)
    {f : α → σ → Rs.M W (ForInStep σ)} (hnil : ∀ x, F [] x = x)
    (hcons : ∀ c cs s w, P c →
      ∃ s' w', runM (f c s) w = (.ok (.yield s'), w') ∧ F (c :: cs) (s, w) = F cs (s', w'))
    (cs : List α) (hP : ∀ c ∈ cs, P c) (s0 : σ) (w : W) :
    runM (forIn cs s0 f) w = (.ok (F cs (s0, w)).1, (F cs (s0, w)).2) :=
  Generated.Rs.run_forIn_rec P (fun _ => True) F hnil
    (fun c cs s w hc _ => let ⟨s', w', hrun, hF⟩ := hcons c cs s w hc; ⟨s', w', hrun, trivial, hF⟩) cs hP s0 w trivial

/-- `p` with the text `root ++ "/"` taken off its front, if it starts with it -/
def stripRoot (root p : Rs.Path) : Option Bisync.Path :=
  if (root ++ ['/']).isPrefixOf p then some (p.drop (root.length + 1)) else none

theorem stripRoot_join {root : Rs.Path} (h : root ≠ []) (rel : Rs.Path) :
    stripRoot root (Generated.Rs.join root rel) = some rel := by
  rw [Lemmas.PathText.join_of_ne h]
  have e : root ++ '/' :: rel = (root ++ ['/']) ++ rel := by simp
  have hp : (root ++ ['/']).isPrefixOf (root ++ '/' :: rel) = true := by
    rw [List.isPrefixOf_iff_prefix, e]; exact List.prefix_append _ _
  have hd : (root ++ '/' :: rel).drop (root.length + 1) = rel := by
    rw [e]
    have : root.length + 1 = (root ++ ['/']).length := by simp
    rw [this, List.drop_left]
  simp only [stripRoot, hp, if_true, hd]

theorem stripRoot_join_other {a b : Rs.Path} (hb : b ≠ [])
    (h1 : ¬ (a ++ ['/']) <+: (b ++ ['/'])) (h2 : ¬ (b ++ ['/']) <+: (a ++ ['/'])) (rel : Rs.Path) :
    stripRoot a (Generated.Rs.join b rel) = none := by
  rw [Lemmas.PathText.join_of_ne hb]
  have e : b ++ '/' :: rel = (b ++ ['/']) ++ rel := by simp
  have hp : (a ++ ['/']).isPrefixOf (b ++ '/' :: rel) = false := by
    rw [Bool.eq_false_iff]
    intro hc
    rw [List.isPrefixOf_iff_prefix, e] at hc
    rcases List.prefix_or_prefix_of_prefix hc (List.prefix_append _ _) with h | h
    · exact h1 h
    · exact h2 h
  simp [stripRoot, hp]

theorem get_eq_lookup {β : Type} (m : Generated.Rs.HashMap Bisync.Path β) (k : Bisync.Path) :
    Generated.Rs.get m k = Bisync.lookup k m := by
  induction m with
  | nil => rfl
  | cons p t ih =>
    obtain ⟨a, v⟩ := p
    unfold Generated.Rs.get at ih ⊢
    by_cases hk : a = k
    · simp [Bisync.lookup, hk]
    · have : (a == k) = false := by simpa using hk
      simp [Bisync.lookup, hk, this, ih]

open SyModel.Bisync (World Root Db File Row aget aset aerase ExecState execOne execActions Action execOne_errors
  execActions_errors)

/-- does action `a` succeed from `st`? (the model's executor appends the path of a failed action to `errors`) -/
def stepOk (now : Nat) (st : ExecState) (a : Action) : Bool :=
  (execOne now ⟨st.left, st.right, []⟩ a).errors.isEmpty

/-- the bytes a successful `a` copies from `st`: the size the copied file has NOW -/
def mBytes (st : ExecState) : Action → Nat
  | .copyToSource p _ => ((aget p st.right).map (·.size)).getD 0
  | .copyToDest p _ => ((aget p st.left).map (·.size)).getD 0
  | _ => 0

/-- the actions that succeed when the list is executed in order from `st` -/
def okActions (now : Nat) : List Action → ExecState → List Action
  | [], _ => []
  | a :: t, st => (if stepOk now st a then [a] else []) ++ okActions now t (execOne now st a)

/-- the bytes they copy -/
def okBytes (now : Nat) : List Action → ExecState → Nat
  | [], _ => 0
  | a :: t, st => (if stepOk now st a then mBytes st a else 0) + okBytes now t (execOne now st a)

theorem okActions_errors (now : Nat) (acts : List Action) (st : ExecState) :
    okActions now acts st = okActions now acts ⟨st.left, st.right, []⟩ := by
  induction acts generalizing st with
  | nil => rfl
  | cons a t ih =>
    simp only [okActions]
    congr 1
    rw [execOne_errors, ih]
    conv => rhs; rw [ih]

theorem okBytes_errors (now : Nat) (acts : List Action) (st : ExecState) :
    okBytes now acts st = okBytes now acts ⟨st.left, st.right, []⟩ := by
  induction acts generalizing st with
  | nil => rfl
  | cons a t ih =>
    simp only [okBytes]
    congr 1
    rw [execOne_errors, ih]
    conv => rhs; rw [ih]

theorem okActions_all (now : Nat) (acts : List Action) (l r : Root)
    (h : (execActions now acts ⟨l, r, []⟩).errors = []) : okActions now acts ⟨l, r, []⟩ = acts := by
  induction acts generalizing l r with
  | nil => rfl
  | cons a t ih =>
    simp only [execActions, List.foldl_cons] at h
    have h' := execActions_errors now t (execOne now ⟨l, r, []⟩ a)
    simp only [execActions] at h'
    rw [h', List.append_eq_nil_iff] at h
    have hs : stepOk now ⟨l, r, []⟩ a = true := by unfold stepOk; simp [h.1]
    simp only [okActions, hs, if_true]
    rw [okActions_errors, ih _ _ h.2]
    rfl

theorem syncIn_okActions {strat : Bisync.Strategy} {md stamp : Nat} {order paths : List Bisync.Path} {w : World}
    (h : (syncIn strat md stamp order paths w).errors = []) :
    okActions w.clock (syncIn strat md stamp order paths w).actions ⟨w.left, w.right, []⟩ =
      (syncIn strat md stamp order paths w).actions := by
  by_cases hlim : Bisync.deletionLimitExceeded (changesIn order w) md = true
  · rw [syncIn_refused hlim]
    rfl
  · rw [syncIn_accepted hlim] at h ⊢
    exact okActions_all _ _ _ _ h

end SyModel.Props.GenBisyncEngine
