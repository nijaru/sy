/-
  Lemmas.GenDeltaStream — the translated `generate_delta_streaming` (`SyModel/Generated/Code/Delta.lean`, from
  src/delta/generator.rs:67-228): its NORMAL FORM for every `Ext` (open, `metadata().len()`, empty-file return, first
  `read`, then `source_size + 1` rounds `iterM` of the EFFECTFUL step `streamStep` — the step may perform one
  effect, the refill `read` — and the final flush), and the lemmas that relate `streamStep` on the trusted instance
  `inst strong` (the trusted first part of Lemmas/GenDelta.lean) to the handwritten model
  `SyModel.Delta.genStreamGo` (`sbody` + `srefill`), the round and the loop of `generate_delta` to `sbody` and
  `SyModel.Delta.genMemGo` (the same rounds without refill), and, for both translated functions, that the totalised
  accessors of the Prelude are only used in range.  Nothing in this file is trusted; the world, the instance and the
  abstraction maps are the ones of Lemmas/GenDelta.lean.
-/
import SyModel.Lemmas.GenDelta
import SyModel.Lemmas.Stream
import SyModel.Lemmas.RsMonad
set_option autoImplicit false
namespace SyModel.GenDeltaStream
open SyModel SyModel.Generated SyModel.Generated.Delta SyModel.GenDelta
open SyModel.Generated.Rs (run_bind run_bind_ok run_bind_congr run_pure)

/-! ### normal form of `generate_delta_streaming` (any `Ext`) -/

/-- loop state of `generate_delta_streaming`, in the order of the translation's tuple:
    `ops, literal_buffer, window, chunk_buf, bytes_read, rolling, window_pos, _file_pos` -/
abbrev StSt := List DeltaOp × List Nat × List Nat × List Nat × Nat × RollSt × Nat × Nat

abbrev StSt.window (s : StSt) : List Nat := s.2.2.1
abbrev StSt.wpos (s : StSt) : Nat := s.2.2.2.2.2.2.1

/-- what the match attempt hands to the rest of the round: `ops, literal_buffer, rolling, window_pos, _file_pos,
    found_match` -/
abbrev MatchSt := List DeltaOp × List Nat × RollSt × Nat × Nat × Bool

/-- "Try to match full blocks" / "Partial block at end" (generator.rs:120-184) -/
def matchA {W : Type} (A : Acc) (ext : Ext W) (cmap : Rs.HashMap Nat (List BlockChecksum)) (bs : Nat)
    (window : List Nat) (ops : List DeltaOp) (lit : List Nat) (rolling : RollSt) (wpos fpos : Nat) : MatchSt :=
  if decide (Rs.len window - wpos ≥ bs) = true then
    match Rs.get cmap (ext.adler_digest rolling) with
    | some cands =>
      match cands.find? (fun c => c.strong ==
          ext.xxh3_digest (ext.xxh3_update Rs.xxh3_new (A.slice window wpos (wpos + bs)))) with
      | some c =>
        (flushG ops lit ++ [DeltaOp.Copy c.offset c.size], [],
          (if decide (wpos + bs + bs ≤ Rs.len window) = true then
            ext.adler_update_block rolling (A.slice window (wpos + bs) (wpos + bs + bs)) else rolling),
          wpos + bs, fpos + Rs.cast bs, true)
      | none => (ops, lit, rolling, wpos, fpos, false)
    | none => (ops, lit, rolling, wpos, fpos, false)
  else if decide (Rs.len window - wpos > 0) = true then
    match Rs.get cmap (ext.Adler32_hash (A.slice_from window wpos)) with
    | some cands =>
      match cands.find? (fun c => c.size == Rs.len (A.slice_from window wpos) &&
          c.strong == ext.xxh3_digest (ext.xxh3_update Rs.xxh3_new (A.slice_from window wpos))) with
      | some c =>
        (flushG ops lit ++ [DeltaOp.Copy c.offset c.size], [], rolling,
          wpos + Rs.len (A.slice_from window wpos), fpos + Rs.cast (Rs.len (A.slice_from window wpos)), true)
      | none => (ops, lit, rolling, wpos, fpos, false)
    | none => (ops, lit, rolling, wpos, fpos, false)
  else (ops, lit, rolling, wpos, fpos, false)

/-- "No match - add byte to literal buffer" (generator.rs:186-197): `literal_buffer, rolling, window_pos, _file_pos` -/
def litA {W : Type} (A : Acc) (ext : Ext W) (bs : Nat) (window : List Nat) (lit : List Nat) (rolling : RollSt)
    (wpos fpos : Nat) (found : Bool) : List Nat × RollSt × Nat × Nat :=
  if (!found && decide (wpos < Rs.len window)) = true then
    (lit ++ [A.index window wpos],
      (if decide (wpos + bs < Rs.len window) = true then
        ext.adler_roll rolling (A.index window wpos) (A.index window (wpos + bs)) else rolling),
      wpos + 1, fpos + 1)
  else (lit, rolling, wpos, fpos)

/-- the state after the refill `read` answered `r = (bytes_read, chunk_buf)` (generator.rs:206-214); `window` is the
    drained window -/
def afterReadA {W : Type} (A : Acc) (ext : Ext W) (bs : Nat) (ops : List DeltaOp) (lit : List Nat)
    (window : List Nat) (rolling : RollSt) (fpos : Nat) (r : Nat × List Nat) : StSt :=
  if decide (r.1 > 0) = true then
    (ops, lit, window ++ A.slice r.2 0 r.1, r.2, r.1,
      (if decide (Rs.len (window ++ A.slice r.2 0 r.1) ≥ bs) = true then
        ext.adler_update_block rolling (A.slice (window ++ A.slice r.2 0 r.1) 0 bs) else rolling), 0, fpos)
  else (ops, lit, window, r.2, r.1, rolling, 0, fpos)

/-- "Refill window when needed" (generator.rs:199-215): the ONE effect of a round.  Written in the shape of the
    generated code (see `refillA_eq` for the readable form) -/
def refillA {W : Type} (A : Acc) (ext : Ext W) (h bs : Nat) (ops : List DeltaOp) (window chunk_buf : List Nat)
    (bytes_read : Nat) (lit : List Nat) (rolling : RollSt) (wpos fpos : Nat) : Rs.M W (ForInStep StSt) :=
  if (decide (wpos ≥ bs) && decide (bytes_read > 0) && decide (Rs.len window - wpos < bs)) = true then
    ext.h_read h chunk_buf >>= fun r =>
      if decide (r.1 > 0) = true then
        if decide (Rs.len (Rs.drain_range window 0 wpos ++ A.slice r.2 0 r.1) ≥ bs) = true then
          pure (ForInStep.yield (ops, lit, Rs.drain_range window 0 wpos ++ A.slice r.2 0 r.1, r.2, r.1,
            ext.adler_update_block rolling (A.slice (Rs.drain_range window 0 wpos ++ A.slice r.2 0 r.1) 0 bs), 0, fpos))
        else
          pure (ForInStep.yield (ops, lit, Rs.drain_range window 0 wpos ++ A.slice r.2 0 r.1, r.2, r.1, rolling, 0, fpos))
      else pure (ForInStep.yield (ops, lit, Rs.drain_range window 0 wpos, r.2, r.1, rolling, 0, fpos))
  else pure (ForInStep.yield (ops, lit, window, chunk_buf, bytes_read, rolling, wpos, fpos))

/-- everything of a round after the match attempt: the literal step, then the refill (the join point of the
    generated code, in its shape; `tailA_eq` gives the readable form) -/
def tailA {W : Type} (A : Acc) (ext : Ext W) (h bs : Nat) (window chunk_buf : List Nat) (bytes_read : Nat)
    (ops : List DeltaOp) (lit : List Nat) (rolling : RollSt) (wpos fpos : Nat) (found : Bool) :
    Rs.M W (ForInStep StSt) :=
  if (!found && decide (wpos < Rs.len window)) = true then
    if decide (wpos + bs < Rs.len window) = true then
      refillA A ext h bs ops window chunk_buf bytes_read (lit ++ [A.index window wpos])
        (ext.adler_roll rolling (A.index window wpos) (A.index window (wpos + bs))) (wpos + 1) (fpos + 1)
    else
      refillA A ext h bs ops window chunk_buf bytes_read (lit ++ [A.index window wpos]) rolling (wpos + 1) (fpos + 1)
  else refillA A ext h bs ops window chunk_buf bytes_read lit rolling wpos fpos

/-- one round of `while window_pos < window.len()` (generator.rs:116-216) on the loop state; it lives in the monad
    because of the refill -/
def streamStepA {W : Type} (A : Acc) (ext : Ext W) (cmap : Rs.HashMap Nat (List BlockChecksum)) (h bs : Nat) :
    StSt → Rs.M W (ForInStep StSt)
  | (ops, lit, window, chunk_buf, bytes_read, rolling, wpos, fpos) =>
    if (!decide (wpos < Rs.len window)) = true then
      pure (ForInStep.done (ops, lit, window, chunk_buf, bytes_read, rolling, wpos, fpos))
    else
      tailA A ext h bs window chunk_buf bytes_read
        (matchA A ext cmap bs window ops lit rolling wpos fpos).1
        (matchA A ext cmap bs window ops lit rolling wpos fpos).2.1
        (matchA A ext cmap bs window ops lit rolling wpos fpos).2.2.1
        (matchA A ext cmap bs window ops lit rolling wpos fpos).2.2.2.1
        (matchA A ext cmap bs window ops lit rolling wpos fpos).2.2.2.2.1
        (matchA A ext cmap bs window ops lit rolling wpos fpos).2.2.2.2.2

def streamStep {W : Type} (ext : Ext W) (cmap : Rs.HashMap Nat (List BlockChecksum)) (h bs : Nat) :
    StSt → Rs.M W (ForInStep StSt) := streamStepA Acc.rs ext cmap h bs

/-- the loop state before the first round: `window` holds the first chunk, the rolling hash is initialised when
    the window holds a whole block (generator.rs:94-114) -/
def streamInitA {W : Type} (A : Acc) (ext : Ext W) (bs : Nat) (r1 : Nat × List Nat) : StSt :=
  ([], [], (if decide (r1.1 > 0) = true then [] ++ A.slice r1.2 0 r1.1 else []), r1.2, r1.1,
    (if decide (Rs.len (if decide (r1.1 > 0) = true then [] ++ A.slice r1.2 0 r1.1 else []) ≥ bs) = true then
      ext.adler_update_block (ext.Adler32_new bs)
        (A.slice (if decide (r1.1 > 0) = true then [] ++ A.slice r1.2 0 r1.1 else []) 0 bs)
    else ext.Adler32_new bs), 0, 0)

/-- the whole function with the accessors as a parameter -/
def streamResultA {W : Type} (A : Acc) (ext : Ext W) (p : Rs.Path) (cs : List BlockChecksum) (bs : Nat) :
    Rs.M W Delta :=
  ext.File_open p >>= fun h => ext.h_metadata h >>= fun md =>
    if (Rs.len md == 0) = true then pure { ops := [], source_size := 0, block_size := bs }
    else
      ext.h_read h (List.replicate (256 * 1024) 0) >>= fun r1 =>
        iterM (streamStepA A ext (buildMap cs) h bs) (Rs.len md + 1) (streamInitA A ext bs r1) >>= fun s =>
          pure { ops := flushG s.1 s.2.1, source_size := Rs.len md, block_size := bs }

def streamResult {W : Type} (ext : Ext W) (p : Rs.Path) (cs : List BlockChecksum) (bs : Nat) : Rs.M W Delta :=
  streamResultA Acc.rs ext p cs bs

/-- NORMAL FORM of the translated `generate_delta_streaming`, for every `Ext`: open, `metadata().len()`, the
    empty-file return, the first `read`, then `source_size + 1` rounds (`iterM`) of the effectful step `streamStep`
    and the final flush.  The only theorem about `generate_delta_streaming` that depends on the shape of the
    generated code. -/
theorem generate_delta_streaming_nf {W : Type} (ext : Ext W) (p : Rs.Path) (cs : List BlockChecksum) (bs : Nat) :
    generate_delta_streaming ext p cs bs = streamResult ext p cs bs := by
  unfold generate_delta_streaming streamResult streamResultA
  show forIn cs [] _ >>= _ = _
  rw [List.forIn_pure_yield_eq_foldl, pure_bind]
  refine bind_congr fun h => bind_congr fun md => ?_
  refine ite_congr rfl (fun _ => rfl) fun _ => ?_
  refine bind_congr fun r1 => ?_
  -- `afterRead` is the join point after `if bytes_read > 0 { window.extend(..) }`, `loop` the one after
  -- `if window.len() ≥ block_size { rolling.update_block(..) }`: each is run by both branches, on two arguments
  extract_lets +onlyGivenNames -underBinder cbuf br afterRead
  refine (apply_ite (afterRead ()) _ _ _).symm.trans ?_
  unfold afterRead
  extract_lets +onlyGivenNames -underBinder rolling loop
  refine (apply_ite (loop ()) _ _ _).symm.trans ?_
  unfold loop
  show forIn _ _ _ >>= _ = _
  rw [forIn_range_M _ _ _ (streamStepA Acc.rs ext (buildMap cs) h bs) ?body]
  case body =>
    intro x s
    extract_lets +onlyGivenNames -underBinder ops s1 lit s2 window s3 cbuf s4 br s5 rolling s6 wpos fpos
    show _ = streamStepA Acc.rs ext (buildMap cs) h bs (ops, lit, window, cbuf, br, rolling, wpos, fpos)
    clear_value ops lit window cbuf br rolling wpos fpos
    by_cases hg : (!decide (wpos < Rs.len window)) = true
    · rw [if_pos hg, streamStepA, if_pos hg]
    · rw [if_neg hg, streamStepA, if_neg hg]
      -- `tail` is the join point after the match attempt (literal step, then refill): `tailA` has its shape
      extract_lets +onlyGivenNames -underBinder remaining found tail
      have htail : ∀ o l r w f b, tail () o l r w f b = tailA Acc.rs ext h bs window cbuf br o l r w f b :=
        fun _ _ _ _ _ _ => rfl
      clear_value tail
      simp only [remaining, found, buildMap, matchA, Acc.rs]
      by_cases hfull : decide (Rs.len window - wpos ≥ bs) = true
      · rw [if_pos hfull, if_pos hfull]
        cases hget : Rs.get (List.foldl (fun b a => Rs.entry_push b a.weak a) [] cs) (ext.adler_digest rolling) with
        | none => exact htail _ _ _ _ _ _
        | some cands =>
          dsimp only
          rw [forIn_scan cands
            (fun c => c.strong == ext.xxh3_digest (ext.xxh3_update Rs.xxh3_new (Rs.slice window wpos (wpos + bs))))
            (fun c t => ((if decide (t.2.1 + bs + bs ≤ Rs.len window) = true then
                ext.adler_update_block t.1 (Rs.slice window (t.2.1 + bs) (t.2.1 + bs + bs)) else t.1),
              t.2.1 + bs, t.2.2.1 + Rs.cast bs, true))
            _ ?hf, pure_bind]
          case hf =>
            intro c ops lit t
            by_cases h2 : decide (t.2.1 + bs + bs ≤ Rs.len window) = true <;> simp only [h2, if_true] <;> rfl
          cases cands.find? _ <;> exact htail _ _ _ _ _ _
      · rw [if_neg hfull, if_neg hfull]
        by_cases hrem : decide (Rs.len window - wpos > 0) = true
        · rw [if_pos hrem, if_pos hrem]
          cases hget : Rs.get (List.foldl (fun b a => Rs.entry_push b a.weak a) [] cs)
              (ext.Adler32_hash (Rs.slice_from window wpos)) with
          | none => exact htail _ _ _ _ _ _
          | some cands =>
            dsimp only
            rw [forIn_scan cands
              (fun c => c.size == Rs.len (Rs.slice_from window wpos) &&
                c.strong == ext.xxh3_digest (ext.xxh3_update Rs.xxh3_new (Rs.slice_from window wpos)))
              (fun c t => (t.1 + Rs.len (Rs.slice_from window wpos), t.2.1 + Rs.cast (Rs.len (Rs.slice_from window wpos)), true))
              _ (fun _ _ _ _ => rfl), pure_bind]
            cases cands.find? _ <;> exact htail _ _ _ _ _ _
        · rw [if_neg hrem, if_neg hrem]
          exact htail _ _ _ _ _ _
  refine bind_congr fun s => ?_
  exact (apply_ite (fun o => pure (⟨o, _, _⟩ : Delta)) _ _ _).symm

/-! ### readable forms; the pure part of a round is a round of `generate_delta` on the window -/

section readable
variable {W : Type} (A : Acc) (ext : Ext W) (cmap : Rs.HashMap Nat (List BlockChecksum)) (h bs : Nat)

theorem refillA_eq (ops : List DeltaOp) (window chunk_buf : List Nat) (bytes_read : Nat) (lit : List Nat)
    (rolling : RollSt) (wpos fpos : Nat) :
    refillA A ext h bs ops window chunk_buf bytes_read lit rolling wpos fpos =
      if (decide (wpos ≥ bs) && decide (bytes_read > 0) && decide (Rs.len window - wpos < bs)) = true then
        ext.h_read h chunk_buf >>= fun r =>
          pure (ForInStep.yield (afterReadA A ext bs ops lit (Rs.drain_range window 0 wpos) rolling fpos r))
      else pure (ForInStep.yield (ops, lit, window, chunk_buf, bytes_read, rolling, wpos, fpos)) := by
  unfold refillA afterReadA
  refine ite_congr rfl (fun _ => bind_congr fun r => ?_) fun _ => rfl
  rw [apply_ite (fun s => pure (ForInStep.yield s)), apply_ite (fun r => pure (ForInStep.yield (_, _, _, _, _, r, _, _)))]

theorem tailA_eq (window chunk_buf : List Nat) (bytes_read : Nat) (ops : List DeltaOp) (lit : List Nat)
    (rolling : RollSt) (wpos fpos : Nat) (found : Bool) :
    tailA A ext h bs window chunk_buf bytes_read ops lit rolling wpos fpos found =
      refillA A ext h bs ops window chunk_buf bytes_read
        (litA A ext bs window lit rolling wpos fpos found).1 (litA A ext bs window lit rolling wpos fpos found).2.1
        (litA A ext bs window lit rolling wpos fpos found).2.2.1 (litA A ext bs window lit rolling wpos fpos found).2.2.2 := by
  unfold tailA litA
  split
  · split <;> rfl
  · rfl

/-- the `_file_pos` a round computes (a debugging counter of the Rust code: nothing reads it) -/
def fposOf (window : List Nat) (ops : List DeltaOp) (lit : List Nat) (rolling : RollSt) (wpos fpos : Nat) : Nat :=
  (litA A ext bs window (matchA A ext cmap bs window ops lit rolling wpos fpos).2.1
    (matchA A ext cmap bs window ops lit rolling wpos fpos).2.2.1
    (matchA A ext cmap bs window ops lit rolling wpos fpos).2.2.2.1
    (matchA A ext cmap bs window ops lit rolling wpos fpos).2.2.2.2.1
    (matchA A ext cmap bs window ops lit rolling wpos fpos).2.2.2.2.2).2.2.2

/-- the successor state of a `ForInStep` -/
def stepVal {σ : Type} : ForInStep σ → σ
  | .yield s => s
  | .done s => s

/-- THE PURE PART OF A ROUND IS THE ROUND OF THE IN-MEMORY GENERATOR ON THE WINDOW: match attempt and literal step
    of `generate_delta_streaming` at `window_pos < window.len()` compute what `memStepA` computes with
    `source_data := window`, `pos := window_pos` (the two literal steps differ only in the order of `pos += 1`
    and the roll test) -/
theorem stream_pure_eq_mem (window : List Nat) (ops : List DeltaOp) (lit : List Nat) (rolling : RollSt)
    (wpos fpos : Nat) (hlt : wpos < window.length) :
    memStepA A ext cmap window bs (ops, lit, wpos, rolling) =
      let M := matchA A ext cmap bs window ops lit rolling wpos fpos
      let L := litA A ext bs window M.2.1 M.2.2.1 M.2.2.2.1 M.2.2.2.2.1 M.2.2.2.2.2
      .yield (M.1, L.1, L.2.2.1, L.2.1) := by
  have hg : (!decide (wpos < Rs.len window)) = false := by simp [Rs.len, hlt]
  have hrem : decide (Rs.len window - wpos > 0) = true := by simp [Rs.len]; omega
  have hlit : ForInStep.yield (litStep A ext window bs ops lit wpos rolling) =
      .yield (ops, (litA A ext bs window lit rolling wpos fpos false).1,
        (litA A ext bs window lit rolling wpos fpos false).2.2.1, (litA A ext bs window lit rolling wpos fpos false).2.1) := by
    have hl : (!false && decide (wpos < Rs.len window)) = true := by simp [Rs.len, hlt]
    simp only [litA, litStep_eq, hl, if_true]
  unfold memStepA matchA
  simp only [hg, Bool.false_eq_true, if_false, hrem, if_true]
  by_cases hfull : decide (Rs.len window - wpos ≥ bs) = true
  · simp only [if_pos hfull]
    cases hget : Rs.get cmap (ext.adler_digest rolling) with
    | none => exact hlit
    | some cands =>
      simp only []
      cases hfind : cands.find? _ with
      | none => exact hlit
      | some c => simp [litA]
  · simp only [if_neg hfull]
    cases hget : Rs.get cmap (ext.Adler32_hash (A.slice_from window wpos)) with
    | none => exact hlit
    | some cands =>
      simp only []
      cases hfind : cands.find? _ with
      | none => exact hlit
      | some c => simp [litA]

theorem streamStepA_eq (window chunk_buf : List Nat) (bytes_read : Nat) (ops : List DeltaOp) (lit : List Nat)
    (rolling : RollSt) (wpos fpos : Nat) (hlt : wpos < window.length) :
    streamStepA A ext cmap h bs (ops, lit, window, chunk_buf, bytes_read, rolling, wpos, fpos) =
      let S := stepVal (memStepA A ext cmap window bs (ops, lit, wpos, rolling))
      refillA A ext h bs S.1 window chunk_buf bytes_read S.2.1 S.2.2.2 S.2.2.1
        (fposOf A ext cmap bs window ops lit rolling wpos fpos) := by
  have hg : (!decide (wpos < Rs.len window)) = false := by simp [Rs.len, hlt]
  rw [stream_pure_eq_mem A ext cmap bs window ops lit rolling wpos fpos hlt]
  simp only [stepVal, streamStepA, hg, Bool.false_eq_true, if_false, tailA_eq, fposOf]

theorem streamStepA_done (s : StSt) (hge : s.window.length ≤ s.wpos) :
    streamStepA A ext cmap h bs s = pure (ForInStep.done s) := by
  rcases s with ⟨ops, lit, window, chunk_buf, bytes_read, rolling, wpos, fpos⟩
  have hg : (!decide (wpos < Rs.len window)) = true := by simp [Rs.len]; exact hge
  simp only [streamStepA, hg, if_true]
end readable

/-! ### code states that represent model states -/

section onInstance
variable (strong : Bytes → Nat) (cs : List BlockChecksum) (bs : Nat)

/-- the code loop state that represents the model state `st` while the window buffer holds `win` (its first
    `st.wpos` bytes are consumed, the rest is `st.wrest`), the read buffer is `cbuf` and the debugging counter `fpos` -/
def strSt (bs : Nat) (win : Bytes) (cbuf : List Nat) (fpos : Nat) (st : Delta.SSt) : StSt :=
  (st.opsRev.reverse.map repOp, ofU8 st.litRev.reverse, ofU8 win, cbuf, st.bytesRead, rollOf bs st.roll, st.wpos, fpos)

/-- `win` is a window buffer for the model state `st` -/
structure Rep (win : Bytes) (st : Delta.SSt) : Prop where
  wrest : win.drop st.wpos = st.wrest
  wpos : st.wpos ≤ win.length

/-! ### a round of `generate_delta` on the instance is the model's `sbody` -/

/-- (about `Basic.hasAtLeast`) -/
theorem hasAtLeast_eq_decide {α : Type} (n : Nat) (l : List α) : hasAtLeast n l = decide (n ≤ l.length) := by
  rw [Bool.eq_iff_iff, hasAtLeast_iff]; simp

/-- `if window.len() ≥ block_size { rolling.update_block(&window[..block_size]) }` on the instance -/
theorem inst_update_if (bs : Nat) (roll : Delta.Adler) (w : Bytes) :
    (if decide (Rs.len (ofU8 w) ≥ bs) = true then
        (inst strong).adler_update_block (rollOf bs roll) (Rs.slice (ofU8 w) 0 bs) else rollOf bs roll) =
      rollOf bs (if hasAtLeast bs w = true then Delta.Adler.ofBlock (w.take bs) else roll) := by
  rw [hasAtLeast_eq_decide, len_ofU8]
  cases decide (bs ≤ w.length) <;> simp

/-- model state ↦ code loop state of `generate_delta` -/
abbrev memSt (bs : Nat) (st : Delta.SSt) : MemSt :=
  (st.opsRev.reverse.map repOp, ofU8 st.litRev.reverse, st.wpos, rollOf bs st.roll)

theorem flushG_flush (litRev : Bytes) (opsRev : List Delta.Op) :
    flushG (opsRev.reverse.map repOp) (ofU8 litRev.reverse) = (Delta.flush litRev opsRev).reverse.map repOp := by
  cases litRev with
  | nil => simp [flushG, Delta.flush, Rs.is_empty, Rs.len]
  | cons x t => simp [flushG, Delta.flush, Rs.is_empty, repOp]

/-- the rolling state after the model's literal step (`sbody`, both `none` cases) -/
def litModel (bs : Nat) (x : UInt8) (tl : Bytes) (roll : Delta.Adler) : Delta.Adler :=
  match (x :: tl).drop bs with
  | y :: _ => Delta.Adler.roll bs roll x y
  | [] => roll

theorem litStep_inst (bs : Nat) (pre : Bytes) (x : UInt8) (tl : Bytes) (roll : Delta.Adler) (litRev : Bytes)
    (opsRev : List Delta.Op) :
    litStep Acc.rs (inst strong) (ofU8 (pre ++ x :: tl)) bs (opsRev.reverse.map repOp) (ofU8 litRev.reverse) pre.length
        (rollOf bs roll) =
      (opsRev.reverse.map repOp, ofU8 (x :: litRev).reverse, pre.length + 1, rollOf bs (litModel bs x tl roll)) := by
  rw [litStep_eq]
  unfold litModel
  have e4 : ofU8 litRev.reverse ++ [x.toNat] = ofU8 (x :: litRev).reverse := by simp [ofU8]
  have hx : Rs.index (ofU8 (pre ++ x :: tl)) pre.length = x.toNat :=
    index_of_drop _ _ x tl (List.drop_left' rfl)
  simp only [Acc.rs, hx, len_ofU8, List.length_append, List.length_cons, e4]
  cases hd : (x :: tl).drop bs with
  | nil =>
    have : tl.length + 1 ≤ bs := by simpa using hd
    have hc : decide (pre.length + bs < pre.length + (tl.length + 1)) = false := by simp; omega
    simp only [hc, Bool.false_eq_true, if_false]
  | cons y r =>
    have hlt : bs < tl.length + 1 := by
      have := congrArg List.length hd; simp at this; omega
    have hc : decide (pre.length + bs < pre.length + (tl.length + 1)) = true := by simp; omega
    have hy : Rs.index (ofU8 (pre ++ x :: tl)) (pre.length + bs) = y.toNat :=
      index_of_drop _ _ y r (by rw [← List.drop_drop, List.drop_left' rfl, hd])
    simp only [hc, if_true, hy, inst_roll]
    simp [Nat.toUInt8]

theorem findFull_abs (cs : List BlockChecksum) (k st : Nat) :
    Delta.findFull (cs.map absBlock) k st = (cs.find? (fun c => c.weak == k && c.strong == st)).map absBlock := by
  unfold Delta.findFull; rw [List.find?_map]; rfl

theorem findPartial_abs (cs : List BlockChecksum) (k st len : Nat) :
    Delta.findPartial (cs.map absBlock) k st len =
      (cs.find? (fun c => c.weak == k && (c.size == len && c.strong == st))).map absBlock := by
  unfold Delta.findPartial; rw [List.find?_map]; rfl

/-- ONE ROUND ON THE INSTANCE is the model's `sbody` (the round both model generators share), from the code state that
    represents `st` in the buffer `win`: the bucket scan finds what the model's `findFull` / `findPartial` find
    (`scan_buildMap`), the literal step is `litStep_inst` -/
theorem memStep_sbody (win : Bytes) (st : Delta.SSt) (x : UInt8) (tl : Bytes)
    (hrep : Rep win st) (hw : st.wrest = x :: tl) :
    memStep (inst strong) (buildMap cs) (ofU8 win) bs (memSt bs st) =
      .yield (memSt bs (Delta.sbody strong (cs.map absBlock) bs st x tl)) := by
  obtain ⟨pre, rfl, hpos⟩ : ∃ pre, win = pre ++ x :: tl ∧ st.wpos = pre.length :=
    ⟨win.take st.wpos, by rw [← hw, ← hrep.wrest, List.take_append_drop],
      by rw [List.length_take]; exact (Nat.min_eq_left hrep.wpos).symm⟩
  have hlit := litStep_inst strong bs pre x tl st.roll st.litRev st.opsRev
  simp only [memSt, hpos] at hlit ⊢
  simp only [memStep, memStepA, hlit]
  have hp : (!decide (pre.length < Rs.len (ofU8 (pre ++ x :: tl)))) = false := by simp
  have hdrop : (pre ++ x :: tl).drop pre.length = x :: tl := by simp
  have hrem : decide (Rs.len (ofU8 (pre ++ x :: tl)) - pre.length ≥ bs) = hasAtLeast bs (x :: tl) := by
    rw [hasAtLeast_eq_decide, len_ofU8, List.length_append, Nat.add_sub_cancel_left]
  unfold Delta.sbody
  simp only [hp, Bool.false_eq_true, if_false, hrem, hpos]
  by_cases hfull : hasAtLeast bs (x :: tl) = true
  · simp only [hfull, if_true, Acc.rs, slice_ofU8, inst_digest, inst_strong, toU8_ofU8, hdrop, Nat.add_sub_cancel_left,
      findFull_abs, flushG_flush]
    rcases scan_buildMap cs st.roll.digest (fun c => c.strong == strong (List.take bs (x :: tl))) with
      ⟨h1, h2⟩ | ⟨cands, h1, h2⟩ <;> simp only [h1, h2]
    · rfl
    · cases hfind : cs.find? _ with
      | none => rfl
      | some c =>
        simp only [Option.map_some, absBlock]
        have hd2 : (pre ++ x :: tl).drop (pre.length + bs) = (x :: tl).drop bs := by
          rw [← List.drop_drop, hdrop]
        have hc2 : decide (pre.length + bs + bs ≤ Rs.len (ofU8 (pre ++ x :: tl))) = hasAtLeast bs ((x :: tl).drop bs) := by
          rw [hasAtLeast_eq_decide]; simp; omega
        rw [hc2, hd2]
        cases hasAtLeast bs ((x :: tl).drop bs) <;> simp [repOp]
  · have hlen : Rs.len (ofU8 (x :: tl)) = (x :: tl).length := len_ofU8 _
    simp only [hfull, Bool.false_eq_true, if_false, Acc.rs, slice_from_ofU8, inst_hash, inst_strong, toU8_ofU8, hdrop,
      findPartial_abs, flushG_flush, hlen]
    rcases scan_buildMap cs (Delta.hashBytes (x :: tl))
        (fun c => c.size == (x :: tl).length && c.strong == strong (x :: tl)) with
      ⟨h1, h2⟩ | ⟨cands, h1, h2⟩ <;> simp only [h1, h2]
    · rfl
    · cases hfind : cs.find? _ with
      | none => rfl
      | some c => simp [absBlock, repOp]

theorem rep_sbody (win : Bytes) (st : Delta.SSt) (x : UInt8) (tl : Bytes)
    (hrep : Rep win st) (hw : st.wrest = x :: tl) : Rep win (Delta.sbody strong (cs.map absBlock) bs st x tl) := by
  obtain ⟨k, _, _, _, he, hk, -⟩ := Delta.sbody_cases strong (cs.map absBlock) bs st x tl
  have hl := congrArg List.length hrep.wrest
  rw [hw, List.length_drop, List.length_cons] at hl
  rw [he]
  exact ⟨(List.drop_drop ..).symm.trans (by rw [hrep.wrest, hw]), Nat.le_trans (Nat.add_le_add_left hk _) (by omega)⟩

theorem rep_nil (win : Bytes) (st : Delta.SSt) (hrep : Rep win st) (hw : st.wrest = []) : win.length ≤ st.wpos := by
  have := congrArg List.length hrep.wrest
  rw [hw] at this; simp at this; omega

/-! ### the loop of `generate_delta` on the instance is `genMemGo`: the same rounds, no refill -/

/-- LOOP INVARIANT of the in-memory generator: from the code state that represents the model state `st` over the
    whole file `new` (`Rep new st`: position = length of the consumed prefix, accumulators reversed), `fuel ≥ |wrest|`
    rounds of the translated loop followed by the final flush give the model's `genMemGo` on the unconsumed rest. -/
theorem memLoop_eq (hbs : 0 < bs) (new : Bytes) (st : Delta.SSt)
    (hrep : Rep new st) (fuel : Nat) (hf : st.wrest.length ≤ fuel) :
    flushG (iter (memStep (inst strong) (buildMap cs) (ofU8 new) bs) fuel (memSt bs st)).1
        (iter (memStep (inst strong) (buildMap cs) (ofU8 new) bs) fuel (memSt bs st)).2.1 =
      (Delta.genMemGo strong (cs.map absBlock) bs st.wrest st.roll st.litRev st.opsRev).map repOp := by
  induction fuel generalizing st with
  | zero =>
    rw [List.eq_nil_of_length_eq_zero (Nat.le_zero.mp hf), Delta.genMemGo]
    exact flushG_flush st.litRev st.opsRev
  | succ k ih =>
    cases hw : st.wrest with
    | nil =>
      have hlen : (ofU8 new).length ≤ (memSt bs st).2.2.1 := by
        rw [length_ofU8]
        exact rep_nil new st hrep hw
      rw [iter_done _ _ (memStep_done _ _ _ _ _ hlen), Delta.genMemGo]
      exact flushG_flush st.litRev st.opsRev
    | cons x tl =>
      have hm := Delta.sbody_measure strong (cs.map absBlock) bs hbs st x tl hw
      rw [Delta.SSt.measure, Delta.SSt.measure, (Delta.sbody_frame strong (cs.map absBlock) bs st x tl).1, hw] at hm
      rw [iter, memStep_sbody strong cs bs new st x tl hrep hw, Delta.genMemGo_round strong _ bs hbs st x tl]
      exact ih _ (rep_sbody strong cs bs new st x tl hrep hw) (by rw [hw] at hf; simp at hf hm; omega)

/-! ### the refill on the instance is the model's `srefill` -/

/-- the code side of the loop invariant: `win` is a window buffer for `st`, the read buffer has `chunk` bytes and the
    handle stands at `pos`, where the model's unread rest of the file begins -/
structure RepC (new : Bytes) (chunk pos : Nat) (win : Bytes) (cbuf : List Nat) (st : Delta.SSt) : Prop extends Rep win st where
  cbuf : cbuf.length = chunk
  file : st.fileRest = new.drop pos

section world
variable {w0 : DWorld} {p : Rs.Path} {new : Bytes} (hfile : w0.files p = some new) (h : Nat)
include hfile

/-- the refill `read` on the instance: `min(|buf|, rest)` bytes = the model's `fileRest.take chunk` -/
theorem read_inst (pos : Nat) (cbuf : List Nat) :
    (inst strong).h_read h cbuf (w0.setPos h p pos) =
      (.ok (((new.drop pos).take cbuf.length).length,
          ofU8 ((new.drop pos).take cbuf.length) ++ cbuf.drop ((new.drop pos).take cbuf.length).length),
        w0.setPos h p (pos + ((new.drop pos).take cbuf.length).length)) := by
  have hn : min cbuf.length (new.length - pos) = ((new.drop pos).take cbuf.length).length := by simp
  show readOp h cbuf (w0.setPos h p pos) = _
  unfold readOp
  rw [source_setPos hfile]
  simp only [hn, setPos_setPos]
  congr 5
  rw [List.take_eq_take_iff]; simp


variable {chunk pos : Nat} {win : Bytes} {cbuf : List Nat} {st : Delta.SSt}

theorem refill_inst (hR : RepC new chunk pos win cbuf st) (fpos : Nat) :
    ∃ win' cbuf' pos',
      refillA Acc.rs (inst strong) h bs (st.opsRev.reverse.map repOp) (ofU8 win) cbuf st.bytesRead
          (ofU8 st.litRev.reverse) (rollOf bs st.roll) st.wpos fpos (w0.setPos h p pos) =
        (.ok (.yield (strSt bs win' cbuf' fpos (Delta.srefill bs chunk st))), w0.setPos h p pos') ∧
      RepC new chunk pos' win' cbuf' (Delta.srefill bs chunk st) := by
  have hrep := hR.toRep
  have hcb := hR.cbuf
  have hfr := hR.file
  have hcond : (decide (st.wpos ≥ bs) && decide (st.bytesRead > 0) && decide (Rs.len (ofU8 win) - st.wpos < bs)) = true ↔
      bs ≤ st.wpos ∧ 0 < st.bytesRead ∧ hasAtLeast bs st.wrest = false := by
    rw [hasAtLeast_false_iff, ← hrep.wrest]
    simp [and_assoc]
  rw [refillA_eq, Delta.srefill]
  by_cases hc : bs ≤ st.wpos ∧ 0 < st.bytesRead ∧ hasAtLeast bs st.wrest = false
  · rw [if_pos (hcond.mpr hc), if_pos hc, run_bind, read_inst strong hfile h pos cbuf, hcb, ← hfr]
    dsimp only
    have hdrain : Rs.drain_range (ofU8 win) 0 st.wpos = ofU8 st.wrest := by
      simp [Rs.drain_range, ← hrep.wrest, ofU8, List.map_drop]
    have htl : (st.fileRest.take chunk).length ≤ chunk := by simp [List.length_take]; omega
    have hdrop : st.fileRest.drop chunk = new.drop (pos + (st.fileRest.take chunk).length) := by
      rw [hfr]
      exact Data.drop_drop_take_length new pos chunk
    rw [hdrop]
    generalize st.fileRest.take chunk = taken at *
    refine ⟨st.wrest ++ taken, ofU8 taken ++ cbuf.drop taken.length, pos + taken.length, ?_, ⟨?_, ?_, rfl⟩⟩
    · -- the code tests `bytes_read > 0` and then `len ≥ bs`; the model tests `0 < |taken| ∧ hasAtLeast bs w` at once:
      -- they agree because for `taken = []` the code leaves window and rolling state alone, as `w = wrest ++ []` does
      simp only [run_pure, strSt, afterReadA, hdrain, Acc.rs, slice_ofU8_append, ← ofU8_append, inst_update_if]
      cases taken <;> simp
    · exact ⟨by simp, by simp⟩
    · simp [hcb]; omega
  · rw [if_neg (mt hcond.mp hc), if_neg hc]
    exact ⟨win, cbuf, pos, rfl, hR⟩


/-! ### one round on the instance; the loop -/

/-- ONE ROUND ON THE INSTANCE: from a code state that represents the model state `st` (window rest `x :: tl`) the
    translated round succeeds, keeps the file contents, and arrives at a code state that represents
    `srefill (sbody st)`; the handle position stays in step with the model's `fileRest` -/
theorem step_inst (hR : RepC new chunk pos win cbuf st) (fpos : Nat) (x : UInt8) (tl : Bytes) (hw : st.wrest = x :: tl) :
    ∃ win' cbuf' fpos' pos',
      streamStep (inst strong) (buildMap cs) h bs (strSt bs win cbuf fpos st) (w0.setPos h p pos) =
        (.ok (.yield (strSt bs win' cbuf' fpos'
          (Delta.srefill bs chunk (Delta.sbody strong (cs.map absBlock) bs st x tl)))), w0.setPos h p pos') ∧
      RepC new chunk pos' win' cbuf' (Delta.srefill bs chunk (Delta.sbody strong (cs.map absBlock) bs st x tl)) := by
  have hlt : st.wpos < (ofU8 win).length := by
    have := congrArg List.length hR.wrest
    rw [hw] at this; simp at this; simp; omega
  obtain ⟨hf1, hf2⟩ := Delta.sbody_frame strong (cs.map absBlock) bs st x tl
  obtain ⟨win', cbuf', pos', h1, hR'⟩ := refill_inst strong bs hfile h
    (st := Delta.sbody strong (cs.map absBlock) bs st x tl)
    ⟨rep_sbody strong cs bs win st x tl hR.toRep hw, hR.cbuf, hf1 ▸ hR.file⟩
    (fposOf Acc.rs (inst strong) (buildMap cs) bs (ofU8 win) (st.opsRev.reverse.map repOp) (ofU8 st.litRev.reverse)
      (rollOf bs st.roll) st.wpos fpos)
  refine ⟨win', cbuf', fposOf Acc.rs (inst strong) (buildMap cs) bs (ofU8 win) (st.opsRev.reverse.map repOp)
    (ofU8 st.litRev.reverse) (rollOf bs st.roll) st.wpos fpos, pos', ?_, hR'⟩
  rw [← h1]
  unfold streamStep strSt
  rw [streamStepA_eq _ _ _ _ _ _ _ _ _ _ _ _ _ hlt]
  have hm : memStepA Acc.rs (inst strong) = memStep (inst strong) := rfl
  rw [hm, memStep_sbody strong cs bs win st x tl hR.toRep hw, hf2]
  rfl

/-- LOOP INVARIANT + FUEL: from a code state that represents the model state `st`, EVERY fuel
    `≥ |wrest| + |fileRest|` gives the same result: the loop has stopped by its own condition
    (`window_pos ≥ window.len()`), the flushed ops are the model's `genStreamGo st`, only the handle position changed -/
theorem streamLoop_eq (hbs : 0 < bs) (st : Delta.SSt) (hR : RepC new chunk pos win cbuf st) (fpos : Nat) :
    ∃ s' pos',
      (∀ fuel, st.measure ≤ fuel →
        iterM (streamStep (inst strong) (buildMap cs) h bs) fuel (strSt bs win cbuf fpos st) (w0.setPos h p pos) =
          (.ok s', w0.setPos h p pos')) ∧
      flushG s'.1 s'.2.1 = (Delta.genStreamGo strong (cs.map absBlock) bs chunk hbs st).map repOp ∧
      s'.window.length ≤ s'.wpos := by
  fun_induction Delta.genStreamGo strong (cs.map absBlock) bs chunk hbs st generalizing pos win cbuf fpos with
  | case1 st hw =>
    have hge : (strSt bs win cbuf fpos st).window.length ≤ (strSt bs win cbuf fpos st).wpos := by
      show (ofU8 win).length ≤ st.wpos
      rw [length_ofU8]
      exact rep_nil win st hR.toRep hw
    refine ⟨strSt bs win cbuf fpos st, pos, ?_, ?_, hge⟩
    · intro fuel _
      cases fuel with
      | zero => rfl
      | succ k =>
        simp only [iterM, streamStep]
        rw [streamStepA_done _ _ _ _ _ _ hge, pure_bind]
        rfl
    · simp only [strSt, flushG_flush]
  | case2 st x tl hw ih =>
    obtain ⟨win', cbuf', fpos', pos', hstep, hR'⟩ := step_inst strong cs bs hfile h hR fpos x tl hw
    obtain ⟨s', pos'', hiter, hflush, hend⟩ := ih hR' fpos'
    refine ⟨s', pos'', ?_, hflush, hend⟩
    intro fuel hfuel
    have hm : (Delta.srefill bs chunk (Delta.sbody strong (cs.map absBlock) bs st x tl)).measure < st.measure := by
      rw [Delta.srefill_measure]; exact Delta.sbody_measure strong _ bs hbs st x tl hw
    obtain ⟨k, rfl⟩ : ∃ k, fuel = k + 1 := ⟨fuel - 1, by omega⟩
    simp only [iterM]
    rw [run_bind, hstep]
    exact hiter k (by omega)
end world

/-! ### the whole function on the instance -/

theorem init_inst (bs chunk : Nat) (new : Bytes) (cbuf : List Nat) :
    streamInitA Acc.rs (inst strong) bs
        ((new.take chunk).length, ofU8 (new.take chunk) ++ cbuf.drop (new.take chunk).length) =
      strSt bs (new.take chunk) (ofU8 (new.take chunk) ++ cbuf.drop (new.take chunk).length) 0
        (Delta.sinit bs chunk new) := by
  unfold streamInitA strSt Delta.sinit
  simp only []
  generalize new.take chunk = taken
  have hwin : (if decide (taken.length > 0) = true then [] ++ Rs.slice (ofU8 taken ++ cbuf.drop taken.length) 0 taken.length
      else []) = ofU8 taken := by
    rw [slice_ofU8_append]
    split
    · simp
    · rename_i hc
      have : taken = [] := by apply List.eq_nil_of_length_eq_zero; simpa using hc
      simp [this]
  simp only [Acc.rs, hwin, inst_new, inst_update_if]
  rfl

theorem repC_sinit (bs chunk : Nat) (new : Bytes) (cbuf : List Nat) (hcb : cbuf.length = chunk) :
    RepC new chunk (new.take chunk).length (new.take chunk) (ofU8 (new.take chunk) ++ cbuf.drop (new.take chunk).length)
      (Delta.sinit bs chunk new) :=
  ⟨⟨by simp [Delta.sinit], by simp [Delta.sinit]⟩,
    by simp only [List.length_append, length_ofU8, List.length_drop, List.length_take, hcb]; omega,
    by simp [Delta.sinit]⟩

/-- CHUNK_SIZE of generator.rs:72 (a literal in the generated code) -/
abbrev CHUNK : Nat := 256 * 1024

theorem streamResult_inst (hbs : 0 < bs) {w : DWorld} {p : Rs.Path} {new : Bytes} (hfile : w.files p = some new)
    (hne : new ≠ []) :
    ∃ pos, streamResult (inst strong) p cs bs w =
      (.ok { ops := (Delta.genStreamGo strong (cs.map absBlock) bs CHUNK hbs (Delta.sinit bs CHUNK new)).map repOp,
             source_size := new.length, block_size := bs },
        { w with opened := w.opened + 1, handle := upd w.handle (w.opened + 1) (some (p, pos)) }) := by
  rw [streamResult, streamResultA, run_bind_ok (open_inst strong hfile)]
  have hfile' : ({ w with opened := w.opened + 1 } : DWorld).files p = some new := hfile
  have hlen : ¬(Rs.len ({ dir := false, mtime := 0, size := new.length } : Rs.Metadata) == 0) = true := by
    have : new.length ≠ 0 := fun e => hne (List.eq_nil_of_length_eq_zero e)
    simpa [Rs.len] using this
  have hcb : (List.replicate (256 * 1024) (0 : Nat)).length = CHUNK := List.length_replicate
  generalize List.replicate (256 * 1024) (0 : Nat) = cbuf0 at hcb ⊢
  have hrd := read_inst strong hfile' (w.opened + 1) 0 cbuf0
  rw [hcb, List.drop_zero, Nat.zero_add] at hrd
  have hR := repC_sinit bs CHUNK new cbuf0 hcb
  obtain ⟨s', pos', hiter, hflush, -⟩ := streamLoop_eq strong cs bs hfile' (w.opened + 1) hbs _ hR 0
  have hmeas : (Delta.sinit bs CHUNK new).measure ≤ new.length + 1 := by
    simp only [Delta.sinit, Delta.SSt.measure, List.length_take, List.length_drop]; omega
  refine ⟨pos', ?_⟩
  have hit := hiter (Rs.len ({ dir := false, mtime := 0, size := new.length } : Rs.Metadata) + 1) hmeas
  unfold streamStep at hit
  rw [run_bind_ok (metadata_inst strong hfile' (w.opened + 1) 0), if_neg hlen, run_bind_ok hrd, init_inst, run_bind_ok hit, run_pure,
    hflush]
  rfl

end onInstance

/-! ### the totalised accessors are only used in range -/

/-- the contract of `Read::read`: the count it answers is at most the length of the buffer it answers -/
def ReadOK {W : Type} (ext : Ext W) : Prop :=
  ∀ h buf w r w', ext.h_read h buf w = (.ok r, w') → r.1 ≤ r.2.length

section total
variable {W : Type} (A : Acc) (hA : A.InRange) (ext : Ext W) (cmap : Rs.HashMap Nat (List BlockChecksum)) (h bs : Nat)
include hA

theorem litA_inRange (window lit : List Nat) (rolling : RollSt) (wpos fpos : Nat) (found : Bool) :
    litA A ext bs window lit rolling wpos fpos found = litA Acc.rs ext bs window lit rolling wpos fpos found := by
  unfold litA
  split
  · rename_i hc
    have hlt : wpos < window.length := by simp [Rs.len] at hc; exact hc.2
    rw [hA.index window wpos hlt]
    split
    · rename_i h2
      rw [hA.index window _ (by simpa [Rs.len] using h2)]; rfl
    · rfl
  · rfl

theorem matchA_inRange (window : List Nat) (ops : List DeltaOp) (lit : List Nat) (rolling : RollSt) (wpos fpos : Nat)
    (hlt : wpos < window.length) :
    matchA A ext cmap bs window ops lit rolling wpos fpos = matchA Acc.rs ext cmap bs window ops lit rolling wpos fpos := by
  unfold matchA
  by_cases hfull : decide (Rs.len window - wpos ≥ bs) = true
  · have hfull' : wpos + bs ≤ window.length := by simp [Rs.len] at hfull; omega
    rw [if_pos hfull, if_pos hfull, hA.slice window wpos (wpos + bs) (by omega) hfull',
      hA.ite_slice window (wpos + bs) (wpos + bs + bs) (by omega)]
    rfl
  · rw [if_neg hfull, if_neg hfull, hA.slice_from window wpos (by omega)]
    rfl

/-- one round of `generate_delta` never looks at an out-of-range slice or index, whatever the state: it is the match
    attempt and the literal step of the streaming round on `data` (`stream_pure_eq_mem`) -/
theorem memStepA_inRange (data : List Nat) (s : MemSt) : memStepA A ext cmap data bs s = memStep ext cmap data bs s := by
  rcases s with ⟨ops, lit, pos, rolling⟩
  by_cases hlt : pos < data.length
  · rw [memStep, stream_pure_eq_mem A ext cmap bs data ops lit rolling pos 0 hlt,
      stream_pure_eq_mem Acc.rs ext cmap bs data ops lit rolling pos 0 hlt,
      matchA_inRange A hA ext cmap bs data ops lit rolling pos 0 hlt]
    simp only [litA_inRange A hA ext bs]
  · rw [memStep, memStepA_done A ext cmap data bs _ (Nat.le_of_not_lt hlt),
      memStepA_done Acc.rs ext cmap data bs _ (Nat.le_of_not_lt hlt)]

theorem memResultA_inRange (cs : List BlockChecksum) (data : List Nat) :
    memResultA A ext cs bs data = memResult ext cs bs data := by
  unfold memResult memResultA
  refine ite_congr rfl (fun _ => rfl) fun _ => ?_
  dsimp only
  rw [hA.ite_slice data 0 bs (Nat.zero_le _),
    show memStepA A ext (buildMap cs) data bs = memStep ext (buildMap cs) data bs from
      funext (memStepA_inRange A hA ext (buildMap cs) bs data)]
  rfl

theorem afterReadA_inRange (ops : List DeltaOp) (lit window : List Nat) (rolling : RollSt) (fpos : Nat)
    (r : Nat × List Nat) (hr : r.1 ≤ r.2.length) :
    afterReadA A ext bs ops lit window rolling fpos r = afterReadA Acc.rs ext bs ops lit window rolling fpos r := by
  unfold afterReadA
  rw [hA.slice r.2 0 r.1 (Nat.zero_le _) hr, hA.ite_slice _ 0 bs (Nat.zero_le _)]
  rfl

/-- one round never looks at an out-of-range slice or index, whatever the state and the world: the pure part
    guards every access by the loop condition and its own tests, the refill by the contract of `read` -/
theorem streamStepA_inRange (hread : ReadOK ext) (s : StSt) (w : W) :
    streamStepA A ext cmap h bs s w = streamStep ext cmap h bs s w := by
  rcases s with ⟨ops, lit, window, chunk_buf, bytes_read, rolling, wpos, fpos⟩
  unfold streamStep
  simp only [streamStepA]
  split
  · rfl
  · rename_i hg
    have hlt : wpos < window.length := by simpa [Rs.len] using hg
    rw [matchA_inRange A hA ext cmap bs window ops lit rolling wpos fpos hlt]
    simp only [tailA_eq, litA_inRange A hA ext bs, refillA_eq]
    split
    · refine run_bind_congr _ _ _ w fun r w' hrd => ?_
      rw [afterReadA_inRange A hA ext bs _ _ _ _ _ r (hread h chunk_buf w r w' hrd)]
    · rfl

theorem streamInitA_inRange (r1 : Nat × List Nat) (hr : r1.1 ≤ r1.2.length) :
    streamInitA A ext bs r1 = streamInitA Acc.rs ext bs r1 := by
  unfold streamInitA
  rw [hA.slice r1.2 0 r1.1 (Nat.zero_le _) hr, hA.ite_slice _ 0 bs (Nat.zero_le _)]
  rfl

/-- THE TOTALISATION IS NEVER EXERCISED by `generate_delta_streaming`: for every `Ext` whose `read` keeps its
    contract, in every world, the function computes the same whatever `&v[a..b]`, `&v[a..]`, `v[i]` answer out of
    range -/
theorem streamResultA_inRange (hread : ReadOK ext) (p : Rs.Path) (cs : List BlockChecksum) (w : W) :
    streamResultA A ext p cs bs w = streamResult ext p cs bs w := by
  unfold streamResult streamResultA
  refine run_bind_congr _ _ _ w fun hd w1 _ => run_bind_congr _ _ _ w1 fun md w2 _ => ?_
  split
  · rfl
  · refine run_bind_congr _ _ _ w2 fun r1 w3 hrd => ?_
    rw [streamInitA_inRange A hA ext bs r1 (hread _ _ _ _ _ hrd),
      show streamStepA A ext (buildMap cs) hd bs = streamStep ext (buildMap cs) hd bs from
        funext fun s => funext fun w => streamStepA_inRange A hA ext _ hd bs hread s w]
    rfl
end total

theorem readOK_inst (strong : Bytes → Nat) : ReadOK (inst strong) := by
  intro h buf w r w' hr
  have : readOp h buf w = (.ok r, w') := hr
  unfold readOp at this
  split at this
  · cases this
  · rename_i c p pos hs
    injection this with h1 h2
    injection h1 with h1
    subst h1
    simp [List.length_take]

end SyModel.GenDeltaStream
