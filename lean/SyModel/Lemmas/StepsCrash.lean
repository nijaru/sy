/-
  SyModel.Lemmas.StepsCrash — crash states (prefixes of interleavings): localisation to one task
  (`crash_progress`, `crash_owned_or_settled`), what every prefix of a task's step list leaves at a path
  (`task_prefix`, `Garbage`; `file_task_prefix` for the path of a file task).
-/
import SyModel.Lemmas.StepsRun
namespace SyModel.Engine

/-- A crash point `k` of an interleaving of independent lists has a progress vector `g` — how far each list
    got — such that a path which only the list `L` touches holds what the done part of `L`'s entry `d` of `g` alone
    makes of the initial world. -/
theorem crash_progress {ls : List (List Step)} (hind : PairwiseIndep ls) {σ : List Step}
    (hσ : Interleaving ls σ) (k : Nat) :
    ∃ g : Progress Step, g.wholes = ls ∧ ShuffleN g.dones (σ.take k) ∧
      ∀ pre L post, ls = pre ++ L :: post → ∃ d ∈ g, d.1 ++ d.2 = L ∧ ∀ (w : SWorld) x,
        (∀ l ∈ pre ++ post, ∀ s ∈ l, s.touches x = false) →
        applyAll (σ.take k) w x = applyAll d.1 w x := by
  obtain ⟨g, hg, hd⟩ := hσ.toShuffleN.split k
  refine ⟨g, hg, hd, fun pre L post hls => ?_⟩
  obtain ⟨gpre, g2, rfl, hpre, h2⟩ := List.map_eq_append_iff.mp (hg.trans hls)
  obtain ⟨d, gpost, rfl, hL, hpost⟩ := List.map_eq_cons_iff.mp h2
  refine ⟨d, by simp, hL, fun w x hx => ?_⟩
  rw [← hpre, ← hpost, ← List.map_append] at hx
  have hind' : PairwiseIndep (Progress.dones (gpre ++ d :: gpost)) :=
    progress_dones_indep (by rw [hg]; exact hind)
  have hdones : Progress.dones (gpre ++ d :: gpost) =
      Progress.dones gpre ++ d.1 :: Progress.dones gpost := by simp [Progress.dones]
  rw [hdones] at hd hind'
  refine shuffle_owned hind' hd x (fun l hl s hs => ?_) w
  unfold Progress.dones at hl
  rw [← List.map_append, List.mem_map] at hl
  obtain ⟨d', hd', rfl⟩ := hl
  exact hx (d'.1 ++ d'.2) (List.mem_map.mpr ⟨d', hd', rfl⟩) s (by simp [hs])

/-- In a crash state of independent lists a path either belongs to ONE list (no other list touches it), or every
    step that touches it is absorbing there — the shared `mkdir x`, or deletions — and it holds its initial or its
    final node. -/
theorem crash_owned_or_settled {ls : List (List Step)} (hind : PairwiseIndep ls) {σ : List Step}
    (hσ : Interleaving ls σ) (k : Nat) (w : SWorld) (x : Path) :
    (∃ pre L post, ls = pre ++ L :: post ∧ ∀ l ∈ pre ++ post, ∀ s ∈ l, s.touches x = false) ∨
    applyAll (σ.take k) w x = w x ∨ applyAll (σ.take k) w x = applyAll σ w x := by
  have hmem := fun s (hs : s ∈ σ) => (hσ.toShuffleN.mem_iff s).mp hs
  rcases touch_classes hind x with h | hM | hD
  · exact .inl h
  · exact .inr (absorbing_crash (fun s hs => let ⟨l, hl, hsl⟩ := hmem s hs; absorbs_mkdir_only (hM l hl) s hsl) k w)
  · exact .inr (absorbing_crash (fun s hs => let ⟨l, hl, hsl⟩ := hmem s hs; absorbs_deletion_only (hD l hl) s hsl) k w)

-- `allSingle` and `chainOrAt` say of a whole list, as Booleans, what `stepsOfH_inplace_single` and
-- `stepsOfH_inplace_touch` below state step by step for the list of a task; nothing but `allSingle_nil` and
-- `chainOrAt_nil` refers to them.
def allSingle (l : List Step) : Bool := l.all Step.single

@[simp] theorem allSingle_nil : allSingle [] = true := rfl

def chainOrAt (p : Path) (l : List Step) : Bool := l.all fun s => s.isMkdir || (s.single && s.path == p)

@[simp] theorem chainOrAt_nil (p : Path) : chainOrAt p [] = true := rfl

section task
variable {cfg : Cfg} {thr ch : Nat} {sfx : String} {h : Hint} {old : Option DNode} {t : Task}

theorem stepsOfH_inplace_single (hu : usesDelta cfg thr h old t = false) (hnd : t.act ≠ .delete) {s : Step}
    (hs : s ∈ stepsOfH cfg thr ch sfx h old t) : s.single = true := by
  rcases stepsOfH_inplace hu hnd hs with ⟨q, rfl, _⟩ | ⟨hat, _⟩
  · rfl
  · exact hat.1

theorem stepsOfH_inplace_touch (hu : usesDelta cfg thr h old t = false) (hnd : t.act ≠ .delete) {s : Step}
    (hs : s ∈ stepsOfH cfg thr ch sfx h old t) {x : Path} (hx : x ≠ t.rel) (ht : s.touches x = true) :
    s = .mkdir x := by
  rcases stepsOfH_inplace hu hnd hs with ⟨q, rfl, _⟩ | ⟨hat, _⟩
  · rw [Step.touches, beq_iff_eq] at ht
    rw [ht]
  · exact absurd (hat.touches ht) hx

theorem file_task_seg (ch : Nat) (sfx : String) {m : FileMeta} {n : Nat} (hpay : t.payload = .file m n)
    (hu : usesDelta cfg thr h old t = false) (hdry : cfg.dryRun = false) (hw : t.writes)
    (init : Option SNode) :
    Seg t.rel (FileCrashNode (h.route = .sparseBlocks) m h.now init) (stepsOfH cfg thr ch sfx h old t)
      (DirOr init (Old init)) (DirOr init (· = some (fileNode m))) := by
  rcases file_task_shape ch sfx h old hpay hdry hw with
    ⟨T, hT, _, ⟨b, hL⟩ | ⟨_, hL⟩⟩ | ⟨hu', _⟩
  · rw [hL]
    exact seg_append (seg_if b seg_unlinkIfSymlink (DirOr.mono old_good))
      (seg_append (seg_mkdirChain (DirOr.mono old_good)) (hT.seg init))
  · rw [hL]
    exact hT.seg init
  · rw [hu] at hu'; cases hu'

end task

def SymCrashNode (text : String) (init : Option SNode) (i : Option SNode) : Prop :=
  i = init ∨ i = none ∨ i = some (.symlink text)

theorem symlink_task_seg (old : Option DNode) (p : Path) (text : String) (init : Option SNode) :
    Seg p (SymCrashNode text init) (symlinkSteps old p text) (fun i => i = init ∨ i = none)
      (fun i => i = init ∨ i = some (.symlink text)) := by
  have g0 : ∀ i, (i = init ∨ i = none) → SymCrashNode text init i := fun i hi => hi.imp id .inl
  have g1 : ∀ i, (i = init ∨ i = some (.symlink text)) → SymCrashNode text init i := fun i hi => hi.imp id .inr
  unfold symlinkSteps
  refine seg_append (seg_append (seg_mkdirChain g0) ?_) (seg_step _ rfl g0 g1 fun i hi => ?_)
  · have hun : Seg p (SymCrashNode text init) [Step.unlink p] (fun i => i = init ∨ i = none)
        (fun i => i = init ∨ i = none) := by
      refine seg_step _ rfl g0 g0 fun i hi => ?_
      rw [nodeFn_unlink]
      split
      · rename_i hd
        exact hd ▸ hi
      · exact .inr rfl
    split
    · exact seg_nil g0 fun _ => id
    · exact seg_nil g0 fun _ => id
    · exact hun
  · rcases hi with rfl | rfl
    · cases i with
      | none => exact .inr rfl
      | some v => exact .inl rfl
    · exact .inr rfl

theorem short_prefix (L : List Step) (hL : L.length ≤ 1) (n : Nat) (w : SWorld) (x : Path) :
    applyAll (L.take n) w x = w x ∨ applyAll (L.take n) w x = applyAll L w x := by
  cases n with
  | zero => left; rfl
  | succ n => right; rw [List.take_of_length_le (by omega)]

theorem nodeRun_skip_take (p : Path) (A B : List Step) (hA : ∀ s ∈ A, s.path ≠ p) (n : Nat)
    (i : Option SNode) : nodeRun p ((A ++ B).take n) i = nodeRun p (B.take (n - A.length)) i := by
  rw [List.take_append, nodeRun_append,
    nodeRun_skip p _ (fun s hs => hA s (List.mem_of_mem_take hs))]

theorem symlinkSteps_final (old : Option DNode) (p : Path) (text : String) :
    nodeRun p (symlinkSteps old p text) (old.map embed) =
      if old = some .dir then some .dir else some (.symlink text) := by
  unfold symlinkSteps
  rw [List.append_assoc, nodeRun_append, nodeRun_skip _ _ mkdirChain_path_ne]
  cases old with
  | none => simp [Step.path]; rfl
  | some v =>
    cases v with
    | dir => simp [Step.path]; rfl
    | file o | symlink o => simp [Step.path, nodeFn_unlink, embed]; rfl

/-- replacing what is at `p` by a link: the node found, nothing once it is unlinked, the link (`symlink_task_seg`);
    the link only as the final node -/
theorem symlinkSteps_prefix (old : Option DNode) (p : Path) (text : String) (n : Nat) :
    let L := symlinkSteps old p text
    let i := old.map embed
    nodeRun p (L.take n) i = i ∨ nodeRun p (L.take n) i = nodeRun p L i ∨ nodeRun p (L.take n) i = none := by
  intro L i
  rcases (symlink_task_seg old p text i i (.inl rfl)).1 n with h | h | h
  · exact .inl h
  · exact .inr (.inr h)
  · refine .inr (.inl ?_)
    rw [h, symlinkSteps_final]
    split
    · -- over a directory nothing ever changes
      rename_i hd
      rw [show i = some .dir by rw [show i = old.map embed from rfl, hd]; rfl, nodeRun_dir] at h
      cases h
    · rfl

/-- a link replaced by a directory (`update` with a directory payload): conditional unlink, then
    `create_dir_all` -/
theorem dirUpdate_prefix (p : Path) (i : Option SNode) (n : Nat) :
    let L := Step.unlinkIfSymlink p :: dirSteps p
    nodeRun p (L.take n) i = i ∨ nodeRun p (L.take n) i = nodeRun p L i ∨ nodeRun p (L.take n) i = none := by
  simp only
  match n with
  | 0 => exact .inl rfl
  | n + 1 =>
    simp only [List.take_succ_cons, nodeRun_cons, Step.path, ↓reduceIte]
    have hi1 : (Step.unlinkIfSymlink p).nodeFn i = i ∨ (Step.unlinkIfSymlink p).nodeFn i = none := by
      cases i with
      | none => exact .inl rfl
      | some v => cases v <;> first | exact .inl rfl | exact .inr rfl
    generalize (Step.unlinkIfSymlink p).nodeFn i = i1 at hi1 ⊢
    unfold dirSteps
    split
    · exact .inr (.inl (by rw [List.take_nil]))
    · rw [nodeRun_skip_take _ _ _ mkdirChain_path_ne, nodeRun_append, nodeRun_skip _ _ mkdirChain_path_ne]
      generalize n - (mkdirChain p).length = k
      cases k with
      | zero => exact hi1.elim (fun h => .inl h) fun h => .inr (.inr h)
      | succ k => exact .inr (.inl (by rw [List.take_succ_cons, List.take_nil]))

section delta
variable {sfx : String} {p : Path} {m d : FileMeta} {w : SWorld}

theorem delta_take (sfx : String) (m : FileMeta) (hwp : w p = some (.file d.content d.size d.mtime)) (n : Nat) :
    applyAll (([Step.unlinkIfSymlink p] ++ deltaSteps sfx p m).take n) w = w ∨
    applyAll (([Step.unlinkIfSymlink p] ++ deltaSteps sfx p m).take n) w =
      (Step.createTemp (tempOf sfx p) m.content).apply w ∨
    applyAll (([Step.unlinkIfSymlink p] ++ deltaSteps sfx p m).take n) w =
      applyAll ([Step.unlinkIfSymlink p] ++ deltaSteps sfx p m) w := by
  match n with
  | 0 => exact .inl rfl
  | 1 => exact .inl (unlinkIfSymlink_file hwp)
  | 2 => exact .inr (.inl (by simp [deltaSteps, unlinkIfSymlink_file hwp]))
  | n + 3 => exact .inr (.inr (by rw [List.take_of_length_le (by simp [deltaSteps])]))

theorem createTemp_frame (hq : tempOf sfx p ≠ p) :
    (Step.createTemp (tempOf sfx p) m.content).apply w p = w p :=
  apply_frame _ w p (by simp [Step.touches, Ne.symm hq])

theorem delta_prefix_dest (hwp : w p = some (.file d.content d.size d.mtime)) (hq : tempOf sfx p ≠ p)
    (n : Nat) :
    applyAll (([Step.unlinkIfSymlink p] ++ deltaSteps sfx p m).take n) w p = w p ∨
    applyAll (([Step.unlinkIfSymlink p] ++ deltaSteps sfx p m).take n) w p =
      some (.file m.content m.size m.mtime) := by
  rcases delta_take sfx m hwp n with h | h | h
  · exact .inl (by rw [h])
  · exact .inl (by rw [h, createTemp_frame hq])
  · rw [h, delta_all hwp, deltaSteps_apply]
    split
    · exact .inl rfl
    · exact .inr (by rw [upd_ne _ _ _ _ (Ne.symm hq), upd_same]; rfl)

theorem delta_prefix_joint (hwp : w p = some (.file d.content d.size d.mtime)) (hq : tempOf sfx p ≠ p)
    (n : Nat) (c : Nat)
    (ht : applyAll (([Step.unlinkIfSymlink p] ++ deltaSteps sfx p m).take n) w (tempOf sfx p) = some (.temp c)) :
    applyAll (([Step.unlinkIfSymlink p] ++ deltaSteps sfx p m).take n) w p = w p := by
  rcases delta_take sfx m hwp n with h | h | h
  · rw [h]
  · rw [h, createTemp_frame hq]
  · rw [h, delta_all hwp] at ht
    exact absurd ht (deltaSteps_no_temp sfx p m _ _ (.inl rfl) c)

end delta

/-- what an interrupted task may leave at a path other than its initial node, its final node -/
inductive Garbage (cfg : Cfg) (thr : Nat) (sfx : String) (h : Hint) (old : Option DNode) (t : Task) :
    Path → Option SNode → Prop where
  /-- the old entry is unlinked and the new one not yet created (a file or link being replaced; or a destination
      link being replaced by a directory — `update` with a directory payload, fix 862af11) -/
  | gone : (t.payload = .dir → t.act = .update) → t.act ≠ .delete → Garbage cfg thr sfx h old t t.rel none
  /-- a file being copied in place: the first `l` bytes of the new content, mtime = time of the run -/
  | torn {m : FileMeta} {n : Nat} (l : Nat) : t.payload = .file m n → l ≤ m.size →
      Garbage cfg thr sfx h old t t.rel (some (.file m.content l h.now))
  /-- the `set_len`-first sparse copier: final size, data incomplete -/
  | holey {m : FileMeta} {n : Nat} (d : Nat) : t.payload = .file m n → h.route = .sparseBlocks →
      d ≤ m.size → 0 < m.size → Garbage cfg thr sfx h old t t.rel (some (.holey m.content m.size d h.now))
  /-- the working file of a temp + rename update -/
  | temp {m : FileMeta} {n : Nat} : t.payload = .file m n → usesDelta cfg thr h old t = true →
      Garbage cfg thr sfx h old t (tempOf sfx t.rel) (some (.temp m.content))

/-- `hold`: the list was compiled against the node the world holds at the task's path -/
theorem task_prefix {cfg : Cfg} {thr ch : Nat} {sfx : String} {h : Hint} {old : Option DNode}
    {t : Task} (w : SWorld) (hold : w t.rel = old.map embed) (n : Nat) (x : Path) :
    applyAll ((stepsOfH cfg thr ch sfx h old t).take n) w x = w x ∨
    applyAll ((stepsOfH cfg thr ch sfx h old t).take n) w x =
      applyAll (stepsOfH cfg thr ch sfx h old t) w x ∨
    Garbage cfg thr sfx h old t x (applyAll ((stepsOfH cfg thr ch sfx h old t).take n) w x) := by
  have two : ∀ {a b v : Option SNode}, (v = a ∨ v = b) → v = a ∨ v = b ∨ Garbage cfg thr sfx h old t x v :=
    fun hv => hv.imp id .inl
  generalize hL : stepsOfH cfg thr ch sfx h old t = L
  cases hdry : cfg.dryRun with
  | true => rw [← hL, stepsOfH_dry hdry, List.take_nil]; exact .inl rfl
  | false =>
  rcases t.act_cases with hw | hskip | hdel
  case inr.inl => rw [← hL, stepsOfH_skip hskip, List.take_nil]; exact .inl rfl
  case inr.inr =>
    refine two (short_prefix _ ?_ _ _ _)
    rw [← hL, stepsOfH_delete hdry hdel]
    split <;> simp
  have hnd := hw.ne_delete
  cases hu : usesDelta cfg thr h old t with
  | true =>
    obtain ⟨m, nl, d, hpay, _, hold', _, hD⟩ := stepsOfH_delta ch sfx hu
    have hwp : w t.rel = some (.file d.content d.size d.mtime) := by rw [hold, hold']; rfl
    rw [← hL, hD]
    rcases delta_take sfx m hwp n with hn | hn | hn
    · exact .inl (by rw [hn])
    · rw [hn]
      by_cases hx : x = tempOf sfx t.rel
      · subst hx
        rw [createTemp_apply, upd_same]
        split
        · rename_i hd; exact .inl hd.symm
        · exact .inr (.inr (.temp hpay hu))
      · exact .inl (apply_frame _ w x (by simp [Step.touches, hx]))
    · exact .inr (.inl (by rw [hn]))
  | false =>
    by_cases hx : x = t.rel
    · subst hx
      have gone : ∀ {v}, v = none → (t.payload = .dir → t.act = .update) → Garbage cfg thr sfx h old t t.rel v :=
        fun hv hp => hv ▸ .gone hp hnd
      -- at the task's own path the list acts on the node alone
      have hsingle : ∀ s ∈ L, s.single = true := hL ▸ fun s => stepsOfH_inplace_single hu hnd
      have hnode : applyAll (L.take n) w t.rel = nodeRun t.rel (L.take n) (w t.rel) ∧
          applyAll L w t.rel = nodeRun t.rel L (w t.rel) :=
        ⟨applyAll_single _ (fun s hs => hsingle s (List.mem_of_mem_take hs)) w _, applyAll_single _ hsingle w _⟩
      have hW := hL
      rw [stepsOfH_write hdry hw] at hW
      cases hpay : t.payload with
      | nothing => rw [hpay] at hW; rw [← hW, List.take_nil]; exact .inl rfl
      | dir =>
        rw [hpay] at hW
        by_cases hact : t.act = .update
        · rw [hnode.1, hnode.2, ← hW, if_pos hact]
          exact (dirUpdate_prefix t.rel (w t.rel) n).imp id (Or.imp id fun hn => gone hn fun _ => hact)
        · -- a directory creation: `mkdir`s only
          rw [← hW, if_neg hact, List.nil_append]
          refine two (absorbing_crash (absorbs_mkdir_only fun s hs ht => ?_) _ _)
          obtain ⟨q, rfl, _⟩ := mem_dirSteps hs
          rw [Step.touches, beq_iff_eq] at ht
          rw [ht]
      | symlink text =>
        rw [hpay] at hW
        rw [hnode.1, hnode.2, ← hW, hold]
        exact (symlinkSteps_prefix old t.rel text n).imp id
          (Or.imp id fun hn => gone hn fun hp => by rw [hpay] at hp; cases hp)
      | file m nl =>
        rw [hnode.1, hnode.2]
        obtain ⟨hgood, hfin⟩ := file_task_seg ch sfx hpay hu hdry hw (w t.rel) (w t.rel) (DirOr.self (.inl rfl))
        rw [hL] at hgood hfin
        rcases hgood n with ⟨hd, hg⟩ | ⟨hnd', hg | hg | ⟨l, hl, hg⟩ | ⟨hr, d, hd, h0, hg⟩ | hg⟩
        · exact .inl (by rw [hg, hd])
        · exact .inl hg
        · exact .inr (.inr (gone hg fun hp => by rw [hpay] at hp; cases hp))
        · exact .inr (.inr (by rw [hg]; exact .torn l hpay hl))
        · exact .inr (.inr (by rw [hg]; exact .holey d hpay hr hd h0))
        · refine .inr (.inl ?_)
          rcases hfin with ⟨hd, _⟩ | ⟨_, hf⟩
          · exact absurd hd hnd'
          · rw [hg, hf]
    · -- elsewhere only `mkdir x` touches `x`
      refine two (absorbing_crash (absorbs_mkdir_only fun s hs ht => ?_) _ _)
      exact stepsOfH_inplace_touch hu hnd (hL ▸ hs) hx ht

/-- on the temp + rename route: the old file or the finished one -/
theorem file_task_prefix {cfg : Cfg} {thr : Nat} (ch : Nat) {sfx : String} {h : Hint} {old : Option DNode} {t : Task}
    {m : FileMeta} {nl : Nat} (hpay : t.payload = .file m nl) (hdry : cfg.dryRun = false) (hw : t.writes)
    (hq : usesDelta cfg thr h old t = true → tempOf sfx t.rel ≠ t.rel) (w : SWorld)
    (hold : w t.rel = old.map embed) (n : Nat) :
    FileNodes (h.route = .sparseBlocks) m h.now (w t.rel)
      (applyAll ((stepsOfH cfg thr ch sfx h old t).take n) w t.rel) := by
  cases hu : usesDelta cfg thr h old t with
  | true =>
    obtain ⟨m', _, d, hp', _, hold', _, hL⟩ := stepsOfH_delta ch sfx hu
    rw [hpay] at hp'
    cases hp'
    have hwp : w t.rel = some (.file d.content d.size d.mtime) := by rw [hold, hold']; rfl
    rw [hL]
    exact (delta_prefix_dest hwp (hq hu) n).elim .inl (final_good _)
  | false =>
    rw [applyAll_single _ fun s hs => stepsOfH_inplace_single hu hw.ne_delete (List.mem_of_mem_take hs)]
    rcases (file_task_seg ch sfx hpay hu hdry hw (w t.rel) _ (DirOr.self (.inl rfl))).1 n with ⟨hd, hi⟩ | ⟨_, hi⟩
    · exact .inl (by rw [hi, hd])
    · exact hi

end SyModel.Engine
