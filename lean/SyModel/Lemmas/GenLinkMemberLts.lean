/-
  The translated hard-link hand-off `Transferrer::transfer_link_member` (`Generated/Code/LinkMember.lean`, regenerated
  on every run from /repo/src/sync/transfer.rs) tied to the labelled transition system of `Hardlink/Protocol.lean`, the
  model of property C13.  The function is run AS worker `w` of the LTS on the instance `ltsExt` (TRUSTED, described field
  by field at its definition): every operation performs the worker's own micro-step, guarded by its program counter;
  `genPoll` is one `Future::poll` of a worker whose hand-off is the generated function.  This module holds the
  definitions, with the field equations `ltsExt_*` and the injectivity of the encodings: the instance, what is compared
  of a poll (`obs`, `agreeAlong`), and the wrapper `interleaveExt` that lets other workers move between two operations of
  a run.  That a run IS the model's `poll` is proved in Lemmas/GenLinkMemberSim.lean; the scenarios evaluated by the
  kernel on the generated term are in Lemmas/GenLinkMemberScen.lean.  The three modules share the namespace
  `SyModel.Lemmas.GenLinkMemberLts`: a name `GenLinkMemberLts.X` may live in Sim or Scen.
-/
import SyModel.Generated.Code.LinkMember
import SyModel.Lemmas.GenTransfer
import SyModel.Hardlink.Protocol
set_option linter.unusedVariables false
namespace SyModel.Lemmas.GenLinkMemberLts
open SyModel SyModel.Hardlink SyModel.Generated SyModel.Generated.LinkMember
open SyModel.Lemmas.GenTransfer (runM op)

/-- the destination path of worker `p` as a path text: `p` followed by `p` strokes (unary) -/
def encPath (p : Nat) : Rs.Path := 'p' :: List.replicate p '|'

theorem encPath_injective {a b : Nat} (h : encPath a = encPath b) : a = b := by
  have := congrArg List.length h
  simpa [encPath] using this

/-- the LTS names a `Notify` by the worker that created it; the unit names it by a `Nat` identity: the same number.
    A source inode is a `Nat` on both sides: the same number. -/
def encNotify (g : Nat) : Nat := g
def encInode (i : Nat) : Nat := i

theorem encNotify_injective {a b : Nat} (h : encNotify a = encNotify b) : a = b := h
theorem encInode_injective {a b : Nat} (h : encInode a = encInode b) : a = b := h

def encEntry : Entry → InodeState
  | .inProgress g => .InProgress (encNotify g)
  | .completed p => .Completed (encPath p)

def opName : Op → Rs.Str
  | .mkdir => ['m', 'k', 'd', 'i', 'r']
  | .copy => ['c', 'o', 'p', 'y']
  | .attrs => ['a', 't', 't', 'r', 's']
  | .link => ['l', 'i', 'n', 'k']
  | .sync => ['s', 'y', 'n', 'c']
  | .remove => ['r', 'e', 'm', 'o', 'v', 'e']

/-- the error of a failed transport operation `o` (the LTS's `Res.err o`) -/
def errOf (o : Op) : Rs.Err := .config (opName o)
/-- NOT an error of the code: the run reached `notified.await` and the future is not ready — the poll returns `Pending` -/
def blockedErr : Rs.Err := .config ['b', 'l', 'o', 'c', 'k', 'e', 'd']
/-- NOT an error of the code: the generated function called an operation at a point where the LTS's worker is not about
    to perform it (never happens: `poll_eq_generated`) -/
def desyncErr : Rs.Err := .config ['d', 'e', 's', 'y', 'n', 'c']


def decodeErr (e : Rs.Err) : Option Op :=
  [Op.mkdir, .copy, .attrs, .link, .sync, .remove].find? fun o => errOf o == e

theorem decodeErr_errOf (o : Op) : decodeErr (errOf o) = some o := by cases o <;> decide
theorem errOf_injective {a b : Op} (h : errOf a = errOf b) : a = b :=
  Option.some.inj (by rw [← decodeErr_errOf a, h, decodeErr_errOf b])
theorem decodeErr_blocked : decodeErr blockedErr = none := by decide

/-! ## The instance

  ### The world `LWorld` (TRUSTED)
  `s` is the state of the labelled transition system (`Hardlink.State`: every worker's program counter, the shared inode
  map, the `notify_waiters()` counters, the destination name space); `labels` the labels of the micro-steps performed so
  far in this run (oldest first); `blocked` is set when the run stopped at `notified.await` with a future that is not
  ready.

  ### The instance `ltsExt cfg w fuel` (TRUSTED: this is where the modelling decisions are)
  The generated function is run AS worker `w` of the configuration `cfg`.  An operation performs the micro-step(s)
  `Hardlink.step cfg s w` of that worker — and of nobody else — that the LTS attaches to the corresponding piece of the
  code, logs the label(s), and answers from the state BEFORE the step (reads) or from the label (transport operations:
  `opOk`/`opErr`; `same_inode`: `sameInode`/`otherInode`).  Every operation is GUARDED: it checks that the worker's
  program counter is at the point where the LTS expects this very operation with these very arguments (own inode, own
  destination path `encPath w`, own Notify `w`, the recorded first path); otherwise it answers `desyncErr` and does
  nothing.  So "the generated run never answers `desyncErr`" says that the code performs the LTS's steps in the LTS's
  order with the right arguments.

    map_get i            lock scope `map.get(&inode).cloned()`: at `start` (top of the loop: `readNone`/`readInProgress`/
                         `readCompleted`) or at `armed` (the re-check: `recheckSame`/`recheckChanged`); answers the entry
                         of `i` in `s.map` (encoded), read BEFORE the step
    Notify_new ()        at `sawNone`: the identity `w` (the LTS names the `Notify` inserted by a claim by the claiming
                         worker; a `Notify` created in a round whose claim is lost is never seen by anybody); no step
    map_contains i       at `sawNone`: the READ half of the claim's lock scope.  Entry present ⇒ the step `claimLost`,
                         answer `true`.  Entry absent ⇒ answer `false`, NO step yet and NOTHING changes: the mutex is still
                         held (Rust holds it across `contains_key` and `insert`) —
    map_insert i (InProgress n)   — the WRITE half: at `sawNone` with the entry still absent and `n = w`: the step
                         `claimOk`.  A run of the monad is one worker's uninterrupted macro-step (`OwnSteps`), so no
                         other worker's step comes between the two halves: the pair IS the LTS's one step.
    map_insert i (Completed p)    at `complete`, `p = encPath w`: the step `complete`
    map_remove i         at `cleanup _`: the step `remove`
    notify_waiters n     at `notifyOk` / `failNotify _`, `n = w`: the step `notify` (the counter `calls w` goes up)
    notified n           at `sawInProgress n`: the step `arm n`; answers the snapshot `s.calls n` of the counter (tokio)
    await_notified t     at `waiting g t`: counter moved ⇒ the step `wake`, `Ok`; counter unchanged ⇒ BLOCKED: the flag is
                         set and the run leaves through `Err(blockedErr)` — one run = one `poll`
    same_inode a b       at `sameOp p`, `a = encPath p`, `b = encPath w`: the step; `true` iff its label is `sameInode`
    t_remove b false     at `removeOp p 0`: the step; `opErr o` ⇒ `Err(errOf o)`
    t_create_hardlink a b   at `linkOp p 0`, `a = encPath p`: the step
    t_sync_file_with_delta _ b     at `syncOp 0`: the step; the result value is `default` (the LTS has no byte counts)
    transferrer_copy_file _ b      `Transferrer::copy_file` = `create_dir_all(parent)` then `transport.copy_file`: at
                         `mkdirOp 0` the step, then at `copyOp 0` the step; the first `opErr` ends it
    write_xattrs _ b     at `metaOp`: the step `attrs` — the LTS has ONE step for the three attribute writers and one
                         fault bit `failMeta`; the instance attributes it to the first writer —
    write_acls, write_bsd_flags    — and these two do nothing (at `complete`)

  Await points of the transport (`yield` labels, `yMkdir`/`yCopy`/`yLink > 0`) have no counterpart in the generated code
  (no representation of a pending transport future): the operations are guarded by "no yield left" (`mkdirOp 0`, …), the
  theorems assume the three counters to be 0 (`Member` in Lemmas/GenLinkMemberSim.lean, `NoYields` in Props/GenLinkMemberLts.lean).  A panic of `lock().unwrap()` is not modelled.
-/
structure LWorld where
  s : State
  labels : List Label
  blocked : Bool

/-- perform the micro-step of `w` if `guard` holds of the state: log its label, answer `ans state-before label` -/
def tick {α : Type} (cfg : Cfg) (w : Nat) (guard : State → Bool) (ans : State → Label → Except Rs.Err α) :
    Rs.M LWorld α :=
  op fun lw =>
    if guard lw.s then
      match step cfg lw.s w with
      | some (l, s') => (ans lw.s l, { lw with s := s', labels := lw.labels ++ [l] })
      | none => (.error desyncErr, lw)
    else (.error desyncErr, lw)

/-- no step, only the guard -/
def check {α : Type} (w : Nat) (guard : State → Bool) (a : α) : Rs.M LWorld α :=
  op fun lw => if guard lw.s then (.ok a, lw) else (.error desyncErr, lw)

/-- the answer of a transport operation, from the label of its step -/
def ansOp {α : Type} (a : α) (_ : State) : Label → Except Rs.Err α
  | .opOk _ => .ok a
  | .opErr o => .error (errOf o)
  | _ => .error desyncErr

def Pc.atRead : Pc → Bool
  | .start => true
  | .armed _ _ => true
  | _ => false
def Pc.atCleanup : Pc → Bool
  | .cleanup _ => true
  | _ => false
def Pc.atNotify : Pc → Bool
  | .notifyOk => true
  | .failNotify _ => true
  | _ => false

def ltsExt (cfg : Cfg) (w : Nat) (fuel : Nat) : Ext LWorld where
  fuel := fuel
  Notify_new _ := check w (fun s => decide (s.pc w = .sawNone)) (encNotify w)
  map_get i :=
    tick cfg w (fun s => decide (i = encInode (cfg.worker w).inode) && Pc.atRead (s.pc w))
      (fun s _ => .ok ((s.map i).map encEntry))
  map_contains i := op fun lw =>
    if decide (i = encInode (cfg.worker w).inode) && decide (lw.s.pc w = .sawNone) then
      if (lw.s.map i).isSome then runM (tick cfg w (fun _ => true) (fun _ _ => .ok true)) lw
      else (.ok false, lw)
    else (.error desyncErr, lw)
  map_insert i st :=
    match st with
    | .InProgress n =>
      tick cfg w (fun s => decide (i = encInode (cfg.worker w).inode) && decide (n = encNotify w) &&
        decide (s.pc w = .sawNone) && (s.map i).isNone) (fun _ _ => .ok ())
    | .Completed p =>
      tick cfg w (fun s => decide (i = encInode (cfg.worker w).inode) && decide (p = encPath w) &&
        decide (s.pc w = .complete)) (fun _ _ => .ok ())
  map_remove i :=
    tick cfg w (fun s => decide (i = encInode (cfg.worker w).inode) && Pc.atCleanup (s.pc w)) (fun _ _ => .ok ())
  notify_waiters n := tick cfg w (fun s => decide (n = encNotify w) && Pc.atNotify (s.pc w)) (fun _ _ => .ok ())
  notified n := tick cfg w (fun s => decide (s.pc w = .sawInProgress n)) (fun s _ => .ok (s.calls n))
  await_notified t := op fun lw =>
    match lw.s.pc w with
    | .waiting g snap =>
      if t = snap then
        match step cfg lw.s w with
        | some (l, s') => (.ok (), { lw with s := s', labels := lw.labels ++ [l] })
        | none => (.error blockedErr, { lw with blocked := true })
      else (.error desyncErr, lw)
    | _ => (.error desyncErr, lw)
  same_inode _ a b :=
    tick cfg w (fun s => match s.pc w with
        | .sameOp p => decide (a = encPath p) && decide (b = encPath w)
        | _ => false)
      (fun _ l => match l with
        | .sameInode => .ok true
        | .otherInode => .ok false
        | _ => .error desyncErr)
  t_remove _ b isDir :=
    tick cfg w (fun s => match s.pc w with
        | .removeOp _ 0 => decide (b = encPath w) && !isDir
        | _ => false) (ansOp ())
  t_create_hardlink _ a b :=
    tick cfg w (fun s => match s.pc w with
        | .linkOp p 0 => decide (a = encPath p) && decide (b = encPath w)
        | _ => false) (ansOp ())
  t_sync_file_with_delta _ _ b :=
    tick cfg w (fun s => decide (s.pc w = .syncOp 0) && decide (b = encPath w)) (ansOp default)
  transferrer_copy_file _ _ b := do
    tick cfg w (fun s => decide (s.pc w = .mkdirOp 0) && decide (b = encPath w)) (ansOp ())
    tick cfg w (fun s => decide (s.pc w = .copyOp 0)) (ansOp default)
  write_xattrs _ _ b := tick cfg w (fun s => decide (s.pc w = .metaOp) && decide (b = encPath w)) (ansOp ())
  write_acls _ _ b := check w (fun s => decide (s.pc w = .complete) && decide (b = encPath w)) ()
  write_bsd_flags _ _ b := check w (fun s => decide (s.pc w = .complete) && decide (b = encPath w)) ()

section fields
variable (cfg : Cfg) (w fuel : Nat) (i n : Nat) (a b : Rs.Path) (o : Rs.Opaque) (tr : Transferrer) (fe : FileEntry)
theorem ltsExt_fuel : (ltsExt cfg w fuel).fuel = fuel := rfl
theorem ltsExt_Notify_new (u : Unit) :
    (ltsExt cfg w fuel).Notify_new u = check w (fun s => decide (s.pc w = .sawNone)) (encNotify w) := rfl
theorem ltsExt_map_get : (ltsExt cfg w fuel).map_get i =
    tick cfg w (fun s => decide (i = encInode (cfg.worker w).inode) && Pc.atRead (s.pc w))
      (fun s _ => .ok ((s.map i).map encEntry)) := rfl
theorem ltsExt_map_contains : (ltsExt cfg w fuel).map_contains i = op fun lw =>
    if decide (i = encInode (cfg.worker w).inode) && decide (lw.s.pc w = .sawNone) then
      if (lw.s.map i).isSome then runM (tick cfg w (fun _ => true) (fun _ _ => .ok true)) lw
      else (.ok false, lw)
    else (.error desyncErr, lw) := rfl
theorem ltsExt_map_insert_inProgress : (ltsExt cfg w fuel).map_insert i (.InProgress n) =
    tick cfg w (fun s => decide (i = encInode (cfg.worker w).inode) && decide (n = encNotify w) &&
      decide (s.pc w = .sawNone) && (s.map i).isNone) (fun _ _ => .ok ()) := rfl
theorem ltsExt_map_insert_completed : (ltsExt cfg w fuel).map_insert i (.Completed a) =
    tick cfg w (fun s => decide (i = encInode (cfg.worker w).inode) && decide (a = encPath w) &&
      decide (s.pc w = .complete)) (fun _ _ => .ok ()) := rfl
theorem ltsExt_map_remove : (ltsExt cfg w fuel).map_remove i =
    tick cfg w (fun s => decide (i = encInode (cfg.worker w).inode) && Pc.atCleanup (s.pc w)) (fun _ _ => .ok ()) := rfl
theorem ltsExt_notify_waiters : (ltsExt cfg w fuel).notify_waiters n =
    tick cfg w (fun s => decide (n = encNotify w) && Pc.atNotify (s.pc w)) (fun _ _ => .ok ()) := rfl
theorem ltsExt_notified : (ltsExt cfg w fuel).notified n =
    tick cfg w (fun s => decide (s.pc w = .sawInProgress n)) (fun s _ => .ok (s.calls n)) := rfl
theorem ltsExt_await_notified : (ltsExt cfg w fuel).await_notified n = op fun lw =>
    match lw.s.pc w with
    | .waiting g snap =>
      if n = snap then
        match step cfg lw.s w with
        | some (l, s') => (.ok (), { lw with s := s', labels := lw.labels ++ [l] })
        | none => (.error blockedErr, { lw with blocked := true })
      else (.error desyncErr, lw)
    | _ => (.error desyncErr, lw) := rfl
theorem ltsExt_same_inode : (ltsExt cfg w fuel).same_inode tr a b =
    tick cfg w (fun s => match s.pc w with
        | .sameOp p => decide (a = encPath p) && decide (b = encPath w)
        | _ => false)
      (fun _ l => match l with
        | .sameInode => .ok true
        | .otherInode => .ok false
        | _ => .error desyncErr) := rfl
theorem ltsExt_t_remove (isDir : Bool) : (ltsExt cfg w fuel).t_remove o b isDir =
    tick cfg w (fun s => match s.pc w with
        | .removeOp _ 0 => decide (b = encPath w) && !isDir
        | _ => false) (ansOp ()) := rfl
theorem ltsExt_t_create_hardlink : (ltsExt cfg w fuel).t_create_hardlink o a b =
    tick cfg w (fun s => match s.pc w with
        | .linkOp p 0 => decide (a = encPath p) && decide (b = encPath w)
        | _ => false) (ansOp ()) := rfl
theorem ltsExt_t_sync : (ltsExt cfg w fuel).t_sync_file_with_delta o a b =
    tick cfg w (fun s => decide (s.pc w = .syncOp 0) && decide (b = encPath w)) (ansOp default) := rfl
theorem ltsExt_copy_file : (ltsExt cfg w fuel).transferrer_copy_file tr a b =
    (tick cfg w (fun s => decide (s.pc w = .mkdirOp 0) && decide (b = encPath w)) (ansOp ()) >>= fun _ =>
      tick cfg w (fun s => decide (s.pc w = .copyOp 0)) (ansOp default)) := rfl
theorem ltsExt_write_xattrs : (ltsExt cfg w fuel).write_xattrs tr fe b =
    tick cfg w (fun s => decide (s.pc w = .metaOp) && decide (b = encPath w)) (ansOp ()) := rfl
theorem ltsExt_write_acls : (ltsExt cfg w fuel).write_acls tr fe b =
    check w (fun s => decide (s.pc w = .complete) && decide (b = encPath w)) () := rfl
theorem ltsExt_write_bsd_flags : (ltsExt cfg w fuel).write_bsd_flags tr fe b =
    check w (fun s => decide (s.pc w = .complete) && decide (b = encPath w)) () := rfl
end fields

/-- how a run ended, in the LTS's vocabulary.  An error that is none of the operations' and not the blocked exit —
    `desyncErr`, or the `Err(other)` of the exhausted fuel — is reported as `outOfFuel`: `genPoll` does not tell a
    desynchronised run from one that ran out of rounds; `Ended` (Lemmas/GenLinkMemberSim.lean) does, it admits neither. -/
def outcome {α : Type} (r : Except Rs.Err α) (blocked : Bool) : PollOut :=
  match r with
  | .ok _ => .ready .ok
  | .error e =>
    if blocked && e == blockedErr then .pending
    else match decodeErr e with
      | some o => .ready (.err o)
      | none => .outOfFuel

/-- `is_update` of the call: the planner's action for the path -/
def isUpdate (cfg : Cfg) (w : Nat) : Bool := decide ((cfg.worker w).action = .update)

/-- the call `self.transfer_link_member(source, dest, inode, is_update)` of worker `w`, GENERATED function, on `ltsExt` -/
def genCall (cfg : Cfg) (w fuel : Nat) (self : Transferrer) (source : FileEntry) : Rs.M LWorld (Option TransferResult) :=
  Transferrer.transfer_link_member (ltsExt cfg w fuel) self source (encPath w) (encInode (cfg.worker w).inode)
    (isUpdate cfg w)

/-- ONE `Future::poll` of worker `w`'s future, the hand-off being the GENERATED function.
    * at the top of the function (`start`): one run of the generated function;
    * suspended at `notified.await` (`waiting g snap`): the await is polled again; when it completes the code goes on
      with `continue`, and since the loop carries no state (`Props.GenLinkMember.transfer_link_member_eq`) what follows
      IS the function from its top: `await_notified snap` then one run of the generated function;
    * a future that has returned is not polled again (`ready r`, nothing happens);
    * a worker outside the hard-link branch (`linked = false`) does not run this function: the model's `poll`;
    * any other program counter is not a poll boundary of a linked worker without transport yields: `outOfFuel`. -/
def genPoll (cfg : Cfg) (fuel : Nat) (self : Transferrer) (source : FileEntry) (s : State) (w : Nat) :
    State × List Label × PollOut :=
  if (cfg.worker w).linked then
    match s.pc w with
    | .start =>
      let r := runM (genCall cfg w fuel self source) ⟨s, [], false⟩
      (r.2.s, r.2.labels, outcome r.1 r.2.blocked)
    | .waiting _ snap =>
      let r := runM ((ltsExt cfg w fuel).await_notified snap >>= fun _ => genCall cfg w fuel self source) ⟨s, [], false⟩
      (r.2.s, r.2.labels, outcome r.1 r.2.blocked)
    | .done r => (s, [], .ready r)
    | _ => (s, [], .outOfFuel)
  else poll cfg s w

/-- what is compared of a state: the program counters, counters and destinations of the workers `0 … n-1`, and the map
    at the listed inodes -/
structure Obs where
  pcs : List Pc
  entries : List (Option Entry)
  calls : List Nat
  dsts : List (Option File)
  labels : List Label
  out : PollOut
  deriving DecidableEq, Repr
def obs (n : Nat) (inodes : List Nat) (r : State × List Label × PollOut) : Obs :=
  ⟨(List.range n).map r.1.pc, inodes.map r.1.map, (List.range n).map r.1.calls, (List.range n).map r.1.dst, r.2.1, r.2.2⟩

/-- the state after the poll schedule `ws` of the MODEL's `poll` -/
def pollSched (cfg : Cfg) : State → List Nat → State
  | s, [] => s
  | s, w :: ws => pollSched cfg (poll cfg s w).1 ws

/-- along the poll schedule `ws` (run with the MODEL's `poll`): before every poll, the model's `poll` of that worker and
    `genPoll` (the generated function on `ltsExt`) give the same state, labels and outcome -/
def agreeAlong (cfg : Cfg) (fuel : Nat) (inodes : List Nat) (s : State) (ws : List Nat) : Bool :=
  (List.range ws.length).all fun k =>
    decide (obs cfg.n inodes (genPoll cfg fuel default default (pollSched cfg s (ws.take k)) (ws.getD k 0)) =
      obs cfg.n inodes (poll cfg (pollSched cfg s (ws.take k)) (ws.getD k 0)))

/-! ### Thread-level interleavings: other workers move BETWEEN two operations of the run

  A run on `ltsExt` is one uninterrupted macro-step (what a single-threaded executor interleaves).  On the multi-threaded
  runtime other workers' micro-steps come between two operations of a run.  `interleaveExt cfg e` wraps every operation of
  an instance: before it, the workers listed in the head of a SCRIPT perform their micro-steps (`runMicro`).  With it the
  re-check can see a change (`recheckChanged`), the claim can be lost (`claimLost`), and the lost wake-up of a
  registration that comes too late becomes a concrete run. -/
abbrev IWorld := LWorld × List (List Nat)

def interleave {α : Type} (cfg : Cfg) (x : Rs.M LWorld α) : Rs.M IWorld α :=
  op fun iw =>
    let r := runM x { iw.1 with s := (runMicro cfg iw.1.s (iw.2.headD [])).1 }
    (r.1, (r.2, iw.2.tail))

def interleaveExt (cfg : Cfg) (e : Ext LWorld) : Ext IWorld where
  fuel := e.fuel
  Notify_new u := interleave cfg (e.Notify_new u)
  map_get i := interleave cfg (e.map_get i)
  map_contains i := interleave cfg (e.map_contains i)
  map_insert i st := interleave cfg (e.map_insert i st)
  map_remove i := interleave cfg (e.map_remove i)
  same_inode t a b := interleave cfg (e.same_inode t a b)
  t_remove o a d := interleave cfg (e.t_remove o a d)
  t_create_hardlink o a b := interleave cfg (e.t_create_hardlink o a b)
  t_sync_file_with_delta o a b := interleave cfg (e.t_sync_file_with_delta o a b)
  transferrer_copy_file t a b := interleave cfg (e.transferrer_copy_file t a b)
  write_xattrs t fe b := interleave cfg (e.write_xattrs t fe b)
  write_acls t fe b := interleave cfg (e.write_acls t fe b)
  write_bsd_flags t fe b := interleave cfg (e.write_bsd_flags t fe b)
  notified n := interleave cfg (e.notified n)
  await_notified t := interleave cfg (e.await_notified t)
  notify_waiters n := interleave cfg (e.notify_waiters n)

/-- the instance for the PINNED variant of the LTS (`Variant.pinned`: no re-check, `arm` leads straight to
    `waiting`).  It is `ltsExt` except that a `map_get` at `sawInProgress` — a read for which the pinned LTS has no step — is
    allowed as a pure read (what a waiter that re-checks BEFORE it registers would do).  Its one user,
    `scen_clean_is_not_pinned` (Lemmas/GenLinkMemberScen.lean), does not reach that read. -/
def ltsExtPinned (cfg : Cfg) (w fuel : Nat) : Ext LWorld :=
  { ltsExt cfg w fuel with
    map_get := fun i => op fun lw =>
      match lw.s.pc w with
      | .sawInProgress _ =>
        if i = encInode (cfg.worker w).inode then (.ok ((lw.s.map i).map encEntry), lw) else (.error desyncErr, lw)
      | _ => runM ((ltsExt cfg w fuel).map_get i) lw }

/-- one run of the GENERATED function as worker `w` from the top of the function, on an interleaved instance, the
    environment moving as the script says -/
def threadPoll (cfg : Cfg) (ext : Ext IWorld) (w : Nat) (s : State) (script : List (List Nat)) : Obs :=
  let r := runM (Transferrer.transfer_link_member ext default default (encPath w) (encInode (cfg.worker w).inode)
    (isUpdate cfg w)) (⟨s, [], false⟩, script)
  obs cfg.n [(cfg.worker w).inode] (r.2.1.s, r.2.1.labels, outcome r.1 r.2.1.blocked)

end SyModel.Lemmas.GenLinkMemberLts
