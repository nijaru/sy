/-
  The exit decision of `sy --verify-only` (src/main.rs:405-414) as a function of its four emptiness tests: one table for
  the model's `exitCode` (C15) and for the translated `verify_exit_code` (Props/GenMainExit), which have this shape.
  Kept apart from Lemmas/Verify so that it can be imported together with Lemmas/EngineWF (Props/GenMainExit is, by
  Lemmas/GenEngineRunGlue); Lemmas/Verify cannot: both declare `SyModel.Engine.UniqueRels`.
-/
namespace SyModel.Engine

theorem exitTable_zero (a b c d : Bool) :
    (if !a then 2 else if !b || !c || !d then 1 else 0 : Nat) = 0 ↔ a = true ∧ b = true ∧ c = true ∧ d = true := by
  cases a <;> cases b <;> cases c <;> cases d <;> decide
theorem exitTable_two (a b c d : Bool) :
    (if !a then 2 else if !b || !c || !d then 1 else 0 : Nat) = 2 ↔ a = false := by
  cases a <;> cases b <;> cases c <;> cases d <;> decide
theorem exitTable_le (a b c d : Bool) : (if !a then 2 else if !b || !c || !d then 1 else 0 : Nat) ≤ 2 := by
  cases a <;> cases b <;> cases c <;> cases d <;> decide

end SyModel.Engine
