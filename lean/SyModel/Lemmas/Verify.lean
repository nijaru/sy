/-
  The verify-only model: the vocabulary of C15's statements (`noBounds`, `UniqueRels`) and what `destFile` and
  `classify` answer.
-/
import SyModel.Engine.Verify
namespace SyModel.Engine

def noBounds : VCfg := ⟨none, none⟩

/-- scans list every path once -/
def UniqueRels (l : List VEntry) : Prop := (l.map (·.rel)).Nodup

theorem nodup_map_inj {α β} (f : α → β) (l : List α) (h : (l.map f).Nodup)
    {a b : α} (ha : a ∈ l) (hb : b ∈ l) (hf : f a = f b) : a = b := by
  induction l with
  | nil => cases ha
  | cons x t ih =>
    simp only [List.map_cons, List.nodup_cons] at h
    rcases List.mem_cons.mp ha with rfl | ha' <;> rcases List.mem_cons.mp hb with rfl | hb'
    · rfl
    · exact absurd (List.mem_map.mpr ⟨b, hb', hf.symm⟩) h.1
    · exact absurd (List.mem_map.mpr ⟨a, ha', hf⟩) h.1
    · exact ih h.2 ha' hb'

theorem mem_verdict (c : VCfg) (src dst : List VEntry) (v : Verdict) (p : Path) :
    p ∈ (((src.map fun s => (s.rel, classify c dst s)).filter (·.2 == v)).map (·.1)) ↔
      ∃ s ∈ src, s.rel = p ∧ classify c dst s = v := by
  simp only [List.mem_map, List.mem_filter, beq_iff_eq]
  constructor
  · rintro ⟨⟨q, w⟩, ⟨⟨s, hs, heq⟩, hv⟩, hp⟩
    simp only [Prod.mk.injEq] at heq
    obtain ⟨h1, h2⟩ := heq
    simp only at hv hp
    exact ⟨s, hs, h1.trans hp, h2.trans hv⟩
  · rintro ⟨s, hs, hp, hv⟩
    exact ⟨(s.rel, classify c dst s), ⟨⟨s, hs, rfl⟩, hv⟩, hp⟩

theorem destFile_some_iff (dst : List VEntry) (hu : UniqueRels dst) (p : Path) (d : VEntry) :
    destFile dst p = some d ↔ d ∈ dst ∧ d.isDir = false ∧ d.rel = p := by
  unfold destFile
  have hfil : ∀ x, x ∈ dst.filter (fun x => !x.isDir && x.rel == p) ↔ x ∈ dst ∧ x.isDir = false ∧ x.rel = p := fun x => by
    rw [List.mem_filter, Bool.and_eq_true, Bool.not_eq_true', beq_iff_eq]
  constructor
  · exact fun h => (hfil d).mp (List.mem_of_getLast? h)
  · intro hd
    -- the filtered list is not empty, and its last element has `d`'s path: it is `d`
    cases hl : (dst.filter fun x => !x.isDir && x.rel == p).getLast? with
    | none => exact absurd ((hfil d).mpr hd) (List.getLast?_eq_none_iff.mp hl ▸ List.not_mem_nil)
    | some x =>
      have hx := (hfil x).mp (List.mem_of_getLast? hl)
      rw [nodup_map_inj (fun v : VEntry => v.rel) dst hu hx.1 hd.1 (hx.2.2.trans hd.2.2.symm)]

theorem destFile_none_iff (dst : List VEntry) (p : Path) :
    destFile dst p = none ↔ ∀ d ∈ dst, d.rel = p → d.isDir = true := by
  unfold destFile
  rw [List.getLast?_eq_none_iff, List.filter_eq_nil_iff]
  refine forall_congr' fun d => forall_congr' fun _ => ?_
  cases d.isDir <;> simp

theorem classify_dir (c : VCfg) (dst : List VEntry) (s : VEntry) (h : s.isDir = true) :
    classify c dst s = .ignored := by
  unfold classify
  rw [h, if_pos rfl]

theorem classify_file (dst : List VEntry) (s : VEntry) (h : s.isDir = false) :
    classify noBounds dst s =
      match destFile dst s.rel with
      | none => .onlySrc
      | some d =>
        match s.content, d.content with
        | some a, some b => if a = b then .matched else .mismatched
        | _, _ => .error := by
  unfold classify
  rw [h, if_neg Bool.false_ne_true]
  rfl

theorem classify_file_some (dst : List VEntry) (hd : UniqueRels dst) (s d : VEntry) (h : s.isDir = false)
    (hdm : d ∈ dst) (hdd : d.isDir = false) (hdr : d.rel = s.rel) :
    classify noBounds dst s =
      match s.content, d.content with
      | some a, some b => if a = b then .matched else .mismatched
      | _, _ => .error := by
  rw [classify_file dst s h, (destFile_some_iff dst hd s.rel d).mpr ⟨hdm, hdd, hdr⟩]

theorem classify_spec (dst : List VEntry) (hd : UniqueRels dst) (s : VEntry) :
    match classify noBounds dst s with
    | .ignored => s.isDir = true
    | .onlySrc => s.isDir = false ∧ ∀ d ∈ dst, d.rel = s.rel → d.isDir = true
    | .matched => s.isDir = false ∧ ∃ d ∈ dst, d.rel = s.rel ∧ d.isDir = false ∧ d.content = s.content ∧ s.content ≠ none
    | .mismatched => s.isDir = false ∧ ∃ d ∈ dst, d.rel = s.rel ∧ d.isDir = false ∧
        ∃ a b, s.content = some a ∧ d.content = some b ∧ a ≠ b
    | .error => s.isDir = false ∧ ∃ d ∈ dst, d.rel = s.rel ∧ d.isDir = false ∧ (s.content = none ∨ d.content = none) := by
  cases hs : s.isDir with
  | true =>
    rw [classify_dir _ _ _ hs]
  | false =>
    rw [classify_file dst s hs]
    cases hdf : destFile dst s.rel with
    | none => exact ⟨rfl, (destFile_none_iff dst s.rel).mp hdf⟩
    | some d =>
      obtain ⟨hdm, hdd, hdr⟩ := (destFile_some_iff dst hd _ d).mp hdf
      dsimp only
      cases ha : s.content with
      | none => exact ⟨rfl, d, hdm, hdr, hdd, .inl rfl⟩
      | some a =>
        cases hb : d.content with
        | none => exact ⟨rfl, d, hdm, hdr, hdd, .inr hb⟩
        | some b =>
          dsimp only
          by_cases hab : a = b
          · rw [if_pos hab]
            exact ⟨rfl, d, hdm, hdr, hdd, hab ▸ hb, nofun⟩
          · rw [if_neg hab]
            exact ⟨rfl, d, hdm, hdr, hdd, a, b, rfl, hb, hab⟩

theorem verdict_list_nil (c : VCfg) (src dst : List VEntry) (v : Verdict) :
    ((src.map fun s => (s.rel, classify c dst s)).filter (·.2 == v)).map (·.1) = [] ↔ ∀ s ∈ src, classify c dst s ≠ v := by
  rw [List.eq_nil_iff_forall_not_mem]
  exact ⟨fun h s hs hv => h s.rel ((mem_verdict c src dst v s.rel).mpr ⟨s, hs, rfl, hv⟩),
    fun h p hp => let ⟨s, hs, _, hv⟩ := (mem_verdict c src dst v p).mp hp; h s hs hv⟩

end SyModel.Engine
