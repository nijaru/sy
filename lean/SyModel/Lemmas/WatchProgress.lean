/-
  Progress of the watch loop under quiescence: every queued event is received (one per
  iteration), then the loop times out until `debounce` has elapsed since `last_sync`, then a
  sync starts from the current source; once the destination is what a sync from the current
  source would leave, it stays so.
-/
import SyModel.Lemmas.Watch
namespace SyModel.Watch

theorem quiescent_split (c : Cfg) (is : List Input) (hq : Quiescent is) (hn : 1 ≤ nSteps is) :
    ∃ δ post, Quiescent post ∧ nSteps post + 1 = nSteps is ∧
      ∀ s, run c s is = run c (step c (advance s δ)).1 post := by
  induction is with
  | nil => exact absurd hn (by decide)
  | cons i t ih =>
    obtain ⟨hi, ht⟩ := List.forall_mem_cons.mp hq
    rcases quiet_cases hi with e | ⟨δ', e⟩
    · subst e
      exact ⟨0, t, ht, rfl, fun s => rfl⟩
    · subst e
      obtain ⟨δ, post, h1, h2, h3⟩ := ih ht hn
      refine ⟨δ' + δ, post, h1, h2, fun s => ?_⟩
      rw [← advance_advance]
      exact h3 _

theorem quiescent_inv (c : Cfg) {P : State → Prop} (is : List Input) (hq : Quiescent is)
    (hstep : ∀ s, P s → P (step c s).1) (htick : ∀ s δ, P s → P (advance s δ)) :
    ∀ s, P s → P (run c s is) := by
  refine run_inv c is fun s hs i hi => ?_
  rcases quiet_cases (hq i hi) with e | ⟨δ, e⟩
  · rw [e]; exact hstep s hs
  · rw [e]; exact htick s δ hs

/-- the state in which the sync that propagates the work outstanding in `s` starts, at time `now'`:
    every queued event has been received, the snapshot is the current source; the rest is `s` -/
def startedSync (s : State) (now' : Nat) : State :=
  { s with phase := .sync, queue := [], pending := s.pending ++ s.queue.filter Kind.kept, snap := s.src,
           syncs := s.syncs + 1, ok := true, now := now' }

theorem work_outstanding {s : State} (h : s.pending ≠ [] ∨ ∃ k ∈ s.queue, k.kept = true) :
    s.pending ++ s.queue.filter Kind.kept ≠ [] := by
  intro h'
  obtain ⟨h1, h2⟩ := List.append_eq_nil_iff.mp h'
  rcases h with h | ⟨k, hk, hkk⟩
  · exact h h1
  · exact List.filter_eq_nil_iff.mp h2 k hk hkk

/-- From the top of the loop, with work outstanding and no SIGINT: after at most
    `queue.length + m + 1` iterations a sync has started, where `m + 1` is any number of receive
    timeouts that suffices to reach the debounce.  All queued events were received first. -/
theorem reach_sync (c : Cfg) (is : List Input) :
    ∀ (s : State) (m : Nat), Quiescent is → s.phase = .loop → s.sig = false →
      s.pending ++ s.queue.filter Kind.kept ≠ [] →
      c.debounce + s.lastSync ≤ s.now + (m + 1) * c.recvTimeout →
      s.queue.length + m + 1 ≤ nSteps is →
      ∃ pre post now', is = pre ++ post ∧ nSteps pre ≤ s.queue.length + m + 1 ∧
        run c s pre = startedSync s now' := by
  induction is with
  | nil => exact fun s m _ _ _ _ _ hn => absurd hn (Nat.not_succ_le_zero _)
  | cons i t ih =>
    intro s m hq hp hs hw hm hn
    obtain ⟨hi, ht⟩ := List.forall_mem_cons.mp hq
    rcases quiet_cases hi with e | ⟨δ, e⟩
    · subst e
      rw [nSteps_step] at hn
      -- after this move: the rest of the way from the new state, by induction
      refine Exists.elim (step_loop_cases c s hp hs (P := fun s' => ∃ pre post now', t = pre ++ post ∧
          nSteps pre + 1 ≤ s.queue.length + m + 1 ∧ run c s' pre = startedSync s now') ?_ ?_ ?_)
        fun pre ⟨post, now', h1, h2, h3⟩ => ⟨.step :: pre, post, now', by rw [h1]; rfl, h2, h3⟩
      · -- an event is received
        intro k q hqu
        have hw' : (s.pending ++ [k].filter Kind.kept) ++ q.filter Kind.kept ≠ [] := by
          rw [List.append_assoc, filter_singleton_append, ← hqu]
          exact hw
        rw [hqu, List.length_cons, Nat.add_right_comm _ 1 m] at hn ⊢
        obtain ⟨pre, post, now', h1, h2, h3⟩ :=
          ih { s with now := s.now + c.selectSleep, queue := q, pending := s.pending ++ [k].filter Kind.kept }
            m ht hp hs hw' (Nat.le_trans hm (Nat.add_le_add_right (Nat.le_add_right _ _) _))
            (Nat.le_of_succ_le_succ hn)
        refine ⟨pre, post, now', h1, Nat.succ_le_succ h2, ?_⟩
        rw [h3]
        unfold startedSync
        simp only [hqu, List.append_assoc, filter_singleton_append]
      · -- the receive times out after the debounce: the sync starts
        intro hqu _ _
        refine ⟨[], t, s.now + c.selectSleep + c.recvTimeout, rfl, Nat.succ_le_succ (Nat.zero_le _), ?_⟩
        unfold startedSync
        simp only [run_nil, hqu, List.filter_nil, List.append_nil]
      · -- the receive times out too early: at least one more timeout was promised
        intro hqu hd
        have hpe : s.pending ≠ [] := by
          rw [hqu, List.filter_nil, List.append_nil] at hw
          exact hw
        have hd' : ¬ c.debounce + s.lastSync ≤ s.now + c.selectSleep + c.recvTimeout :=
          fun h => hd.resolve_left hpe (Nat.le_sub_of_add_le h)
        cases m with
        | zero => exact absurd (by omega) hd'
        | succ m' =>
          rw [Nat.succ_mul] at hm
          obtain ⟨pre, post, now', h1, h2, h3⟩ := ih { s with now := s.now + c.selectSleep + c.recvTimeout } m' ht
            hp hs hw (by show c.debounce + s.lastSync ≤ s.now + c.selectSleep + c.recvTimeout + _; omega)
            (Nat.le_of_succ_le_succ hn)
          exact ⟨pre, post, now', h1, Nat.succ_le_succ h2, h3⟩
    · subst e
      obtain ⟨pre, post, now', h1, h2, h3⟩ := ih (advance s δ) m ht hp hs hw
        (Nat.le_trans hm (Nat.add_le_add_right (Nat.le_add_right _ _) _)) hn
      exact ⟨.tick δ :: pre, post, now', by rw [h1]; rfl, h2, h3⟩

theorem ceilDiv_mul_ge (d r : Nat) (hr : 0 < r) : d ≤ ceilDiv d r * r := by
  unfold ceilDiv
  have h1 := Nat.div_add_mod (d + r - 1) r
  have h2 := Nat.mod_lt (d + r - 1) hr
  rw [Nat.mul_comm] at h1
  omega

/-- States in which, if a sync from source `a` leaves destination `d` as it is, nothing the loop
    does under quiescence changes the destination: the source is `a`, the destination `d`, and a
    running sync works from `a`. -/
def Fixed (a d : Ver) (s : State) : Prop :=
  s.src = a ∧ s.dst = d ∧ s.sig = false ∧ (s.phase = .loop ∨ (s.phase = .sync ∧ s.snap = a))

/-- If a sync from source `a` leaves destination `d` as it is — they are equal, or the comparison
    rule sees no difference — then under quiescence the destination stays `d`, however often the
    loop syncs. -/
theorem fixed_run (c : Cfg) (a d : Ver) (hf : syncTo c a d = d) (is : List Input) (hq : Quiescent is)
    (s : State) (h : Fixed a d s) : (run c s is).dst = d ∧ (run c s is).src = a := by
  have h := quiescent_inv c (P := Fixed a d) is hq ?_ (fun _ _ h => h) s h
  · exact ⟨h.2.1, h.1⟩
  · intro s ⟨hsrc, hdst, hsig, hph⟩
    rcases hph with hp | ⟨hp, hsn⟩
    · exact step_loop_cases c s hp hsig (P := Fixed a d) (fun _ _ _ => ⟨hsrc, hdst, hsig, Or.inl hp⟩)
        (fun _ _ _ => ⟨hsrc, hdst, hsig, Or.inr ⟨rfl, hsrc⟩⟩) (fun _ _ => ⟨hsrc, hdst, hsig, Or.inl hp⟩)
    · rw [step_sync_end c s hp]
      exact ⟨hsrc, by rw [← hf, ← hsn, ← hdst], hsig, Or.inl rfl⟩

/-- a running sync from the current source installs its result with the loop thread's next move; a
    further sync from the same source would change nothing (`syncTo_idem`), so it stays -/
theorem sync_completes (c : Cfg) (s : State) (hp : s.phase = .sync) (hsig : s.sig = false)
    (hsn : s.snap = s.src) (is : List Input) (hq : Quiescent is) (hn : 1 ≤ nSteps is) :
    (run c s is).dst = syncTo c s.src s.dst ∧ (run c s is).src = s.src := by
  obtain ⟨δ, post, hqp, _, hrun⟩ := quiescent_split c is hq hn
  rw [hrun, step_sync_end c (advance s δ) hp]
  exact fixed_run c s.src _ (syncTo_idem c _ _) post hqp _
    ⟨rfl, congrArg (syncTo c · s.dst) hsn, hsig, Or.inl rfl⟩

end SyModel.Watch
