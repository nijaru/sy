/-
  SyModel.Engine.Steps — step-level model of task execution on the destination tree.

  One `Step` per mutating system call a task issues against the destination (DESIGN §3 "Runs are
  step sequences", Appendix B).  A planned task (`SyModel.Engine.Task`) is compiled to its step
  list by `stepsOf`; sequential execution folds the steps (`applyAll`), concurrency is the set of
  interleavings of the per-task lists (`Interleaving`), a crash is a prefix of an interleaving
  (`applyAll (σ.take k) w`).  C05 and C09 are theorems over these definitions
  (`SyModel.Props.C05`, `SyModel.Props.C09`).

  Code modelled (/repo, line numbers as of commit ef79114):
    src/sync/mod.rs:765-1250       one tokio task per planned action, `Semaphore(max_concurrent)` (:767)
    src/sync/transfer.rs:60-390    `create`, `update`, `delete`, `create_directory`, `copy_file`
    src/sync/transfer.rs:588-662   `handle_symlink` (follow mode copies through `copy_file`)
    src/transport/local.rs:235-342 `copy_file`: create_dir_all(parent) · remove_if_symlink · fs::copy · mtime
    src/transport/local.rs:344-910 `sync_file_with_delta`: remove_if_symlink · size gate · sparse branch ·
                                   change-ratio branch · temp file `<name>.sy.tmp` · mtime on temp · rename
    src/transport/local.rs:36-170  `copy_sparse_file` (`_seek`: data, then `set_len`; `_blocks`: `set_len` FIRST)
    src/transport/local.rs:912-993 `remove`, `create_symlink`
    src/temp_file.rs               `working_file_path`; RAII guard (runs on error/unwind only — never on SIGKILL)

  Hard-link tasks (`create` or `update` of a regular file with -H and nlink > 1) are ordered by the
  C13 protocol and are not part of the free interleaving (`isLinkTask`).
-/
import SyModel.Engine.Model
set_option linter.unusedVariables false
namespace SyModel.Engine

/-! ### nodes and worlds -/

/-- step-level destination node.  `file cid len mtime` holds the first `len` bytes of content `cid`
    (a torn file has `len` < the final size).  `temp cid` is a working file (its bytes are
    irrelevant until it is renamed).  `holey cid size done mtime` is what `copy_sparse_file_blocks`
    produces: `ftruncate` to the FINAL `size` first, of which only the first `done` bytes of data
    are in place (local.rs:143). -/
inductive SNode where
  | dir
  | file (cid len mtime : Nat)
  | symlink (text : String)
  | temp (cid : Nat)
  | holey (cid size done mtime : Nat)
deriving DecidableEq, Repr

/-- the destination tree as a function (updates are pointwise) -/
abbrev SWorld := Path → Option SNode

def upd (w : SWorld) (p : Path) (v : Option SNode) : SWorld := fun x => if x = p then v else w x

def embed : DNode → SNode
  | .file m => .file m.content m.size m.mtime
  | .dir => .dir
  | .symlink t => .symlink t

/-- the step-level view of an entry-level destination map -/
def ofMap (dst : Map DNode) : SWorld := fun p => (dst.get? p).map embed

/-- what `lstat` reports for a regular file: (size, mtime) -/
def SNode.stat : SNode → Option (Nat × Nat)
  | .file _ len mt => some (len, mt)
  | .temp _ => none
  | .holey _ size _ mt => some (size, mt)
  | _ => none

def SNode.isTemp : SNode → Bool
  | .temp _ => true
  | _ => false

/-! ### steps -/

inductive Step where
  | mkdir (p : Path)
  | unlinkIfSymlink (p : Path)
  | openTrunc (p : Path) (cid now : Nat)
  | grow (p : Path) (cid upto : Nat)
  | utimens (p : Path) (mtime : Nat)
  | createTemp (q : Path) (cid : Nat)
  | rename (q p : Path) (cid size mtime : Nat)
  | unlink (p : Path)
  | removeTree (p : Path)
  | symlink (p : Path) (text : String)
  | setLen (p : Path) (cid size : Nat)           -- `set_len(final)` before any data (sparse block copier)
  | fill (p : Path) (cid upto : Nat)             -- data written into a `holey` file
deriving DecidableEq, Repr

/-- what a single-path step does to the node at its path (a failing call leaves it unchanged) -/
def Step.nodeFn : Step → Option SNode → Option SNode
  | .mkdir _, n => match n with
    | none => some .dir
    | some v => some v                                 -- EEXIST (tolerated by create_dir_all)
  | .unlinkIfSymlink _, n => match n with
    | some (.symlink _) => none
    | n => n
  | .openTrunc _ cid now, n => match n with
    | some .dir => some .dir                           -- EISDIR
    | _ => some (.file cid 0 now)
  | .grow _ cid upto, n => match n with
    | some (.file _ _ mt) => some (.file cid upto mt)
    | n => n
  | .utimens _ mtime, n => match n with
    | some (.file c l _) => some (.file c l mtime)
    | some (.holey c s d _) => some (.holey c s d mtime)
    | n => n
  | .createTemp _ cid, n => match n with
    | some .dir => some .dir                           -- EISDIR
    | _ => some (.temp cid)                            -- `remove_file` + fresh entry (local.rs:577-578): whatever was there is replaced
  | .unlink _, n => match n with
    | some .dir => some .dir                           -- EISDIR
    | _ => none
  | .symlink _ text, n => match n with
    | none => some (.symlink text)
    | some v => some v                                 -- EEXIST
  | .setLen _ cid size, n => match n with
    | some (.file _ _ mt) => if size = 0 then some (.file cid 0 mt) else some (.holey cid size 0 mt)
    | n => n
  | .fill _ _ upto, n => match n with
    | some (.holey c s d mt) => if s ≤ upto then some (.file c s mt) else some (.holey c s upto mt)
    | n => n
  | .rename .., n => n
  | .removeTree _, n => n

/-- the path a step acts on (for `rename`: the destination; its second path is the working file) -/
def Step.path : Step → Path
  | .mkdir p => p
  | .unlinkIfSymlink p => p
  | .openTrunc p _ _ => p
  | .grow p _ _ => p
  | .utimens p _ => p
  | .createTemp q _ => q
  | .rename _ p _ _ _ => p
  | .unlink p => p
  | .removeTree p => p
  | .symlink p _ => p
  | .setLen p _ _ => p
  | .fill p _ _ => p

/-- total, local semantics of one step -/
def Step.apply (s : Step) (w : SWorld) : SWorld :=
  match s with
  | .rename q p cid size mtime =>
    if w q = some (.temp cid) then upd (upd w p (some (.file cid size mtime))) q none else w
  | .removeTree p => fun x => if isPrefix p x then none else w x
  | s => upd w s.path (s.nodeFn (w s.path))

/-- footprint: the paths a step may read or write -/
def Step.touches : Step → Path → Bool
  | .mkdir p, x => x == p
  | .unlinkIfSymlink p, x => x == p
  | .openTrunc p _ _, x => x == p
  | .grow p _ _, x => x == p
  | .utimens p _, x => x == p
  | .createTemp q _, x => x == q
  | .rename q p _ _ _, x => x == q || x == p
  | .unlink p, x => x == p
  | .removeTree p, x => isPrefix p x
  | .symlink p _, x => x == p
  | .setLen p _ _, x => x == p
  | .fill p _ _, x => x == p

def Step.isMkdir : Step → Bool
  | .mkdir _ => true
  | _ => false

/-- `unlink` / `removeTree`: the steps of delete tasks -/
def Step.isDeletion : Step → Bool
  | .unlink _ => true
  | .removeTree _ => true
  | _ => false

def applyAll (l : List Step) (w : SWorld) : SWorld := l.foldl (fun w s => s.apply w) w

/-! ### temp names -/

/-- the fixed naming (`working_file_path`, temp_file.rs:35-42): append the suffix to the LAST component -/
def tempOf (suffix : String) : Path → Path
  | [] => []
  | [a] => [a ++ suffix]
  | a :: b :: r => a :: tempOf suffix (b :: r)

/-- `Path::with_extension("sy.tmp")` on one file name: everything after the last `.` is replaced
    (a leading dot is not an extension separator) — the naming before commit 0c4aecb -/
def withExtensionName (ext : String) (name : String) : String :=
  let cs := name.toList
  let stem := match cs.reverse.dropWhile (· != '.') with
    | [] => cs
    | _ :: r => if r.isEmpty then cs else r.reverse
  String.ofList stem ++ "." ++ ext

def tempOfOld : Path → Path
  | [] => []
  | [a] => [withExtensionName "sy.tmp" a]
  | a :: b :: r => a :: tempOfOld (b :: r)

/-! ### step lists of tasks -/

/-- which branch a ≥-threshold update takes -/
inductive Route where
  | delta          -- block compare into `<name>.sy.tmp`, mtime on the temp, rename (local.rs:574-890)
  | full           -- in place `fs::copy`: change ratio > 75 % (local.rs:470-522)
  | followed       -- the source entry is a followed symlink: `handle_symlink` goes straight to
                   -- `copy_file` (transfer.rs:622), never through `sync_file_with_delta`
  | sparseSeek     -- sparse source: `copy_sparse_file_seek` (remove, create, data…, set_len last)
  | sparseBlocks   -- sparse source on a file system without SEEK_DATA: `copy_sparse_file_blocks`
                   -- (remove, create, set_len FIRST, data…)
deriving DecidableEq, Repr

/-- facts about the two files that decide the step list and are not part of the entry-level `Task` -/
structure Hint where
  route : Route := .delta
  /-- the destination has other names the source does not share: it is unlinked before the in-place
      copy (`break_unshared_hard_link`, local.rs:1021, called before every in-place `fs::copy`) -/
  breakLink : Bool := false
  /-- the logical clock value the kernel stamps on the file at `open(O_TRUNC)` / `write` -/
  now : Nat := 0
deriving Repr

/-- `create_dir_all(parent of p)`: `mkdir` of every strict non-empty prefix (existing ones: no-ops) -/
def mkdirChain (p : Path) : List Step := (ancestors p).map Step.mkdir

/-- `create_dir_all(p)` -/
def dirSteps (p : Path) : List Step := if p = [] then [] else mkdirChain p ++ [Step.mkdir p]

/-- sizes after each write of `chunk` bytes: `chunk, 2·chunk, …, size` (`size` itself last) -/
def uptos (chunk size : Nat) : List Nat :=
  (List.range (size / chunk)).map (fun i => (i + 1) * chunk) ++ (if size % chunk = 0 then [] else [size])

def growSteps (p : Path) (cid chunk size : Nat) : List Step := (uptos chunk size).map (Step.grow p cid)

def fillSteps (p : Path) (cid chunk size : Nat) : List Step := (uptos chunk size).map (Step.fill p cid)

/-- the in-place write of `fs::copy` followed by the mtime restore -/
def writeSteps (p : Path) (m : FileMeta) (chunk now : Nat) : List Step :=
  [Step.openTrunc p m.content now] ++ growSteps p m.content chunk m.size ++ [Step.utimens p m.mtime]

/-- `Transferrer::copy_file` → `LocalTransport::copy_file` -/
def fullCopySteps (p : Path) (m : FileMeta) (chunk : Nat) (h : Hint) : List Step :=
  mkdirChain p ++ [Step.unlinkIfSymlink p] ++ (if h.breakLink then [Step.unlink p] else []) ++
    writeSteps p m chunk h.now

def deltaSteps (suffix : String) (p : Path) (m : FileMeta) : List Step :=
  [Step.createTemp (tempOf suffix p) m.content,
   Step.rename (tempOf suffix p) p m.content m.size m.mtime]

def sparseSeekSteps (p : Path) (m : FileMeta) (chunk now : Nat) : List Step :=
  [Step.unlink p] ++ writeSteps p m chunk now

def sparseBlocksSteps (p : Path) (m : FileMeta) (chunk now : Nat) : List Step :=
  [Step.unlink p, Step.openTrunc p m.content now, Step.setLen p m.content m.size] ++
    fillSteps p m.content chunk m.size ++ [Step.utimens p m.mtime]

/-- the branch of `sync_file_with_delta` after its leading `remove_if_symlink` -/
def updateSteps (deltaThreshold chunk : Nat) (suffix : String) (h : Hint) (old : Option DNode)
    (p : Path) (m : FileMeta) : List Step :=
  match old with
  | some (.file d) =>
    -- the second gate `dest_size < 4096` (local.rs:388) never fires: 4096 ≤ DELTA_THRESHOLD
    -- (`consts_ok_delta_threshold`), and the verification hook (`SY_VERIF_DELTA_THRESHOLD`, DESIGN §2) lifts the size above both gates
    if d.size < deltaThreshold then fullCopySteps p m chunk h
    else match h.route with
      | .delta => deltaSteps suffix p m
      | .full => (if h.breakLink then [Step.unlink p] else []) ++ writeSteps p m chunk h.now
      | .sparseSeek => sparseSeekSteps p m chunk h.now
      | .sparseBlocks => sparseBlocksSteps p m chunk h.now
      | .followed => fullCopySteps p m chunk h
  | _ => fullCopySteps p m chunk h              -- absent / was a symlink (now removed) / directory (copy fails)

def symlinkSteps (old : Option DNode) (p : Path) (text : String) : List Step :=
  mkdirChain p ++ (match old with
    | none => []
    | some .dir => []
    | some _ => [Step.unlink p]) ++ [Step.symlink p text]

/-- a `create` or an `update` that goes through the hard-link protocol (C13): with `-H`, a regular
    file with more than one name is handed to `transfer_link_member` by `Transferrer::create` AND by
    `Transferrer::update` (src/sync/transfer.rs `update`: "Members of a source hard-link group are
    coordinated exactly as on creation", fix a68466f) — one member rewrites the file, the others end
    up as links to it; neither runs the step list `stepsOfH` gives for an ordinary file task -/
def isLinkTask (cfg : Cfg) (t : Task) : Bool :=
  match t.act, t.payload with
  | .create, .file _ nlink => cfg.hardlinks && decide (1 < nlink)
  | .update, .file _ nlink => cfg.hardlinks && decide (1 < nlink)
  | _, _ => false

/-- the step list of one task; `old` is the destination node the executor finds at `t.rel` -/
def stepsOfH (cfg : Cfg) (deltaThreshold chunk : Nat) (suffix : String) (h : Hint)
    (old : Option DNode) (t : Task) : List Step :=
  if cfg.dryRun then [] else
  match t.act with
  | .skip => []
  | .delete =>
    match old with
    | some .dir => [Step.removeTree t.rel]
    | some _ => [Step.unlink t.rel]
    | none => []                                   -- already gone: NotFound is tolerated (mod.rs:1171-1181)
  | .create =>
    match t.payload with
    | .nothing => []
    | .dir => dirSteps t.rel
    | .symlink text => symlinkSteps old t.rel text
    | .file m _ => fullCopySteps t.rel m chunk h
  | .update =>
    match t.payload with
    | .nothing => []
    -- `Transferrer::update` of a directory entry (fix 862af11; planned only for a destination link standing where
    -- the source has a directory): `read_link` probe, `remove(path, false)` of a link — one conditional unlink,
    -- like `remove_if_symlink` —, then `create_dir_all`
    | .dir => [Step.unlinkIfSymlink t.rel] ++ dirSteps t.rel
    | .symlink text => symlinkSteps old t.rel text
    | .file m _ =>
      if h.route = .followed then fullCopySteps t.rel m chunk h
      else [Step.unlinkIfSymlink t.rel] ++ updateSteps deltaThreshold chunk suffix h old t.rel m

/-- default route (block delta), no link breaking -/
def stepsOf (cfg : Cfg) (deltaThreshold chunk : Nat) (suffix : String) (old : Option DNode)
    (t : Task) : List Step :=
  stepsOfH cfg deltaThreshold chunk suffix {} old t

/-- the step lists of the freely interleaved (non-link) tasks of a run over `dst` -/
def taskLists (cfg : Cfg) (deltaThreshold chunk : Nat) (suffix : String) (hint : Task → Hint)
    (dst : Map DNode) (tasks : List Task) : List (List Step) :=
  (tasks.filter fun t => !isLinkTask cfg t).map fun t =>
    stepsOfH cfg deltaThreshold chunk suffix (hint t) (dst.get? t.rel) t

/-! ### interleavings -/

/-- `σ` is an interleaving of the lists `ls`: repeatedly pick any list and emit its head -/
inductive Interleaving {α : Type} : List (List α) → List α → Prop where
  | done {ls : List (List α)} : (∀ l ∈ ls, l = []) → Interleaving ls []
  | pick {ls ls' : List (List α)} {pre post : List (List α)} {l : List α} {s : α} {σ : List α} :
      ls = pre ++ (s :: l) :: post → ls' = pre ++ l :: post →
      Interleaving ls' σ → Interleaving ls (s :: σ)

/-- binary shuffle -/
inductive Shuffle {α : Type} : List α → List α → List α → Prop where
  | nil : Shuffle [] [] []
  | left {a b σ : List α} {s : α} : Shuffle a b σ → Shuffle (s :: a) b (s :: σ)
  | right {a b σ : List α} {s : α} : Shuffle a b σ → Shuffle a (s :: b) (s :: σ)

/-- the binary shuffle lifted over a list of lists (equivalent to `Interleaving`,
    `SyModel.Props.C05.interleaving_iff_shuffleN`) -/
inductive ShuffleN {α : Type} : List (List α) → List α → Prop where
  | nil : ShuffleN [] []
  | cons {l : List α} {ls : List (List α)} {τ σ : List α} :
      ShuffleN ls τ → Shuffle l τ σ → ShuffleN (l :: ls) σ

/-- one worker slot of the semaphore scheduler -/
structure Slot where
  started : Bool
  rest : List Step
deriving Repr

/-- tasks holding a permit: started and not finished -/
def running (c : List Slot) : Nat := (c.filter fun s => s.started && !s.rest.isEmpty).length

/-- runs admitted by a `j`-permit semaphore (mod.rs:767, 816): a task starts only while fewer
    than `j` tasks are running; a started task issues its steps one at a time -/
inductive SemRun (j : Nat) : List Slot → List Step → Prop where
  | done {c : List Slot} : (∀ s ∈ c, s.rest = []) → SemRun j c []
  | acquire {c c' pre post : List Slot} {l : List Step} {σ : List Step} :
      c = pre ++ ⟨false, l⟩ :: post → c' = pre ++ ⟨true, l⟩ :: post → running c < j →
      SemRun j c' σ → SemRun j c σ
  | exec {c c' pre post : List Slot} {l : List Step} {s : Step} {σ : List Step} :
      c = pre ++ ⟨true, s :: l⟩ :: post → c' = pre ++ ⟨true, l⟩ :: post →
      SemRun j c' σ → SemRun j c (s :: σ)

def initSlots (ls : List (List Step)) : List Slot := ls.map fun l => ⟨false, l⟩

/-! ### independence (vocabulary of C05 / C09) -/

/-- two steps are independent: disjoint footprints, or the same `mkdir` (create_dir_all of a shared
    ancestor), or both are deletions (a stale directory and its stale children are separate tasks) -/
def Indep (s t : Step) : Prop :=
  (∀ x, ¬ (s.touches x = true ∧ t.touches x = true)) ∨
  (∃ p, s = .mkdir p ∧ t = .mkdir p) ∨
  (s.isDeletion = true ∧ t.isDeletion = true)

def IndepLists (a b : List Step) : Prop := ∀ s ∈ a, ∀ t ∈ b, Indep s t

def PairwiseIndep (ls : List (List Step)) : Prop := ls.Pairwise IndepLists

/-- some step of `l` touches `x` -/
def touchesList (l : List Step) (x : Path) : Prop := ∃ s ∈ l, s.touches x = true

/-- no working file anywhere -/
def NoTemp (w : SWorld) : Prop := ∀ x c, w x ≠ some (.temp c)

end SyModel.Engine
