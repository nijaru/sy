/-
  SyModel.Engine.Verify — `SyncEngine::verify` (src/sync/mod.rs, `--verify-only`) and the exit
  status mapping of src/main.rs:405-414.

  Both trees are given as scan results; a file's content is an opaque id, `none` when the file
  cannot be read (then `compute_file_checksum` fails and the path lands in `errors`).
-/
import SyModel.Engine.Tree
namespace SyModel.Engine

structure VEntry where
  rel     : Path
  isDir   : Bool
  content : Option Nat
  size    : Nat
deriving DecidableEq, Repr

structure VCfg where
  minSize : Option Nat
  maxSize : Option Nat
deriving Repr

def VCfg.sizeFiltered (c : VCfg) (size : Nat) : Bool :=
  (match c.minSize with | some mn => decide (size < mn) | none => false) ||
  (match c.maxSize with | some mx => decide (size > mx) | none => false)

structure VResult where
  matched    : Nat
  mismatched : List Path
  onlySrc    : List Path
  onlyDst    : List Path
  errors     : List Path
deriving DecidableEq, Repr

/-- `dest_map.get(&rel_path)`: destination *files* by relative path (later entries win, as in a
    `HashMap::insert` loop; scans have unique paths) -/
def destFile (dst : List VEntry) (p : Path) : Option VEntry :=
  (dst.filter fun d => !d.isDir && d.rel == p).getLast?

inductive Verdict where | matched | mismatched | onlySrc | error | ignored
deriving DecidableEq, Repr

/-- what the loop over the source files does with one source entry -/
def classify (c : VCfg) (dst : List VEntry) (s : VEntry) : Verdict :=
  if s.isDir then .ignored
  else if c.sizeFiltered s.size then .ignored
  else
    match destFile dst s.rel with
    | none => .onlySrc
    | some d =>
      match s.content, d.content with
      | some a, some b => if a = b then .matched else .mismatched
      | _, _ => .error

def verify (c : VCfg) (src dst : List VEntry) : VResult :=
  let v := src.map fun s => (s.rel, classify c dst s)
  let srcFiles := (src.filter fun s => !s.isDir).map (·.rel)
  { matched := (v.filter (·.2 == .matched)).length,
    mismatched := (v.filter (·.2 == .mismatched)).map (·.1),
    onlySrc := (v.filter (·.2 == .onlySrc)).map (·.1),
    errors := (v.filter (·.2 == .error)).map (·.1),
    onlyDst := ((dst.filter fun d => !d.isDir).filter fun d => !srcFiles.contains d.rel).map (·.rel) }

/-- src/main.rs:405-414 -/
def exitCode (r : VResult) : Nat :=
  if !r.errors.isEmpty then 2
  else if !r.mismatched.isEmpty || !r.onlySrc.isEmpty || !r.onlyDst.isEmpty then 1
  else 0

end SyModel.Engine
