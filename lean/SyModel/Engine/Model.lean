/-
  SyModel.Engine.Model — sequential model of one-way sync (`SyncEngine::sync`, src/sync/mod.rs),
  the planner (src/sync/strategy.rs), the per-task executors (src/sync/transfer.rs,
  src/transport/local.rs) at the level of directory entries.

  File content is an opaque id (equal ids ⇔ equal bytes); the byte-level transfer paths are
  modelled and proved separately (`SyModel.Transfer`).  Tasks run one after the other here, in plan order; the
  step-level model (`SyModel.Engine.Steps`, `Lemmas/Steps*.lean`) treats their interleavings.
-/
import SyModel.Engine.Tree
set_option linter.unusedVariables false
namespace SyModel.Engine

structure FileMeta where
  content : Nat                     -- content id
  size    : Nat
  mtime   : Nat                     -- nanoseconds
  xattrs  : List (String × Nat)     -- user.* attributes (name, value id)
  ino     : Nat                     -- inode identity (compared as classes)
deriving DecidableEq, Repr

/-- destination entries -/
inductive DNode where
  | file (m : FileMeta)
  | dir
  | symlink (text : String)
deriving DecidableEq, Repr

/-- what a source symlink resolves to (scanner never follows; follow mode stats through) -/
inductive LinkTarget where
  | dangling
  | dir
  | file (m : FileMeta)
deriving DecidableEq, Repr

inductive SKind where
  | file (m : FileMeta) (nlink : Nat)
  | dir
  | symlink (text : String) (tgt : LinkTarget)
deriving DecidableEq, Repr

/-- a scanned source entry (`FileEntry`): `size` is the lstat size used by the size filter,
    `excluded` the verdict of `FilterEngine::should_exclude` for this entry -/
structure SEntry where
  rel      : Path
  kind     : SKind
  size     : Nat
  excluded : Bool
deriving DecidableEq, Repr

def SEntry.isDir (e : SEntry) : Bool := match e.kind with | .dir => true | _ => false

inductive LinkMode where | preserve | follow | skip
deriving DecidableEq, Repr

inductive Compare where | default | checksum | ignoreTimes | sizeOnly
deriving DecidableEq, Repr

structure Cfg where
  delete    : Bool
  force     : Bool
  dryRun    : Bool
  xattrs    : Bool
  hardlinks : Bool
  threshold : Nat            -- --delete-threshold (percent)
  links     : LinkMode
  compare   : Compare
  minSize   : Option Nat
  maxSize   : Option Nat
  maxErrors : Nat
  tie       : Bool           -- what the f64 comparison answers when dels·100 = thr·cnt exactly
deriving Repr

inductive Act where | create | update | skip | delete
deriving DecidableEq, Repr

/-- what a create/update task transfers (after follow-mode dereferencing) -/
inductive Payload where
  | dir
  | file (m : FileMeta) (nlink : Nat)
  | symlink (text : String)
  | nothing                         -- skip-mode / unfollowable symlink
deriving DecidableEq, Repr

structure Task where
  act     : Act
  rel     : Path
  payload : Payload
deriving DecidableEq, Repr

/-! ### filtering (the `filter` closure of `SyncEngine::sync` and `should_filter_by_size`, src/sync/mod.rs) -/

def sizeFiltered (cfg : Cfg) (size : Nat) : Bool :=
  (match cfg.minSize with | some mn => decide (size < mn) | none => false) ||
  (match cfg.maxSize with | some mx => decide (size > mx) | none => false)

/-- the `filter` closure folded over the scan with its growing `excluded_dirs` -/
def scanFilterGo (cfg : Cfg) : List SEntry → List Path → List SEntry
  | [], _ => []
  | e :: rest, exdirs =>
    if exdirs.any (fun d => isPrefix d e.rel) then scanFilterGo cfg rest exdirs
    else if e.excluded then
      scanFilterGo cfg rest (if e.isDir then exdirs ++ [e.rel] else exdirs)
    else if e.isDir then e :: scanFilterGo cfg rest exdirs
    else if sizeFiltered cfg e.size then scanFilterGo cfg rest exdirs
    else e :: scanFilterGo cfg rest exdirs

def scanFilter (cfg : Cfg) (scan : List SEntry) : List SEntry := scanFilterGo cfg scan []

/-! ### comparison (`needs_update`, `mtime_matches`, src/sync/strategy.rs) -/

def absDiff (a b : Nat) : Nat := if a ≤ b then b - a else a - b

/-- `mtime_matches`: whole seconds of the absolute difference ≤ tolerance (1) -/
def mtimeMatches (a b : Nat) : Bool := decide (absDiff a b / 1000000000 ≤ 1)

/-- `needs_update` on (size, mtime) of the source entry and what `file_info` reports -/
def needsUpdate (c : Compare) (ssize smtime dsize dmtime : Nat) : Bool :=
  match c with
  | .checksum => true
  | .ignoreTimes => true
  | .sizeOnly => ssize != dsize
  | .default => ssize != dsize || !mtimeMatches smtime dmtime

/-- decision for a regular file (or dereferenced link) against the destination node -/
def planFileAct (cfg : Cfg) (m : FileMeta) : Option DNode → Act
  | none => .create
  | some (.symlink _) => .update                 -- never up to date (forced after the comparison)
  | some .dir => .update                         -- compared through `metadata`; the copy then fails
  | some (.file d) =>
    match cfg.compare with
    | .checksum => if m.content = d.content then .skip else .update
    | c => if needsUpdate c m.size m.mtime d.size d.mtime then .update else .skip

/-- `plan_file_async` + `plan_symlink` for one filtered entry -/
def planEntry (cfg : Cfg) (dst : Map DNode) (e : SEntry) : Task :=
  match e.kind with
  -- a non-directory at the path of a source directory is planned as a creation, which then fails
  -- (`create_dir_all` → EEXIST; src/sync/strategy.rs `plan_file_async` after fix 481828a);
  -- a destination SYMLINK there (placed by an earlier run when the source entry was still a link) is replaced by a
  -- directory, never followed: planned as an update (src/sync/mod.rs planning loop, fix 862af11); what the source has
  -- below it is absent from the destination map (links are not resolved), hence planned as creations
  | .dir => ⟨match dst.get? e.rel with | some .dir => .skip | some (.symlink _) => .update | _ => .create, e.rel, .dir⟩
  | .file m n => ⟨planFileAct cfg m (dst.get? e.rel), e.rel, .file m n⟩
  | .symlink text tgt =>
    match cfg.links with
    | .skip => ⟨.skip, e.rel, .nothing⟩
    | .preserve =>
      match dst.get? e.rel with
      | none => ⟨.create, e.rel, .symlink text⟩
      | some (.symlink t) => ⟨if t = text then .skip else .update, e.rel, .symlink text⟩
      | some _ => ⟨.update, e.rel, .symlink text⟩
    | .follow =>
      match tgt with
      | .file m => ⟨planFileAct cfg m (dst.get? e.rel), e.rel, .file m 1⟩
      | _ => ⟨.skip, e.rel, .nothing⟩

/-! ### deletions and the guard (`plan_deletions`, src/sync/strategy.rs; the retain and the deletion safety check of
    `SyncEngine::sync`, src/sync/mod.rs) -/

def ownMetadata : List Path := [[".sy-checksums.db"], [".sy-dir-cache.json"], [".sy-state.json"]]

/-- `plan_deletions` against the filtered list, then the retain against everything scanned -/
def planDeletions (filtered scanned : List SEntry) (dst : Map DNode) : List Task :=
  (dst.keys.filter fun p =>
      !(filtered.any (·.rel == p)) && !(scanned.any (·.rel == p)) && !(ownMetadata.contains p)).map
    fun p => ⟨.delete, p, .nothing⟩

/-- the denominator of the percentage check: the destination's entries, not counting sy's own
    metadata files — which are never deletion candidates either (src/sync/mod.rs, deletion safety
    check) -/
def destCount (dst : Map DNode) : Nat := (dst.keys.filter fun p => !(ownMetadata.contains p)).length

/-- the percentage check; `tie` stands for the f64 outcome at exact equality -/
def guardRefuses (cfg : Cfg) (dels cnt : Nat) : Bool :=
  cfg.delete && !cfg.force && decide (0 < dels) && decide (0 < cnt) &&
    (decide (dels * 100 > cfg.threshold * cnt) || (decide (dels * 100 = cfg.threshold * cnt) && cfg.tie))

/-! ### execution -/

/-- the part of the run state that tasks read and write -/
structure World where
  dst      : Map DNode
  linkMap  : List (Nat × Path × Nat)      -- source inode group ↦ (first destination path, its inode)
  nextIno  : Nat
  bytes    : Nat
deriving Repr

/-- counters, events and the error list (`SyncStats`, the JSON event stream) -/
structure Book where
  created  : Nat
  updated  : Nat
  skipped  : Nat
  deleted  : Nat
  events   : List (Act × Path)            -- reversed
  errors   : List (Act × Path)            -- reversed
deriving Repr

structure Exec where
  w : World
  b : Book
deriving Repr

/-- `create_dir_all`: every prefix must be a directory or absent (the destination root `[]`
    always exists) -/
def mkdirAll (dst : Map DNode) (p : Path) : Option (Map DNode) :=
  (ancestors p ++ [p]).foldl (fun acc q =>
    match acc with
    | none => none
    | some d =>
      if q = [] then some d else
      match d.get? q with
      | none => some (d.set q .dir)
      | some .dir => some d
      | some _ => none) (some dst)

def parentOf (p : Path) : Path := p.dropLast

/-- `copy_file` / `sync_file_with_delta` at entry level: the destination node becomes a regular
    file with the source's content, size and mtime; xattrs are stripped and re-applied with -X;
    a symlink at the path is replaced, a directory makes the copy fail -/
def writeFile (cfg : Cfg) (w : World) (p : Path) (m : FileMeta) : Option World :=
  match mkdirAll w.dst (parentOf p) with
  | none => none
  | some d =>
    match d.get? p with
    | some .dir => none
    | old =>
      let ino := match old with
        | some (.file o) => o.ino            -- rewritten in place or renamed over: a singleton class either way
        | _ => w.nextIno
      let node : FileMeta := { content := m.content, size := m.size, mtime := m.mtime,
                               xattrs := if cfg.xattrs then m.xattrs else [], ino := ino }
      some { w with dst := d.set p (.file node), nextIno := w.nextIno + 1, bytes := w.bytes + m.size }

def writeSymlink (w : World) (p : Path) (text : String) : Option World :=
  match mkdirAll w.dst (parentOf p) with
  | none => none
  | some d =>
    match d.get? p with
    | some .dir => none
    | _ => some { w with dst := d.set p (.symlink text) }

/-- `create_hardlink(first, dest)`: `link()` fails when the destination path exists -/
def linkFile (w : World) (p first : Path) : Option World :=
  match mkdirAll w.dst (parentOf p) with
  | none => none
  | some d =>
    match d.get? p, d.get? first with
    | none, some (.file fm) => some { w with dst := d.set p (.file fm) }
    | _, _ => none

/-- update of a later member of a source link group (`-H`): whatever non-directory is at the path is
    replaced by a name of the first member's destination inode (src/sync/transfer.rs
    `transfer_link_member`, `is_update`: same inode → nothing to do, else remove + link) -/
def relinkFile (w : World) (p first : Path) : Option World :=
  match mkdirAll w.dst (parentOf p) with
  | none => none
  | some d =>
    match d.get? p, d.get? first with
    | some .dir, _ => none
    | _, some (.file fm) => some { w with dst := d.set p (.file fm) }
    | _, _ => none

/-- `read_link` answers a link → `remove(path, false)`: a symlink at the path is unlinked (the link itself,
    never what it points to); any other node, or nothing, is left as it is -/
def unlinkLink (dst : Map DNode) (p : Path) : Map DNode :=
  match dst.get? p with
  | some (.symlink _) => dst.erase p
  | _ => dst

/-- the destination that the `create_dir_all` of a directory task sees: `Transferrer::update` of a directory
    entry removes a symlink standing at the path first (src/sync/transfer.rs `update`, fix 862af11: the planner
    sends a directory there only when the destination holds a link where the source has a directory);
    `Transferrer::create` does not probe -/
def dirBase (act : Act) (dst : Map DNode) (p : Path) : Map DNode :=
  if act = .update then unlinkLink dst p else dst

/-- what one task does to the world when run to completion; `none` = the task fails -/
def perform (cfg : Cfg) (w : World) (t : Task) : Option World :=
  match t.act with
  | .skip => some w
  | .delete =>
    if cfg.dryRun then some w
    else
      match w.dst.get? t.rel with
      | some .dir => some { w with dst := w.dst.eraseSubtree t.rel }
      | some _ => some { w with dst := w.dst.erase t.rel }
      | none => some w                       -- already gone with its parent: deleted
  | act =>                                   -- create / update
    if cfg.dryRun then some w
    else
      match t.payload with
      | .nothing => some w
      | .dir => (mkdirAll (dirBase act w.dst t.rel) t.rel).map fun d => { w with dst := d }
      | .symlink text => writeSymlink w t.rel text
      | .file m nlink =>
        if (act = .create || act = .update) && cfg.hardlinks && decide (1 < nlink) then
          match w.linkMap.find? (·.1 == m.ino) with
          | some (_, first, _) => if act = .create then linkFile w t.rel first else relinkFile w t.rel first
          | none =>
            (writeFile cfg w t.rel m).map fun w' =>
              let ino := match w'.dst.get? t.rel with | some (.file f) => f.ino | _ => 0
              { w' with linkMap := (m.ino, t.rel, ino) :: w'.linkMap }
        else writeFile cfg w t.rel m

def Book.ok (b : Book) (t : Task) : Book :=
  let b := { b with events := (t.act, t.rel) :: b.events }
  match t.act with
  | .create => { b with created := b.created + 1 }
  | .update => { b with updated := b.updated + 1 }
  | .skip   => { b with skipped := b.skipped + 1 }
  | .delete => { b with deleted := b.deleted + 1 }

def Book.fail (b : Book) (t : Task) : Book := { b with errors := (t.act, t.rel) :: b.errors }

/-- A fault plan: for each task either no fault (`none`) or "the operation fails, leaving
    `g` at the task's own path" (`some g`; `g = none` means nothing is left there). Faults hit
    file-system operations only, so nothing can fail in a dry run or in a skip. -/
abbrev Faults := Task → Option (Option DNode)

def noFaults : Faults := fun _ => none

def garbageAt (dst : Map DNode) (p : Path) : Option DNode → Map DNode
  | some g => dst.set p g
  | none => dst.erase p

/-- one task of the parallel section, run to completion under a fault plan -/
def execTask (cfg : Cfg) (flt : Faults) (st : Exec) (t : Task) : Exec :=
  match (if cfg.dryRun || t.act == .skip then none else flt t) with
  | some g => ⟨{ st.w with dst := garbageAt st.w.dst t.rel g }, st.b.fail t⟩
  | none =>
    match perform cfg st.w t with
    | some w' => ⟨w', st.b.ok t⟩
    | none => ⟨st.w, st.b.fail t⟩

structure Result where
  refused  : Bool
  aborted  : Bool
  dst      : Map DNode
  tasks    : List Task
  created  : Nat
  updated  : Nat
  skipped  : Nat
  deleted  : Nat
  bytes    : Nat
  events   : List (Act × Path)
  errors   : List (Act × Path)
  exit     : Nat
deriving Repr

def initExec (dst : Map DNode) (nextIno : Nat) : Exec :=
  { w := { dst := dst, linkMap := [], nextIno := nextIno, bytes := 0 },
    b := { created := 0, updated := 0, skipped := 0, deleted := 0, events := [], errors := [] } }

def plan (cfg : Cfg) (scan : List SEntry) (dst : Map DNode) : List Task :=
  let filtered := scanFilter cfg scan
  let tasks := filtered.map (planEntry cfg dst)
  if cfg.delete then tasks ++ planDeletions filtered scan dst else tasks

/-- `SyncEngine::sync` followed by the exit-status decision of `main`, under a fault plan -/
def runF (cfg : Cfg) (flt : Faults) (scan : List SEntry) (dst : Map DNode) (nextIno : Nat) : Result :=
  let tasks := plan cfg scan dst
  let dels := (tasks.filter (·.act == .delete)).length
  if guardRefuses cfg dels (destCount dst) then
    { refused := true, aborted := false, dst := dst, tasks := tasks, created := 0, updated := 0,
      skipped := 0, deleted := 0, bytes := 0, events := [], errors := [], exit := 1 }
  else
    let st := tasks.foldl (execTask cfg flt) (initExec dst nextIno)
    let aborted := decide (0 < cfg.maxErrors) && decide (cfg.maxErrors ≤ st.b.errors.length)
    { refused := false, aborted := aborted, dst := st.w.dst, tasks := tasks,
      created := st.b.created, updated := st.b.updated, skipped := st.b.skipped, deleted := st.b.deleted,
      bytes := st.w.bytes, events := st.b.events.reverse, errors := st.b.errors.reverse,
      exit := if st.b.errors.isEmpty then 0 else 1 }

/-- the fault-free run -/
def run (cfg : Cfg) (scan : List SEntry) (dst : Map DNode) (nextIno : Nat) : Result :=
  runF cfg noFaults scan dst nextIno

end SyModel.Engine
