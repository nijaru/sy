/-
  SyModel.Engine.Tree — finite maps from relative paths to nodes (association lists),
  the vocabulary of the engine model.
-/
import SyModel.Basic
namespace SyModel.Engine

/-- a relative path, as components -/
abbrev Path := List String

/-- `p` is a (non-strict) prefix of `q` — `Path::starts_with`. -/
def isPrefix : Path → Path → Bool
  | [], _ => true
  | _ :: _, [] => false
  | a :: p, b :: q => a == b && isPrefix p q

/-- strict ancestors of `p`, shortest first (`[a,b,c]` ↦ `[[a],[a,b]]`). -/
def ancestors (p : Path) : List Path :=
  (List.range p.length).filterMap fun i => if i = 0 then none else some (p.take i)

abbrev Map (α : Type) := List (Path × α)

namespace Map
variable {α : Type}

def get? (m : Map α) (p : Path) : Option α :=
  match m with
  | [] => none
  | (q, v) :: t => if q = p then some v else get? t p

def erase (m : Map α) (p : Path) : Map α := m.filter (fun kv => kv.1 ≠ p)

/-- insert or replace; the position of an existing key is not kept (the driver sorts canonical output) -/
def set (m : Map α) (p : Path) (v : α) : Map α := (p, v) :: erase m p

/-- remove `p` and everything below it (`remove_dir_all`) -/
def eraseSubtree (m : Map α) (p : Path) : Map α := m.filter (fun kv => !isPrefix p kv.1)

def keys (m : Map α) : List Path := m.map (·.1)

end Map
end SyModel.Engine
