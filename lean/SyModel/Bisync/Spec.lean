/-
  SyModel.Bisync.Spec — the vocabulary in which C11 and C12 are stated (definitions only).
-/
import SyModel.Bisync.History
namespace SyModel.Bisync

/-- what "identical contents" compares: content id and size (along a history a fresh id comes with
    every write, so the id determines the size; for an arbitrary world both are compared). -/
def File.content (f : File) : Nat × Nat := (f.cid, f.size)

/-- both roots contain the same set of files with identical contents. -/
def treesEqual (w : World) : Prop :=
  ∀ p, (aget p w.left).map File.content = (aget p w.right).map File.content

/-- the two state rows of a path. -/
def World.rows (w : World) (p : Path) : Option Row × Option Row :=
  (aget (p, Side.source) w.db, aget (p, Side.dest) w.db)

/-- how the classifier sees path `p` in `w`. -/
def World.ctypeAt (cfg : Cfg) (w : World) (p : Path) : Option ChangeType :=
  classifySingle cfg ((aget p w.left).map File.entry) ((aget p w.right).map File.entry)
    (w.rows p).1 (w.rows p).2

/-- the action the resolver chooses for a conflict at `p`. -/
def World.conflictAction (strat : Strategy) (stamp : Nat) (w : World) (p : Path) : Action :=
  resolveConflict strat p ((aget p w.left).map File.entry) ((aget p w.right).map File.entry) stamp

/-- a path has both rows or none. -/
def Paired (w : World) : Prop :=
  ∀ p, (w.rows p).1 = none ↔ (w.rows p).2 = none

/-- prior sync state that a sync can have left behind: rows come in pairs, and two files that
    both still match their rows hold the same content. -/
def Consistent (w : World) : Prop :=
  Paired w ∧
  ∀ p l r rl rr, aget p w.left = some l → aget p w.right = some r →
    w.rows p = (some rl, some rr) →
    isModified l.entry rl = false → isModified r.entry rr = false → l.content = r.content

/-- content id `v` is the content of some file of `w` (on either side, under any name —
    a conflict copy counts). -/
def hasVersion (w : World) (v : Nat) : Prop :=
  ∃ p f, (aget p w.left = some f ∨ aget p w.right = some f) ∧ f.cid = v

/-- `v` is the previously synchronised version of a path (it still matches its row) and the
    other side of that path changed (modified or deleted). -/
def supersededBase (w : World) (v : Nat) : Prop :=
  ∃ p f rl rr, w.rows p = (some rl, some rr) ∧ f.cid = v ∧
    ((aget p w.left = some f ∧ isModified f.entry rl = false ∧
        (aget p w.right = none ∨ ∃ g, aget p w.right = some g ∧ isModified g.entry rr = true)) ∨
     (aget p w.right = some f ∧ isModified f.entry rr = false ∧
        (aget p w.left = none ∨ ∃ g, aget p w.left = some g ∧ isModified g.entry rl = true)))

def Action.discardsLeft : Action → Bool
  | .copyToSource .. | .deleteFromSource .. => true
  | _ => false

def Action.discardsRight : Action → Bool
  | .copyToDest .. | .deleteFromDest .. => true
  | _ => false

/-- `v` is on the losing side of a path classified as a conflict, and the selected strategy
    chose the other side. -/
def chosenLoser (cfg : Cfg) (strat : Strategy) (stamp : Nat) (w : World) (v : Nat) : Prop :=
  ∃ p ct f, w.ctypeAt cfg p = some ct ∧ ct.isConflict = true ∧ f.cid = v ∧
    ((aget p w.left = some f ∧ (w.conflictAction strat stamp p).discardsLeft = true) ∨
     (aget p w.right = some f ∧ (w.conflictAction strat stamp p).discardsRight = true))

def noRenames (r : SyncResult) : Prop := ∀ a ∈ r.actions, a.isRename = false

/-! ### histories -/

/-- side changed at `p` since the last sync: what it holds now is not the agreed version
    (a path with no agreed version counts as absent at the last sync). -/
def Trace.changedL (t : Trace) (p : Path) : Prop := aget p t.w.left ≠ (t.agreed p).map (·.1)
def Trace.changedR (t : Trace) (p : Path) : Prop := aget p t.w.right ≠ (t.agreed p).map (·.2)

instance (t : Trace) (p : Path) : Decidable (t.changedL p) := by unfold Trace.changedL; infer_instance
instance (t : Trace) (p : Path) : Decidable (t.changedR p) := by unfold Trace.changedR; infer_instance

/-- start of a history: any two trees, no sync state yet, every mtime in the past. -/
structure Trace.Init (t : Trace) : Prop where
  db : t.w.db = []
  baseL : t.baseL = []
  baseR : t.baseR = []
  clock : t.syncClock < t.w.clock
  past : ∀ p f, (aget p t.w.left = some f ∨ aget p t.w.right = some f) → f.mtime < t.w.clock

/-- the invariant carried along every history (C12 `paired_state`). -/
structure Inv (t : Trace) : Prop where
  /-- the rows of a path are exactly the metadata of the agreed pair (none if nothing agreed) -/
  rows : ∀ p, t.w.rows p = match t.agreed p with
    | some (a, b) => (some a.meta, some b.meta)
    | none => (none, none)
  /-- an agreed pair has one content -/
  agree : ∀ p a b, t.agreed p = some (a, b) → a.content = b.content
  /-- agreed versions are not younger than the last sync, which is in the past -/
  old : ∀ p a b, t.agreed p = some (a, b) → a.mtime ≤ t.syncClock ∧ b.mtime ≤ t.syncClock
  clock : t.syncClock < t.w.clock
  /-- a side that no longer holds its agreed version holds nothing or something younger -/
  newerL : ∀ p a b, t.agreed p = some (a, b) → ∀ f, aget p t.w.left = some f → f = a ∨ t.syncClock < f.mtime
  newerR : ∀ p a b, t.agreed p = some (a, b) → ∀ f, aget p t.w.right = some f → f = b ∨ t.syncClock < f.mtime
  past : ∀ p f, (aget p t.w.left = some f ∨ aget p t.w.right = some f) → f.mtime < t.w.clock

end SyModel.Bisync
