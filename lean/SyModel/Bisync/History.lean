/-
  SyModel.Bisync.History — histories of user edits on either root interleaved with syncs.

  Edit alphabet of C12: {create, modify with size change, modify keeping size, delete, touch,
  nothing} × {left (source), right (dest)}. Every edit that writes stamps the file with the
  logical clock (mtime := now) and every written version gets a fresh content id (:= now), so
  "this version still exists somewhere" is decidable and two distinct writes never carry the
  same id. The clock advances by one with every event; only the ORDER of time stamps is ever
  inspected by the code (strict `>` on exact nanoseconds), so any strictly increasing
  realisation of the ticks (1 ns apart, 1 s apart, …) behaves identically.

  A `Trace` carries, next to the world, the ghost snapshot `baseL/baseR` of both roots taken
  right after the last completed sync; the algorithm never reads it. It is what
  "since the last sync" in the property refers to.
-/
import SyModel.Bisync.Exec
namespace SyModel.Bisync

inductive EditOp
  | create (size : Nat)   -- only if absent
  | modSize               -- new content, size + 1
  | modSame               -- new content, same size
  | delete
  | touch                 -- same content, mtime := now
  | nothing
  deriving DecidableEq, Repr, Inhabited

inductive Event
  | edit (side : Side) (p : Path) (op : EditOp)
  | sync (strat : Strategy) (maxDelete stamp : Nat)
  deriving DecidableEq, Repr

def editRoot (now : Nat) (p : Path) (op : EditOp) (r : Root) : Root :=
  match op, aget p r with
  | .create sz, none => aset p ⟨now, sz, now⟩ r
  | .modSize, some f => aset p ⟨now, f.size + 1, now⟩ r
  | .modSame, some f => aset p ⟨now, f.size, now⟩ r
  | .delete, some _ => aerase p r
  | .touch, some f => aset p { f with mtime := now } r
  | _, _ => r

def applyEdit (side : Side) (p : Path) (op : EditOp) (w : World) : World :=
  match side with
  | .source => { w with left := editRoot w.clock p op w.left, clock := w.clock + 1 }
  | .dest => { w with right := editRoot w.clock p op w.right, clock := w.clock + 1 }

structure Trace where
  w : World
  baseL : Root
  baseR : Root
  syncClock : Nat
  deriving Repr

/-- the empty start: nothing on either side, no state, clock 1. -/
def Trace.empty : Trace := ⟨⟨[], [], [], 1⟩, [], [], 0⟩

def Trace.step (cfg : Cfg) (t : Trace) : Event → Trace
  | .edit side p op => { t with w := applyEdit side p op t.w }
  | .sync strat md stamp =>
    let r := sync cfg strat md stamp t.w
    if r.refused then { t with w := r.world }
    else { w := r.world, baseL := r.world.left, baseR := r.world.right, syncClock := t.w.clock }

def run (cfg : Cfg) (h : List Event) (t : Trace) : Trace := h.foldl (Trace.step cfg) t

/-- the version both sides agreed on at the last sync, if any. -/
def Trace.agreed (t : Trace) (p : Path) : Option (File × File) :=
  match aget p t.baseL, aget p t.baseR with
  | some a, some b => some (a, b)
  | _, _ => none

/-! ### freshness of conflict names -/

def nodupB : List Path → Bool
  | [] => true
  | a :: t => !(t.contains a) && nodupB t

def conflictNames (w : World) (stamp : Nat) : List Path :=
  w.allPaths.flatMap fun p => [conflictName p stamp .source, conflictName p stamp .dest]

/-- the conflict names `stamp` would produce are pairwise distinct and name nothing that
    exists on either side or in the state (true in practice: the stamp is the wall-clock second;
    it fails when a conflict copy made in the same second already exists, see the example after
    `converges_counterexample_equal_size_different_content` in Props/C11). -/
def freshB (w : World) (stamp : Nat) : Bool :=
  nodupB (conflictNames w stamp) && (conflictNames w stamp).all fun q => !(w.allPaths.contains q)

def Fresh (w : World) (stamp : Nat) : Prop := freshB w stamp = true

instance (w : World) (stamp : Nat) : Decidable (Fresh w stamp) := by unfold Fresh; infer_instance

def freshRunB (cfg : Cfg) : List Event → Trace → Bool
  | [], _ => true
  | e :: h, t =>
    (match e with
     | .sync _ _ stamp => freshB t.w stamp
     | _ => true) && freshRunB cfg h (t.step cfg e)

/-- every sync of the history meets a fresh stamp. -/
def FreshRun (cfg : Cfg) (h : List Event) (t : Trace) : Prop := freshRunB cfg h t = true

instance (cfg : Cfg) (h : List Event) (t : Trace) : Decidable (FreshRun cfg h t) := by
  unfold FreshRun; infer_instance

/-! ### log of a run, for the driver -/

structure SyncLog where
  result : SyncResult
  fresh : Bool
  tie : Bool
  deriving Repr

def runLog (cfg : Cfg) : List Event → Trace → List SyncLog
  | [], _ => []
  | e :: h, t =>
    let rest := runLog cfg h (t.step cfg e)
    match e with
    | .sync strat md stamp =>
      ⟨sync cfg strat md stamp t.w, freshB t.w stamp, deletionTie (t.w.changes cfg) md⟩ :: rest
    | _ => rest

end SyModel.Bisync
