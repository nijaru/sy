/-
  SyModel.Bisync.Exec — model of `/repo/src/bisync/engine.rs` and `state.rs` on a two-root
  world of regular files.

  * `File` = one file version: unique content id, size, mtime (Nat ns).
  * `Root` = finite map path ↦ file (association list; `aset` puts the key in front, `aerase`
    filters — only `aget` is observable).
  * `Db` = the `sync_state` table: rows keyed by (path, side) (state.rs:95-103, `store` is
    INSERT OR REPLACE :147, `delete` removes both sides :237-243, `load_all` pairs the rows by
    path :198-234).
  * `execOne` = `execute_single_action` (engine.rs:288-332): `fs::copy` gives the destination the
    source's bytes and a NEW mtime (`now`, the logical clock); `remove_file`; two `rename`s to
    the conflict names (a rename replaces an existing target; the second rename is not
    attempted when the first fails). Errors are collected, never abort (engine.rs:258-279).
  * `updateStatePinned` = `update_state` as shipped (engine.rs:350-413): ONE row per copy — the
    row of the side copied TO, holding the metadata of the file copied FROM as scanned; rows
    deleted on delete; after a rename both rows stored for the (now vanished) original path;
    recorded even when the action failed.
  * `updateStateRepaired` = `update_state` of `fix-bisync-state.diff`.
  * `sync` = `BisyncEngine::sync` (engine.rs:76-139).

  Line numbers in the files of `SyModel/Bisync` are those of the tree as shipped (commit a076c37); the bridge
  modules `Props/Gen*` cite /repo as it stands.
-/
import SyModel.Bisync.Resolver
namespace SyModel.Bisync

structure File where
  cid : Nat
  size : Nat
  mtime : Nat
  deriving DecidableEq, Repr, Inhabited

/-! ### finite maps -/

def aget {κ β} [DecidableEq κ] (k : κ) : List (κ × β) → Option β
  | [] => none
  | (k', v) :: t => if k' = k then some v else aget k t

def aerase {κ β} [DecidableEq κ] (k : κ) (m : List (κ × β)) : List (κ × β) :=
  m.filter (fun kv => kv.1 ≠ k)

def aset {κ β} [DecidableEq κ] (k : κ) (v : β) (m : List (κ × β)) : List (κ × β) :=
  (k, v) :: aerase k m

abbrev Root := List (Path × File)
abbrev Db := List ((Path × Side) × Row)

/-- `BisyncStateDb::delete` (state.rs:237-243): both sides of the path. -/
def Db.delete (p : Path) (db : Db) : Db := db.filter (fun kv => kv.1.1 ≠ p)

/-- `load_all` (state.rs:198-234): one pair per path that has at least one row. -/
def Db.loadAll (db : Db) : List (Path × (Option Row × Option Row)) :=
  (dedup (db.map (·.1.1))).map fun p => (p, (aget (p, Side.source) db, aget (p, Side.dest) db))

structure World where
  left : Root      -- "source" root
  right : Root     -- "dest" root
  db : Db
  clock : Nat      -- logical "now": strictly larger than every mtime handed out so far
  deriving Repr

def File.meta (f : File) : Row := ⟨f.mtime, f.size⟩
def File.entry (f : File) : Entry := { size := f.size, mtime := f.mtime, isDir := false, content := some f.cid }

/-- `Scanner::scan` restricted to regular files (scanner.rs:254-343). -/
def scan (r : Root) : List (Path × Entry) := r.map fun kv => (kv.1, kv.2.entry)

/-! ### action execution -/

structure ExecState where
  left : Root
  right : Root
  errors : List Path      -- the path of every failed action, in order (engine.rs:275-277)
  deriving Repr

/-- `fs::copy src dst`: bytes and size of the source as it is NOW; mtime = now. -/
def copyFile (now : Nat) (p : Path) (src dst : Root) : Option Root :=
  (aget p src).map fun f => aset p { f with mtime := now } dst

/-- `fs::rename a b` inside one root. -/
def renameFile (a b : Path) (r : Root) : Option Root :=
  (aget a r).map fun f => aset b f (aerase a r)

def execOne (now : Nat) (st : ExecState) : Action → ExecState
  | .copyToSource p _ =>
    match copyFile now p st.right st.left with
    | some l => { st with left := l }
    | none => { st with errors := st.errors ++ [p] }
  | .copyToDest p _ =>
    match copyFile now p st.left st.right with
    | some r => { st with right := r }
    | none => { st with errors := st.errors ++ [p] }
  | .deleteFromSource p =>
    match aget p st.left with
    | some _ => { st with left := aerase p st.left }
    | none => { st with errors := st.errors ++ [p] }
  | .deleteFromDest p =>
    match aget p st.right with
    | some _ => { st with right := aerase p st.right }
    | none => { st with errors := st.errors ++ [p] }
  | .renameConflict p _ _ stamp =>
    match renameFile p (conflictName p stamp .source) st.left with
    | none => { st with errors := st.errors ++ [p] }
    | some l =>
      match renameFile p (conflictName p stamp .dest) st.right with
      | none => { st with left := l, errors := st.errors ++ [p] }
      | some r => { st with left := l, right := r }

/-- `execute_actions` (engine.rs:250-285). -/
def execActions (now : Nat) (acts : List Action) (st : ExecState) : ExecState :=
  acts.foldl (execOne now) st

/-! ### state update -/

/-- engine.rs:350-413 as shipped. -/
def updateStatePinned (db : Db) : List Action → Db
  | [] => db
  | a :: t =>
    let db' := match a with
      | .copyToSource p e => aset (p, Side.source) ⟨e.mtime, e.size⟩ db
      | .copyToDest p e => aset (p, Side.dest) ⟨e.mtime, e.size⟩ db
      | .deleteFromSource p => Db.delete p db
      | .deleteFromDest p => Db.delete p db
      | .renameConflict p s d _ =>
        aset (p, Side.dest) ⟨d.mtime, d.size⟩ (aset (p, Side.source) ⟨s.mtime, s.size⟩ db)
    updateStatePinned db' t

/-- `update_state` of `fix-bisync-state.diff`: for every known path whose action did not fail,
    both rows from the files' current metadata if the path is a file on both sides, no rows
    otherwise. -/
def updateStateRepaired (left right : Root) (failed : List Path) (db : Db) : List Path → Db
  | [] => db
  | p :: t =>
    let db' :=
      if p ∈ failed then db
      else match aget p left, aget p right with
        | some l, some r => aset (p, Side.dest) r.meta (aset (p, Side.source) l.meta db)
        | _, _ => Db.delete p db
    updateStateRepaired left right failed db' t

/-! ### the deletion limit (engine.rs:149-180) -/

/-- exact-arithmetic reading of `deletions / total * 100.0 > max` (f64 in the code; the two
    agree whenever `deletions * 100 ≠ max * total`, see `deletionTie`). -/
def deletionLimitExceeded (changes : List Change) (maxDelete : Nat) : Bool :=
  let total := changes.length
  let dels := (changes.filter (·.ctype.isDeletion)).length
  maxDelete ≠ 0 && total ≠ 0 && decide (dels * 100 > maxDelete * total)

def deletionTie (changes : List Change) (maxDelete : Nat) : Bool :=
  let total := changes.length
  let dels := (changes.filter (·.ctype.isDeletion)).length
  maxDelete ≠ 0 && total ≠ 0 && dels * 100 == maxDelete * total

/-! ### one bidirectional sync -/

structure SyncResult where
  world : World
  changes : List Change
  actions : List Action
  errors : List Path
  refused : Bool
  deriving Repr

def World.changes (cfg : Cfg) (w : World) : List Change :=
  classifyChanges cfg (scan w.left) (scan w.right) w.db.loadAll

/-- the path set handed to the repaired `update_state`: prior keys and scanned files. -/
def World.allPaths (w : World) : List Path :=
  allPathsOf (scan w.left) (scan w.right) w.db.loadAll

/-- `BisyncEngine::sync` (engine.rs:76-139), not a dry run. A refused run (deletion limit)
    returns `Err` before anything is touched. The clock advances past the mtime (`now`) it handed
    to the copies; `stamp`, the second in the conflict names, is independent of it. -/
def sync (cfg : Cfg) (strat : Strategy) (maxDelete stamp : Nat) (w : World) : SyncResult :=
  let changes := w.changes cfg
  if deletionLimitExceeded changes maxDelete then
    { world := { w with clock := w.clock + 1 }, changes := changes, actions := [], errors := [], refused := true }
  else
    let actions := resolveChanges strat stamp changes
    let st := execActions w.clock actions ⟨w.left, w.right, []⟩
    let db := if cfg.fixState then updateStateRepaired st.left st.right st.errors w.db w.allPaths
              else updateStatePinned w.db actions
    { world := { left := st.left, right := st.right, db := db, clock := w.clock + 1 },
      changes := changes, actions := actions, errors := st.errors, refused := false }

end SyModel.Bisync
