/-
  SyModel.Bisync.Resolver — model of `/repo/src/bisync/resolver.rs`.

  Six strategies (resolver.rs:10-17), `resolve_changes` (56-114), `resolve_conflict` (117-159),
  `resolve_by_mtime` (162-189: strict `>` both ways, tie → rename), `resolve_by_size`
  (192-223: tie → rename), the modify/delete fallbacks, `conflict_filename` (235-251).
  `generate_conflict_timestamp` (226-232: wall-clock seconds) is the parameter `stamp`.
-/
import SyModel.Bisync.Classifier
namespace SyModel.Bisync

inductive Strategy | newer | larger | smaller | source | dest | rename
  deriving DecidableEq, Repr, Inhabited

/-- `SyncAction` (resolver.rs:35-45); the relative path is kept next to the entry. -/
inductive Action
  | copyToSource (p : Path) (e : Entry)
  | copyToDest (p : Path) (e : Entry)
  | deleteFromSource (p : Path)
  | deleteFromDest (p : Path)
  | renameConflict (p : Path) (s d : Entry) (stamp : Nat)
  deriving DecidableEq, Repr

def Action.path : Action → Path
  | .copyToSource p _ | .copyToDest p _ | .deleteFromSource p | .deleteFromDest p
  | .renameConflict p _ _ _ => p

def Action.isRename : Action → Bool
  | .renameConflict .. => true
  | _ => false

/-- resolver.rs:162-189. -/
def resolveByMtime (p : Path) (s d : Option Entry) (stamp : Nat) : Action :=
  match s, d with
  | some s, some d =>
    if s.mtime > d.mtime then .copyToDest p s
    else if d.mtime > s.mtime then .copyToSource p d
    else .renameConflict p s d stamp
  | some s, none => .copyToDest p s
  | none, some d => .copyToSource p d
  | none, none => .deleteFromSource p

/-- resolver.rs:192-223. -/
def resolveBySize (p : Path) (s d : Option Entry) (preferSmaller : Bool) (stamp : Nat) : Action :=
  match s, d with
  | some s, some d =>
    let sourceWins := if preferSmaller then decide (s.size < d.size) else decide (s.size > d.size)
    if sourceWins then .copyToDest p s
    else if s.size ≠ d.size then .copyToSource p d
    else .renameConflict p s d stamp
  | some s, none => .copyToDest p s
  | none, some d => .copyToSource p d
  | none, none => .deleteFromSource p

/-- resolver.rs:117-159. The two `unwrap()`s of the rename fallback (152, 154) are total on
    every `Change` the classifier emits (a change has at least one entry); the impossible
    `(none, none)` case is mapped to `deleteFromSource` as under every strategy but `source`
    (which answers `deleteFromDest`, resolver.rs:125-131). -/
def resolveConflict (strat : Strategy) (p : Path) (s d : Option Entry) (stamp : Nat) : Action :=
  match strat with
  | .newer => resolveByMtime p s d stamp
  | .larger => resolveBySize p s d false stamp
  | .smaller => resolveBySize p s d true stamp
  | .source => match s with
    | some s => .copyToDest p s
    | none => .deleteFromDest p
  | .dest => match d with
    | some d => .copyToSource p d
    | none => .deleteFromSource p
  | .rename => match s, d with
    | some s, some d => .renameConflict p s d stamp
    | some s, none => .copyToDest p s
    | none, some d => .copyToSource p d
    | none, none => .deleteFromSource p

/-- one iteration of the loop of `resolve_changes` (resolver.rs:64-107); `none` = the
    `if let Some(..)` did not fire. -/
def resolveOne (strat : Strategy) (stamp : Nat) (c : Change) : Option Action :=
  match c.ctype with
  | .newInSource | .modifiedInSource => c.s.map (.copyToDest c.path)
  | .newInDest | .modifiedInDest => c.d.map (.copyToSource c.path)
  | .deletedFromSource => some (.deleteFromDest c.path)
  | .deletedFromDest => some (.deleteFromSource c.path)
  | .modifiedBoth | .createCreate | .modifyDelete => some (resolveConflict strat c.path c.s c.d stamp)

/-- `resolve_changes` (resolver.rs:56-114): the action list. -/
def resolveChanges (strat : Strategy) (stamp : Nat) (cs : List Change) : List Action :=
  cs.filterMap (resolveOne strat stamp)

/-- (conflicts_resolved, conflicts_renamed) of `ResolvedChanges`. -/
def conflictCounts (strat : Strategy) (stamp : Nat) (cs : List Change) : Nat × Nat :=
  let rs := (cs.filter (·.ctype.isConflict)).map fun c => (resolveConflict strat c.path c.s c.d stamp).isRename
  ((rs.filter (!·)).length, (rs.filter id).length)

/-! ### `conflict_filename` -/

/-- split around the last occurrence of `sep`: `(before, after)`. -/
def splitLast (sep : Char) (l : List Char) : Option (List Char × List Char) :=
  let r := l.reverse
  let after := (r.takeWhile (· ≠ sep)).reverse
  match r.dropWhile (· ≠ sep) with
  | [] => none
  | _ :: before => some (before.reverse, after)

/-- `(file_stem, extension)` of a file name, as `Path::file_stem` / `Path::extension` compute
    them: split at the last `.`; a name with no `.`, or whose only `.` is the first character,
    or `..`, has no extension. -/
def stemExt (name : List Char) : List Char × Option (List Char) :=
  if name = ['.', '.'] then (name, none)
  else match splitLast '.' name with
    | none => (name, none)
    | some (before, after) => if before = [] then (name, none) else (before, some after)

def Side.str : Side → List Char
  | .source => "source".toList
  | .dest => "dest".toList

/-- everything of the conflict name before the side word. -/
def conflictPrefix (orig : Path) (stamp : Nat) : List Char :=
  let (dir, name) := match splitLast '/' orig with
    | none => ([], orig)
    | some (par, nm) => (par ++ ['/'], nm)
  dir ++ (stemExt name).1 ++ ".conflict-".toList ++ (Nat.toDigits 10 stamp) ++ ['-']

/-- everything after the side word. -/
def conflictSuffix (orig : Path) : List Char :=
  let name := match splitLast '/' orig with
    | none => orig
    | some (_, nm) => nm
  match (stemExt name).2 with
  | some e => '.' :: e
  | none => []

/-- `conflict_filename` (resolver.rs:235-251) on relative paths whose last component is a
    non-empty UTF-8 name: `stem.conflict-<stamp>-<side>[.ext]` next to the original. -/
def conflictName (orig : Path) (stamp : Nat) (side : Side) : Path :=
  conflictPrefix orig stamp ++ (side.str ++ conflictSuffix orig)

end SyModel.Bisync
